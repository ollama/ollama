/-
  Invariants of the scheduler model (Model/Sched.lean) and their preservation by every step.  This file holds groups
  1, 2, 3 and 5; group 5 stands before 4 because, like 1 and 2, it holds whichever variant runs (`InvV`), while 3, 4
  (Sched4.lean), 6, 7 (Sched6.lean) and 8 (Sched8.lean) are proved for the good variant only.  Group 3 is preserved in
  its compact form `Inv3c` (the same facts, with the seven clauses "the request at the pc exists" as one clause over
  `PPC.req`) and converted at the ends (`Inv3.compact`, `Inv3c.expand`); so `Inv<k>` below reads `Inv3c` for k = 3.

  Each group `Inv<k>` has one preservation theorem `Inv<k>.step`, by cases on the step relation `Step` (Proofs/SchedStep.lean):
  an alternative is named after the branch of the action it treats, and branches with the same proof share one.  The
  branches that write nothing the group reads are the wildcard `exact { h with }`.  The group's frame lemma `Inv<k>.frame`
  (groups 1–6; 7 has `Inv7.rewrite`, 8 none) says what the group really reads of each component of the state: of a record the fields in `core<k>`, of a queue or a
  program counter an abstraction (`pendingSet`, `tokens`, `PPC.req`, `PPC.pair`) as a multiset that may shrink or a fact
  that must still hold.  A branch that only rewrites other fields, or only moves a request or an event from one place to
  the next, is an instance of it, with one arithmetic side goal about `List.count` where something moves.  What several
  branches do alike to a group is a lemma about the record they write (`Inv4.submit`, `Inv4.grant`, `Inv4.rewrite`,
  `Inv7.rewrite`).  In any other alternative the new invariant is the old one with the fields listed after `with` proved
  again; a field that is not listed reads nothing the branch writes.  A listed field names the facts it rests on
  (`have := h.f`, or fields of the earlier groups), `sched_simp` unfolds the updates, and `grind` does the case analysis
  on which runner or request a quantified variable denotes; it also uses the guards of the `Step` case, which are in the
  context unnamed, so where the reason is a guard a comment says so.
  The defaults of a frame lemma that mention `h` (`:= by exact h.f2`) are elaborated where the lemma is applied and mean
  the `h` in scope there.
-/
import OllamaVerif.Proofs.SchedStep
import OllamaVerif.Proofs.SchedAttr
namespace OllamaVerif.Sched
variable {s s' : State} {v : Variant}

def PPC.req : PPC → List ReqId
  | .idle => [] | .eval q => [q] | .needsReload q _ => [q] | .pinging q _ => [q] | .use q _ => [q]
  | .expire q _ => [q] | .waitUnload q _ => [q] | .load q => [q]

/-- the requests that have been accepted and not answered yet, wherever they currently are -/
def pendingSet (s : State) : List ReqId := s.pendingQ ++ s.delayed ++ s.loaders ++ s.ppc.req

attribute [sched_upd] upd Runner.stopTimer Runner.isZero Runner.locked Req.granted Req.failed pendingSet PPC.req
  List.count_append List.count_cons List.count_nil List.count_erase

macro "sched_simp" : tactic => `(tactic| try simp only [sched_upd] at *)

theorem pendingSet_move (hp : s'.ppc.req = s.ppc.req) (hq : s'.pendingQ = s.pendingQ := by rfl)
    (hd : s'.delayed = s.delayed := by rfl) (hl : s'.loaders = s.loaders := by rfl) : pendingSet s' = pendingSet s := by
  simp only [pendingSet, hp, hq, hd, hl]

theorem upd_congr {α β : Type} (p : α → β) {f : Nat → α} {i : Nat} {x : α} (h : p x = p (f i)) (j : Nat) :
    p (upd f i x j) = p (f j) := by
  unfold upd; split
  · subst_vars; exact h
  · rfl

theorem upd_forall {α : Type} {P : α → Prop} {f : Nat → α} (h : ∀ j, P (f j)) {i : Nat} {x : α} (hx : P x) :
    ∀ j, P (upd f i x j) := by
  intro j; unfold upd; split
  · exact hx
  · exact h j

theorem upd_congr₂ {α β : Type} (p : α → β) {f : Nat → α} {i : Nat} {x y : α} (h : p x = p y) (j : Nat) :
    p (upd f i x j) = p (upd f i y j) := by
  unfold upd; split
  · exact h
  · rfl

/-- `cFin` when the request is a holder of the runner the event names: the runner loses that holder and one
    reference, and is expired, or gets its keep-alive timer, when that was the last one -/
theorem cFin_eq {q : ReqId} {r : Rid} (hh : (s.reqs q).heldBy = some r)
    (hpos : 0 < (s.runners r).refCount) :
    finishOn (releaseHold s q) r =
      let x := { s.runners r with holders := (s.runners r).holders.erase q, refCount := (s.runners r).refCount - 1 }
      let s1 : State := { s with cpc := .idle, reqs := upd s.reqs q { s.reqs q with heldBy := none } }
      if x.isZero then
        if x.session = 0 then { s1 with runners := upd s.runners r x.stopTimer, expiredQ := s.expiredQ ++ [r] }
        else { s1 with runners := upd s.runners r { x with timerObj := true, timerArmed := true } }
      else { s1 with runners := upd s.runners r x } := by
  have h0 : (s.runners r).refCount ≠ 0 := by omega
  simp [releaseHold, hh, finishOn, setRunner, setReq, upd_self, upd_upd, h0]

/-! ## Group 1: close bookkeeping and the loader's hold on refMu -/

structure Inv1 (s : State) : Prop where
  cc : ∀ r, r < s.nRunners → (s.runners r).closeCount = if (s.runners r).closed then 1 else 0
  held : ∀ r, r < s.nRunners → (s.runners r).refMuHeld = true → (s.runners r).closed = false

/-! `core<k>` collects what group `k` reads of one runner (or request) record; `upd_congr` shows that rewriting one record
    leaves it alone when the new record agrees on it. -/

def Runner.core1 (x : Runner) := (x.closeCount, x.closed, x.refMuHeld)

theorem Inv1.frame (h : Inv1 s) (hr : ∀ j, (s'.runners j).core1 = (s.runners j).core1)
    (hn : s'.nRunners = s.nRunners := by rfl) : Inv1 s' := by
  simp only [Runner.core1, Prod.mk.injEq] at hr
  exact { cc := by simpa only [hr, hn] using h.cc
          held := by simpa only [hr, hn] using h.held }


theorem Inv1.step {a : Act} (h : Inv1 s) (hs : Step v s a s') : Inv1 s' := by
  cases hs with
  | loadDone_ok | loadDone_fail | pLoad_ok | cExp_unload =>
    exact { h with
      cc := by have := h.cc; sched_simp; grind
      held := by have := h.held; sched_simp; grind }
  | cFin q r =>
    obtain ⟨_, _, e, hr⟩ := cFin_writes s q r
    exact e ▸ h.frame (hr Runner.core1 (fun _ _ _ _ _ _ => rfl))
  | timerFire | setPing | setPingBlock | setPingOpen | pingDone | pNeedsReload_parks | pUse_grant | pExpire | timerCb
  | unloadRun | unloadBind_expire =>
    exact h.frame (upd_congr Runner.core1 (by rfl))
  | _ => exact { h with }


/-! ## Group 2: every accepted request is in exactly one place until it is answered -/

structure Inv2 (s : State) : Prop where
  cnt : ∀ q, (pendingSet s).count q + (s.reqs q).replies ≤ 1
  fresh : ∀ q, s.nReqs ≤ q → (pendingSet s).count q = 0 ∧ (s.reqs q).replies = 0
  ldr : ∀ r, r < s.nRunners → (s.runners r).refMuHeld = true → 0 < s.loaders.count (s.runners r).loaderReq
  inj : ∀ r r', r < s.nRunners → r' < s.nRunners → (s.runners r).refMuHeld = true → (s.runners r').refMuHeld = true →
      (s.runners r).loaderReq = (s.runners r').loaderReq → r = r'


def Runner.core2 (x : Runner) := (x.refMuHeld, x.loaderReq)

theorem Inv2.frame (h : Inv2 s)
    (hle : ∀ q, (pendingSet s').count q + (s'.reqs q).replies ≤ (pendingSet s).count q + (s.reqs q).replies := by
      exact fun _ => Nat.le_refl _)
    (hr : ∀ j, (s'.runners j).core2 = (s.runners j).core2 := by exact fun _ => rfl)
    (hn : s'.nRunners = s.nRunners := by rfl) (hnq : s'.nReqs = s.nReqs := by rfl)
    (hl : s'.loaders = s.loaders := by rfl) : Inv2 s' := by
  simp only [Runner.core2, Prod.mk.injEq] at hr
  exact { cnt := fun q => Nat.le_trans (hle q) (h.cnt q)
          fresh := fun q hq => by have := h.fresh q (hnq ▸ hq); have := hle q; omega
          ldr := by simpa only [hr, hn, hl] using h.ldr
          inj := by simpa only [hr, hn] using h.inj }


theorem Inv2.loaderReq_lt (i2 : Inv2 s) {r : Rid} (hr : r < s.nRunners) (hh : (s.runners r).refMuHeld = true) :
    (s.runners r).loaderReq < s.nReqs := by
  have h1 := i2.ldr r hr hh
  apply Nat.lt_of_not_le
  intro hle
  have h2 := (i2.fresh _ hle).1
  unfold pendingSet at h2
  simp only [List.count_append] at h2
  omega

theorem Inv2.step {a : Act} (h : Inv2 s) (hs : Step v s a s') : Inv2 s' := by
  cases hs with
  | submit_queued | submit_full =>
    exact { h with
      cnt := by have := h.cnt; have := h.fresh; sched_simp; grind
      fresh := by have := h.fresh; sched_simp; grind }
  | loadDone_ok | loadDone_fail =>
    -- the loader's request leaves `loaders` with its reply; by `inj` no other loading runner waits for it
    exact { h with
      cnt := by have := h.cnt; have := h.ldr; sched_simp; grind
      fresh := by have := h.fresh; have := h.ldr; sched_simp; grind
      ldr := by have := h.ldr; have := h.inj; sched_simp; grind
      inj := by have := h.inj; sched_simp; grind }
  | pTake_dropped | pTake_eval | pLookup_fail | pLookup_delay | pLoad_fail | delayedRequeue =>
    exact h.frame (by intro q; sched_simp; grind)
  | pUse_grant => exact h.frame (by intro q; sched_simp; grind) (upd_congr Runner.core2 (by rfl))
  | pLookup_reuse _ _ _ hpc | pLookup_evict _ _ _ hpc | pLookup_load _ _ hpc | pNeedsReload_reload _ _ hpc
  | pNeedsReload_ok _ _ hpc | pUse_recheck _ _ hpc | pWaitUnload _ _ hpc =>
    exact h.frame (fun _ => Nat.le_of_eq (by rw [pendingSet_move (by rw [hpc]; rfl)]))
  | pNeedsReload_parks _ _ hpc | pExpire _ _ hpc =>
    exact h.frame (fun _ => Nat.le_of_eq (by rw [pendingSet_move (by rw [hpc]; rfl)])) (upd_congr Runner.core2 (by rfl))
  | pingDone _ ok _ hpc =>
    exact h.frame (fun _ => Nat.le_of_eq (by rw [pendingSet_move (by rw [hpc]; cases ok <;> rfl)]))
      (upd_congr Runner.core2 (by rfl))
  | pLoad_ok =>
    -- the request enters `loaders` from the pc, so it was in no other runner's `loaderReq` (`cnt`, `ldr`)
    exact { h with
      cnt := by have := h.cnt; sched_simp; grind
      fresh := by have := h.fresh; sched_simp; grind
      ldr := by have := h.ldr; sched_simp; grind
      inj := by have := h.inj; have := h.cnt; have := h.ldr; sched_simp; grind }
  | cExp_unload => exact h.frame (hr := upd_congr Runner.core2 (by split <;> rfl))
  | cFin q r =>
    obtain ⟨_, _, e, hr⟩ := cFin_writes s q r
    exact e ▸ h.frame (fun j => Nat.le_of_eq (congrArg _ (upd_congr Req.replies (by rfl) j)))
      (hr Runner.core2 (fun _ _ _ _ _ _ => rfl))
  | done => exact h.frame (fun j => Nat.le_of_eq (congrArg _ (upd_congr Req.replies (by rfl) j)))
  | timerFire | setPing | setPingBlock | setPingOpen | timerCb | unloadRun | unloadBind_expire =>
    exact h.frame (hr := upd_congr Runner.core2 (by rfl))
  | _ => exact { h with }


/-! ## Group 3: the `loaded` map (good variant: identity-guarded delete) -/

theorem lookup_nil (m : ModelId) : lookup [] m = none := rfl

theorem lookup_cons (m0 : ModelId) (r0 : Rid) (l : List (ModelId × Rid)) (m : ModelId) :
    lookup ((m0, r0) :: l) m = if m0 = m then some r0 else lookup l m := by
  unfold lookup
  by_cases h : m0 = m <;> simp [List.find?, h]

theorem mem_removeKey (l : List (ModelId × Rid)) (m : ModelId) (p : ModelId × Rid) :
    p ∈ removeKey l m ↔ p ∈ l ∧ p.1 ≠ m := by
  unfold removeKey; simp

theorem lookup_removeKey (l : List (ModelId × Rid)) (m0 m : ModelId) :
    lookup (removeKey l m0) m = if m = m0 then none else lookup l m := by
  induction l with
  | nil => simp [removeKey, lookup]
  | cons p l ih =>
    obtain ⟨a, b⟩ := p
    unfold removeKey at *
    by_cases h1 : a = m0
    · subst h1
      simp only [List.filter, ne_eq, not_true_eq_false, decide_false]
      rw [ih, lookup_cons]
      by_cases h2 : m = a
      · simp [h2]
      · have : ¬ a = m := fun h => h2 h.symm
        simp [h2, this]
    · simp only [List.filter, ne_eq, h1, not_false_eq_true, decide_true]
      rw [lookup_cons, lookup_cons, ih]
      by_cases h2 : m = m0
      · subst h2; simp [h1]
      · simp [h2]

theorem lookup_some_mem (l : List (ModelId × Rid)) (m : ModelId) (r : Rid) (h : lookup l m = some r) : (m, r) ∈ l := by
  induction l with
  | nil => simp [lookup] at h
  | cons p l ih =>
    obtain ⟨a, b⟩ := p
    rw [lookup_cons] at h
    by_cases h1 : a = m
    · simp [h1] at h; subst h; subst h1; simp
    · simp [h1] at h; exact List.mem_cons_of_mem _ (ih h)

theorem length_removeKey_le (l : List (ModelId × Rid)) (m : ModelId) : (removeKey l m).length ≤ l.length := by
  unfold removeKey; exact List.length_filter_le _ _

def PPC.req? : PPC → Option ReqId
  | .idle => none | .eval q => some q | .needsReload q _ => some q | .pinging q _ => some q | .use q _ => some q
  | .expire q _ => some q | .waitUnload q _ => some q | .load q => some q

theorem decideLoad_load {fit : Fit} {q : ReqId} (hb : s.loaded.length ≤ s.maxRunners)
    (hn : ¬ fit.ngpus = 0) (h : decideLoad s fit q = .load) :
    lookup s.loaded (s.reqs q).model = none ∧ s.loaded.length < effMax s fit q := by
  unfold decideLoad at h
  unfold effMax reachesAuto
  cases hl : lookup s.loaded (s.reqs q).model with
  | some r => simp [hl] at h
  | none =>
    simp only [hl] at h
    refine ⟨rfl, ?_⟩
    by_cases hm : s.maxRunners > 0 ∧ s.loaded.length ≥ s.maxRunners
    · simp [hm] at h
    · by_cases h0 : s.maxRunners = 0
      · have : s.loaded.length = 0 := by omega
        simp [h0, this]
        split <;> omega
      · have : s.loaded.length < s.maxRunners := by omega
        simp [h0]; exact this

theorem le_effMax {fit : Fit} {q : ReqId} : s.maxRunners ≤ effMax s fit q := by
  unfold effMax
  split <;> omega

theorem mem_insertBy (s : State) (x y : Rid) (l : List Rid) : y ∈ insertBy s x l ↔ y = x ∨ y ∈ l := by
  induction l with
  | nil => simp [insertBy]
  | cons a l ih =>
    simp only [insertBy]
    split
    · simp
    · simp only [List.mem_cons, ih]
      constructor
      · rintro (h | h | h) <;> simp [h]
      · rintro (h | h | h) <;> simp [h]

theorem mem_sortVictims (s : State) (l : List Rid) (y : Rid) : y ∈ sortVictims s l ↔ y ∈ l := by
  induction l with
  | nil => simp [sortVictims]
  | cons a l ih =>
    have : sortVictims s (a :: l) = insertBy s a (sortVictims s l) := rfl
    rw [this, mem_insertBy, ih]; simp

theorem victim_is_loaded (s : State) (vic : Rid) (h : findVictim s = some vic) : vic ∈ s.loaded.map (·.2) := by
  unfold findVictim at h
  simp only [] at h
  split at h
  · rename_i r hf
    cases h
    exact (mem_sortVictims s _ _).mp (List.mem_of_find?_eq_some hf)
  · exact (mem_sortVictims s _ _).mp (List.mem_of_mem_head? h)

structure Inv3 (s : State) : Prop where
  ltP : ∀ q, q ∈ s.pendingQ → q < s.nReqs
  ltD : ∀ q, q ∈ s.delayed → q < s.nReqs
  ltE : ∀ q, s.ppc = .eval q → q < s.nReqs
  ltN : ∀ q r, s.ppc = .needsReload q r → q < s.nReqs
  ltU : ∀ q r, s.ppc = .use q r → q < s.nReqs
  ltX : ∀ q r, s.ppc = .expire q r → q < s.nReqs
  ltW : ∀ q r, s.ppc = .waitUnload q r → q < s.nReqs
  ltL : ∀ q, s.ppc = .load q → q < s.nReqs
  wf : ∀ p, p ∈ s.loaded → p.2 < s.nRunners ∧ (s.runners p.2).model = p.1 ∧ (s.runners p.2).closed = false
  live : ∀ r, r < s.nRunners → (s.runners r).closed = false → lookup s.loaded (s.runners r).model = some r
  pload : ∀ q, s.ppc = .load q → lookup s.loaded (s.reqs q).model = none ∧ s.loaded.length < s.maxRunners
  bound : s.loaded.length ≤ s.maxRunners
  ltPg : ∀ q r, s.ppc = .pinging q r → q < s.nReqs


/-- `Inv3` with its seven clauses "the request the pending loop works on exists" as the one clause `ltC` over `PPC.req` -/
structure Inv3c (s : State) : Prop where
  ltP : ∀ q, q ∈ s.pendingQ → q < s.nReqs
  ltD : ∀ q, q ∈ s.delayed → q < s.nReqs
  ltC : ∀ q, q ∈ s.ppc.req → q < s.nReqs
  wf : ∀ p, p ∈ s.loaded → p.2 < s.nRunners ∧ (s.runners p.2).model = p.1 ∧ (s.runners p.2).closed = false
  live : ∀ r, r < s.nRunners → (s.runners r).closed = false → lookup s.loaded (s.runners r).model = some r
  pload : ∀ q, s.ppc = .load q → lookup s.loaded (s.reqs q).model = none ∧ s.loaded.length < s.maxRunners
  bound : s.loaded.length ≤ s.maxRunners

theorem Inv3.compact (h : Inv3 s) : Inv3c s :=
  { h with
    ltC := by
      intro q hq
      cases hp : s.ppc <;> rw [hp] at hq <;> simp only [PPC.req, List.mem_singleton, List.not_mem_nil] at hq <;> subst hq
      · exact h.ltE _ hp
      · exact h.ltN _ _ hp
      · exact h.ltPg _ _ hp
      · exact h.ltU _ _ hp
      · exact h.ltX _ _ hp
      · exact h.ltW _ _ hp
      · exact h.ltL _ hp }

theorem Inv3c.ltL (h : Inv3c s) (q : ReqId) (e : s.ppc = .load q) : q < s.nReqs :=
  h.ltC q (by rw [e]; exact List.mem_singleton_self q)

theorem Inv3c.expand (h : Inv3c s) : Inv3 s :=
  { h with
    ltE := fun q e => h.ltC q (by rw [e]; exact List.mem_singleton_self q)
    ltN := fun q _ e => h.ltC q (by rw [e]; exact List.mem_singleton_self q)
    ltU := fun q _ e => h.ltC q (by rw [e]; exact List.mem_singleton_self q)
    ltX := fun q _ e => h.ltC q (by rw [e]; exact List.mem_singleton_self q)
    ltW := fun q _ e => h.ltC q (by rw [e]; exact List.mem_singleton_self q)
    ltL := h.ltL
    ltPg := fun q _ e => h.ltC q (by rw [e]; exact List.mem_singleton_self q) }

def Runner.core3 (x : Runner) := (x.model, x.closed)

theorem Inv3c.frame (h : Inv3c s)
    (hreq : ∀ q, q ∈ s'.ppc.req → q ∈ s.ppc.req := by exact fun _ h => h)
    (hload : ∀ q, s'.ppc = .load q → s.ppc = .load q := by exact fun _ e => e)
    (hr : ∀ j, (s'.runners j).core3 = (s.runners j).core3 := by exact fun _ => rfl)
    (hq : ∀ q, (s'.reqs q).model = (s.reqs q).model := by exact fun _ => rfl)
    (hpq : ∀ q, q ∈ s'.pendingQ → q < s.nReqs := by exact h.ltP)
    (hd : ∀ q, q ∈ s'.delayed → q < s.nReqs := by exact h.ltD)
    (hm : s.maxRunners ≤ s'.maxRunners := by exact Nat.le_refl _)
    (hn : s'.nRunners = s.nRunners := by rfl) (hnq : s'.nReqs = s.nReqs := by rfl)
    (hl : s'.loaded = s.loaded := by rfl) : Inv3c s' := by
  simp only [Runner.core3, Prod.mk.injEq] at hr
  exact { ltP := hnq ▸ hpq
          ltD := hnq ▸ hd
          ltC := fun q hq => hnq ▸ h.ltC q (hreq q hq)
          wf := by simpa only [hr, hl, hn] using h.wf
          live := by simpa only [hr, hl, hn] using h.live
          pload := fun q e => by
            have := h.pload q (hload q e)
            simpa only [hq, hl] using And.intro this.1 (Nat.lt_of_lt_of_le this.2 hm)
          bound := hl ▸ Nat.le_trans h.bound hm }

theorem Inv3c.step {a : Act} (h : Inv3c s) (hs : Step Variant.good s a s') : Inv3c s' := by
  cases hs with
  | submit_queued | submit_full =>
    -- `pload`: the request at the pc is an old one
    exact { h with
      ltP := by have := h.ltP; sched_simp; grind
      ltD := by have := h.ltD; sched_simp; grind
      ltC := by have := h.ltC; sched_simp; grind
      pload := by have := h.pload; have := h.ltL; sched_simp; grind }
  | pTake_dropped q rest _ hq =>
    exact h.frame (hpq := fun q' hm => h.ltP q' (by rw [hq]; exact List.mem_cons_of_mem _ hm))
      (hq := upd_congr Req.model (by rfl))
  | pTake_eval =>
    exact { h with
      ltP := by have := h.ltP; grind
      ltC := by have := h.ltP; sched_simp; grind
      pload := fun _ e => nomatch e }
  | pLookup_reuse _ _ _ hpc | pNeedsReload_reload _ _ hpc | pNeedsReload_ok _ _ hpc | pUse_recheck _ _ hpc | pWaitUnload _ _ hpc =>
    exact h.frame (by rw [hpc]; exact fun _ h => h) (fun _ e => nomatch e)
  | pLookup_evict _ _ _ hpc => exact h.frame (by rw [hpc]; exact fun _ h => h) (fun _ e => nomatch e) (hm := le_effMax)
  | pLookup_retry => exact h.frame (hm := le_effMax)
  | pLookup_load _ _ hpc hn hd =>
    -- the limit test of `decideLoad` is what `pload` records
    exact { h with
      ltC := fun q' hq => h.ltC q' (by rw [hpc]; exact hq)
      pload := by intro q' e; cases e; exact decideLoad_load h.bound hn hd
      bound := Nat.le_trans h.bound le_effMax }
  | pLookup_fail =>
    exact h.frame (fun _ hq => nomatch hq) (fun _ e => nomatch e) (hq := upd_congr Req.model (by rfl)) (hm := le_effMax)
  | pLookup_delay _ q hpc =>
    exact h.frame (fun _ hq => nomatch hq) (fun _ e => nomatch e) (hm := le_effMax) (hd := fun q' hm =>
      (List.mem_cons.mp hm).elim (fun e => e ▸ h.ltC q (by rw [hpc]; exact List.mem_singleton_self q)) (h.ltD q'))
  | pNeedsReload_parks _ _ hpc | pExpire _ _ hpc =>
    exact h.frame (by rw [hpc]; exact fun _ h => h) (fun _ e => nomatch e) (upd_congr Runner.core3 (by rfl))
  | pingDone _ ok _ hpc =>
    cases ok <;>
      exact h.frame (by rw [hpc]; exact fun _ h => h) (fun _ e => nomatch e) (upd_congr Runner.core3 (by rfl))
  | pUse_grant =>
    exact h.frame (fun _ hq => nomatch hq) (fun _ e => nomatch e) (upd_congr Runner.core3 (by rfl)) (upd_congr Req.model (by rfl))
  | pLoad_fail =>
    exact h.frame (fun _ hq => nomatch hq) (fun _ e => nomatch e) (hq := upd_congr Req.model (by rfl))
  | pLoad_ok =>
    -- `pload`: the model had no entry and there was room
    exact { h with
      ltC := fun _ hq => nomatch hq
      wf := by have := h.wf; sched_simp; grind [mem_removeKey]
      live := by have := h.live; have := h.pload; sched_simp; grind [lookup_cons, lookup_removeKey]
      pload := fun _ e => nomatch e
      bound := by have := h.pload; grind [length_removeKey_le] }
  | cFin q r =>
    obtain ⟨_, _, e, hr⟩ := cFin_writes s q r
    exact e ▸ h.frame (hr := hr Runner.core3 (fun _ _ _ _ _ _ => rfl)) (hq := upd_congr Req.model (by rfl))
  | cExp_unload =>
    -- the entry is removed only if it still names the runner, so no other open runner loses its entry
    simp only [Variant.good, forall_const]
    exact { h with
      wf := by have := h.wf; have := h.live; sched_simp; grind [mem_removeKey]
      live := by have := h.live; sched_simp; grind [lookup_removeKey]
      pload := by have := h.pload; sched_simp; grind [lookup_removeKey, length_removeKey_le]
      bound := by have := h.bound; sched_simp; grind [length_removeKey_le] }
  | delayedRequeue q hq =>
    exact h.frame (hd := fun q' hm => h.ltD q' (List.mem_of_mem_erase hm)) (hpq := fun q' hm =>
      (List.mem_append.mp hm).elim (h.ltP q') (fun e => List.mem_singleton.mp e ▸ h.ltD q hq))
  | done => exact h.frame (hq := upd_congr Req.model (by rfl))
  | loadDone_ok | loadDone_fail =>
    exact h.frame (hr := upd_congr Runner.core3 (by rfl)) (hq := upd_congr Req.model (by rfl))
  | timerFire | setPing | setPingBlock | setPingOpen | timerCb | unloadRun | unloadBind_expire =>
    exact h.frame (hr := upd_congr Runner.core3 (by rfl))
  | _ => exact { h with }


/-! ## Group 5: no accepted request is ever lost; a reply is a runner or an error, not both -/

/-- what the group says of one request record (so that after an update it is owed for the written record only: `upd_forall`) -/
def Req.ok5 (x : Req) : Prop :=
  (x.dropped = true → x.done = true) ∧
  x.replies = (if x.gotRunner.isSome then 1 else 0) + (if x.gotErr then 1 else 0)

/-- `n1`: nothing is lost; `ok` (`n2`, `n3`): skipped only if cancelled, a reply is a runner or an error -/
structure Inv5 (s : State) : Prop where
  n1 : ∀ q, q < s.nReqs →
      (pendingSet s).count q + (s.reqs q).replies + (if (s.reqs q).dropped then 1 else 0) = 1
  ok : ∀ q, (s.reqs q).ok5

theorem Inv5.n2 (h : Inv5 s) (q : ReqId) : (s.reqs q).dropped = true → (s.reqs q).done = true := (h.ok q).1

theorem Inv5.n3 (h : Inv5 s) (q : ReqId) :
    (s.reqs q).replies = (if (s.reqs q).gotRunner.isSome then 1 else 0) + (if (s.reqs q).gotErr then 1 else 0) := (h.ok q).2

def Req.core5 (x : Req) := (x.replies, x.dropped, x.done, x.gotRunner, x.gotErr)

theorem Inv5.frame (h : Inv5 s)
    (hp : ∀ q, (pendingSet s').count q = (pendingSet s).count q := by exact fun _ => rfl)
    (hq : ∀ q, (s'.reqs q).core5 = (s.reqs q).core5 := by exact fun _ => rfl)
    (hnq : s'.nReqs = s.nReqs := by rfl) : Inv5 s' := by
  simp only [Req.core5, Prod.mk.injEq] at hq
  exact { n1 := by simpa only [hq, hnq, hp] using h.n1
          ok := by simpa only [Req.ok5, hq] using h.ok }


theorem Inv5.step {a : Act} (i2 : Inv2 s) (h : Inv5 s) (hs : Step v s a s') : Inv5 s' := by
  cases hs with
  | submit_queued | submit_full =>
    exact { h with
      n1 := by have := h.n1; have := i2.fresh; sched_simp; grind
      ok := upd_forall h.ok ⟨nofun, rfl⟩ }
  | done | pTake_dropped =>
    exact { h with
      n1 := by have := h.n1; sched_simp; grind
      ok := upd_forall h.ok (by have := h.ok; simp only [Req.ok5] at *; grind) }
  | loadDone_ok | loadDone_fail =>
    -- the loader's request is in `loaders` (`ldr`), hence not answered yet (`cnt`)
    exact { h with
      n1 := by have := h.n1; have := i2.ldr; sched_simp; grind
      ok := upd_forall h.ok (by have := h.ok; have := i2.cnt; have := i2.ldr; simp only [Req.ok5, sched_upd] at *; grind) }
  | pLookup_fail | pUse_grant | pLoad_fail =>
    -- the request at the pc is not answered yet (`cnt`)
    exact { h with
      n1 := by have := h.n1; sched_simp; grind
      ok := upd_forall h.ok (by have := h.ok; have := i2.cnt; simp only [Req.ok5, sched_upd] at *; grind) }
  | pTake_eval | pLookup_delay | pLoad_ok | delayedRequeue =>
    exact h.frame (by intro q; sched_simp; grind)
  | pLookup_reuse _ _ _ hpc | pLookup_evict _ _ _ hpc | pLookup_load _ _ hpc | pNeedsReload_reload _ _ hpc
  | pNeedsReload_parks _ _ hpc | pNeedsReload_ok _ _ hpc | pUse_recheck _ _ hpc | pExpire _ _ hpc | pWaitUnload _ _ hpc =>
    exact h.frame (fun _ => by rw [pendingSet_move (by rw [hpc]; rfl)])
  | pingDone _ ok _ hpc => exact h.frame (fun _ => by rw [pendingSet_move (by rw [hpc]; cases ok <;> rfl)])
  | cFin q r =>
    obtain ⟨_, _, e, _⟩ := cFin_writes s q r
    exact e ▸ h.frame (hq := upd_congr Req.core5 (by rfl))
  | _ => exact { h with }


/-- groups 1, 2 and 5: what holds whichever variant runs -/
structure InvV (s : State) : Prop where
  i1 : Inv1 s
  i2 : Inv2 s
  i5 : Inv5 s

theorem InvV.step {a : Act} (h : InvV s) (hs : Step v s a s') : InvV s' :=
  ⟨h.i1.step hs, h.i2.step hs, h.i5.step h.i2 hs⟩

theorem invV_init (maxRunners maxQueue defaultSession : Nat) : InvV (init maxRunners maxQueue defaultSession) := by
  refine ⟨?_, ?_, ?_⟩ <;> constructor <;> simp [init, pendingSet, PPC.req, Req.ok5]

theorem reach_invV {mr mq ds : Nat} (h : Reach v (init mr mq ds) s) : InvV s :=
  Reach.induction (invV_init mr mq ds) (fun _ ih hs => ih.step hs) h


end OllamaVerif.Sched
