/-
  C10 — the decoder's running time as a function of the input length.

  `decodeFrom` is total by structural recursion, but several of its loops run over a count READ FROM THE FILE
  (array elements: up to 2^64; key/values, tensors: 64-bit header fields; dimensions: 32-bit).  "Terminates"
  in the sense of Lean's termination checker therefore still allows 2^64 iterations on a 40-byte file.

  Every loop of the decoder model is given an iteration counter (`…T` functions: same code, second
  component = iterations executed, a failing iteration included); erasing the counter gives back the model
  (`decodeFromT_fst`) and

      iterations ≤ remaining input length + 1                                (`decodeFromT_steps`)

  for EVERY byte string, array limit, budget and guard set (`Paid`): each iteration either consumes at least one
  input byte (`Consumes`; both in Proofs/GgufSafe.lean) or is the last one.  (The trailing seek loop runs once per tensor info; it is
  paid for by the ≥ 24 bytes each tensor info took.)
-/
import OllamaVerif.Proofs.GgufSafe

namespace OllamaVerif.Gguf
open OllamaVerif

def readElemsT (c : Cfg) (t : Nat) (collect : Bool) : Nat → Rd → Timed (List Elem × Rd)
  | 0, r => (.ok ([], r), 0)
  | n+1, r =>
    match readElem c t collect r with
    | .error e => (.error e, 1)
    | .ok (e, r1) =>
      if collect ∧ c.version = 1 ∧ ¬ c.g.v1ArrIndex then (.error (.panic "v1-array-index"), 1)
      else
        let rec_ := readElemsT c t collect n r1
        (match rec_.1 with
          | .error e => .error e
          | .ok (es, r2) => .ok (e :: es, r2), rec_.2 + 1)

theorem readElemsT_spec (c : Cfg) (t : Nat) (collect : Bool) (n : Nat) (r : Rd) :
    (readElemsT c t collect n r).1 = readElems c t collect n r ∧ Paid r.rest.length (readElemsT c t collect n r) := by
  induction n generalizing r with
  | zero => exact ⟨rfl, Paid.ok (Nat.le_refl _)⟩
  | succ n ih =>
    unfold readElemsT readElems
    simp only [bind, Except.bind]
    cases h : readElem c t collect r with
    | error e => exact ⟨rfl, Paid.error (Nat.le_add_left 1 _)⟩
    | ok p =>
      obtain ⟨e, r1⟩ := p
      have hc := (readElem_consumes c t collect r).le h
      have he := e.weight_pos
      simp only []
      split
      · exact ⟨rfl, Paid.error (Nat.le_add_left 1 _)⟩
      · obtain ⟨hf, hp⟩ := ih r1
        rw [← hf]
        cases hx : (readElemsT c t collect n r1).1 with
        | error e' => exact ⟨rfl, Paid.error (by have := hp.of_error hx; omega)⟩
        | ok q => exact ⟨rfl, Paid.ok (by have := hp.of_ok hx; omega)⟩

def readArrT (c : Cfg) (r : Rd) : Timed (Val × Rd) :=
  match readUint c.be 4 r with
  | .error e => (.error e, 0)
  | .ok (t, r) =>
  match readUint c.be (if c.version = 1 then 4 else 8) r with
  | .error e => (.error e, 0)
  | .ok (n, r) =>
    let size := toI64 n
    let collect : Bool := c.maxArray < 0 || size ≤ c.maxArray
    if collect ∧ size < 0 then
      (if c.g.arrNeg then .error (.invalid "array size") else .error (.panic "array-make-negative"), 0)
    else
      match (if collect ∧ ¬ c.g.arrHuge then checkAlloc c "array" (16 * size.toNat) else pure ()) with
      | .error e => (.error e, 0)
      | .ok _ =>
        let x := readElemsT c t collect n r
        (match x.1 with
          | .error e => .error e
          | .ok (es, r) => .ok (.arr t size (if collect then some es else none), r), x.2)

theorem readArrT_spec (c : Cfg) (r : Rd) : (readArrT c r).1 = readArr c r ∧ Paid r.rest.length (readArrT c r) := by
  unfold readArrT readArr
  simp only [bind, Except.bind]
  cases hu1 : readUint c.be 4 r with
  | error e => exact ⟨rfl, Paid.error (Nat.zero_le _)⟩
  | ok p =>
    obtain ⟨t, r1⟩ := p
    have h1 := (readUint_consumes c c.be 4 r).le hu1
    simp only []
    cases hu2 : readUint c.be (if c.version = 1 then 4 else 8) r1 with
    | error e => exact ⟨rfl, Paid.error (Nat.zero_le _)⟩
    | ok q =>
      obtain ⟨n, r2⟩ := q
      have h2 := Nat.le_of_add_right_le ((readUint_consumes c c.be _ r1).le hu2)
      simp only []
      split
      · split <;> exact ⟨rfl, Paid.error (Nat.zero_le _)⟩
      · obtain ⟨hf, hp⟩ := readElemsT_spec c t (decide (c.maxArray < 0) || decide (toI64 n ≤ c.maxArray)) n r2
        rw [← hf]
        by_cases hc : (decide (c.maxArray < 0) || decide (toI64 n ≤ c.maxArray)) = true ∧ ¬c.g.arrHuge = true
        · simp only [if_pos hc]
          cases checkAlloc c "array" (16 * (toI64 n).toNat) with
          | error e => exact ⟨rfl, Paid.error (Nat.zero_le _)⟩
          | ok u =>
            cases hx : (readElemsT c t (decide (c.maxArray < 0) || decide (toI64 n ≤ c.maxArray)) n r2).1 with
            | error e => exact ⟨rfl, Paid.error (by have := hp.of_error hx; omega)⟩
            | ok z => exact ⟨rfl, Paid.ok (by have := hp.of_ok hx; omega)⟩
        · simp only [if_neg hc, pure, Except.pure]
          cases hx : (readElemsT c t (decide (c.maxArray < 0) || decide (toI64 n ≤ c.maxArray)) n r2).1 with
          | error e => exact ⟨rfl, Paid.error (by have := hp.of_error hx; omega)⟩
          | ok z => exact ⟨rfl, Paid.ok (by have := hp.of_ok hx; omega)⟩

def readValueT (c : Cfg) (t : Nat) (r : Rd) : Timed (Val × Rd) :=
  if t = 9 then readArrT c r else (readValue c t r, 0)

theorem readValueT_spec (c : Cfg) (t : Nat) (r : Rd) :
    (readValueT c t r).1 = readValue c t r ∧ Paid r.rest.length (readValueT c t r) := by
  unfold readValueT
  split
  · rename_i h9
    subst h9
    refine ⟨?_, (readArrT_spec c r).2⟩
    rw [(readArrT_spec c r).1]
    unfold readValue
    simp [scalarWidth]
  · refine ⟨rfl, ?_⟩
    cases h : readValue c t r with
    | error e => exact Paid.error (Nat.zero_le _)
    | ok p =>
      obtain ⟨v, r'⟩ := p
      have := (readValue_consumes c t r).le h
      have := v.weight_pos
      exact Paid.ok (by omega)

def readKVsT (c : Cfg) : Nat → List (Bytes × Val) → Rd → Timed (List (Bytes × Val) × Rd)
  | 0, acc, r => (.ok (acc, r), 0)
  | n+1, acc, r =>
    match readStr c r with
    | .error e => (.error e, 1)
    | .ok (k, r) =>
    match readUint c.be 4 r with
    | .error e => (.error e, 1)
    | .ok (t, r) =>
      let x := readValueT c t r
      match x.1 with
      | .error e => (.error e, x.2 + 1)
      | .ok (v, r) =>
        let y := readKVsT c n (kvInsert acc k v) r
        (y.1, x.2 + 1 + y.2)

theorem readKVsT_spec (c : Cfg) (n : Nat) (acc : List (Bytes × Val)) (r : Rd) :
    (readKVsT c n acc r).1 = readKVs c n acc r ∧ Paid r.rest.length (readKVsT c n acc r) := by
  induction n generalizing acc r with
  | zero => exact ⟨rfl, Paid.ok (Nat.le_refl _)⟩
  | succ n ih =>
    unfold readKVsT readKVs
    simp only [bind, Except.bind]
    cases hs : readStr c r with
    | error e => exact ⟨rfl, Paid.error (Nat.le_add_left 1 _)⟩
    | ok p =>
      obtain ⟨k, r1⟩ := p
      have h1 := (readStr_consumes c r).le hs
      simp only []
      cases hu : readUint c.be 4 r1 with
      | error e => exact ⟨rfl, Paid.error (Nat.le_add_left 1 _)⟩
      | ok q =>
        obtain ⟨t, r2⟩ := q
        have h2 := (readUint_consumes c c.be 4 r1).le hu
        obtain ⟨hf, hv⟩ := readValueT_spec c t r2
        simp only []
        rw [← hf]
        cases hx : (readValueT c t r2).1 with
        | error e => exact ⟨rfl, Paid.error (by have := hv.of_error hx; omega)⟩
        | ok z =>
          obtain ⟨v, r3⟩ := z
          have h3 := hv.of_ok hx
          obtain ⟨hf', hrec⟩ := ih (kvInsert acc k v) r3
          refine ⟨hf', ?_⟩
          simp only []
          cases hy : (readKVsT c n (kvInsert acc k v) r3).1 with
          | error e => exact Paid.error (by have := hrec.of_error hy; omega)
          | ok w => exact Paid.ok (by have := hrec.of_ok hy; omega)

def readShapeT (c : Cfg) : Nat → Rd → Timed (List Nat × Rd)
  | 0, r => (.ok ([], r), 0)
  | n+1, r =>
    match readUint c.be 8 r with
    | .error e => (.error e, 1)
    | .ok (d, r) =>
      let x := readShapeT c n r
      (match x.1 with
        | .error e => .error e
        | .ok (ds, r) => .ok (d :: ds, r), x.2 + 1)

theorem readShapeT_spec (c : Cfg) (n : Nat) (r : Rd) :
    (readShapeT c n r).1 = readShape c n r ∧ Paid r.rest.length (readShapeT c n r) := by
  induction n generalizing r with
  | zero => exact ⟨rfl, Paid.ok (Nat.le_refl _)⟩
  | succ n ih =>
    unfold readShapeT readShape
    simp only [bind, Except.bind]
    cases hu : readUint c.be 8 r with
    | error e => exact ⟨rfl, Paid.error (Nat.le_add_left 1 _)⟩
    | ok p =>
      obtain ⟨d, r1⟩ := p
      have h1 := (readUint_consumes c c.be 8 r).le hu
      obtain ⟨hf, hp⟩ := ih r1
      simp only []
      rw [← hf]
      cases hx : (readShapeT c n r1).1 with
      | error e => exact ⟨rfl, Paid.error (by have := hp.of_error hx; omega)⟩
      | ok q => exact ⟨rfl, Paid.ok (by have := hp.of_ok hx; omega)⟩

def readTensorT (c : Cfg) (r : Rd) : Timed (TInfo × Rd) :=
  match readStr c r with
  | .error e => (.error e, 0)
  | .ok (name, r) =>
  match readUint c.be 4 r with
  | .error e => (.error e, 0)
  | .ok (dims, r) =>
    if c.g.dimsHuge ∧ 8 * dims > r.rest.length then
      (if r.rest.length % 8 = 0 then .error .eof else .error .ueof, 0)
    else
      match checkAlloc c "shape" (8 * dims) with
      | .error e => (.error e, 0)
      | .ok _ =>
        let x := readShapeT c dims r
        match x.1 with
        | .error e => (.error e, x.2)
        | .ok (shape, r) =>
          match readUint c.be 4 r with
          | .error e => (.error e, x.2)
          | .ok (kind, r) =>
            match readUint c.be 8 r with
            | .error e => (.error e, x.2)
            | .ok (off, r) => (.ok (⟨name, kind, shape, off⟩, r), x.2)

/-- one tensor info: iterations paid, and on success 24 bytes left over as
    slack (name length, dimension count, kind, offset) -/
theorem readTensorT_spec (c : Cfg) (r : Rd) : (readTensorT c r).1 = readTensor c r ∧
    match (readTensorT c r).1 with
    | .ok (_, r') => r'.rest.length + (readTensorT c r).2 + 24 ≤ r.rest.length
    | .error _ => (readTensorT c r).2 ≤ r.rest.length := by
  unfold readTensorT readTensor
  simp only [bind, Except.bind]
  cases hs : readStr c r with
  | error e => exact ⟨rfl, Nat.zero_le _⟩
  | ok p =>
    obtain ⟨name, r1⟩ := p
    have h1 := (readStr_consumes c r).le hs
    simp only []
    cases hu : readUint c.be 4 r1 with
    | error e => exact ⟨rfl, Nat.zero_le _⟩
    | ok q =>
      obtain ⟨dims, r2⟩ := q
      have h2 := (readUint_consumes c c.be 4 r1).le hu
      simp only []
      split
      · split <;> exact ⟨rfl, Nat.zero_le _⟩
      · cases checkAlloc c "shape" (8 * dims) with
        | error e => exact ⟨rfl, Nat.zero_le _⟩
        | ok u =>
          obtain ⟨hf, hp⟩ := readShapeT_spec c dims r2
          simp only []
          rw [← hf]
          cases hx : (readShapeT c dims r2).1 with
          | error e => exact ⟨rfl, by have := hp.of_error hx; simp only []; omega⟩
          | ok z =>
            obtain ⟨shape, r3⟩ := z
            have h3 := hp.of_ok hx
            simp only []
            cases hk : readUint c.be 4 r3 with
            | error e => exact ⟨rfl, by simp only []; omega⟩
            | ok y =>
              obtain ⟨kind, r4⟩ := y
              have h4 := (readUint_consumes c c.be 4 r3).le hk
              simp only []
              cases ho : readUint c.be 8 r4 with
              | error e => exact ⟨rfl, by simp only []; omega⟩
              | ok x =>
                obtain ⟨off, r5⟩ := x
                have h5 := (readUint_consumes c c.be 8 r4).le ho
                exact ⟨rfl, by simp only []; omega⟩

def readTensorsT (c : Cfg) : Nat → Rd → Timed (List TInfo × Rd)
  | 0, r => (.ok ([], r), 0)
  | n+1, r =>
    let x := readTensorT c r
    match x.1 with
    | .error e => (.error e, x.2 + 1)
    | .ok (t, r) =>
      let y := readTensorsT c n r
      (match y.1 with
        | .error e => .error e
        | .ok (ts, r) => .ok (t :: ts, r), x.2 + 1 + y.2)

/-- the tensor-info loop: iterations paid; on success one more byte per tensor is left over as slack — it pays for
    the trailing seek loop -/
theorem readTensorsT_spec (c : Cfg) (n : Nat) (r : Rd) :
    (readTensorsT c n r).1 = readTensors c n r ∧
    match (readTensorsT c n r).1 with
    | .ok (ts, r') => r'.rest.length + (readTensorsT c n r).2 + ts.length ≤ r.rest.length
    | .error _ => (readTensorsT c n r).2 ≤ r.rest.length + 1 := by
  induction n generalizing r with
  | zero => exact ⟨rfl, Nat.le_refl _⟩
  | succ n ih =>
    unfold readTensorsT readTensors
    simp only [bind, Except.bind]
    obtain ⟨hf, h1⟩ := readTensorT_spec c r
    rw [← hf]
    cases hx : (readTensorT c r).1 with
    | error e => rw [hx] at h1; exact ⟨rfl, by simp only [] at h1 ⊢; omega⟩
    | ok p =>
      obtain ⟨t, r1⟩ := p
      rw [hx] at h1
      obtain ⟨hf', hrec⟩ := ih r1
      simp only [] at h1 ⊢
      rw [← hf']
      cases hy : (readTensorsT c n r1).1 with
      | error e => rw [hy] at hrec; exact ⟨rfl, by simp only [] at hrec ⊢; omega⟩
      | ok q => rw [hy] at hrec; exact ⟨rfl, by simp only [List.length_cons] at hrec ⊢; omega⟩

/-- the trailing seek loop: one iteration per tensor info reached -/
def seekTensorsT (g : Guards) (align : Nat) : List TInfo → Nat → Timed Nat
  | [], pos => (.ok pos, 0)
  | t :: ts, pos =>
    let p := pos + padding pos align
    let sz := toI64 (tensorSize t.kind t.shape)
    let np : Int := (p : Int) + sz
    if g.negSeek ∧ sz < 0 then (.error (.invalid "tensor size"), 1)
    else if np < 0 ∨ np ≥ (two63 : Int) then (.error (.invalid "seek"), 1)
    else
      let x := seekTensorsT g align ts np.toNat
      (x.1, x.2 + 1)

theorem seekTensorsT_spec (g : Guards) (align : Nat) (ts : List TInfo) (pos : Nat) :
    (seekTensorsT g align ts pos).1 = seekTensors g align ts pos ∧ (seekTensorsT g align ts pos).2 ≤ ts.length := by
  induction ts generalizing pos with
  | nil => exact ⟨rfl, Nat.le_refl _⟩
  | cons t ts ih =>
    unfold seekTensorsT seekTensors
    simp only []
    split
    · exact ⟨rfl, Nat.le_add_left 1 _⟩
    · split
      · exact ⟨rfl, Nat.le_add_left 1 _⟩
      · exact ⟨(ih _).1, Nat.succ_le_succ (ih _).2⟩

def decodeBodyT (c : Cfg) (numKV numTensor : Nat) (r : Rd) : Timed Decoded :=
  let x := readKVsT c numKV [] r
  match x.1 with
  | .error e => (.error e, x.2)
  | .ok (kvs, r) =>
    let y := readTensorsT c numTensor r
    match y.1 with
    | .error e => (.error e, x.2 + y.2)
    | .ok (ts, r) =>
      let kvs := kvInsert kvs keyParamCount (.scalar 10 (sumParameters ts))
      match alignmentOf c.g kvs with
      | .error e => (.error e, x.2 + y.2)
      | .ok align =>
        if align = 0 then
          (if c.g.alignZero then .error (.invalid "alignment zero") else .error (.panic "alignment-zero"), x.2 + y.2)
        else
          let z := seekTensorsT c.g align ts r.pos
          (match z.1 with
            | .error e => .error e
            | .ok endPos => .ok ⟨c.version, kvs, ts, r.pos + padding r.pos align, endPos⟩, x.2 + y.2 + z.2)

theorem decodeBodyT_spec (c : Cfg) (numKV numTensor : Nat) (r : Rd) :
    (decodeBodyT c numKV numTensor r).1 = decodeBody c numKV numTensor r ∧
    (decodeBodyT c numKV numTensor r).2 ≤ r.rest.length + 1 := by
  unfold decodeBodyT decodeBody
  simp only [bind, Except.bind]
  obtain ⟨hf, hk⟩ := readKVsT_spec c numKV [] r
  rw [← hf]
  cases hx : (readKVsT c numKV [] r).1 with
  | error e => exact ⟨rfl, hk.of_error hx⟩
  | ok p =>
    obtain ⟨kvs, r1⟩ := p
    have h1 := hk.of_ok hx
    obtain ⟨hf', ht⟩ := readTensorsT_spec c numTensor r1
    simp only []
    rw [← hf']
    cases hy : (readTensorsT c numTensor r1).1 with
    | error e => rw [hy] at ht; exact ⟨rfl, by simp only [] at ht ⊢; omega⟩
    | ok q =>
      obtain ⟨ts, r2⟩ := q
      rw [hy] at ht
      simp only [] at ht ⊢
      cases alignmentOf c.g (kvInsert kvs keyParamCount (.scalar 10 (sumParameters ts))) with
      | error e => exact ⟨rfl, by simp only []; omega⟩
      | ok align =>
        simp only []
        split
        · split <;> exact ⟨rfl, by simp only []; omega⟩
        · obtain ⟨hf'', hs⟩ := seekTensorsT_spec c.g align ts r2.pos
          rw [← hf'']
          cases (seekTensorsT c.g align ts r2.pos).1 with
          | error e => exact ⟨rfl, by simp only []; omega⟩
          | ok e => exact ⟨rfl, by simp only []; omega⟩

def decodeFromT (r : Rd) (maxArraySize : Int) (budget : Option Nat := none) (g : Guards := Guards.tree) : Timed Decoded :=
  let maxA := if maxArraySize = 0 then 1024 else maxArraySize
  match readUint false 4 r with
  | .error e => (.error e, 0)
  | .ok (magic, r) =>
    if magic ≠ magicLE ∧ magic ≠ magicBE then (.error (.invalid "invalid file magic"), 0)
    else
      let be : Bool := magic = magicBE
      match readUint be 4 r with
      | .error e => (.error e, 0)
      | .ok (version, r) =>
        let w := if version = 1 then 4 else 8
        match readUintIn be w (2 * w) r with
        | .error e => (.error e, 0)
        | .ok (numTensor, r) =>
          match readUint be w r with
          | .error e => (.error e, 0)
          | .ok (numKV, r) => decodeBodyT ⟨be, version, maxA, budget, g⟩ numKV numTensor r

theorem decodeFromT_spec (r : Rd) (maxArraySize : Int) (budget : Option Nat) (g : Guards) :
    (decodeFromT r maxArraySize budget g).1 = decodeFrom r maxArraySize budget g ∧
    (decodeFromT r maxArraySize budget g).2 ≤ r.rest.length + 1 := by
  unfold decodeFromT decodeFrom
  simp only [bind, Except.bind]
  cases hu : readUint false 4 r with
  | error e => exact ⟨rfl, Nat.zero_le _⟩
  | ok p =>
    obtain ⟨magic, r1⟩ := p
    have h1 := (readUint_consumes {} false 4 r).le hu
    simp only []
    split
    · exact ⟨rfl, Nat.zero_le _⟩
    · cases hv : readUint (decide (magic = magicBE)) 4 r1 with
      | error e => exact ⟨rfl, Nat.zero_le _⟩
      | ok q =>
        obtain ⟨version, r2⟩ := q
        have h2 := (readUint_consumes {} _ 4 r1).le hv
        simp only []
        cases hw : readUintIn (decide (magic = magicBE)) (if version = 1 then 4 else 8) (2 * if version = 1 then 4 else 8) r2 with
        | error e => exact ⟨rfl, Nat.zero_le _⟩
        | ok z =>
          obtain ⟨numTensor, r3⟩ := z
          have h3 := Nat.le_of_add_right_le ((readUintIn_consumes {} _ _ _ r2).le hw)
          simp only []
          cases hy : readUint (decide (magic = magicBE)) (if version = 1 then 4 else 8) r3 with
          | error e => exact ⟨rfl, Nat.zero_le _⟩
          | ok y =>
            obtain ⟨numKV, r4⟩ := y
            have h4 := Nat.le_of_add_right_le ((readUint_consumes {} _ _ r3).le hy)
            obtain ⟨hf, hs⟩ := decodeBodyT_spec ⟨decide (magic = magicBE), version,
              (if maxArraySize = 0 then 1024 else maxArraySize), budget, g⟩ numKV numTensor r4
            exact ⟨hf, by simp only [] at hs ⊢; omega⟩

theorem decodeFromT_fst (r : Rd) (maxArraySize : Int) (budget : Option Nat) (g : Guards) :
    (decodeFromT r maxArraySize budget g).1 = decodeFrom r maxArraySize budget g :=
  (decodeFromT_spec r maxArraySize budget g).1

/-- **Running time**: whatever counts the file declares, the decoder executes at most `remaining input + 1` loop
    iterations (array elements + key/values + dimensions + tensor infos + seeks), for every guard set and budget. -/
theorem decodeFromT_steps (r : Rd) (maxArraySize : Int) (budget : Option Nat) (g : Guards) :
    (decodeFromT r maxArraySize budget g).2 ≤ r.rest.length + 1 :=
  (decodeFromT_spec r maxArraySize budget g).2

end OllamaVerif.Gguf
