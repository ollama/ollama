/-
  C04, what an operation does to the manifest table — nothing, or one file removed or written at its target
  (`step_manEff`; needs no invariant, unlike `Good`) — and from it "every model that is listed can be shown": the
  model layers of every readable manifest, through every operation.  The theorems are in Properties/C04.lean.
  Core Lean only.
-/
import OllamaVerif.Proofs.Store

namespace OllamaVerif.Store

/-- the model layers of a layer list (`GetModel` uses the LAST one) -/
def ml (ls : List Layer) : List Layer := ls.filter (fun l => l.media = .model)

theorem ml_append (a b : List Layer) : ml (a ++ b) = ml a ++ ml b := by
  unfold ml; exact List.filter_append ..

theorem ml_filter_ne (ls : List Layer) (μ : Media) (h : μ ≠ .model) :
    ml (ls.filter (fun l => l.media ≠ μ)) = ml ls := by
  unfold ml
  rw [List.filter_filter]
  apply List.filter_congr
  intro l _
  by_cases hm : l.media = .model
  · simp [hm, h.symm]
  · simp [hm]

theorem ml_replaceLayer (env : Env) (st : Store) (ls : List Layer) (μ : Media) (h : μ ≠ .model) (c : Bytes) :
    ml (replaceLayer env st ls μ c).2 = ml ls := by
  rw [replaceLayer_snd, ml_append, ml_filter_ne ls μ h]
  simp [ml, h]

theorem Override.ml {env : Env} {st : Store} {ls : List Layer} {media : Media} {C : Bytes → Prop}
    {res : Store × Option (List Layer)} (h : Override env st ls media C res) (hm : media ≠ .model)
    {ls' : List Layer} (e : res.2 = some ls') : ml ls' = ml ls := by
  cases h with
  | skip => cases e; rfl
  | put c _ => cases e; exact ml_replaceLayer env st ls media hm c
  | drop => cases e
  | fail => cases e

theorem ml_stepLicense (env : Env) (lics : List Bytes) (st : Store) (ls : List Layer) :
    ml (stepLicense env st ls lics).2 = ml ls := by
  induction lics generalizing st ls with
  | nil => rfl
  | cons c t ih =>
    simp only [stepLicense, newLayer]
    rw [ih, ml_append]
    simp [ml]

theorem createModel_manEff (env : Env) (st : Store) (name : Name) (base : List (Layer × Option Meta))
    (r : CreateReq) :
    (∀ err, (createModel env st name base r).2 = some err → (createModel env st name base r).1.mans = st.mans) ∧
    ((createModel env st name base r).2 = none → ∃ m X,
      (createModel env st name base r).1 = setManifest X name (.readable m) ∧ X.mans = st.mans ∧
      ml m.layers = ml (base.map (·.1))) := by
  have eT := (stepTemplate_shape env st (base.map (·.1)) r.template).mans
  rcases createModel_cases env st name base r with ⟨_, h⟩ | ⟨l1, hT, ⟨_, h⟩ | ⟨l3a, hP, h⟩⟩
  · rw [h]; exact ⟨fun _ _ => eT, nofun⟩
  · rw [h]
    exact ⟨fun _ _ => (stepParams_shape ..).mans.trans ((stepLicense_grow ..).mans.trans
      ((stepSystem_shape ..).mans.trans eT)), nofun⟩
  · rw [h]
    refine ⟨nofun, fun _ => ⟨_, _, rfl, (putBlob_mans ..).trans ((stepMessages_shape ..).mans.trans
      ((stepParams_shape ..).mans.trans ((stepLicense_grow ..).mans.trans ((stepSystem_shape ..).mans.trans eT)))), ?_⟩⟩
    show ml (stepMessages _ _ _ _).2 = _
    rw [(stepMessages_shape ..).ml (by decide) rfl, (stepParams_shape ..).ml (by decide) hP, ml_stepLicense,
      (stepSystem_shape ..).ml (by decide) rfl, (stepTemplate_shape ..).ml (by decide) hT]

/-- the digest of a layer is the hash of a content the GGUF decoder accepts -/
def DecL (env : Env) (l : Layer) : Prop := ∃ c, env.hash c = l.digest.hex ∧ (env.gguf c).isSome = true

/-- every readable manifest has a model layer, and every model layer names a decodable content -/
def ShowInv (env : Env) (st : Store) : Prop :=
  ∀ n m, st.man n = some (.readable m) → ml m.layers ≠ [] ∧ ∀ l ∈ ml m.layers, DecL env l

theorem mem_ml {ls : List Layer} {l : Layer} : l ∈ ml ls ↔ l ∈ ls ∧ l.media = .model := by
  unfold ml; simp [List.mem_filter]

theorem autoLayers_ml (env : Env) (st : Store) (mt : Meta) : ml ((autoLayers env st mt).2.map (·.1)) = [] := by
  unfold autoLayers
  cases mt.auto with
  | none => rfl
  | some tp =>
    obtain ⟨t, p⟩ := tp
    cases p <;> simp [newLayer, ml]

/-- no GGUF the decoder accepts is an adapter or a projector (`general.type`): every file layer of a create is a
    MODEL layer.  Without it a create from `files` that hold only an adapter is listed and cannot be shown
    (finding N6, `N6_witness`). -/
def ModelKinds (env : Env) : Prop := ∀ c mt, env.gguf c = some mt → mt.kind = .model

theorem fileLayers_dec {env : Env} (hkind : ModelKinds env) (ds : List Digest) {st : Store}
    (hb : BlobsOk env st) :
    ∀ b, (fileLayers env st ds).2 = .ok b →
      (∀ l ∈ ml (b.map (·.1)), DecL env l) ∧ (ds ≠ [] → ml (b.map (·.1)) ≠ []) := by
  fun_induction fileLayers env st ds with
  | case1 => intro b h; cases h; exact ⟨nofun, fun h => absurd rfl h⟩
  | case2 => intro b h; cases h
  | case3 => intro b h; cases h
  | case4 => intro b h; cases h
  | case5 st d ds c hc mt hg st1 auto ha st2 r hr ih =>
    intro b h
    cases h
    have ea := autoLayers_ml env st mt
    have sa := autoLayers_grow env st mt
    rw [ha] at ea sa
    have ihr := (ih (sa.step.blobsOk hb) r (by rw [hr])).1
    refine ⟨fun l hl => ?_, fun _ hnil => ?_⟩
    · obtain ⟨hl, hm⟩ := mem_ml.mp hl
      simp only [List.map_append, List.map_cons, List.mem_append, List.mem_cons] at hl
      rcases hl with (rfl | hl) | hl
      · exact ⟨c, by rw [recorded_hex]; exact hb _ _ hc, by rw [hg]; rfl⟩
      · have := mem_ml.mpr ⟨hl, hm⟩
        rw [ea] at this; cases this
      · exact ihr l (mem_ml.mpr ⟨hl, hm⟩)
    · have : (⟨mt.kind, env.recorded d, c.length⟩ : Layer) ∈
          ml (((⟨mt.kind, env.recorded d, c.length⟩, some mt) :: auto ++ r).map (·.1)) :=
        mem_ml.mpr ⟨by simp, hkind c mt hg⟩
      rw [hnil] at this; cases this

theorem baseLayers_dec {env : Env} (hv : env.v.fixReturn = true) (hkind : ModelKinds env)
    {st : Store}
    (hb : BlobsOk env st) (hs : ShowInv env st) (r : CreateReq) (frev : Bool) :
    ∀ b, (baseLayers env st r frev).2.1 = some b →
      ml (b.map (·.1)) ≠ [] ∧ ∀ l ∈ ml (b.map (·.1)), DecL env l := by
  fun_cases baseLayers env st r frev <;> intro b h
  case case1 f _ m hm b' hfl =>
    cases h
    obtain ⟨hne, hdec⟩ := hs f m (readableAt_eq_some.mp hm)
    obtain ⟨s1, s2⟩ := fromLayers_some m.layers b' hfl
    refine ⟨fun hnil => ?_, fun x hx => ?_⟩
    · obtain ⟨l0, hl0⟩ := List.exists_mem_of_ne_nil _ hne
      obtain ⟨c, _, hx⟩ := s2 l0 (mem_ml.mp hl0).1
      have : _ ∈ ml (b'.map (·.1)) := mem_ml.mpr ⟨hx, (mem_ml.mp hl0).2⟩
      rw [hnil] at this; cases this
    · obtain ⟨l, hl, c, _, rfl⟩ := s1 x (mem_ml.mp hx).1
      obtain ⟨c', hc1, hc2⟩ := hdec l (mem_ml.mpr ⟨hl, (mem_ml.mp hx).2⟩)
      exact ⟨c', hc1.trans (recorded_hex env l.digest).symm, hc2⟩
  case case2 => simp +zetaDelta [hv] at h
  case case3 => simp +zetaDelta [hv] at h
  case case4 => cases h
  case case5 _ hne st' b' hfl =>
    cases h
    have := fileLayers_dec hkind _ hb b' (by rw [hfl])
    refine ⟨this.2 (fun hnil => hne ?_), this.1⟩
    cases frev <;> simpa using hnil
  case case6 => cases h

theorem dashed_ml (m : Manifest) :
    ml m.dashed.layers = (ml m.layers).map (fun l => { l with digest := ⟨.dash, l.digest.hex⟩ }) := by
  unfold Manifest.dashed ml
  simp only
  induction m.layers with
  | nil => rfl
  | cons l t ih =>
    by_cases h : l.media = .model <;> simp [h, ih]

/-- what a pulled manifest must offer for `show` to work: a model layer, all model layers decodable -/
def PullShowOk (env : Env) : Op → Prop
  | .pull _ (some m) _ => ml m.layers ≠ [] ∧ ∀ l ∈ ml m.layers, DecL env l
  | _ => True

/-! ## the manifest table -/

/-- the file an operation may leave at its target -/
def Written (env : Env) (st : Store) (ch : Choice) : Op → MFile → Prop
  | .create r, f => ∃ m base, f = .readable m ∧ (baseLayers env st r ch.frev).2.1 = some base ∧
      ml m.layers = ml (base.map (·.1))
  | .copy s _, f => st.man (resolveName env st ch.ord1 s) = some f
  | .plant s _, f => st.man s = some f
  | .corrupt _, f => f = .corrupt
  | .dashify n, f => ∃ m, st.man n = some (.readable m) ∧ f = .readable m.dashed
  | .pull _ reg _, f => ∃ m, reg = some m ∧ f = .readable m
  | _, _ => False

inductive ManEff (st : Store) (T : List Name) (W : MFile → Prop) (st' : Store) : Prop
  | same (h : st'.mans = st.mans)
  | del (t : Name) (ht : t ∈ T) (h : ∀ n, st'.man n = (delManifest st t).man n)
  | set (t : Name) (ht : t ∈ T) (f : MFile) (hf : W f) (h : ∀ n, st'.man n = (setManifest st t f).man n)

theorem createAt_manEff (env : Env) (st : Store) (r : CreateReq) (name : Name) (frev : Bool) :
    ManEff st [name] (fun f => ∃ m base, f = .readable m ∧ (baseLayers env st r frev).2.1 = some base ∧
      ml m.layers = ml (base.map (·.1))) (createAt env st r name frev).1 := by
  have hbm := (baseLayers_grow env st r frev).mans
  rcases createAt_cases env st r name frev with ⟨_, e⟩ | ⟨base, hB, rest⟩
  · rw [e]; exact .same hbm
  obtain ⟨hE, hS⟩ := createModel_manEff env (baseLayers env st r frev).1 name base r
  rcases rest with ⟨err, hC, e⟩ | ⟨hC, e⟩
  · rw [e]; exact .same ((hE err hC).trans hbm)
  · obtain ⟨m, X, e', hX, hml⟩ := hS hC
    refine .set name (List.mem_singleton_self _) (.readable m) ⟨m, base, rfl, hB, hml⟩ (fun n => ?_)
    rw [e, man_congr (gcAt_mans ..), e', setManifest_man, setManifest_man, man_congr (hX.trans hbm)]

theorem step_manEff (env : Env) (st : Store) (op : Op) (ch : Choice) :
    ManEff st (targets env st op ch) (Written env st ch op) (step env st op ch).1 := by
  cases op with
  | upload d c =>
    refine .same ?_
    simp only [step, upload]
    split
    · rfl
    · split <;> exact putBlob_mans env st c
  | create r => exact createAt_manEff env st r _ _
  | copy s d =>
    simp only [step, copyAt]
    split
    · exact .same rfl
    · cases hs : st.man (resolveName env st ch.ord1 s) with
      | none => exact .same rfl
      | some f => exact .set _ (List.mem_singleton_self _) f hs (fun _ => rfl)
  | delete t =>
    simp only [step, deleteAt]
    split
    · exact .same rfl
    · exact .same rfl
    · exact .del _ (List.mem_singleton_self _) (fun n => man_congr (removeLayers_mans ..) n)
  | prune =>
    refine .same ?_
    simp only [step, pruneStartup]
    split
    · rfl
    · split <;> rfl
  | pull t reg served =>
    rcases pullAt_mans env st (pullTarget env (resolveName env st ch.ord1 t)) reg served with h | ⟨m, hm, h⟩
    · exact .same h
    · exact .set _ (List.mem_singleton_self _) (.readable m) ⟨m, hm, rfl⟩ (fun n => congrArg (aget · n) h)
  | plant s d =>
    simp only [step]
    cases hs : st.man s with
    | none => exact .same rfl
    | some f => exact .set d (List.mem_singleton_self _) f hs (fun _ => rfl)
  | corrupt t =>
    simp only [step]
    cases st.man t with
    | none => exact .same rfl
    | some f => exact .set t (List.mem_singleton_self _) .corrupt rfl (fun _ => rfl)
  | dashify t =>
    simp only [step]
    cases hs : st.man t with
    | none => exact .same rfl
    | some f =>
      cases f with
      | corrupt => exact .same rfl
      | readable m => exact .set t (List.mem_singleton_self _) _ ⟨m, hs, rfl⟩ (fun _ => rfl)
  | litter j c => exact .same rfl
  | litterBlob k c => exact .same rfl
  | litterMan p => exact .same rfl

theorem step_man_frame (env : Env) (st : Store) (op : Op) (ch : Choice) (n : Name)
    (hn : n ∉ targets env st op ch) : (step env st op ch).1.man n = st.man n := by
  cases step_manEff env st op ch with
  | same h => exact man_congr h n
  | del t ht h => rw [h, delManifest_man, if_neg (fun (e : n = t) => hn (e ▸ ht))]
  | set t ht f _ h => rw [h, setManifest_man, if_neg (fun (e : n = t) => hn (e ▸ ht))]

theorem ManEff.forall {st st' : Store} {T : List Name} {W : MFile → Prop} (h : ManEff st T W st')
    {P : Manifest → Prop} (hs : ∀ n m, st.man n = some (.readable m) → P m)
    (hw : ∀ m, W (.readable m) → P m) : ∀ n m, st'.man n = some (.readable m) → P m := by
  cases h with
  | same h => exact fun n m hm => hs n m (man_congr h n ▸ hm)
  | del t _ h => exact fun n m hm => delManifest_forall hs t n m (h n ▸ hm)
  | set t _ f hf h => exact fun n m hm => setManifest_forall hs t f (fun m e => hw m (e ▸ hf)) n m (h n ▸ hm)

theorem ManEff.readable {st st' : Store} {T : List Name} {W : MFile → Prop} (h : ManEff st T W st') (a : Name)
    (ha : Readable st' a) : Readable st a ∨ a ∈ T ∧ ∃ m, W (.readable m) := by
  obtain ⟨m, hm⟩ := ha
  cases h with
  | same h => exact Or.inl ⟨m, man_congr h a ▸ hm⟩
  | del t _ h =>
    rw [h, delManifest_man] at hm
    split at hm
    · cases hm
    · exact Or.inl ⟨m, hm⟩
  | set t ht f hf h =>
    rw [h, setManifest_man] at hm
    split at hm
    · rename_i e; cases hm; exact Or.inr ⟨e ▸ ht, m, hf⟩
    · exact Or.inl ⟨m, hm⟩

/-- every operation keeps `ShowInv` (create: with N1 repaired — pinned, a FROM error leaves a manifest without
    model layer; pull: of a manifest that can be shown) -/
theorem step_showInv {env : Env} (hv : env.v.fixReturn = true) (hkind : ModelKinds env)
    {st : Store}
    (hb : BlobsOk env st) (hs : ShowInv env st) (op : Op) (ch : Choice) (hp : PullShowOk env op) :
    ShowInv env (step env st op ch).1 := by
  refine (step_manEff env st op ch).forall hs (fun m hw => ?_)
  cases op with
  | create r =>
    obtain ⟨m', base, e, hB, hml⟩ := hw
    cases e
    rw [hml]
    exact baseLayers_dec hv hkind hb hs r ch.frev base hB
  | copy s d => exact hs _ m hw
  | plant s d => exact hs _ m hw
  | corrupt t => cases hw
  | dashify t =>
    obtain ⟨m0, hm0, e⟩ := hw
    cases e
    obtain ⟨hne, hd⟩ := hs t m0 hm0
    refine ⟨?_, fun l hl => ?_⟩
    · rw [dashed_ml]; exact fun h => hne (List.map_eq_nil_iff.mp h)
    · rw [dashed_ml, List.mem_map] at hl
      obtain ⟨l0, hl0, rfl⟩ := hl
      exact hd l0 hl0
  | pull t reg sv =>
    obtain ⟨m', hr, e⟩ := hw
    cases e; subst hr
    exact hp
  | _ => exact hw.elim

end OllamaVerif.Store
