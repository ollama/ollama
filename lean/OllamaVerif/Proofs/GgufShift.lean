/-
  C05 — a written file decoded as the 2nd, 3rd, … model of an upload, and what create makes of several written
  files uploaded back to back.

  `decode_written_at`: a written file decoded with the reader standing at file position `p` (a multiple of the file's
  alignment) and with arbitrary bytes after it ends at `p` + its length (`decode_written`, Proofs/GgufRoundTrip.lean,
  gives the whole value).

  `create_layers_of_written_files`: for a list of written files `fs`, each starting at a multiple of its own
  alignment, `ggufLayers (concat fs)` is exactly one layer per file: layer i starts where file i starts and has its
  length ("each layer is exactly one model" for written models — the use of the end offset the property names).
-/
import OllamaVerif.Proofs.GgufRoundTrip
import OllamaVerif.Proofs.GgufCreate

namespace OllamaVerif.Gguf
open OllamaVerif

/-- a file the writer produced from distinct, well-typed keys and tensors (`write_decode_full`'s hypotheses) -/
structure Written (file : Bytes) (align : Nat) : Prop where
  ex : ∃ (kvs : List (Bytes × KVal)) (ts : List TIn),
    (kvs.map (·.1)).Nodup ∧ (∀ kv ∈ kvs, kv.1 ≠ keyParamCount) ∧
    (∀ kv ∈ kvs, TypedVal kv.2) ∧ (∀ t ∈ ts, TypedTensor t ∧ WfT t) ∧
    alignmentIn kvs = .ok align ∧ 0 < align ∧ encode false kvs ts = .ok file

theorem decode_written_at (file tail : Bytes) (align p : Nat) (maxArraySize : Int) (hw : Written file align)
    (hp : p % align = 0) (hlen : p + file.length < two63) :
    ∃ d, decodeFrom ⟨file ++ tail, p⟩ maxArraySize none = .ok d ∧ d.endOffset = p + file.length := by
  obtain ⟨kvs, ts, hnodup, hnoparam, htv, htt, halign, hpos, henc⟩ := hw.ex
  exact ⟨_, decode_written kvs ts file tail align p maxArraySize Guards.tree hnodup hnoparam htv htt halign hpos hp henc hlen, rfl⟩

/-- a written file has its 24-byte header -/
theorem Written.length_pos {file : Bytes} {align : Nat} (hw : Written file align) : 0 < file.length := by
  obtain ⟨kvs, ts, _, _, _, _, halign, _, henc⟩ := hw.ex
  rw [encode_eq kvs ts file align halign henc]
  simp only [encHead, encHeader, List.length_append, u32le_length, u64le_length]
  omega

def startsFrom : Nat → List Bytes → List Nat
  | _, [] => []
  | s, f :: fs => s :: startsFrom (s + f.length) fs

def AlignedWritten : Nat → List (Bytes × Nat) → Prop
  | _, [] => True
  | s, (f, a) :: fs => Written f a ∧ s % a = 0 ∧ AlignedWritten (s + f.length) fs

/-- what the layers must be: one per file, at the file's start, of the file's length, cut (not the whole blob) -/
def LayersMatch : List GLayer → List Nat → List Bytes → Prop
  | [], [], [] => True
  | l :: ls, s :: ss, f :: fs => l.start = s ∧ l.size = f.length ∧ l.whole = false ∧ LayersMatch ls ss fs
  | _, _, _ => False

theorem LayersMatch_append (ls : List GLayer) (ss : List Nat) (fs : List Bytes) (l : GLayer) (s : Nat) (f : Bytes)
    (h : LayersMatch ls ss fs) (h1 : l.start = s) (h2 : l.size = f.length) (h3 : l.whole = false) :
    LayersMatch (ls ++ [l]) (ss ++ [s]) (fs ++ [f]) := by
  induction ls generalizing ss fs with
  | nil =>
    cases ss with
    | nil =>
      cases fs with
      | nil => exact ⟨h1, h2, h3, trivial⟩
      | cons _ _ => cases h
    | cons _ _ => cases fs <;> cases h
  | cons l0 ls ih =>
    cases ss with
    | nil => cases fs <;> cases h
    | cons s0 ss =>
      cases fs with
      | nil => cases h
      | cons f0 fs =>
        obtain ⟨a, b, c, d⟩ := h
        exact ⟨a, b, c, ih ss fs d⟩

/-- the loop, standing at `offset`, where the remaining files `fs` start (at least one layer behind it or two files
    ahead, so that no layer is the whole blob) -/
theorem ggufLayersLoop_written (bs : Bytes) (maxSeek : Nat) (hlt : bs.length < two63) (hms : bs.length ≤ maxSeek) :
    ∀ (fs : List (Bytes × Nat)) (offset fuel : Nat) (acc : List GLayer),
      bs.drop offset = (fs.map (·.1)).flatten → AlignedWritten offset fs → bs.length ≤ fuel + offset →
      (0 < offset ∨ 2 ≤ fs.length) →
      ∃ out, ggufLayersLoop bs none Guards.tree maxSeek fuel offset acc = some (.ok (acc ++ out)) ∧
        LayersMatch out (startsFrom offset (fs.map (·.1))) (fs.map (·.1)) := by
  intro fs
  induction fs with
  | nil =>
    intro offset fuel acc hdrop _ _ _
    refine ⟨[], ?_, trivial⟩
    rw [ggufLayersLoop_done _ _ _ _ _ _ _ (List.drop_eq_nil_iff.mp hdrop), List.append_nil]
  | cons fa fs ih =>
    obtain ⟨f, a⟩ := fa
    intro offset fuel acc hdrop ⟨hw, hal, hrest⟩ hfuel hmulti
    have hfpos : 0 < f.length := hw.length_pos
    have hlen : bs.length = offset + (f.length + (fs.map (·.1)).flatten.length) := by
      have := congrArg List.length hdrop
      simp only [List.length_drop, List.map_cons, List.flatten_cons, List.length_append] at this
      omega
    obtain ⟨fuel, rfl⟩ : ∃ k, fuel = k + 1 := ⟨fuel - 1, by omega⟩
    obtain ⟨d, hd, hend⟩ := decode_written_at f ((fs.map (·.1)).flatten) a offset 0 hw hal (by omega)
    obtain ⟨m, hm⟩ : ∃ m, mediaType Guards.tree d.kvs = .ok m := mediaType_all d.kvs
    rw [ggufLayersLoop_succ_ok fuel acc (by omega) (by rw [hdrop]; exact hd) (by omega) hm, hend]
    -- not the whole blob: something before this file, or another (non-empty) file after it
    have hnotwhole : ¬ (offset + f.length = bs.length ∧ offset = 0) := by
      intro ⟨h1, h2⟩
      rcases hmulti with h | h
      · omega
      · cases fs with
        | nil => simp at h
        | cons g gs =>
          have hg : 0 < g.1.length := hrest.1.length_pos
          simp only [List.map_cons, List.flatten_cons, List.length_append] at hlen
          omega
    rw [layerAt_cut m hend (by omega) hnotwhole]
    obtain ⟨out, hout, hmatch⟩ := ih (offset + f.length) fuel (acc ++ [⟨offset, f.length, false, m, d⟩])
      (by rw [← List.drop_drop, hdrop]; exact List.drop_left) hrest (by omega) (Or.inl (by omega))
    exact ⟨⟨offset, f.length, false, m, d⟩ :: out, by rw [hout, List.append_assoc]; rfl, rfl, rfl, rfl, hmatch⟩

theorem create_layers_of_written_files (fs : List (Bytes × Nat)) (maxSeek : Nat)
    (h2 : 2 ≤ fs.length) (hpos : ∀ f ∈ fs, 0 < f.1.length)
    (haw : AlignedWritten 0 fs)
    (hlt : (fs.map (·.1)).flatten.length < two63) (hms : (fs.map (·.1)).flatten.length ≤ maxSeek) :
    ∃ out, ggufLayers (fs.map (·.1)).flatten none Guards.tree maxSeek = some (.ok out) ∧
      LayersMatch out (startsFrom 0 (fs.map (·.1))) (fs.map (·.1)) := by
  obtain ⟨out, hout, hmatch⟩ := ggufLayersLoop_written _ maxSeek hlt hms fs 0 (fs.map (·.1)).flatten.length []
    rfl haw (Nat.le_refl _) (Or.inr h2)
  refine ⟨out, ?_, hmatch⟩
  -- content sniffing: the loop's first decode succeeds, so the magic is there
  cases fs with
  | nil => simp at h2
  | cons fa rest =>
    obtain ⟨f, a⟩ := fa
    obtain ⟨hw, hal, _⟩ := haw
    obtain ⟨d, hd, _⟩ := decode_written_at f ((rest.map (·.1)).flatten) a 0 0 hw (by simp)
      (by simp only [List.map_cons, List.flatten_cons, List.length_append] at hlt; omega)
    simp only [List.map_cons, List.flatten_cons] at hout ⊢
    rw [ggufLayers_of_decode _ none Guards.tree maxSeek hd]
    exact hout

end OllamaVerif.Gguf
