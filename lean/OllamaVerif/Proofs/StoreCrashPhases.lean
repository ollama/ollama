/-
  C12 — the three phases of a store operation.

  Every operation of the store is: a STAGE that adds blobs and writes no manifest (uploads, new
  layers, downloads), then AT MOST ONE manifest assignment `n := v` (`WriteManifest`, the copy, the
  unlink of a deletion), then unlinks of blobs that no manifest names any more.  `exec_phases` follows
  the control flow of the handlers; the footprint of an operation, the manifest files it leaves, "old
  or new" under a crash, its success, and the local conditions of the store and debris invariants for
  everything after the stage are read off `Phases`.  Two things are not: WHICH assignment an operation
  makes (`Op.asg`, a definition by cases that the lemmas about particular operations unfold) and the
  exact effect of a deletion on blobs/ (`C12.delete_effs_some`).
-/
import OllamaVerif.Proofs.StoreCrash
namespace OllamaVerif.StoreCrash
open OllamaVerif

variable {hash : Bytes → Digest} {st : Store}

/-- the effects write blobs, temp files and download debris only: no manifest, nothing outside blobs/ -/
abbrev NoMan (es : List Effect) : Prop := WritesIn (Foot [] true) es

theorem noMan_get {es : List Effect} (h : NoMan es) (n : Name) :
    get (run es st) (.man n) = get st (.man n) :=
  get_run_of_writesIn h List.not_mem_nil

theorem crashPrefix_cons {e : Effect} {es p : List Effect} (h : CrashPrefix (e :: es) p) :
    p = [] ∨ (∃ e', CutOf e e' ∧ p = [e']) ∨ ∃ p', p = e :: p' ∧ CrashPrefix es p' := by
  obtain ⟨k, h⟩ := h
  cases k with
  | zero =>
    rcases h with rfl | ⟨e0, e', hk, hc, rfl⟩
    · left; rfl
    · simp at hk; subst hk; right; left; exact ⟨e', hc, by simp⟩
  | succ k =>
    rcases h with rfl | ⟨e0, e', hk, hc, rfl⟩
    · right; right; exact ⟨es.take k, by simp, ⟨k, Or.inl rfl⟩⟩
    · right; right
      exact ⟨es.take k ++ [e'], by simp, ⟨k, Or.inr ⟨e0, e', by simpa using hk, hc, rfl⟩⟩⟩

theorem crashPrefix_append {a b p : List Effect} (h : CrashPrefix (a ++ b) p) :
    CrashPrefix a p ∨ ∃ p', p = a ++ p' ∧ CrashPrefix b p' := by
  induction a generalizing p with
  | nil => exact Or.inr ⟨p, rfl, h⟩
  | cons e a ih =>
    rcases crashPrefix_cons h with rfl | ⟨e', hc, rfl⟩ | ⟨p', rfl, hp'⟩
    · exact Or.inl ⟨0, Or.inl rfl⟩
    · exact Or.inl ⟨0, Or.inr ⟨e, e', rfl, hc, rfl⟩⟩
    · rcases ih hp' with ⟨k, h⟩ | ⟨q, rfl, hq⟩
      · refine Or.inl ⟨k + 1, ?_⟩
        rcases h with rfl | ⟨e0, e', hk, hc, rfl⟩
        · exact Or.inl rfl
        · exact Or.inr ⟨e0, e', hk, hc, rfl⟩
      · exact Or.inr ⟨q, rfl, hq⟩

theorem andThen_of_ok {a : Res} (h : a.ok = true) (st : Store) (f : Store → Res) :
    a.andThen st f = ⟨a.effs ++ (f (run a.effs st)).effs, (f (run a.effs st)).ok⟩ := by
  unfold Res.andThen; rw [if_pos h]

/-! ## the three phases -/

/-- what a completed operation does to manifests/: nothing, or the file of ONE name is replaced
(`none`: unlinked) -/
abbrev Asg := Option (Name × Option Content)

def Asg.man (c : Asg) (st : Store) (n' : Name) : Option Content :=
  match c with
  | some (n, v) => if n' = n then v else get st (.man n')
  | none => get st (.man n')

theorem Asg.man_some (n : Name) (v : Option Content) (st : Store) (n' : Name) :
    Asg.man (some (n, v)) st n' = if n' = n then v else get st (.man n') := rfl

theorem Asg.man_none (st : Store) (n' : Name) : Asg.man none st n' = get st (.man n') := rfl

/-- The effect lists by which the code gives the manifest of `n` the new content `v` in state `st`.
`atomic = true` excludes the two that truncate in place. -/
inductive Commit (st : Store) (n : Name) : Bool → Option Content → List Effect → Prop
  | put (m : Man) : Commit st n false (some (.man m)) [.mk (.man n), .put (.man n) (.man m)]
  | cp (src : Name) (c : Content) : src ≠ n → get st (.man src) = some c →
      Commit st n false (some c) [.mk (.man n), .cp (.man src) (.man n)]
  | rename (a : Bool) (k : Nat) (c : Content) : Commit st n a (some c) (writeAtomic k (.man n) c)
  | unlink (a : Bool) : Commit st n a none [.rm (.man n)]

/-- unlinks of blobs, none of them named by a readable manifest of `st` (provided `P`: what is
assumed of the order of Go's map iteration) -/
def Rms (P : Prop) (st : Store) (g : List Effect) : Prop :=
  ∀ e ∈ g, ∃ d, e = .rm (.blob d) ∧ (P → referenced st d = false)

/-- After the stage `s` the operation stops (successfully iff `quiet`), or makes one manifest
assignment, unlinks blobs and succeeds. -/
inductive Phases (P : Prop) (atomic quiet : Bool) (st : Store) (s : List Effect) : Asg → Res → Prop
  | stage : Phases P atomic quiet st s none ⟨s, quiet⟩
  | commit {mid g : List Effect} {n : Name} {v : Option Content} :
      Commit (run s st) n atomic v mid → Rms P (run mid (run s st)) g →
      Phases P atomic quiet st s (some (n, v)) ⟨s ++ (mid ++ g), true⟩

section commit
variable {n : Name} {a : Bool} {v : Option Content} {mid : List Effect}

theorem Commit.writesIn {N : List Name} {deb : Bool} (h : Commit st n a v mid) (hN : n ∈ N) :
    WritesIn (Foot N deb) mid := by
  have hn : ∀ q ∈ [Path.man n], Foot N deb q := List.forall_mem_singleton.mpr hN
  cases h with
  | put m => exact writesIn_cons.mpr ⟨hn, writesIn_cons.mpr ⟨hn, writesIn_nil⟩⟩
  | cp src c _ _ => exact writesIn_cons.mpr ⟨hn, writesIn_cons.mpr ⟨hn, writesIn_nil⟩⟩
  | rename a k c => exact writeAtomic_writesIn (A := Foot N deb) (p := .man n) trivial hN c
  | unlink a => exact writesIn_cons.mpr ⟨hn, writesIn_nil⟩

theorem Commit.get_man (h : Commit st n a v mid) (n' : Name) :
    get (run mid st) (.man n') = if n' = n then v else get st (.man n') := by
  cases h with
  | rename a k c => by_cases hn : n' = n <;> simp [writeAtomic, run, apply, get_set, get_del, hn]
  | cp src c hsn hs =>
    have h2 : Path.man src ≠ Path.man n := fun e => hsn (by injection e)
    by_cases hn : n' = n <;> simp [run, apply, get_set, hn, h2, hs]
  | put m | unlink a => by_cases hn : n' = n <;> simp [run, apply, get_set, get_del, hn]

/-- a commit that no crash tears is scratch work and one effect that cannot be cut -/
theorem Commit.split (h : Commit st n true v mid) :
    ∃ S e, mid = S ++ [e] ∧ NoMan S ∧ ∀ e', ¬ CutOf e e' := by
  have hT : ∀ k, ∀ q ∈ [Path.temp k], Foot [] true q := fun _ => List.forall_mem_singleton.mpr trivial
  cases h with
  | rename a k c =>
    exact ⟨[.mk (.temp k), .put (.temp k) c, .chmod (.temp k)], .mv (.temp k) (.man n), rfl,
      writesIn_cons.mpr ⟨hT k, writesIn_cons.mpr ⟨hT k, writesIn_cons.mpr ⟨(fun _ h => nomatch h), writesIn_nil⟩⟩⟩,
      fun _ h => nomatch h⟩
  | unlink a => exact ⟨[], _, rfl, writesIn_nil, fun _ h => nomatch h⟩

theorem Commit.seqOK (h : Commit st n a v mid)
    (hl : ∀ m, v = some (.man m) → ∀ l ∈ m.all, (get st (.blob l.digest)).isSome) : SeqOK hash st mid := by
  cases h with
  | rename a k c => exact writeAtomic_seqOK k n c st fun m hm => hl m (congrArg some hm)
  | cp src c _ hs => exact ⟨(by intro d h; cases h), ⟨⟨src, rfl⟩, ⟨n, rfl⟩⟩, trivial⟩
  | unlink a => exact ⟨Or.inr (Or.inl ⟨n, rfl⟩), trivial⟩
  | put m =>
    refine ⟨(by intro d h; cases h), Or.inr ⟨n, m, rfl, rfl, fun l hl' => ?_⟩, trivial⟩
    rw [get_apply_of_not_written (by simp [writes])]
    exact hl m rfl l hl'

end commit

section phases
variable {P : Prop} {deb atomic quiet : Bool} {c : Asg} {s : List Effect} {r : Res}

theorem Rms.foot {N : List Name} {g : List Effect} (h : Rms P st g) : WritesIn (Foot N deb) g :=
  fun e he q hq => by obtain ⟨d, rfl, _⟩ := h e he; cases List.mem_singleton.mp hq; trivial

theorem Rms.nil : Rms P st [] := fun _ h => nomatch h

theorem Rms.congr {st' : Store} {g : List Effect} (h : Rms P st' g) (hm : ∀ n, get st' (.man n) = get st (.man n)) :
    Rms P st g := fun e he => by
  obtain ⟨d, rfl, hd⟩ := h e he
  exact ⟨d, rfl, fun hp => (referenced_congr hm d).symm.trans (hd hp)⟩

theorem Rms.seqOK {g : List Effect} (h : Rms P st g) (hp : P) : SeqOK hash st g := by
  induction g generalizing st with
  | nil => trivial
  | cons e g ih =>
    obtain ⟨d, rfl, hd⟩ := h _ (.head _)
    refine ⟨Or.inr (Or.inr ⟨d, rfl, hd hp⟩), ih fun e he => ?_⟩
    obtain ⟨d', rfl, hd'⟩ := h e (.tail _ he)
    refine ⟨d', rfl, fun hp => (referenced_congr (fun n => ?_) d').trans (hd' hp)⟩
    exact get_apply_of_not_written (not_mem_one (fun h => nomatch h))

theorem Rms.man {g : List Effect} (h : Rms P st g) (n : Name) : get (run g st) (.man n) = get st (.man n) :=
  noMan_get h.foot n

theorem Rms.blob {g : List Effect} (h : Rms True st g) {d : Digest} (hd : referenced st d = true) :
    get (run g st) (.blob d) = get st (.blob d) :=
  get_run_of_writesIn (A := fun q => ∃ x, q = .blob x ∧ referenced st x = false)
    (fun e he q hq => by obtain ⟨x, rfl, hx⟩ := h e he; exact ⟨x, List.mem_singleton.mp hq, hx trivial⟩)
    (by rintro ⟨x, h, hx⟩; cases h; rw [hd] at hx; cases hx)

theorem Rms.crashPrefix {g p : List Effect} (h : Rms P st g) (hp : CrashPrefix g p) : Rms P st p := by
  obtain ⟨k, rfl | ⟨e, e', hk, hc, rfl⟩⟩ := hp
  · exact fun e he => h e (List.mem_of_mem_take he)
  · obtain ⟨d, rfl, _⟩ := h e (List.mem_of_getElem? hk); cases hc

theorem Phases.ok (h : Phases P atomic quiet st s c r) : r.ok = (c.isSome || quiet) := by
  cases h <;> rfl

theorem Phases.foot {N : List Name} (h : Phases P atomic quiet st s c r) (hs : WritesIn (Foot N deb) s)
    (hN : ∀ n v, c = some (n, v) → n ∈ N) : WritesIn (Foot N deb) r.effs := by
  cases h with
  | stage => exact hs
  | commit hm hg => exact writesIn_append hs (writesIn_append (hm.writesIn (hN _ _ rfl)) hg.foot)

theorem Phases.man (h : Phases P atomic quiet st s c r) (hs : NoMan s) (n' : Name) :
    get (run r.effs st) (.man n') = c.man st n' := by
  cases h with
  | stage => exact noMan_get hs n'
  | commit hm hg =>
    show get (run (s ++ (_ ++ _)) st) _ = _
    rw [run_append, run_append, noMan_get hg.foot, hm.get_man, noMan_get hs]
    rfl

/-- With manifests written by rename, a crash leaves ALL manifest files as they were or ALL as the
completed operation leaves them. -/
theorem Phases.old_or_new (h : Phases P true quiet st s c r) (hs : NoMan s) {p : List Effect}
    (hp : CrashPrefix r.effs p) :
    (∀ n, get (run p st) (.man n) = get st (.man n)) ∨
    (∀ n, get (run p st) (.man n) = get (run r.effs st) (.man n)) := by
  cases h with
  | stage => exact Or.inl (noMan_get (writesIn_crashPrefix hs hp))
  | @commit mid g n v hm hg =>
    obtain ⟨S, e, rfl, hS, hcut⟩ := hm.split
    have hsS : NoMan (s ++ S) := writesIn_append hs hS
    have he : s ++ ((S ++ [e]) ++ g) = (s ++ S) ++ (e :: g) := by simp
    simp only [he] at hp ⊢
    rcases crashPrefix_append hp with hp | ⟨p', rfl, hp'⟩
    · exact Or.inl (noMan_get (writesIn_crashPrefix hsS hp))
    · rcases crashPrefix_cons hp' with rfl | ⟨e', hc, rfl⟩ | ⟨q, rfl, hq⟩
      · rw [List.append_nil]; exact Or.inl (noMan_get hsS)
      · exact absurd hc (hcut e')
      · refine Or.inr fun n' => ?_
        have hg' : NoMan g := hg.foot
        simp only [run_append, run]
        rw [noMan_get (writesIn_crashPrefix hg' hq), noMan_get hg']

theorem Phases.seqOK (h : Phases P atomic quiet st s c r) (hp : P) (hs : SeqOK hash st s)
    (hl : ∀ n m, c = some (n, some (.man m)) → ∀ l ∈ m.all, (get (run s st) (.blob l.digest)).isSome) :
    SeqOK hash st r.effs := by
  cases h with
  | stage => exact hs
  | commit hm hg =>
    exact seqOK_append.mpr ⟨hs, seqOK_append.mpr ⟨hm.seqOK fun m hv => hl _ m (by rw [hv]), hg.seqOK hp⟩⟩

theorem Phases.of_stage (hs : r.effs = s) (hq : r.ok = quiet) : Phases P atomic quiet st s none r := by
  cases r; cases hs; cases hq; exact .stage

end phases

/-! ## the blocks after the stage -/

theorem writeManifest_commit (env : Env) (k : Nat) (n : Name) (m : Man) (st : Store) :
    Commit st n env.atomicMan (some (.man m)) (writeManifest env k n m).effs := by
  unfold writeManifest
  cases h : env.atomicMan
  · exact .put m
  · exact .rename _ k _

theorem layerRemove_rms {P : Prop} (d : Digest) (st : Store) : Rms P st (layerRemove d st).effs := by
  unfold layerRemove; split
  · exact Rms.nil
  · rename_i h
    simp only [Bool.or_eq_true, Bool.not_eq_true', not_or, Bool.not_eq_true] at h
    exact List.forall_mem_singleton.mpr ⟨d, rfl, fun _ => h.1⟩

theorem removeLayers_rms {P : Prop} (ds : List Digest) (st : Store) : Rms P st (removeLayers ds st).effs := by
  induction ds generalizing st with
  | nil => exact Rms.nil
  | cons d rest ih =>
    simp only [removeLayers, andThen_effs, layerRemove_ok, if_true]
    have h1 := layerRemove_rms (P := P) d st
    exact List.forall_mem_append.mpr ⟨h1, (ih _).congr h1.man⟩

theorem cleanupOld_rms {P : Prop} (env : Env) (old : Option Man) (st : Store) : Rms P st (cleanupOld env old st).effs := by
  unfold cleanupOld
  split
  · split
    · exact Rms.nil
    · exact removeLayers_rms _ _
  · exact Rms.nil

/-- map iteration visits only keys of the map -/
def Env.OrdSub (env : Env) : Prop := ∀ l x, x ∈ env.ord l → x ∈ l

theorem cleanupPull_rms (env : Env) (cand : List Digest) (st : Store) :
    Rms env.OrdSub st (cleanupPull env cand st).effs := by
  unfold cleanupPull
  split
  · exact Rms.nil
  · exact List.forall_mem_map.mpr fun d hd => ⟨d, rfl, fun hord => by
      simpa using (List.mem_filter.mp (hord _ _ (List.mem_filter.mp hd).1)).2⟩

theorem phases_wm_then {P : Prop} {quiet : Bool} (env : Env) (s : List Effect) (k : Nat) (n : Name)
    (m : Man) (f : Store → Res) (hf : ∀ st', Rms P st' (f st').effs) (hok : ∀ st', (f st').ok = true) :
    Phases P env.atomicMan quiet st s (some (n, some (.man m)))
      ⟨s ++ ((writeManifest env k n m).andThen (run s st) f).effs, ((writeManifest env k n m).andThen (run s st) f).ok⟩ := by
  rw [andThen_of_ok (writeManifest_ok env k n m), hok]
  exact .commit (writeManifest_commit env k n m _) (hf _)

/-! ## every operation has the three phases -/

def Op.asg (env : Env) (op : Op) (st : Store) : Asg :=
  match op with
  | .upload .. => none
  | .copy src dst => if src = dst then none else (get st (.man src)).map fun c => (dst, some c)
  | .delete n => (readable st n).map fun _ => (n, none)
  | .pull reg n m =>
    if (downloads env reg 0 (m.all.map Layer.digest) st).ok then some (n, some (.man m)) else none
  | .create n ups file datas cfg =>
    let st1 := run (uploads env 0 ups st).effs st
    if present st1 (.blob file) then
      some (n, some (.man (createMan env file datas cfg (run (newLayers env ups.length (datas ++ [cfg]) st1).effs st1))))
    else none

/-- the effects up to the manifest write: uploads and new layers, downloads -/
def Op.stage (env : Env) (op : Op) (st : Store) : List Effect :=
  match op with
  | .upload k d body => (StoreCrash.upload env k d body st).effs
  | .create _ ups file datas cfg =>
    let st1 := run (uploads env 0 ups st).effs st
    (uploads env 0 ups st).effs ++
      if present st1 (.blob file) then (newLayers env ups.length (datas ++ [cfg]) st1).effs else []
  | .pull reg _ m => (downloads env reg 0 (m.all.map Layer.digest) st).effs
  | _ => []

/-- operations that succeed without making an assignment -/
def Op.quiet : Op → Bool
  | .upload .. => true
  | .copy src dst => src = dst
  | _ => false

def Op.pulls : Op → Bool
  | .pull .. => true
  | _ => false

theorem exec_phases (env : Env) (op : Op) (st : Store) :
    Phases env.OrdSub env.atomicMan op.quiet st (op.stage env st) (op.asg env st) (op.exec env st) := by
  cases op with
  | upload k d body => exact .of_stage rfl (upload_ok env k d body st)
  | copy src dst =>
    simp only [Op.exec, Op.asg, Op.stage, Op.quiet]
    unfold copy
    by_cases hsd : src = dst
    · simp only [hsd, ↓reduceIte, decide_true]; exact .stage
    · simp only [hsd, ↓reduceIte, decide_false]
      cases hs : get st (.man src) with
      | none => exact .stage
      | some c =>
        simp only [Option.map]
        cases hat : env.atomicMan
        · exact .commit (mid := [.mk (.man dst), .cp (.man src) (.man dst)]) (g := []) (.cp src c hsd hs) Rms.nil
        · exact .commit (mid := writeAtomic 0 (.man dst) c) (g := []) (.rename _ 0 c) Rms.nil
  | delete n =>
    simp only [Op.exec, Op.asg, Op.stage, Op.quiet]
    unfold delete
    cases hr : readable st n with
    | none => exact .stage
    | some m =>
      dsimp only
      rw [andThen_of_ok (a := ⟨[.rm (.man n)], true⟩) rfl, removeLayers_ok]
      exact .commit (.unlink _) (removeLayers_rms _ _)
  | pull reg n m =>
    simp only [Op.exec, Op.asg, Op.stage, Op.quiet]
    unfold pull
    dsimp only
    cases hok : (downloads env reg 0 (m.all.map Layer.digest) st).ok with
    | false => exact .of_stage (by rw [andThen_effs, hok]; rfl) (by rw [andThen_ok, hok]; rfl)
    | true =>
      rw [andThen_of_ok hok]
      exact phases_wm_then env _ _ n m _ (fun st' => cleanupPull_rms env _ st') (fun st' => cleanupPull_ok env _ st')
  | create n ups file datas cfg =>
    simp only [Op.exec, Op.asg, Op.stage, Op.quiet]
    unfold create
    rw [andThen_of_ok (uploads_ok env 0 ups st)]
    generalize hst1 : run (uploads env 0 ups st).effs st = st1
    unfold createHandler
    dsimp only
    by_cases hp : present st1 (.blob file) = true
    · simp only [hp, Bool.not_true, Bool.false_eq_true, ↓reduceIte]
      rw [andThen_of_ok (newLayers_ok env _ _ st1), ← List.append_assoc]
      have := phases_wm_then (st := st) (P := env.OrdSub) (quiet := false) env
        ((uploads env 0 ups st).effs ++ (newLayers env ups.length (datas ++ [cfg]) st1).effs)
        (ups.length + datas.length + 1) n (createMan env file datas cfg (run (newLayers env ups.length (datas ++ [cfg]) st1).effs st1))
        (cleanupOld env (readable st1 n)) (fun st' => cleanupOld_rms env _ st') (fun st' => cleanupOld_ok env _ st')
      rwa [run_append, hst1] at this
    · simp only [hp, Bool.not_false, ↓reduceIte, Bool.false_eq_true, List.append_nil]
      exact .stage

theorem stage_foot {N : List Name} {deb : Bool} (env : Env) (op : Op) (st : Store) (hd : op.pulls = true → deb = true) :
    WritesIn (Foot N deb) (op.stage env st) := by
  cases op <;> simp only [Op.stage]
  case upload k d body => exact upload_foot env k d body st
  case create n ups file datas cfg =>
    refine writesIn_append (uploads_foot env 0 ups st) ?_
    split
    · exact newLayers_foot env _ _ _
    · exact writesIn_nil
  case pull reg n m => exact hd rfl ▸ downloads_foot env reg 0 _ st
  all_goals exact writesIn_nil

theorem asg_cases {env : Env} {op : Op} {st : Store} {n : Name} {v : Option Content}
    (h : op.asg env st = some (n, v)) :
    n ∈ op.involved ∧ ((∃ m, v = some (.man m)) ∨ (op = .delete n ∧ v = none) ∨
      (∃ src c, get st (.man src) = some c ∧ v = some c)) := by
  cases op <;> simp only [Op.asg] at h
  case upload => cases h
  case copy src dst =>
    split at h
    · cases h
    · cases hs : get st (.man src) <;> rw [hs] at h <;> cases h
      exact ⟨.head _, Or.inr (Or.inr ⟨src, _, hs, rfl⟩)⟩
  case delete n0 => cases hr : readable st n0 <;> rw [hr] at h <;> cases h; exact ⟨.head _, Or.inr (Or.inl ⟨rfl, rfl⟩)⟩
  case pull | create => split at h <;> cases h; exact ⟨.head _, Or.inl ⟨_, rfl⟩⟩

theorem exec_foot (env : Env) (op : Op) (st : Store) :
    WritesIn (Foot op.involved op.pulls) (op.exec env st).effs :=
  (exec_phases env op st).foot (stage_foot env op st id) fun _ _ h => (asg_cases h).1

theorem exec_man (env : Env) (op : Op) (st : Store) (n' : Name) :
    get (run (op.exec env st).effs st) (.man n') = (op.asg env st).man st n' :=
  (exec_phases env op st).man (stage_foot env op st fun _ => rfl) n'

theorem exec_ok (env : Env) (op : Op) (st : Store) :
    (op.exec env st).ok = ((op.asg env st).isSome || op.quiet) :=
  (exec_phases env op st).ok

theorem pull_ok_iff (env : Env) (reg : Digest → Option Bytes) (n : Name) (m : Man) (st : Store) :
    ((Op.pull reg n m).exec env st).ok = (downloads env reg 0 (m.all.map Layer.digest) st).ok := by
  rw [exec_ok]
  simp only [Op.asg, Op.quiet]
  cases (downloads env reg 0 (m.all.map Layer.digest) st).ok <;> rfl

theorem crash_man {env : Env} (hat : env.atomicMan = true) (op : Op) (st : Store)
    {p : List Effect} (hp : CrashPrefix (op.exec env st).effs p) :
    (∀ n, get (restartWith env (run p st)) (.man n) = get st (.man n)) ∨
    (∀ n, get (restartWith env (run p st)) (.man n) = (op.asg env st).man st n) := by
  simp only [(restartWith_untouched env _ (run p st)).1, ← exec_man]
  exact Phases.old_or_new (hat ▸ exec_phases env op st) (stage_foot env op st fun _ => rfl) hp

/-! ## running the operation again -/

/-- making the assignment a second time changes nothing, whether or not it was made the first time -/
theorem Asg.man_again {c : Asg} {s s' : Store}
    (h : ∀ n, get s' (.man n) = get s (.man n) ∨ get s' (.man n) = c.man s n) (n' : Name) :
    c.man s' n' = c.man s n' := by
  obtain _ | ⟨n, v⟩ := c
  · exact (h n').elim id id
  · have := h n'
    simp only [Asg.man_some] at this ⊢
    split
    · rfl
    · rename_i hn; rw [if_neg hn] at this; exact this.elim id id

/-- The manifest files after a crash, start-up and a second run are those of the uninterrupted run
as soon as the second run makes the same assignment, or finds it made and makes none. -/
theorem rerun_man (env : Env) (op : Op) (st st1 : Store)
    (hon : (∀ n, get st1 (.man n) = get st (.man n)) ∨ (∀ n, get st1 (.man n) = (op.asg env st).man st n))
    (hc : op.asg env st1 = op.asg env st ∨
      (op.asg env st1 = none ∧ ∀ n, get st1 (.man n) = (op.asg env st).man st n)) (n' : Name) :
    get (run (op.exec env st1).effs st1) (.man n') = get (run (op.exec env st).effs st) (.man n') := by
  rw [exec_man, exec_man]
  rcases hc with hc | ⟨hc, hnew⟩
  · rw [hc]
    exact Asg.man_again (fun n => hon.imp (fun h => h n) (fun h => h n)) n'
  · rw [hc]; exact hnew n'

end OllamaVerif.StoreCrash
