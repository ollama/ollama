/-
  The decoder on EVERY byte string (C10).

  One contract for every reader (`Consumes`), proved in one traversal (`…_consumes`); what a value retains is measured
  by `Elem.weight`, `Val.weight`, … `Decoded.weight` (key and string bytes, array cells, tensor names, dimensions).
  `decodeFrom_consumes` is the contract of the decoder as a whole; safety (`decode_safe_all`), the size of the result
  (`decodeFrom_weight`) and the progress of create's loop (`decodeFrom_progress`) are read off it.  `Paid` is the
  contract of a reader that counts its loop iterations; Proofs/GgufSteps.lean proves it of the loops over elements,
  key/values and dimensions.
-/
import OllamaVerif.Model.Gguf

namespace OllamaVerif.Gguf
open OllamaVerif

def isBad : Err → Bool
  | .panic _ => true
  | .alloc _ _ => true
  | _ => false

def Safe {α : Type} (x : Except Err α) : Prop :=
  match x with
  | .ok _ => True
  | .error e => isBad e = false

theorem Safe.bind {α β : Type} {x : Except Err α} {f : α → Except Err β} (hx : Safe x)
    (hf : ∀ a, Safe (f a)) : Safe (x >>= f) := by
  cases x with
  | error e => exact hx
  | ok a => exact hf a

structure Hard (c : Cfg) (B : Nat) : Prop where
  g : c.g = Guards.all
  b : c.budget = some B

theorem checkAlloc_ok {c : Cfg} {B : Nat} (hc : Hard c B) (site : String) (n : Nat) (h : n ≤ B) :
    checkAlloc c site n = .ok () := by
  unfold checkAlloc; rw [hc.b]; simp; omega

/-! ## what a decoded value retains -/

def Elem.weight : Elem → Nat
  | .scalar _ => 1
  | .str s => 1 + s.length

def elemsWeight (es : List Elem) : Nat := (es.map Elem.weight).sum

def Val.weight : Val → Nat
  | .scalar _ _ => 1
  | .str s => 1 + s.length
  | .arr _ _ none => 1
  | .arr _ _ (some es) => 1 + elemsWeight es

def kvsWeight (kvs : List (Bytes × Val)) : Nat := (kvs.map (fun p => p.1.length + p.2.weight)).sum

def TInfo.weight (t : TInfo) : Nat := 1 + t.name.length + t.shape.length

def tensorsWeight (ts : List TInfo) : Nat := (ts.map TInfo.weight).sum

def Decoded.weight (d : Decoded) : Nat := kvsWeight d.kvs + tensorsWeight d.tensors

theorem Elem.weight_pos (e : Elem) : 1 ≤ e.weight := by
  cases e with
  | scalar _ => exact Nat.le_refl 1
  | str s => exact Nat.le_add_right 1 _

theorem Val.weight_pos (v : Val) : 1 ≤ v.weight := by
  unfold Val.weight
  split <;> omega

theorem sum_filter_le {α : Type} (f : α → Nat) (p : α → Bool) (l : List α) :
    ((l.filter p).map f).sum ≤ (l.map f).sum := by
  induction l with
  | nil => exact Nat.le_refl _
  | cons x xs ih =>
    simp only [List.filter_cons]
    split
    · simp only [List.map_cons, List.sum_cons]; omega
    · simp only [List.map_cons, List.sum_cons]; omega

theorem kvsWeight_insert (kvs : List (Bytes × Val)) (k : Bytes) (v : Val) :
    kvsWeight (kvInsert kvs k v) ≤ kvsWeight kvs + k.length + v.weight := by
  unfold kvsWeight kvInsert
  have := sum_filter_le (fun p : Bytes × Val => p.1.length + p.2.weight) (fun p => decide (p.1 ≠ k)) kvs
  simp only [List.map_append, List.sum_append, List.map_cons, List.map_nil, List.sum_cons, List.sum_nil]
  omega

/-- What the reader that produced `x` from `r` keeps to: on success it went forward over at least `wt a` bytes (`a`: what
    it returns) and the position grew by what the input shrank; on failure under the hardened configuration, with a
    budget that covers what was left at `r`, the error is neither a panic nor an allocation. -/
def Consumes {α : Type} (c : Cfg) (wt : α → Nat) (r : Rd) (x : Except Err (α × Rd)) : Prop :=
  match x with
  | .ok (a, r') => r'.rest.length + wt a ≤ r.rest.length ∧ r'.pos + r'.rest.length = r.pos + r.rest.length
  | .error e => ∀ B, Hard c B → r.rest.length ≤ B → isBad e = false

section
variable {α β : Type} {c : Cfg} {r : Rd}

theorem Consumes.le {wt : α → Nat} {x : Except Err (α × Rd)} (h : Consumes c wt r x) {a : α} {r' : Rd}
    (hx : x = .ok (a, r')) : r'.rest.length + wt a ≤ r.rest.length := by
  subst hx; exact h.1

theorem Consumes.pos_add {wt : α → Nat} {x : Except Err (α × Rd)} (h : Consumes c wt r x) {a : α} {r' : Rd}
    (hx : x = .ok (a, r')) : r'.pos + r'.rest.length = r.pos + r.rest.length := by
  subst hx; exact h.2

theorem Consumes.benign {wt : α → Nat} {e : Err} (h : isBad e = false) : Consumes c wt r (.error e) := fun _ _ _ => h

/-- a site that panics in the pinned code and answers with an error once its guard is on -/
theorem Consumes.guard {wt : α → Nat} (g : Guards → Bool) (hg : g Guards.all = true) {what site : String} :
    Consumes c wt r (if g c.g = true then .error (.invalid what) else .error (.panic site)) := by
  by_cases h : g c.g = true
  · rw [if_pos h]; exact Consumes.benign rfl
  · rw [if_neg h]; exact fun B hc _ => absurd (hc.g ▸ hg) h

theorem Consumes.pure {wt : α → Nat} {a : α} (h : wt a = 0) : Consumes c wt r (pure (a, r)) := ⟨by omega, rfl⟩

theorem Consumes.mono {wt wt' : α → Nat} {x : Except Err (α × Rd)} (h : Consumes c wt r x)
    (hle : ∀ a, wt' a ≤ wt a) : Consumes c wt' r x := by
  cases x with
  | error e => exact h
  | ok p => exact ⟨Nat.le_trans (Nat.add_le_add_left (hle p.1) _) h.1, h.2⟩

/-- `f` has to account for what the whole is said to consume less what `x` has consumed already -/
theorem Consumes.bind {wa : α → Nat} {wb : β → Nat} {x : Except Err (α × Rd)}
    {f : α × Rd → Except Err (β × Rd)} (hx : Consumes c wa r x)
    (hf : ∀ a r', Consumes c (fun b => wb b - wa a) r' (f (a, r'))) : Consumes c wb r (x >>= f) := by
  cases x with
  | error e => exact hx
  | ok p =>
    obtain ⟨a, r'⟩ := p
    have h1 := hx.1
    have h2 := hx.2
    have hfa := hf a r'
    show Consumes c wb r (f (a, r'))
    cases hy : f (a, r') with
    | error e => rw [hy] at hfa; exact fun B hc hB => hfa B hc (by omega)
    | ok q =>
      have h3 := hfa.le hy
      have h4 := hfa.pos_add hy
      exact ⟨by omega, by omega⟩

/-- an allocation sized from the input: under the hardened configuration the size has been checked against what is
    left of the input (or the site is not reached at all) -/
theorem Consumes.alloc {wt : α → Nat} {y : Except Err (α × Rd)} {site : String} {n : Nat}
    (hn : ∀ B, Hard c B → n ≤ r.rest.length) (h : Consumes c wt r y) :
    Consumes c wt r (checkAlloc c site n >>= fun _ => y) := by
  cases ha : checkAlloc c site n with
  | ok _ => exact h
  | error e =>
    intro B hc hB
    rw [checkAlloc_ok hc site n (Nat.le_trans (hn B hc) hB)] at ha
    cases ha

end

theorem readN_consumes (c : Cfg) (k : Nat) (r : Rd) : Consumes c List.length r (readN k r) := by
  unfold readN
  split
  · simp only [Consumes, List.length_drop, List.length_take]
    omega
  · split <;> exact Consumes.benign rfl

theorem readNCopy_consumes (c : Cfg) (k : Nat) (r : Rd) : Consumes c List.length r (readNCopy k r) := by
  unfold readNCopy
  split
  · simp only [Consumes, List.length_drop, List.length_take]
    omega
  · exact Consumes.benign rfl

theorem readUint_consumes (c : Cfg) (be : Bool) (w : Nat) (r : Rd) : Consumes c (fun _ => w) r (readUint be w r) := by
  unfold readUint readN
  by_cases h : w ≤ r.rest.length
  · rw [if_pos h]
    simp only [Consumes, List.length_drop]
    omega
  · rw [if_neg h]
    by_cases h0 : r.rest.length = 0
    · rw [if_pos h0]; exact Consumes.benign rfl
    · rw [if_neg h0]; exact Consumes.benign rfl

theorem readUintIn_consumes (c : Cfg) (be : Bool) (w total : Nat) (r : Rd) :
    Consumes c (fun _ => w) r (readUintIn be w total r) := by
  unfold readUintIn
  split
  · exact readUint_consumes c be w r
  · split <;> exact Consumes.benign rfl

theorem readScalar_consumes (c : Cfg) (t w : Nat) (r : Rd) : Consumes c (fun _ => w) r (readScalar c t w r) := by
  unfold readScalar
  refine (readUint_consumes c c.be w r).bind ?_
  intro v r'
  exact Consumes.pure (Nat.sub_self w)

theorem readStrV1_consumes (c : Cfg) (r : Rd) : Consumes c (fun s => 8 + s.length) r (readStrV1 c r) := by
  unfold readStrV1
  refine (readUint_consumes c c.be 8 r).bind ?_
  intro n r'
  simp only []
  split
  · exact Consumes.guard (·.v1StrLen) rfl
  · refine (readNCopy_consumes c _ r').bind ?_
    intro bs r''
    exact Consumes.pure (by simp only [List.length_take]; omega)

theorem readStrV23_consumes (c : Cfg) (r : Rd) : Consumes c (fun s => 8 + s.length) r (readStrV23 c r) := by
  unfold readStrV23
  refine (readUint_consumes c c.be 8 r).bind ?_
  intro n r'
  simp only []
  split
  · split
    · exact Consumes.benign rfl
    · rename_i hnot
      -- with `strHuge` on, the length has just been found to be within what is left
      refine Consumes.alloc (fun B hc => ?_) ((readNCopy_consumes c _ r').mono (fun s => by omega))
      simp only [hc.g, Guards.all, true_and, Nat.not_lt] at hnot
      exact hnot
  · split
    · exact Consumes.guard (·.strNeg) rfl
    · exact (readN_consumes c _ r').mono (fun s => by omega)

theorem readStr_consumes (c : Cfg) (r : Rd) : Consumes c (fun s => 8 + s.length) r (readStr c r) := by
  unfold readStr
  split
  · exact readStrV1_consumes c r
  · exact readStrV23_consumes c r

theorem discardStr_consumes (c : Cfg) (r : Rd) : Consumes c (fun _ => 8) r (discardStr c r) := by
  unfold discardStr
  refine (readUint_consumes c c.be 8 r).bind ?_
  intro n r'
  simp only []
  split
  · exact Consumes.pure (Nat.sub_self 8)
  · refine ((readNCopy_consumes c _ r').mono (fun _ => Nat.zero_le _)).bind ?_
    intro bs r''
    exact Consumes.pure (Nat.sub_self 8)

theorem scalarWidth_pos (t w : Nat) (h : scalarWidth t = some w) : 1 ≤ w := by
  unfold scalarWidth at h
  split at h
  · injection h with h; omega
  · split at h
    · injection h with h; omega
    · split at h
      · injection h with h; omega
      · split at h
        · injection h with h; omega
        · cases h

theorem readElem_consumes (c : Cfg) (t : Nat) (collect : Bool) (r : Rd) :
    Consumes c Elem.weight r (readElem c t collect r) := by
  unfold readElem
  split
  · rename_i w hw
    have hw1 := scalarWidth_pos t w hw
    refine (readScalar_consumes c t w r).bind ?_
    intro v r'
    exact Consumes.pure (by simp only [Elem.weight]; omega)
  · split
    · split
      · refine (readStrV1_consumes c r).bind ?_
        intro s r'
        exact Consumes.pure (by simp only [Elem.weight]; omega)
      · split
        · refine (readStrV23_consumes c r).bind ?_
          intro s r'
          exact Consumes.pure (by simp only [Elem.weight]; omega)
        · refine (discardStr_consumes c r).bind ?_
          intro u r'
          exact Consumes.pure (by simp only [Elem.weight, List.length_nil])
    · exact Consumes.benign rfl

theorem readElems_consumes (c : Cfg) (t : Nat) (collect : Bool) (n : Nat) (r : Rd) :
    Consumes c elemsWeight r (readElems c t collect n r) := by
  induction n generalizing r with
  | zero => exact Consumes.pure rfl
  | succ n ih =>
    unfold readElems
    refine (readElem_consumes c t collect r).bind ?_
    intro e r1
    simp only []
    split
    · rename_i h
      exact fun B hc _ => absurd (by rw [hc.g]; rfl) h.2.2
    · refine (ih r1).bind ?_
      intro es r2
      exact Consumes.pure (by simp only [elemsWeight, List.map_cons, List.sum_cons]; omega)

theorem readArr_consumes (c : Cfg) (r : Rd) : Consumes c Val.weight r (readArr c r) := by
  unfold readArr
  refine (readUint_consumes c c.be 4 r).bind ?_
  intro t r1
  refine ((readUint_consumes c c.be _ r1).mono (wt' := fun _ => 4) (fun _ => by split <;> omega)).bind ?_
  intro n r2
  simp only []
  split
  · exact Consumes.guard (·.arrNeg) rfl
  · have hel : Consumes c (fun v => Val.weight v - 4 - 4) r2
        (readElems c t (decide (c.maxArray < 0) || decide (toI64 n ≤ c.maxArray)) n r2 >>= fun x =>
          pure (Val.arr t (toI64 n) (if (decide (c.maxArray < 0) || decide (toI64 n ≤ c.maxArray)) = true
            then some x.1 else none), x.2)) := by
      refine (readElems_consumes c t _ n r2).bind ?_
      intro es r3
      exact Consumes.pure (by split <;> simp only [Val.weight] <;> omega)
    split
    · rename_i h
      -- the up-front `make`: not there once `arrHuge` is on
      exact Consumes.alloc (fun B hc => absurd (by rw [hc.g]; rfl) h.2) hel
    · exact hel

theorem readValue_consumes (c : Cfg) (t : Nat) (r : Rd) : Consumes c Val.weight r (readValue c t r) := by
  unfold readValue
  split
  · rename_i w hw
    have hw1 := scalarWidth_pos t w hw
    refine (readScalar_consumes c t w r).bind ?_
    intro v r'
    exact Consumes.pure (by simp only [Val.weight]; omega)
  · split
    · refine (readStr_consumes c r).bind ?_
      intro s r'
      exact Consumes.pure (by simp only [Val.weight]; omega)
    · split
      · exact readArr_consumes c r
      · exact Consumes.benign rfl

/-- the key/value loop pays for what it adds to the entries it was given -/
theorem readKVs_consumes (c : Cfg) (n : Nat) (acc : List (Bytes × Val)) (r : Rd) :
    Consumes c (fun kvs => kvsWeight kvs - kvsWeight acc) r (readKVs c n acc r) := by
  induction n generalizing acc r with
  | zero => exact Consumes.pure (Nat.sub_self _)
  | succ n ih =>
    unfold readKVs
    refine (readStr_consumes c r).bind ?_
    intro k r1
    refine (readUint_consumes c c.be 4 r1).bind ?_
    intro t r2
    refine (readValue_consumes c t r2).bind ?_
    intro v r3
    refine (ih (kvInsert acc k v) r3).mono ?_
    intro kvs
    have := kvsWeight_insert acc k v
    omega

theorem readShape_consumes (c : Cfg) (n : Nat) (r : Rd) : Consumes c List.length r (readShape c n r) := by
  induction n generalizing r with
  | zero => exact Consumes.pure rfl
  | succ n ih =>
    unfold readShape
    refine (readUint_consumes c c.be 8 r).bind ?_
    intro d r1
    refine (ih r1).bind ?_
    intro ds r2
    exact Consumes.pure (by simp only [List.length_cons]; omega)

theorem readTensor_consumes (c : Cfg) (r : Rd) : Consumes c TInfo.weight r (readTensor c r) := by
  unfold readTensor
  refine (readStr_consumes c r).bind ?_
  intro name r1
  refine (readUint_consumes c c.be 4 r1).bind ?_
  intro dims r2
  simp only []
  split
  · split <;> exact Consumes.benign rfl
  · rename_i hd
    -- with `dimsHuge` on, the dimensions have just been found to fit into what is left
    refine Consumes.alloc (fun B hc => ?_) ((readShape_consumes c dims r2).bind ?_)
    · simp only [hc.g, Guards.all, true_and, Nat.not_lt] at hd
      exact hd
    intro shape r3
    refine (readUint_consumes c c.be 4 r3).bind ?_
    intro kind r4
    refine (readUint_consumes c c.be 8 r4).bind ?_
    intro off r5
    exact Consumes.pure (by simp only [TInfo.weight]; omega)

theorem readTensors_consumes (c : Cfg) (n : Nat) (r : Rd) : Consumes c tensorsWeight r (readTensors c n r) := by
  induction n generalizing r with
  | zero => exact Consumes.pure rfl
  | succ n ih =>
    unfold readTensors
    refine (readTensor_consumes c r).bind ?_
    intro t r1
    refine (ih r1).bind ?_
    intro ts r2
    exact Consumes.pure (by simp only [tensorsWeight, List.map_cons, List.sum_cons]; omega)

theorem seekTensors_keeps (g : Guards) (align : Nat) (ts : List TInfo) (pos : Nat) :
    match seekTensors g align ts pos with
    | .ok e => g.negSeek = true → pos ≤ e
    | .error e => isBad e = false := by
  fun_induction seekTensors g align ts pos with
  | case1 pos => exact fun _ => Nat.le_refl _
  | case2 => rfl
  | case3 => rfl
  | case4 t ts pos p sz np h1 h2 ih =>
    split at ih
    · exact fun hg => by have := ih hg; simp only [hg, true_and] at h1; omega
    · exact ih

theorem alignmentOf_safe (kvs : List (Bytes × Val)) : Safe (alignmentOf Guards.all kvs) := by
  unfold alignmentOf
  split <;> trivial

/-- The contract of a part of the decoder that returns the decoded value and no reader state (of a configuration only
    guards and budget matter).  `24 - K` accounted header bytes are still ahead of the part (`K = 24`: the body;
    `K = 16`: the whole decoder, magic and version ahead): the value may weigh `K` more than what is left (the body's
    24: the entry the decoder adds itself), and the decode ends `24 - K` bytes or more after `r.pos` (written without
    the subtraction). -/
def ConsumesD (g : Guards) (budget : Option Nat) (K : Nat) (r : Rd) (x : Except Err Decoded) : Prop :=
  match x with
  | .ok d => d.weight ≤ r.rest.length + K ∧ (g.negSeek = true → r.pos + 24 ≤ d.endOffset + K)
  | .error e => ∀ B, g = Guards.all → budget = some B → r.rest.length ≤ B → isBad e = false

theorem Consumes.bindD {α : Type} {c : Cfg} {r : Rd} {wa : α → Nat} {K : Nat} {x : Except Err (α × Rd)}
    {f : α × Rd → Except Err Decoded} (hx : Consumes c wa r x)
    (hf : ∀ a r', ConsumesD c.g c.budget (K + wa a) r' (f (a, r'))) : ConsumesD c.g c.budget K r (x >>= f) := by
  cases x with
  | error e => exact fun B hg hb hB => hx B ⟨hg, hb⟩ hB
  | ok p =>
    obtain ⟨a, r'⟩ := p
    have h1 := hx.1
    have h2 := hx.2
    have hfa := hf a r'
    show ConsumesD c.g c.budget K r (f (a, r'))
    cases hy : f (a, r') with
    | error e => rw [hy] at hfa; exact fun B hg hb hB => hfa B hg hb (by omega)
    | ok d =>
      rw [hy] at hfa
      exact ⟨by have := hfa.1; omega, fun hg => by have := hfa.2 hg; omega⟩

theorem keyParamCount_length : keyParamCount.length = 23 := by decide

theorem decodeBody_consumes (c : Cfg) (numKV numTensor : Nat) (r : Rd) :
    ConsumesD c.g c.budget 24 r (decodeBody c numKV numTensor r) := by
  unfold decodeBody
  refine (readKVs_consumes c numKV [] r).bindD fun kvs r1 => ?_
  refine (readTensors_consumes c numTensor r1).bindD fun ts r2 => ?_
  simp only []
  -- the entry the decoder adds itself: 23 bytes of key and one cell
  have hins := kvsWeight_insert kvs keyParamCount (.scalar 10 (sumParameters ts))
  rw [keyParamCount_length] at hins
  simp only [Val.weight] at hins
  have h0 : kvsWeight [] = 0 := rfl
  cases ha : alignmentOf c.g (kvInsert kvs keyParamCount (.scalar 10 (sumParameters ts))) with
  | error e =>
    intro B hg _ _
    have := alignmentOf_safe (kvInsert kvs keyParamCount (.scalar 10 (sumParameters ts)))
    rw [← hg, ha] at this
    exact this
  | ok align =>
    show ConsumesD _ _ _ r2 (if align = 0 then _ else _)
    split
    · by_cases h : c.g.alignZero = true
      · rw [if_pos h]; exact fun _ _ _ _ => rfl
      · rw [if_neg h]; exact fun B hg _ _ => absurd (by rw [hg]; rfl) h
    · have hseek := seekTensors_keeps c.g align ts r2.pos
      cases hs : seekTensors c.g align ts r2.pos with
      | error e => rw [hs] at hseek; exact fun _ _ _ _ => hseek
      | ok e =>
        rw [hs] at hseek
        refine ⟨?_, fun hg => ?_⟩
        · simp only [Decoded.weight]; omega
        · have := hseek hg
          show _ ≤ e + _
          omega

/-- **What the decoder keeps to**, from any reader state, for every guard set, budget and array limit (`K = 16`: every
    success reads the 8 bytes of magic and version) -/
theorem decodeFrom_consumes (r : Rd) (maxArraySize : Int) (budget : Option Nat) (g : Guards) :
    ConsumesD g budget 16 r (decodeFrom r maxArraySize budget g) := by
  -- the header is read before the configuration is known: any one with these guards and this budget serves
  obtain ⟨c, rfl, rfl⟩ : ∃ c : Cfg, c.g = g ∧ c.budget = budget := ⟨⟨false, 3, 0, budget, g⟩, rfl, rfl⟩
  unfold decodeFrom
  simp only []
  refine (readUint_consumes c false 4 r).bindD fun magic r1 => ?_
  simp only []
  split
  · exact fun _ _ _ _ => rfl
  · refine (readUint_consumes c _ 4 r1).bindD fun version r2 => ?_
    refine ((readUintIn_consumes c _ _ _ r2).mono (wt' := fun _ => 0) fun _ => Nat.zero_le _).bindD fun nT r3 => ?_
    refine ((readUint_consumes c _ _ r3).mono (wt' := fun _ => 0) fun _ => Nat.zero_le _).bindD fun nKV r4 => ?_
    exact decodeBody_consumes _ nKV nT r4

theorem decodeFrom_safe_all (r : Rd) (maxArraySize : Int) (B : Nat) (hB : r.rest.length ≤ B) :
    Safe (decodeFrom r maxArraySize (some B) Guards.all) := by
  have h := decodeFrom_consumes r maxArraySize (some B) Guards.all
  cases hd : decodeFrom r maxArraySize (some B) Guards.all with
  | ok d => trivial
  | error e => rw [hd] at h; exact h B rfl rfl hB

theorem decode_safe_all (bs : Bytes) (maxArraySize : Int) (B : Nat) (hB : bs.length ≤ B) :
    Safe (decode bs maxArraySize (some B) Guards.all) :=
  decodeFrom_safe_all ⟨bs, 0⟩ maxArraySize B hB

theorem decodeFrom_weight (r : Rd) (maxArraySize : Int) (budget : Option Nat) (g : Guards) (d : Decoded)
    (h : decodeFrom r maxArraySize budget g = .ok d) : d.weight ≤ r.rest.length + 24 := by
  have hk := decodeFrom_consumes r maxArraySize budget g
  rw [h] at hk
  exact Nat.le_trans hk.1 (by omega)

/-- **Progress**: a successful decode that started at file position p ends after p (4: the magic alone;
    `decodeFrom_consumes` gives 8), for every decoder variant that rejects backward seeks. -/
theorem decodeFrom_progress (r : Rd) (maxArraySize : Int) (budget : Option Nat) (g : Guards)
    (hg : g.negSeek = true) (d : Decoded) (h : decodeFrom r maxArraySize budget g = .ok d) :
    r.pos + 4 ≤ d.endOffset := by
  have hk := decodeFrom_consumes r maxArraySize budget g
  rw [h] at hk
  have := hk.2 hg
  omega

abbrev Timed (α : Type) := Except Err α × Nat

/-- iterations are paid for by input: on success `remaining' + iterations ≤ remaining`; a failing run may have
    started one iteration it could not pay for -/
def Paid {α : Type} (n : Nat) (x : Timed (α × Rd)) : Prop :=
  match x.1 with
  | .ok (_, r') => r'.rest.length + x.2 ≤ n
  | .error _ => x.2 ≤ n + 1

theorem Paid.error {α : Type} {n k : Nat} {e : Err} (h : k ≤ n + 1) : Paid (α := α) n (.error e, k) := h

theorem Paid.ok {α : Type} {n k : Nat} {a : α} {r' : Rd} (h : r'.rest.length + k ≤ n) : Paid n (.ok (a, r'), k) := h

theorem Paid.of_error {α : Type} {n : Nat} {x : Timed (α × Rd)} {e : Err} (h : Paid n x) (hx : x.1 = .error e) :
    x.2 ≤ n + 1 := by
  unfold Paid at h; rw [hx] at h; exact h

theorem Paid.of_ok {α : Type} {n : Nat} {x : Timed (α × Rd)} {a : α} {r' : Rd} (h : Paid n x) (hx : x.1 = .ok (a, r')) :
    r'.rest.length + x.2 ≤ n := by
  unfold Paid at h; rw [hx] at h; exact h

theorem Paid.of_le {α : Type} {n m : Nat} {x : Timed (α × Rd)} (h : Paid n x) (hnm : n ≤ m) : Paid m x := by
  unfold Paid at h ⊢
  cases hx : x.1 with
  | error e => rw [hx] at h; simp only [] at h ⊢; omega
  | ok p => obtain ⟨a, r'⟩ := p; rw [hx] at h; simp only [] at h ⊢; omega

end OllamaVerif.Gguf
