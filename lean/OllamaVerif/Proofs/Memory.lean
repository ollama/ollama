/-
  Lemmas about the memory estimator and the scheduler around it (C16).  Core Lean only.

  Estimator: one invariant of the running plan (`Inv`): the counting facts, which need no guard, and for
  every GPU the bound `FinalOk` under that GPU's own guard `RoomG`.  Admission establishes it; a placement
  (`Placed`), of a block layer or of the output layer, keeps it; `PlanOk` is what the finished plan has.
  Scheduler: `updateFreeSpace`, `ByLibrary` and the sort (left folds: `foldl_invariant`), the pick
  functions, the load path (`offered_mem`) and its histories (`loadPred_eq_usedOn`).
-/
import OllamaVerif.Model.Memory

namespace OllamaVerif.Memory

def W : Nat := 18446744073709551616

theorem wr_le (x : Nat) : wr x ≤ x := Nat.mod_le _ _
theorem wr_lt (x : Nat) : wr x < W := Nat.mod_lt _ (by decide)
theorem wr_id {x : Nat} (h : x < W) : wr x = x := Nat.mod_eq_of_lt h

theorem wr_wr_add (a b : Nat) : wr (wr a + b) = wr (a + b) := Nat.mod_add_mod a _ b
theorem wr_add_wr (a b : Nat) : wr (a + wr b) = wr (a + b) := Nat.add_mod_mod a b _

theorem subW_eq {a b : Nat} (h1 : b ≤ a) (h2 : a < W) : subW a b = a - b := by
  unfold subW
  rw [Nat.sub_add_comm h1, Nat.add_mod_right]
  exact Nat.mod_eq_of_lt (Nat.lt_of_le_of_lt (Nat.sub_le _ _) h2)

/-! ## Placements -/

def Placed (c : Core) (need : Nat) (ws : List Nat) (gs : List GS) (g : Nat) : Prop :=
  g ∈ ws ∧ ∃ s, gs[g]? = some s ∧ fits c s need = true

theorem lookup_placed {c : Core} {need : Nat} {ws : List Nat} {gs : List GS} {p g : Nat} {s : GS}
    (h : lookup ws gs p = some (g, s)) (hf : fits c s need = true) : Placed c need ws gs g := by
  unfold lookup at h
  split at h
  · cases h
  · rename_i g0 hg0
    split at h
    · cases h
    · rename_i s0 hs0
      cases h
      exact ⟨List.mem_of_getElem? hg0, s, hs0, hf⟩

theorem Placed.mono {c : Core} {need : Nat} {ws ws' : List Nat} {gs : List GS} {g : Nat}
    (h : Placed c need ws gs g) (hsub : ∀ x ∈ ws, x ∈ ws') : Placed c need ws' gs g :=
  ⟨hsub g h.1, h.2⟩

theorem placeLayer_spec (c : Core) (gs : List GS) (i L j : Nat) (ws : List Nat) :
    (∀ x ∈ (placeLayer c gs i L j ws).2, x ∈ ws) ∧
    ∀ g, (placeLayer c gs i L j ws).1 = some g → Placed c L ws gs g := by
  fun_induction placeLayer c gs i L j ws with
  | case1 ws => exact ⟨fun _ h => h, nofun⟩
  | case2 j ws p g s hl hf =>
    exact ⟨fun _ h => h, fun g' h => by cases h; exact lookup_placed hl hf⟩
  | case3 j ws p g s hl hf ih | case4 j ws p hl ih =>
    exact ⟨fun x h => List.mem_of_mem_eraseIdx (ih.1 x h),
      fun g h => (ih.2 g h).mono fun _ => List.mem_of_mem_eraseIdx⟩

theorem placeOut_spec {c : Core} {gs : List GS} {ws : List Nat} {lc need j g : Nat} :
    placeOut c gs ws lc need j = some g → Placed c need ws gs g := by
  fun_induction placeOut c gs ws lc need j with
  | case1 => nofun
  | case2 j g' s hl hf => intro h; cases h; exact lookup_placed hl hf
  | case3 j g' s hl hf ih | case4 j hl ih => exact ih

/-! ## `bump`, `addGraph`, `mkCore` -/

def sumCount (gs : List GS) : Nat := (gs.map (·.count)).sum

theorem bump_count (need : Nat) (gs : List GS) (g : Nat) (s : GS) (h : gs[g]? = some s) :
    sumCount (bump need gs g) = sumCount gs + 1 := by
  fun_induction bump need gs g with
  | case1 => cases h
  | case2 a rest => simp [sumCount]; omega
  | case3 a rest g ih =>
    have := ih (by simpa using h)
    simp only [sumCount, List.map_cons, List.sum_cons] at this ⊢
    omega

theorem bump_eq_set (need : Nat) (gs : List GS) (g : Nat) (s : GS) (h : gs[g]? = some s) :
    bump need gs g = gs.set g { s with alloc := wr (s.alloc + need), count := s.count + 1 } := by
  fun_induction bump need gs g with
  | case1 => cases h
  | case2 a rest => cases h; rfl
  | case3 a rest g ih => rw [List.set_cons_succ, ih (by simpa using h)]

def gpuOf (s : GS) : Gpu := ⟨s.free, s.minimum⟩

theorem bump_gpuOf (need : Nat) (gs : List GS) (g : Nat) :
    (bump need gs g).map gpuOf = gs.map gpuOf := by
  fun_induction bump need gs g with
  | case1 => rfl
  | case2 => rfl
  | case3 a rest g ih => simp only [List.map_cons, ih]

theorem addGraph_proj {α : Type} (f : GS → α) (hf : ∀ s a, f { s with alloc := a } = f s)
    (graph : Nat) (gs : List GS) : (addGraph graph gs).map f = gs.map f := by
  unfold addGraph
  rw [List.map_map]
  apply List.map_congr_left
  intro s _
  simp only [Function.comp]
  split
  · rfl
  · exact hf s _

theorem resolve_length : ∀ (bl : List (Option Nat × Nat)) (prev : Nat),
    (resolve prev bl).length = bl.length := by
  intro bl
  induction bl with
  | nil => intro prev; rfl
  | cons b rest ih =>
    intro prev
    obtain ⟨w, kv⟩ := b
    cases w <;> simp [resolve, ih]

theorem mkCore_blocks (inp : Inp) : (mkCore inp).layerSizes.length = inp.blocks.length :=
  resolve_length _ _

theorem mkCore_numGPU (inp : Inp) : (mkCore inp).numGPU = inp.numGPU := rfl
theorem mkCore_overhead (inp : Inp) : (mkCore inp).overhead = inp.overhead := rfl
theorem mkCore_ovSafe (inp : Inp) : (mkCore inp).ovSafe = inp.ovSafe := rfl

/-! ## The invariant of the running plan -/

/-- no sum the estimator forms for this GPU and this layer size reaches 2^64
    (in variant C16-W1 the overhead is not part of any sum) -/
def Room (c : Core) (free minimum L : Nat) : Prop :=
  (if c.ovSafe then 0 else c.overhead) + c.gzo + c.maxg + minimum + 2 * c.layer0 + free + L < W

theorem room_of_lt {c : Core} {free minimum L B : Nat} (hB : 8 * B ≤ W) (ho : c.overhead < B)
    (hz : c.gzo < B) (hg : c.maxg < B) (hm : minimum < B) (hl : c.layer0 < B) (hf : free < B)
    (hL : L < B) : Room c free minimum L := by
  unfold Room
  have : (if c.ovSafe then 0 else c.overhead) ≤ c.overhead := by split <;> omega
  omega

/-- the guard of one GPU: for every layer size the estimator will try on it (block layers and the
    output layer) no sum reaches 2^64 -/
def RoomG (c : Core) (g : Gpu) : Prop := ∀ L ∈ c.memOut :: c.layerSizes, Room c g.free g.minimum L

/-- `∀ g ∈ gpus, RoomG c g`, written out: `NoWrap` is decided (the witnesses) and rewritten
    (`noWrap_fixed_any_overhead`) by unfolding down to `Room` -/
def RoomAll (c : Core) (gpus : List Gpu) : Prop :=
  ∀ g ∈ gpus, ∀ L ∈ c.memOut :: c.layerSizes, Room c g.free g.minimum L

/-- What the plan guarantees for one GPU once `graph` of the reserved `max(gP,gF)` has been charged
    to it: nothing is planned on it, or the planned size plus the part of the LARGER graph still only
    reserved plus the overhead fits (strictly once a layer was placed on it).  `graph = 0`: the running
    plan; `graph` = the applicable graph: the finished plan, the reservation the code really compares. -/
structure FinalOk (c : Core) (graph : Nat) (s : GS) : Prop where
  le : s.alloc = 0 ∨ s.alloc + (c.maxg - graph) + c.overhead ≤ s.free
  lt : 0 < s.count → s.alloc + (c.maxg - graph) + c.overhead < s.free

theorem FinalOk.alloc_le {c : Core} {graph : Nat} {s : GS} (h : FinalOk c graph s) : s.alloc ≤ s.free := by
  rcases h.le with h | h <;> omega

/-- (fixed variant only) every GPU still in `gpusWithSpace` has `overhead ≤ free`, so that
    `free - overhead` does not wrap -/
def WsOk (c : Core) (gpus : List Gpu) (ws : List Nat) : Prop :=
  c.ovSafe = true → ∀ x ∈ ws, ∀ g, gpus[x]? = some g → c.overhead ≤ g.free

theorem fits_lt {c : Core} {s : GS} {need : Nat} (hf : fits c s need = true)
    (hsum : (if c.ovSafe then 0 else c.overhead) + s.alloc + c.maxg + need < W) (hfree : s.free < W)
    (hov : c.ovSafe = true → c.overhead ≤ s.free) :
    s.alloc + c.maxg + c.overhead + need < s.free := by
  unfold fits at hf
  cases hv : c.ovSafe with
  | false =>
    simp only [hv, Bool.false_eq_true, ↓reduceIte, decide_eq_true_eq, wr_wr_add, wr_add_wr] at hf hsum
    rw [wr_id (by omega)] at hf
    omega
  | true =>
    simp only [hv, ↓reduceIte, decide_eq_true_eq] at hf hsum
    rw [subW_eq (hov hv) hfree, wr_wr_add, wr_id (by omega)] at hf
    omega

theorem fits_ok {c : Core} {s : GS} {L : Nat} (hL : L ∈ c.memOut :: c.layerSizes)
    (hov : c.ovSafe = true → c.overhead ≤ s.free) (hroom : RoomG c (gpuOf s)) (hok : FinalOk c 0 s)
    (hf : fits c s L = true) :
    FinalOk c 0 { s with alloc := wr (s.alloc + L), count := s.count + 1 } := by
  have hr : Room c s.free s.minimum L := hroom L hL
  unfold Room at hr
  have hal := hok.alloc_le
  have ho : (if c.ovSafe then 0 else c.overhead) ≤ c.overhead := by split <;> omega
  have hlt := fits_lt hf (by generalize (if c.ovSafe then 0 else c.overhead) = o at hr ho ⊢; omega)
    (by omega) hov
  have hnew : wr (s.alloc + L) + c.maxg + c.overhead < s.free := by
    have := wr_le (s.alloc + L)
    omega
  exact ⟨.inr (Nat.le_of_lt hnew), fun _ => hnew⟩

theorem admitReject_ovSafe {c : Core} {g : Gpu} {gzo : Nat} (hadm : admitReject c g gzo = false)
    (hv : c.ovSafe = true) : c.overhead ≤ g.free := by
  unfold admitReject at hadm
  simp only [hv, ↓reduceIte, Bool.or_eq_false_iff, decide_eq_false_iff_not, Nat.not_lt] at hadm
  exact hadm.1

theorem admitted_ok {c : Core} {g : Gpu} {gzo : Nat} (hadm : admitReject c g gzo = false)
    (hgzo : gzo ≤ c.gzo) (hroom : RoomG c g) :
    wr (wr (g.minimum + c.layer0) + gzo) + c.maxg + c.overhead ≤ g.free := by
  rw [wr_wr_add]
  have h1 := wr_le (g.minimum + c.layer0 + gzo)
  -- the layer size plays no part: the guard for any one bounds the sums of the admission test
  have hr := hroom c.memOut List.mem_cons_self
  unfold Room at hr
  cases hv : c.ovSafe with
  | false =>
    unfold admitReject admitNeed at hadm
    simp only [hv, Bool.false_eq_true, ↓reduceIte, decide_eq_false_iff_not, Nat.not_lt, wr_wr_add,
      wr_add_wr] at hadm hr
    rw [wr_id (by omega)] at hadm
    omega
  | true =>
    have hle := admitReject_ovSafe hadm hv
    unfold admitReject at hadm
    simp only [hv, ↓reduceIte, Bool.or_eq_false_iff, decide_eq_false_iff_not, Nat.not_lt] at hadm hr
    simp only [wr_wr_add, wr_add_wr] at hadm
    rw [subW_eq hle (by omega), wr_id (by omega)] at hadm
    omega

/-- `r`: the layers still to be tried (counting down makes `r + (n + 1)` and `(r + n) + 1` the same
    term in `layerLoop_inv`) -/
structure Inv (c : Core) (gpus : List Gpu) (r : Nat) (st : St) : Prop where
  count : sumCount st.gs = st.lc
  le : st.lc + r ≤ c.layerSizes.length + 1
  cap : 0 ≤ c.numGPU → (st.lc : Int) ≤ c.numGPU
  figs : st.gs.map gpuOf = gpus
  ok : ∀ s ∈ st.gs, RoomG c (gpuOf s) → FinalOk c 0 s
  ws : WsOk c gpus st.ws

theorem admit_spec (c : Core) (gpus : List Gpu) (i : Nat) (ws : List Nat) :
    (admit c i gpus ws).2.map gpuOf = gpus ∧
    (∀ s ∈ (admit c i gpus ws).2, s.count = 0 ∧ (RoomG c (gpuOf s) → FinalOk c 0 s)) ∧
    ∀ x ∈ (admit c i gpus ws).1, x ∈ ws ∨
      ∃ k g, x = i + k ∧ gpus[k]? = some g ∧ (c.ovSafe = true → c.overhead ≤ g.free) := by
  fun_induction admit c i gpus ws with
  | case1 i ws => exact ⟨rfl, nofun, fun _ h => Or.inl h⟩
  | case2 i g rest ws gzo hrej r ih =>
    obtain ⟨h1, h2, h3⟩ := ih
    refine ⟨congrArg (g :: ·) h1, fun s hs => ?_, fun x hx => (h3 x hx).imp_right ?_⟩
    · rcases List.mem_cons.mp hs with rfl | hs
      · exact ⟨rfl, fun _ => ⟨.inl rfl, nofun⟩⟩
      · exact h2 s hs
    · exact fun ⟨k, g', hx, hk, hle⟩ => ⟨k + 1, g', by omega, hk, hle⟩
  | case3 i g rest ws gzo hrej r ih =>
    obtain ⟨h1, h2, h3⟩ := ih
    have hadm : admitReject c g gzo = false := by simpa using hrej
    have hgz : gzo ≤ c.gzo := by
      show (if ws.isEmpty = true then c.gzo else 0) ≤ c.gzo
      split <;> omega
    refine ⟨congrArg (g :: ·) h1, fun s hs => ?_, fun x hx => ?_⟩
    · rcases List.mem_cons.mp hs with rfl | hs
      · exact ⟨rfl, fun hr => ⟨.inr (admitted_ok hadm hgz hr), nofun⟩⟩
      · exact h2 s hs
    · rcases h3 x hx with h | ⟨k, g', hx, hk, hle⟩
      · rcases List.mem_append.mp h with h | h
        · exact Or.inl h
        · exact Or.inr ⟨0, g, by simpa using h, rfl, admitReject_ovSafe hadm⟩
      · exact Or.inr ⟨k + 1, g', by omega, hk, hle⟩

theorem admit_inv (c : Core) (gpus : List Gpu) :
    Inv c gpus (1 + c.layerSizes.length)
      { ws := (admit c 0 gpus []).1, gs := (admit c 0 gpus []).2, lc := 0 } := by
  obtain ⟨h1, h2, h3⟩ := admit_spec c gpus 0 []
  refine ⟨List.sum_eq_zero_iff_forall_eq_nat.mpr fun n hn => ?_,
    Nat.le_of_eq ((Nat.zero_add _).trans (Nat.add_comm 1 _)), id, h1,
    fun s hs => (h2 s hs).2, fun hv x hx g hg => ?_⟩
  · obtain ⟨s, hs, rfl⟩ := List.mem_map.mp hn
    exact (h2 s hs).1
  · rcases h3 x hx with h | ⟨k, g', rfl, hk, hle⟩
    · cases h
    · rw [Nat.zero_add, hk] at hg
      cases hg
      exact hle hv

theorem Inv.drop {c : Core} {gpus : List Gpu} {r : Nat} {st : St} {ws' : List Nat}
    (h : Inv c gpus (r + 1) st) (hsub : ∀ x ∈ ws', x ∈ st.ws) : Inv c gpus r { st with ws := ws' } :=
  ⟨h.count, Nat.le_trans (Nat.le_succ _) h.le, h.cap, h.figs, h.ok, fun hv x hx => h.ws hv x (hsub x hx)⟩

theorem Inv.place {c : Core} {gpus : List Gpu} {r L g : Nat} {st : St} {ws' : List Nat}
    (h : Inv c gpus (r + 1) st) (hcap : capped c st.lc = false) (hL : L ∈ c.memOut :: c.layerSizes)
    (hp : Placed c L st.ws st.gs g) (hsub : ∀ x ∈ ws', x ∈ st.ws) :
    Inv c gpus r { ws := ws', gs := bump L st.gs g, lc := st.lc + 1 } := by
  obtain ⟨hmem, s0, hs0, hf⟩ := hp
  refine ⟨by rw [bump_count L st.gs g s0 hs0, h.count], Nat.add_right_comm .. ▸ h.le, fun h0 => ?_,
    (bump_gpuOf L st.gs g).trans h.figs, ?_, fun hv x hx => h.ws hv x (hsub x hx)⟩
  · simp only [capped, decide_eq_false_iff_not] at hcap
    dsimp only
    omega
  · rw [bump_eq_set L st.gs g s0 hs0]
    intro s hs
    rcases List.mem_or_eq_of_mem_set hs with h' | rfl
    · exact h.ok s h'
    · refine fun hr => fits_ok hL (fun hv => h.ws hv g hmem (gpuOf s0) ?_) hr
        (h.ok s0 (List.mem_of_getElem? hs0) hr) hf
      rw [← h.figs, List.getElem?_map, hs0]
      rfl

theorem layerLoop_inv (c : Core) (gpus : List Gpu) (r i : Nat) (Ls : List Nat) (st : St) :
    (∀ L ∈ Ls, L ∈ c.layerSizes) → Inv c gpus (r + Ls.length) st → Inv c gpus r (layerLoop c i Ls st) := by
  fun_induction layerLoop c i Ls st with
  | case1 i st => exact fun _ h => h
  | case2 i L rest st hcap ih =>
    exact fun hL h => ih (List.forall_mem_cons.mp hL).2 (h.drop fun _ hx => hx)
  | case3 i L rest st hcap g ws hp ih =>
    intro hL h
    have hs := placeLayer_spec c st.gs i L st.ws.length st.ws
    rw [hp] at hs
    exact ih (List.forall_mem_cons.mp hL).2 (h.place (by simpa using hcap)
      (List.mem_cons_of_mem _ (List.forall_mem_cons.mp hL).1) (hs.2 g rfl) hs.1)
  | case4 i L rest st hcap ws hp ih =>
    intro hL h
    have hs := placeLayer_spec c st.gs i L st.ws.length st.ws
    rw [hp] at hs
    exact ih (List.forall_mem_cons.mp hL).2 (h.drop hs.1)

theorem plan_inv (c : Core) (gpus : List Gpu) : ∃ ws gs,
    Inv c gpus 0 { ws := ws, gs := gs, lc := (plan c gpus).lc } ∧
    (plan c gpus).gs = addGraph (if (plan c gpus).fully then c.gF else c.gP) gs := by
  have hst := layerLoop_inv c gpus 1 0 c.layerSizes _ (fun _ h => h) (admit_inv c gpus)
  generalize hloop : layerLoop c 0 c.layerSizes _ = st at hst
  simp only [plan, hloop]
  generalize hpl : (if (decide (c.memOut > 0) && !capped c st.lc) = true then
      placeOut c st.gs st.ws st.lc c.memOut st.ws.length else none) = placed
  cases placed with
  | none => exact ⟨st.ws, st.gs, hst.drop fun _ h => h, rfl⟩
  | some g =>
    split at hpl
    · rename_i hco
      simp only [Bool.and_eq_true, Bool.not_eq_true'] at hco
      exact ⟨st.ws, _, hst.place hco.2 List.mem_cons_self (placeOut_spec hpl) fun _ h => h, rfl⟩
    · cases hpl

/-- `final`: adding the applicable graph needs no new room, since the larger one was reserved; the guard
    is the GPU's own, so figures of another GPU that wrap do not touch this bound. -/
structure PlanOk (c : Core) (gpus : List Gpu) (p : Plan) : Prop where
  count : sumCount p.gs = p.lc
  le : p.lc ≤ c.layerSizes.length + 1
  cap : 0 ≤ c.numGPU → (p.lc : Int) ≤ c.numGPU
  figs : p.gs.map gpuOf = gpus
  final : ∀ s ∈ p.gs, RoomG c (gpuOf s) → FinalOk c (if p.fully then c.gF else c.gP) s

theorem plan_ok (c : Core) (gpus : List Gpu) : PlanOk c gpus (plan c gpus) := by
  obtain ⟨ws, gs, h, hgs⟩ := plan_inv c gpus
  have hgr : (if (plan c gpus).fully then c.gF else c.gP) ≤ c.maxg := by
    unfold Core.maxg; split <;> omega
  refine ⟨?_, h.le, h.cap, ?_, ?_⟩
  · rw [sumCount, hgs, addGraph_proj _ fun _ _ => rfl]; exact h.count
  · rw [hgs, addGraph_proj _ fun _ _ => rfl]; exact h.figs
  · rw [hgs]
    generalize (if (plan c gpus).fully then c.gF else c.gP) = graph at hgr ⊢
    intro s hs hroom
    unfold addGraph at hs
    obtain ⟨s0, hs0, rfl⟩ := List.mem_map.mp hs
    have hg : gpuOf (if s0.count ≤ 0 then s0 else { s0 with alloc := wr (s0.alloc + graph) }) = gpuOf s0 := by
      split <;> rfl
    have hok := h.ok s0 hs0 (hg ▸ hroom)
    split
    · exact ⟨hok.le.imp_right fun h => by omega, fun h => absurd h (Nat.not_lt.mpr ‹_›)⟩
    · have := wr_le (s0.alloc + graph)
      have := hok.lt (by omega)
      have hlt : wr (s0.alloc + graph) + (c.maxg - graph) + c.overhead < s0.free := by omega
      exact ⟨.inr (Nat.le_of_lt hlt), fun _ => hlt⟩

/-! ## Sums, and bounds on the derived constants -/

theorem accW_wr (xs : List Nat) (a : Nat) : accW (wr a) xs = wr (a + xs.sum) := by
  induction xs generalizing a with
  | nil => rfl
  | cons x xs ih => rw [accW, wr_wr_add, ih, List.sum_cons, Nat.add_assoc]

theorem accW_zero (xs : List Nat) : accW 0 xs = wr xs.sum :=
  (accW_wr xs 0).trans (congrArg wr (Nat.zero_add _))

theorem accW_zero_le (xs : List Nat) : accW 0 xs ≤ xs.sum := accW_zero xs ▸ wr_le _

theorem sum_map_le {α : Type} (f g : α → Nat) : ∀ (l : List α), (∀ x ∈ l, f x ≤ g x) →
    (l.map f).sum ≤ (l.map g).sum := by
  intro l
  induction l with
  | nil => intro _; exact Nat.le_refl _
  | cons a rest ih =>
    intro h
    have h1 := h a List.mem_cons_self
    have h2 := ih fun x hx => h x (List.mem_cons_of_mem _ hx)
    simp only [List.map_cons, List.sum_cons]
    omega

theorem lastLayer_lt {c : Core} {B : Nat} (h0 : c.layer0 < B) (hL : ∀ L ∈ c.layerSizes, L < B) :
    lastLayer c < B := by
  rcases List.mem_cons.mp (List.getLastD_mem_cons (l := c.layerSizes) (a := c.layer0)) with h | h
  · exact Nat.lt_of_le_of_lt (Nat.le_of_eq h) h0
  · exact hL _ h

theorem plan_overflow_le (c : Core) (gpus : List Gpu) :
    (plan c gpus).overflow ≤ c.layerSizes.length * lastLayer c + c.memOut := by
  simp only [plan]
  generalize layerLoop c 0 c.layerSizes _ = st
  have h1 : (if st.lc ≥ c.layerSizes.length then 0
      else wr ((c.layerSizes.length - st.lc) * lastLayer c)) ≤ c.layerSizes.length * lastLayer c := by
    split
    · omega
    · exact Nat.le_trans (wr_le _) (Nat.mul_le_mul_right _ (Nat.sub_le _ _))
  generalize (if st.lc ≥ c.layerSizes.length then 0
      else wr ((c.layerSizes.length - st.lc) * lastLayer c)) = ov at h1
  have := wr_le (ov + c.memOut)
  split <;> split <;> omega

/-! ## The scheduler's free-memory adjustment -/

theorem adjust_le_free (p : Nat) (g : SGpu) : adjust p g ≤ g.free := by
  unfold adjust
  split
  · omega
  · split <;> omega

theorem adjust_le_total (p : Nat) (g : SGpu) (h : p ≤ g.total) : adjust p g + p ≤ g.total := by
  unfold adjust
  split
  · omega
  · split <;> omega

theorem updateFree_length (gpus : List SGpu) (runners : List Runner) :
    (updateFree gpus runners).length = gpus.length := by
  unfold updateFree
  split <;> simp

/-! ## ByLibrary -/

theorem foldl_invariant {α β : Type} (f : β → α → β) (P : List α → β → Prop) (l : List α) (b : β)
    (h0 : P [] b) (hstep : ∀ pre acc, ∀ x ∈ l, P pre acc → P (pre ++ [x]) (f acc x)) :
    P l (l.foldl f b) := by
  suffices h : ∀ (rest pre : List α) (acc : β), (∀ x ∈ rest, x ∈ l) → P pre acc →
      P (pre ++ rest) (rest.foldl f acc) from h l [] b (fun _ h => h) h0
  intro rest
  induction rest with
  | nil => intro pre acc _ h; rwa [List.append_nil]
  | cons x rest ih =>
    intro pre acc hsub h
    have := ih (pre ++ [x]) _ (fun y hy => hsub y (List.mem_cons_of_mem _ hy))
      (hstep pre acc x (hsub x List.mem_cons_self) h)
    rwa [List.append_assoc] at this

def groupTotal (gs : List Group) : Nat := (gs.map (fun g => g.members.length)).sum

theorem insertGroup_total (x : FGpu) (gs : List Group) :
    groupTotal (insertGroup x gs) = groupTotal gs + 1 := by
  fun_induction insertGroup x gs with
  | case1 => rfl
  | case2 g rest hk => simp [groupTotal]; omega
  | case3 g rest hk ih =>
    simp only [groupTotal, List.map_cons, List.sum_cons] at ih ⊢
    omega

theorem insertGroup_forall (Q : Group → Prop) (x : FGpu) (hnew : Q ⟨x.key, [x]⟩)
    (happ : ∀ g, Q g → g.key = x.key → Q ⟨g.key, g.members ++ [x]⟩) (gs : List Group) :
    (∀ g ∈ gs, Q g) → ∀ g ∈ insertGroup x gs, Q g := by
  fun_induction insertGroup x gs with
  | case1 => intro _ g hg; cases List.mem_singleton.mp hg; exact hnew
  | case2 g0 rest hk =>
    intro h g hg
    rcases List.mem_cons.mp hg with rfl | hg
    · exact happ g0 (h g0 List.mem_cons_self) (by simpa using hk)
    · exact h g (List.mem_cons_of_mem _ hg)
  | case3 g0 rest hk ih =>
    intro h g hg
    rcases List.mem_cons.mp hg with rfl | hg
    · exact h _ List.mem_cons_self
    · exact ih (fun g' hg' => h g' (List.mem_cons_of_mem _ hg')) g hg

def GroupOk (l : List FGpu) (g : Group) : Prop :=
  g.members ≠ [] ∧ ∀ m ∈ g.members, m.key = g.key ∧ m ∈ l

theorem byLibrary_groups (l : List FGpu) : ∀ g ∈ byLibrary l, GroupOk l g := by
  refine foldl_invariant _ (fun _ acc => ∀ g ∈ acc, GroupOk l g) l [] nofun fun _ acc x hx h => ?_
  refine insertGroup_forall (GroupOk l) x ⟨List.cons_ne_nil _ _, fun m hm => ?_⟩
    (fun g hg hk => ⟨by simp, fun m hm => ?_⟩) acc h
  · rw [List.mem_singleton.mp hm]; exact ⟨rfl, hx⟩
  · rcases List.mem_append.mp hm with hm | hm
    · exact hg.2 m hm
    · rw [List.mem_singleton.mp hm]; exact ⟨hk.symm, hx⟩

/-! ## pickBestFullFitByLibrary -/

theorem insertDesc_perm (x : FGpu) (l : List FGpu) : (insertDesc x l).Perm (x :: l) := by
  fun_induction insertDesc x l with
  | case1 => exact .refl _
  | case2 y ys h => exact .refl _
  | case3 y ys h ih => exact (ih.cons y).trans (.swap x y ys)

theorem sortDesc_perm (l : List FGpu) : (sortDesc l).Perm l :=
  foldl_invariant _ (fun pre acc => acc.Perm pre) l [] (.refl _) fun pre acc x _ h =>
    (insertDesc_perm x acc).trans ((h.cons x).trans (List.perm_append_singleton x pre).symm)

def DescSorted (l : List FGpu) : Prop := List.Pairwise (fun a b => b.gpu.free ≤ a.gpu.free) l

theorem insertDesc_sorted (x : FGpu) (l : List FGpu) : DescSorted l → DescSorted (insertDesc x l) := by
  fun_induction insertDesc x l with
  | case1 => exact fun _ => List.pairwise_singleton _ _
  | case2 y ys hlt =>
    intro h
    refine List.pairwise_cons.mpr ⟨fun b hb => ?_, h⟩
    rcases List.mem_cons.mp hb with rfl | hb
    · omega
    · have := (List.pairwise_cons.mp h).1 b hb; omega
  | case3 y ys hge ih =>
    intro h
    have ⟨hy, hys⟩ := List.pairwise_cons.mp h
    refine List.pairwise_cons.mpr ⟨fun b hb => ?_, ih hys⟩
    rcases List.mem_cons.mp ((insertDesc_perm x ys).mem_iff.mp hb) with rfl | hb
    · omega
    · exact hy b hb

theorem sortDesc_sorted (l : List FGpu) : DescSorted (sortDesc l) :=
  foldl_invariant _ (fun _ => DescSorted) l [] List.Pairwise.nil fun _ acc x _ h => insertDesc_sorted x acc h

theorem byLibrary_homog (k : Nat) : ∀ (l : List FGpu), l ≠ [] → (∀ m ∈ l, m.key = k) →
    byLibrary l = [⟨k, l⟩] := by
  have hstep : ∀ (l pre : List FGpu), (∀ m ∈ l, m.key = k) →
      l.foldl (fun acc x => insertGroup x acc) [⟨k, pre⟩] = [⟨k, pre ++ l⟩] := by
    intro l
    induction l with
    | nil => intro pre _; simp
    | cons x rest ih =>
      intro pre h
      have hx : x.key = k := h x List.mem_cons_self
      simp only [List.foldl_cons, insertGroup, hx, beq_self_eq_true, ↓reduceIte]
      rw [ih (pre ++ [x]) fun m hm => h m (List.mem_cons_of_mem _ hm), List.append_assoc]
      rfl
  intro l hne h
  cases l with
  | nil => exact absurd rfl hne
  | cons x rest =>
    unfold byLibrary
    rw [List.foldl_cons, insertGroup, h x List.mem_cons_self,
      hstep rest [x] fun m hm => h m (List.mem_cons_of_mem _ hm)]
    rfl

theorem firstSingle_some {common : Inp} {l : List FGpu} {g : FGpu} :
    firstSingle common l = some g → g ∈ l ∧ (predictFitAll common [g]).1 = true := by
  fun_induction firstSingle common l with
  | case1 => nofun
  | case2 a rest hf => intro h; cases h; exact ⟨List.mem_cons_self, hf⟩
  | case3 a rest hf ih => exact fun h => (ih h).imp_left (List.mem_cons_of_mem _)

theorem trySingles_some {commonOf : Nat → Inp} {sgl : List FGpu} {ps : List Nat} {L : List FGpu} {p : Nat} :
    trySingles commonOf sgl ps = some (L, p) →
    p ∈ ps ∧ ∃ g ∈ sgl, L = [g] ∧ (predictFitAll (commonOf p) L).1 = true := by
  fun_induction trySingles commonOf sgl ps with
  | case1 => nofun
  | case2 q ps g hg =>
    intro h
    cases h
    exact ⟨List.mem_cons_self, g, (firstSingle_some hg).1, rfl, (firstSingle_some hg).2⟩
  | case3 q ps hg ih => exact fun h => (ih h).imp_left (List.mem_cons_of_mem _)

theorem tryAll_some {commonOf : Nat → Inp} {sgl : List FGpu} {ps : List Nat} {L : List FGpu} {p : Nat} :
    tryAll commonOf sgl ps = some (L, p) →
    p ∈ ps ∧ L = sgl ∧ (predictFitAll (commonOf p) L).1 = true := by
  fun_induction tryAll commonOf sgl ps with
  | case1 => nofun
  | case2 q ps hf => intro h; cases h; exact ⟨List.mem_cons_self, rfl, hf⟩
  | case3 q ps hf ih => exact fun h => (ih h).imp_left (List.mem_cons_of_mem _)

/-- what `pickBestFullFitByLibrary` returns was fit-checked as returned: the returned list `L` (in
    the returned order) passed `PredictServerFit` with the returned parallelism, and it is either the
    whole sorted library group or one GPU of it. -/
theorem pickFullGroups_some {commonOf : Nat → Inp} {tries : List Nat} {spread : Bool}
    {groups : List Group} {L : List FGpu} {p : Nat} :
    pickFullGroups commonOf tries spread groups = some (L, p) →
    p ∈ tries ∧ (predictFitAll (commonOf p) L).1 = true ∧
    ∃ g ∈ groups, (L = sortDesc g.members ∨ ∃ x ∈ sortDesc g.members, L = [x]) := by
  fun_induction pickFullGroups commonOf tries spread groups with
  | case1 => nofun
  | case2 g rest sgl r hr =>
    intro h
    cases h
    split at hr
    · cases hr
    · obtain ⟨h1, x, hx, h2, h3⟩ := trySingles_some hr
      exact ⟨h1, h3, g, List.mem_cons_self, Or.inr ⟨x, hx, h2⟩⟩
  | case3 g rest sgl hs r hr =>
    intro h
    cases h
    obtain ⟨h1, h2, h3⟩ := tryAll_some hr
    exact ⟨h1, h3, g, List.mem_cons_self, Or.inl h2⟩
  | case4 g rest sgl hs ha ih =>
    intro h
    obtain ⟨h1, h2, g', hg', h3⟩ := ih h
    exact ⟨h1, h2, g', List.mem_cons_of_mem _ hg', h3⟩

theorem bestLoop_lt (common : Inp) (gs : List Group) (i best fit : Nat) :
    fit < i + gs.length → bestLoop common i gs best fit < i + gs.length := by
  fun_induction bestLoop common i gs best fit with
  | case1 => exact id
  | case2 i g rest best fit v hv ih => intro h; have := ih (by omega); simp only [List.length_cons]; omega
  | case3 i g rest best fit v hv ih =>
    intro h
    have := ih (by simp only [List.length_cons] at h; omega)
    simp only [List.length_cons]
    omega

/-! ## The load path -/

theorem removeFirstId_sublist (id : Nat) (l : List IGpu) : (removeFirstId id l).Sublist l := by
  fun_induction removeFirstId id l with
  | case1 => exact .refl _
  | case2 g rest h => exact List.sublist_cons_self g rest
  | case3 g rest h ih => exact ih.cons_cons g

theorem removeIds_sublist (ids : List Nat) (l : List IGpu) : (removeIds ids l).Sublist l := by
  fun_induction removeIds ids l with
  | case1 l => exact .refl _
  | case2 id ids l ih => exact ih.trans (removeFirstId_sublist id l)

theorem filterLoading_sublist (rs : List LRunner) (l : List IGpu) : (filterLoading rs l).Sublist l := by
  fun_induction filterLoading rs l with
  | case1 l => exact .refl _
  | case2 r rs l ih =>
    refine ih.trans ?_
    split
    · exact removeIds_sublist r.ids l
    · exact .refl _

def idsOf (l : List IGpu) : List Nat := l.map (fun g => g.f.idk)

theorem idsOf_nodup_sublist {l l' : List IGpu} (h : l'.Sublist l) (hn : (idsOf l).Nodup) : (idsOf l').Nodup :=
  List.Nodup.sublist (h.map _) hn

/-- with unique IDs, removing the first entry with an ID removes the ID -/
theorem removeFirstId_gone (id : Nat) (l : List IGpu) :
    (idsOf l).Nodup → ∀ g ∈ removeFirstId id l, g.f.idk ≠ id := by
  fun_induction removeFirstId id l with
  | case1 => nofun
  | case2 a rest heq =>
    intro hn g hg hgid
    exact (List.nodup_cons.mp hn).1 (List.mem_map.mpr ⟨g, hg, hgid.trans (by simpa using heq : a.f.idk = id).symm⟩)
  | case3 a rest hne ih =>
    intro hn g hg
    rcases List.mem_cons.mp hg with rfl | hg
    · simpa using hne
    · exact ih (List.nodup_cons.mp hn).2 g hg

theorem removeIds_gone (ids : List Nat) (l : List IGpu) :
    (idsOf l).Nodup → ∀ id ∈ ids, ∀ g ∈ removeIds ids l, g.f.idk ≠ id := by
  fun_induction removeIds ids l with
  | case1 l => intro _ id hid; cases hid
  | case2 x rest l ih =>
    intro hn id hid g hg
    rcases List.mem_cons.mp hid with rfl | hid
    · exact removeFirstId_gone id l hn g ((removeIds_sublist rest _).subset hg)
    · exact ih (idsOf_nodup_sublist (removeFirstId_sublist x l) hn) id hid g hg

/-- **GPUs of a runner that is still loading are not offered**: with unique IDs in the inventory,
    no GPU left by `filterGPUsWithoutLoadingModels` carries an ID a loading runner was provisioned on -/
theorem filterLoading_gone (rs : List LRunner) (l : List IGpu) : (idsOf l).Nodup →
    ∀ r ∈ rs, r.loading = true → ∀ id ∈ r.ids, ∀ g ∈ filterLoading rs l, g.f.idk ≠ id := by
  fun_induction filterLoading rs l with
  | case1 l => intro _ r hr; cases hr
  | case2 a rest l ih =>
    intro hn r hr hld id hid g hg
    rcases List.mem_cons.mp hr with rfl | hr
    · simp only [hld, ↓reduceIte] at hg
      exact removeIds_gone r.ids l hn id hid g ((filterLoading_sublist rest _).subset hg)
    · refine ih ?_ r hr hld id hid g hg
      split
      · exact idsOf_nodup_sublist (removeIds_sublist a.ids l) hn
      · exact hn

/-- the summed prediction `updateFreeSpace` holds against GPU `g` of the load path -/
def loadPred (inv : List IGpu) (runners : List LRunner) (g : IGpu) : Nat :=
  predOf ((filterLoading runners inv).map IGpu.toS) (runners.map LRunner.toR) g.lkey

theorem withFree_fields (g : IGpu) (fr : Nat) :
    (g.withFree fr).f.key = g.f.key ∧ (g.withFree fr).f.idk = g.f.idk ∧ (g.withFree fr).f.lib = g.f.lib ∧
    (g.withFree fr).f.gpu.minimum = g.f.gpu.minimum ∧ (g.withFree fr).f.gpu.free = fr ∧
    (g.withFree fr).lkey = g.lkey ∧ (g.withFree fr).total = g.total :=
  ⟨rfl, rfl, rfl, rfl, rfl, rfl, rfl⟩

theorem adjInv_eq (inv : List IGpu) (runners : List LRunner) (hne : runners ≠ []) :
    adjInv inv runners
      = (filterLoading runners inv).map fun g => g.withFree (adjust (loadPred inv runners g) g.toS) := by
  have hany : (runners.map LRunner.toR).any (·.isSome) = true := by
    cases runners with
    | nil => exact absurd rfl hne
    | cons a rest => rfl
  unfold adjInv updateFree
  simp only [hany, ↓reduceIte, List.map_map, List.zipWith_map_right, List.zipWith_self]
  rfl

/-- what the load path hands to the pick functions -/
def offered (inv : List IGpu) (runners : List LRunner) : List FGpu :=
  if runners.isEmpty then inv.map (·.f) else (adjInv inv runners).map (·.f)

/-- every GPU the load path offers to the pick functions is a GPU of the inventory with its free
    figure not raised; next to loaded models no loading runner sits on it and — when the prediction
    does not exceed the total — free + predicted ≤ total -/
theorem offered_mem (inv : List IGpu) (runners : List LRunner) :
    ∀ m ∈ offered inv runners, ∃ g ∈ inv, m.key = g.f.key ∧ m.idk = g.f.idk ∧ m.lib = g.f.lib ∧
      m.gpu.minimum = g.f.gpu.minimum ∧ m.gpu.free ≤ g.f.gpu.free ∧
      (runners ≠ [] → g ∈ filterLoading runners inv ∧
        (loadPred inv runners g ≤ g.total → m.gpu.free + loadPred inv runners g ≤ g.total)) := by
  intro m hm
  unfold offered at hm
  by_cases hne : runners = []
  · subst hne
    obtain ⟨g, hg, rfl⟩ := List.mem_map.mp hm
    exact ⟨g, hg, rfl, rfl, rfl, rfl, Nat.le_refl _, fun h => absurd rfl h⟩
  · have hemp : runners.isEmpty = false := by simpa using hne
    rw [hemp, if_neg Bool.false_ne_true, adjInv_eq inv runners hne] at hm
    obtain ⟨a, ha, rfl⟩ := List.mem_map.mp hm
    obtain ⟨g, hg, rfl⟩ := List.mem_map.mp ha
    obtain ⟨h1, h2, h3, h4, h5, _, _⟩ := withFree_fields g (adjust (loadPred inv runners g) g.toS)
    refine ⟨g, (filterLoading_sublist runners inv).subset hg, h1, h2, h3, h4, ?_, fun _ => ⟨hg, ?_⟩⟩
    · rw [h5]; exact adjust_le_free (loadPred inv runners g) g.toS
    · rw [h5]; exact adjust_le_total (loadPred inv runners g) g.toS

theorem loadDecision_load {commonOf : Nat → Inp} {np : Int} {dp : Nat} {spread : Bool} {inv : List IGpu}
    {runners : List LRunner} {full : Bool} {L : List FGpu} {p : Nat}
    (h : loadDecision commonOf np dp spread inv runners = .load full L p) :
    (full = true ∧ pickFull commonOf np dp spread (offered inv runners) = some (L, p)) ∨
    (runners = [] ∧ full = false ∧ L = pickPartial (commonOf p) (offered inv runners)) := by
  unfold loadDecision at h
  unfold offered
  split at h
  · rename_i hemp
    rw [if_pos hemp]
    split at h
    · rename_i hpf
      cases h
      exact Or.inl ⟨rfl, hpf⟩
    · cases h
      exact Or.inr ⟨List.isEmpty_iff.mp hemp, rfl, rfl⟩
  · rename_i hemp
    rw [if_neg hemp]
    simp only at h
    split at h
    · rename_i hpf
      cases h
      exact Or.inl ⟨rfl, hpf⟩
    · split at h <;> cases h

theorem adjInv_length (inv : List IGpu) (runners : List LRunner) :
    (adjInv inv runners).length = (filterLoading runners inv).length := by
  unfold adjInv
  rw [List.length_zipWith, updateFree_length, List.length_map, Nat.min_self]

/-! ## Histories of the load path -/

theorem estOf_zip (ids sizes : List Nat) (id : Nat) : estOf (ids.zip sizes) id = vramByGPU ids sizes id := by
  fun_induction vramByGPU ids sizes id with
  | case1 => rfl
  | case2 => rfl
  | case3 i is s ss id h =>
    have : i = id := by simpa using h
    subst this
    simp [estOf]
  | case4 i is s ss id h ih =>
    have hne : i ≠ id := by simpa using h
    have h' : (id == i) = false := by simpa using fun e => hne e.symm
    simp only [estOf, List.zip_cons_cons, List.lookup, h'] at ih ⊢
    exact ih

theorem filter_key_unique {α : Type} (key : α → Nat) : ∀ (l : List α), (l.map key).Nodup → ∀ g ∈ l,
    l.filter (fun x => key x == key g) = [g] := by
  intro l
  induction l with
  | nil => intro _ g hg; cases hg
  | cons a rest ih =>
    intro hn g hg
    have ⟨ha, hrest⟩ := List.nodup_cons.mp hn
    rcases List.mem_cons.mp hg with rfl | hg
    · rw [List.filter_cons_of_pos (p := fun x => key x == key g) (beq_self_eq_true _),
        List.filter_eq_nil_iff.mpr]
      intro x hx hk
      exact ha (List.mem_map.mpr ⟨x, hx, by simpa using hk⟩)
    · rw [List.filter_cons_of_neg, ih hrest g hg]
      intro hk
      exact ha (List.mem_map.mpr ⟨g, hg, (by simpa using hk : key a = key g).symm⟩)

/-- what the loaded runners are predicted to use on the GPU with ID class `id` -/
def usedOn (rs : List LRunner) (id : Nat) : Nat := (rs.map fun r => vramByGPU r.ids r.sizes id).sum

theorem usedOn_append (rs : List LRunner) (r : LRunner) (id : Nat) :
    usedOn (rs ++ [r]) id = usedOn rs id + vramByGPU r.ids r.sizes id := by
  simp [usedOn]

/-- with unique IDs and `(Library, ID)` classes that coincide with the ID classes, the summed prediction
    `updateFreeSpace` holds against an offered GPU is exactly what the loaded runners plan on it -/
theorem loadPred_eq_usedOn (inv : List IGpu) (rs : List LRunner) (g : IGpu)
    (hn : (idsOf inv).Nodup) (hk : ∀ x ∈ inv, x.lkey = x.f.idk)
    (hg : g ∈ filterLoading rs inv) (hlt : usedOn rs g.f.idk < W) :
    loadPred inv rs g = usedOn rs g.f.idk := by
  have hsub := filterLoading_sublist rs inv
  have hn' : ((filterLoading rs inv).map (fun x => x.lkey)).Nodup := by
    rw [List.map_congr_left fun x hx => hk x (hsub.subset hx)]
    exact idsOf_nodup_sublist hsub hn
  have hfilt : ((filterLoading rs inv).map IGpu.toS).filter (fun s => s.key == g.lkey) = [g.toS] := by
    rw [List.filter_map]
    exact congrArg (List.map IGpu.toS) (filter_key_unique (fun x : IGpu => x.lkey) _ hn' g hg)
  have hterms : ∀ r : LRunner, runnerTerms ((filterLoading rs inv).map IGpu.toS) g.lkey r.toR
      = [vramByGPU r.ids r.sizes g.f.idk] := by
    intro r
    simp only [runnerTerms, LRunner.toR, hfilt, List.map_cons, List.map_nil, estOf_zip, IGpu.toS]
  unfold loadPred predOf
  rw [List.flatMap_map]
  simp only [hterms, ← List.map_eq_flatMap]
  exact (accW_zero _).trans (wr_id hlt)

theorem eraseIdx_usedOn_le (id : Nat) : ∀ (rs : List LRunner) (k : Nat), usedOn (rs.eraseIdx k) id ≤ usedOn rs id := by
  intro rs
  induction rs with
  | nil => intro k; simp
  | cons a rest ih =>
    intro k
    cases k with
    | zero => simp [usedOn]
    | succ k =>
      have := ih k
      simp only [usedOn, List.eraseIdx_cons_succ, List.map_cons, List.sum_cons] at this ⊢
      omega

/-- runner `k` finishes loading (`runner.loading = false`) -/
def finishAt : Nat → List LRunner → List LRunner
  | _, [] => []
  | 0, r :: rest => { r with loading := false } :: rest
  | k + 1, r :: rest => r :: finishAt k rest

theorem finishAt_usedOn (id : Nat) (rs : List LRunner) (k : Nat) : usedOn (finishAt k rs) id = usedOn rs id := by
  fun_induction finishAt k rs with
  | case1 => rfl
  | case2 r rest => rfl
  | case3 k r rest ih =>
    simp only [usedOn, List.map_cons, List.sum_cons] at ih ⊢
    omega

end OllamaVerif.Memory
