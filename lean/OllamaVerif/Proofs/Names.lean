/-
  Lemmas about the functions of Model/Names.lean (C13: names, digests, store paths).  Core Lean only.
  Valid parts: `restOk_cases` lists what `restOk` accepts; `charsOk_safe`, `charsOk_noColon`, `charsOk_ascii` are what the rest uses.
  Cuts: what a cut of the parsers returns on a string whose tail is free of separators (`splitLast_append`, `splitLast_none`).
  Paths: `clean` is unfolded once, in `clean_eq_render`; `clean_join` gives the stack of `root/c₁/…/cₙ`.
-/
import OllamaVerif.Model.Names
import OllamaVerif.Proofs.Basic

namespace OllamaVerif.Names
open OllamaVerif

/-! ## character classes -/

theorem isAlnumU_ne {c : UInt8} (h : isAlnumU c = true) (d : UInt8) (hd : isAlnumU d = false) : ¬ (c == d) = true :=
  fun e => by rw [eq_of_beq e, hd] at h; cases h

theorem isAlnumU_restOk (k : Kind) (c : UInt8) (h : isAlnumU c = true) : restOk k c = true := by
  unfold restOk
  split
  · rfl
  · rw [if_neg (isAlnumU_ne h 46 (by decide)), if_neg (isAlnumU_ne h 58 (by decide))]
    exact h

/-- bytes a path component must never contain, and `@` (name / digest separator) -/
def badByte (c : UInt8) : Bool := c == 47 || c == 92 || c == 0 || c == 64

theorem isAlnumU_ascii (c : UInt8) (h : isAlnumU c = true) : c.toNat < 128 := by
  simp only [isAlnumU, Bool.or_eq_true, Bool.and_eq_true, decide_eq_true_eq, beq_iff_eq,
    UInt8.le_iff_toNat_le, ← UInt8.toNat_inj, UInt8.toNat_ofNat] at h
  omega

theorem isAlnumU_not_bad (c : UInt8) (h : isAlnumU c = true) : badByte c = false := by
  cases hb : badByte c with
  | false => rfl
  | true =>
    simp only [badByte, Bool.or_eq_true, beq_iff_eq] at hb
    rcases hb with ((rfl | rfl) | rfl) | rfl <;> exact absurd h (by decide)

theorem isAlnumU_not_dot (c : UInt8) (h : isAlnumU c = true) : c ≠ 46 := by
  intro e; subst e; exact absurd h (by decide)

theorem restOk_cases (k : Kind) (c : UInt8) (h : restOk k c = true) :
    c = 95 ∨ c = 45 ∨ c = 46 ∨ (c = 58 ∧ (k = .host ∨ k = .digest)) ∨ isAlnumU c = true := by
  unfold restOk at h
  split at h
  · rename_i h1
    simp only [Bool.or_eq_true, beq_iff_eq] at h1
    rcases h1 with h1 | h1
    · exact Or.inl h1
    · exact Or.inr (Or.inl h1)
  · split at h
    · rename_i h1
      exact Or.inr (Or.inr (Or.inl (eq_of_beq h1)))
    · split at h
      · rename_i h1
        exact Or.inr (Or.inr (Or.inr (Or.inl ⟨by simpa using h1, by simpa using h⟩)))
      · exact Or.inr (Or.inr (Or.inr (Or.inr h)))

theorem restOk_byte (k : Kind) (c : UInt8) (h : restOk k c = true) : badByte c = false ∧ c.toNat < 128 := by
  rcases restOk_cases k c h with rfl | rfl | rfl | ⟨rfl, _⟩ | h
  · exact ⟨rfl, by decide⟩
  · exact ⟨rfl, by decide⟩
  · exact ⟨rfl, by decide⟩
  · exact ⟨rfl, by decide⟩
  · exact ⟨isAlnumU_not_bad c h, isAlnumU_ascii c h⟩

theorem restOk_not_colon (k : Kind) (c : UInt8) (hk : k ≠ .host) (hk' : k ≠ .digest)
    (h : restOk k c = true) : c ≠ 58 := by
  rcases restOk_cases k c h with rfl | rfl | rfl | ⟨_, hh⟩ | h
  · decide
  · decide
  · decide
  · exact absurd hh (not_or.mpr ⟨hk, hk'⟩)
  · intro e; subst e; exact absurd h (by decide)

theorem charsOk_all (k : Kind) (s : Bytes) (h : charsOk k s = true) : ∀ c ∈ s, restOk k c = true := by
  cases s with
  | nil => intro c hc; cases hc
  | cons x xs =>
    simp only [charsOk, Bool.and_eq_true, List.all_eq_true] at h
    intro c hc
    rcases List.mem_cons.mp hc with rfl | hc
    · exact isAlnumU_restOk k _ h.1
    · exact h.2 c hc

theorem charsOk_head (k : Kind) (x : UInt8) (xs : Bytes) (h : charsOk k (x :: xs) = true) :
    isAlnumU x = true := by
  simp only [charsOk, Bool.and_eq_true] at h; exact h.1

/-- a safe path component: non-empty, not `.` or `..`, free of `/`, `\`, NUL (and `@`), not starting with `.` -/
def SafeComp (s : Bytes) : Prop :=
  s ≠ [] ∧ s ≠ sDot ∧ s ≠ sDotDot ∧ (∀ c ∈ s, badByte c = false) ∧ s.head? ≠ some cDot

theorem SafeComp.noSlash {s : Bytes} (h : SafeComp s) : ∀ c ∈ s, c ≠ cSlash := by
  intro c hc e
  have := h.2.2.2.1 c hc
  subst e; revert this; decide

theorem charsOk_safe (k : Kind) (s : Bytes) (hne : s ≠ []) (h : charsOk k s = true) : SafeComp s := by
  cases s with
  | nil => exact absurd rfl hne
  | cons x xs =>
    have hx := charsOk_head k x xs h
    have hdot : x ≠ 46 := isAlnumU_not_dot x hx
    refine ⟨hne, ?_, ?_, ?_, ?_⟩
    · intro e; simp only [sDot, List.cons.injEq] at e; exact hdot e.1
    · intro e; simp only [sDotDot, List.cons.injEq] at e; exact hdot e.1
    · intro c hc; exact (restOk_byte k c (charsOk_all k _ h c hc)).1
    · simp only [List.head?, cDot, ne_eq, Option.some.injEq]; exact hdot

theorem validPartM_ne_nil {k : Kind} {s : Bytes} (h : validPartM k s = true) : s ≠ [] := by
  intro e; subst e; simp [validPartM] at h

theorem validPartM_charsOk {k : Kind} {s : Bytes} (h : validPartM k s = true) : charsOk k s = true := by
  simp only [validPartM, Bool.and_eq_true] at h; exact h.2

theorem validPartM_len {k : Kind} {s : Bytes} (h : validPartM k s = true) : s.length ≤ maxLen k := by
  simp only [validPartM, Bool.and_eq_true, decide_eq_true_eq] at h; exact h.1.2

theorem validPartM_safe {k : Kind} {s : Bytes} (h : validPartM k s = true) : SafeComp s :=
  charsOk_safe k s (validPartM_ne_nil h) (validPartM_charsOk h)

theorem validPartN_safe {k : Kind} {s : Bytes} (hne : s ≠ []) (h : validPartN k s = true) : SafeComp s := by
  simp only [validPartN, Bool.and_eq_true] at h
  exact charsOk_safe k s hne h.2

theorem validPartM_iff_N {k : Kind} {s : Bytes} (hne : s ≠ []) : validPartM k s = validPartN k s := by
  cases s with
  | nil => exact absurd rfl hne
  | cons x xs => simp [validPartM, validPartN]

theorem charsOk_noColon {k : Kind} {s : Bytes} (hk : k ≠ .host) (hk' : k ≠ .digest)
    (h : charsOk k s = true) : ∀ c ∈ s, c ≠ cColon := by
  intro c hc
  exact restOk_not_colon k c hk hk' (charsOk_all k s h c hc)

/-! ## splitting -/

theorem splitLast_none (p : UInt8 → Bool) (s : Bytes) (h : ∀ c ∈ s, p c = false) :
    splitLast p s = none := by
  induction s with
  | nil => rfl
  | cons x xs ih =>
    simp only [splitLast, ih (fun c hc => h c (List.mem_cons_of_mem _ hc)), h x List.mem_cons_self]
    rfl

theorem splitLast_append (p : UInt8 → Bool) (b a : Bytes) (c : UInt8) (hc : p c = true)
    (ha : ∀ x ∈ a, p x = false) : splitLast p (b ++ c :: a) = some (b, a, c) := by
  induction b with
  | nil => simp [splitLast, splitLast_none p a ha, hc]
  | cons x xs ih => simp [splitLast, ih]

theorem splitLast_some (p : UInt8 → Bool) (s b a : Bytes) (c : UInt8)
    (h : splitLast p s = some (b, a, c)) : s = b ++ c :: a ∧ p c = true := by
  fun_induction splitLast p s generalizing b with
  | case1 => cases h
  | case2 x xs b' a' sep hq ih =>
    cases h
    exact (ih _ hq).imp_left (congrArg (x :: ·))
  | case3 x xs hq hx =>
    cases h
    exact ⟨rfl, hx⟩
  | case4 x xs hq hx => cases h

theorem splitFirst_append (p : UInt8 → Bool) (b a : Bytes) (c : UInt8) (hc : p c = true)
    (hb : ∀ x ∈ b, p x = false) : splitFirst p (b ++ c :: a) = some (b, a, c) := by
  induction b with
  | nil => simp [splitFirst, hc]
  | cons x xs ih =>
    have hx : p x = false := hb x List.mem_cons_self
    simp [splitFirst, hx, ih (fun y hy => hb y (List.mem_cons_of_mem _ hy))]

theorem splitFirst_none (p : UInt8 → Bool) (s : Bytes) (h : ∀ c ∈ s, p c = false) :
    splitFirst p s = none := by
  induction s with
  | nil => rfl
  | cons x xs ih =>
    simp [splitFirst, ih (fun c hc => h c (List.mem_cons_of_mem _ hc)), h x List.mem_cons_self]

theorem splitFirst_some (p : UInt8 → Bool) (s b a : Bytes) (c : UInt8)
    (h : splitFirst p s = some (b, a, c)) : s = b ++ c :: a ∧ p c = true := by
  fun_induction splitFirst p s generalizing b with
  | case1 => cases h
  | case2 x xs hx =>
    cases h
    exact ⟨rfl, hx⟩
  | case3 x xs hx b' a' sep hq ih =>
    cases h
    exact (ih _ hq).imp_left (congrArg (x :: ·))
  | case4 x xs hx hq => cases h

theorem cutScheme_some (s b a : Bytes) (h : cutScheme s = some (b, a)) : s = b ++ cColon :: cSlash :: cSlash :: a := by
  induction s generalizing b with
  | nil => cases h
  | cons x xs ih =>
    simp only [cutScheme] at h
    split at h
    · rename_i hc
      cases h
      rw [Bool.and_eq_true] at hc
      rw [eq_of_beq hc.1, ← List.take_append_drop 2 xs, eq_of_beq hc.2]
      rfl
    · split at h
      · rename_i b' a' hrec
        cases h
        rw [ih b' hrec]
        rfl
      · cases h

theorem cutScheme_none (s : Bytes) (h : ∀ c ∈ s, c ≠ cSlash) : cutScheme s = none := by
  cases hc : cutScheme s with
  | none => rfl
  | some v =>
    refine absurd rfl (h cSlash ?_)
    rw [cutScheme_some s v.1 v.2 hc]
    exact List.mem_append_right _ (List.mem_cons_of_mem _ List.mem_cons_self)

theorem splitOn_ne_nil (c : UInt8) (s : Bytes) : splitOn c s ≠ [] := by
  induction s with
  | nil => simp [splitOn]
  | cons x xs ih =>
    simp only [splitOn]
    split
    · simp
    · split <;> simp

theorem splitOn_append_sep (c : UInt8) (a b : Bytes) :
    splitOn c (a ++ c :: b) = splitOn c a ++ splitOn c b := by
  induction a with
  | nil => simp [splitOn]
  | cons x xs ih =>
    obtain ⟨y, ys, hy⟩ := List.exists_cons_of_ne_nil (splitOn_ne_nil c xs)
    simp only [List.cons_append, splitOn, ih, hy]
    split
    · rfl
    · rfl

theorem splitOn_noSep (c : UInt8) (s : Bytes) (h : ∀ x ∈ s, x ≠ c) : splitOn c s = [s] := by
  induction s with
  | nil => rfl
  | cons x xs ih =>
    have hx : (x == c) = false := by simpa using h x List.mem_cons_self
    simp [splitOn, hx, ih (fun y hy => h y (List.mem_cons_of_mem _ hy))]

theorem splitOn_append (c : UInt8) (a rest : Bytes) (h : ∀ x ∈ a, x ≠ c) :
    splitOn c (a ++ c :: rest) = a :: splitOn c rest := by
  rw [splitOn_append_sep, splitOn_noSep c a h]
  rfl

theorem splitOn_joinWith (c : UInt8) (parts : List Bytes) (hne : parts ≠ [])
    (h : ∀ p ∈ parts, ∀ x ∈ p, x ≠ c) : splitOn c (joinWith c parts) = parts := by
  induction parts with
  | nil => exact absurd rfl hne
  | cons a rest ih =>
    cases rest with
    | nil => simpa [joinWith] using splitOn_noSep c a (h a List.mem_cons_self)
    | cons b rest' =>
      simp only [joinWith]
      rw [splitOn_append c a _ (h a List.mem_cons_self)]
      rw [ih (by simp) (fun p hp => h p (List.mem_cons_of_mem _ hp))]

theorem joinWith_splitOn (c : UInt8) (s : Bytes) : joinWith c (splitOn c s) = s := by
  fun_induction splitOn c s with
  | case1 => rfl
  | case2 x xs hx ih =>
    obtain ⟨y, ys, hy⟩ := List.exists_cons_of_ne_nil (splitOn_ne_nil c xs)
    rw [hy] at ih ⊢
    cases eq_of_beq hx
    exact congrArg (c :: ·) ih
  | case3 x xs hx y ys hy ih =>
    rw [hy] at ih
    cases ys <;> exact congrArg (x :: ·) ih
  | case4 x xs hx hy => exact absurd hy (splitOn_ne_nil c xs)

theorem joinWith_append (c : UInt8) (l1 l2 : List Bytes) (h1 : l1 ≠ []) (h2 : l2 ≠ []) :
    joinWith c (l1 ++ l2) = joinWith c l1 ++ c :: joinWith c l2 := by
  induction l1 with
  | nil => exact absurd rfl h1
  | cons a rest ih =>
    cases rest with
    | nil =>
      cases l2 with
      | nil => exact absurd rfl h2
      | cons b l2' => simp [joinWith]
    | cons b rest' =>
      have := ih (by simp)
      simp only [List.cons_append, joinWith] at this ⊢
      rw [this]; simp

end OllamaVerif.Names

namespace OllamaVerif.C13
open OllamaVerif OllamaVerif.Names

/-! ## the cuts of `ParseNameBare` -/

theorem orElse_ne {s d : Bytes} (h : s ≠ []) : orElse s d = s := by
  cases s with
  | nil => exact absurd rfl h
  | cons x xs => simp [orElse]

theorem orMissing_ne {s : Bytes} (h : s ≠ []) : orMissing s = s := orElse_ne h

theorem append_cons_ne_nil (b : Bytes) (x : UInt8) (l : Bytes) : b ++ x :: l ≠ [] :=
  List.append_ne_nil_of_right_ne_nil b (List.cons_ne_nil x l)

theorem notTagSep {c : UInt8} (h1 : c ≠ cSlash) (h2 : c ≠ cColon) : (c == cColon || c == cSlash) = false := by
  rw [beq_false_of_ne h1, beq_false_of_ne h2]
  rfl

theorem cutPromised_slash (b a : Bytes) (has : ∀ c ∈ a, c ≠ cSlash) :
    cutPromised cSlash (b ++ cSlash :: a) = some (orMissing b, orMissing a) := by
  simp only [cutPromised,
    splitLast_append (· == cSlash) b a cSlash (beq_self_eq_true _) (fun x hx => beq_false_of_ne (has x hx))]

theorem cutPromised_append (b a : Bytes) (hb : b ≠ []) (ha : a ≠ []) (has : ∀ c ∈ a, c ≠ cSlash) :
    cutPromised cSlash (b ++ cSlash :: a) = some (b, a) := by
  rw [cutPromised_slash b a has, orMissing_ne hb, orMissing_ne ha]

theorem cutPromised_none (s : Bytes) (h : ∀ c ∈ s, c ≠ cSlash) : cutPromised cSlash s = none := by
  simp only [cutPromised, splitLast_none _ s (fun c hc => beq_false_of_ne (h c hc))]

theorem cutTag_append (b t : Bytes) (hb : b ≠ []) (ht : t ≠ []) (hts : ∀ c ∈ t, c ≠ cSlash) (htc : ∀ c ∈ t, c ≠ cColon) :
    cutTag (b ++ cColon :: t) = (b, t) := by
  simp only [cutTag, splitLast_append _ b t cColon rfl (fun x hx => notTagSep (hts x hx) (htc x hx)), orMissing_ne hb,
    orMissing_ne ht, beq_self_eq_true, if_true]

theorem cutTag_none (s : Bytes) (h1 : ∀ c ∈ s, c ≠ cSlash) (h2 : ∀ c ∈ s, c ≠ cColon) : cutTag s = (s, []) := by
  simp only [cutTag, splitLast_none _ s (fun c hc => notTagSep (h1 c hc) (h2 c hc))]

theorem cutTag_slash (b a : Bytes) (h1 : ∀ c ∈ a, c ≠ cSlash) (h2 : ∀ c ∈ a, c ≠ cColon) :
    cutTag (b ++ cSlash :: a) = (b ++ cSlash :: a, []) := by
  simp only [cutTag, splitLast_append _ b a cSlash rfl (fun c hc => notTagSep (h1 c hc) (h2 c hc))]
  rfl

/-! ## `cutScheme` -/

theorem cutScheme_none_of_pieces {s : Bytes} {l : List Bytes} (hl : splitOn cSlash s = l) (h : [] ∉ l) :
    cutScheme s = none := by
  subst hl
  cases hc : cutScheme s with
  | none => rfl
  | some v =>
    refine absurd ?_ h
    rw [cutScheme_some s v.1 v.2 hc, List.append_cons, splitOn_append_sep]
    exact List.mem_append_right _ List.mem_cons_self

/-- when the first `://` of `b://a` is the one after `b`, no `://` starts within `b:/`: in `b:/t` the search finds what it
    finds in `:/t` -/
theorem cutScheme_first (b a : Bytes) (hs : cutScheme (b ++ cColon :: cSlash :: cSlash :: a) = some (b, a)) (t : Bytes) :
    cutScheme (b ++ cColon :: cSlash :: t) = (cutScheme (cColon :: cSlash :: t)).map fun p => (b ++ p.1, p.2) := by
  generalize hr : cutScheme (cColon :: cSlash :: t) = r
  induction b with
  | nil => cases r <;> exact hr
  | cons x b' ih =>
    have ht : (b' ++ cColon :: cSlash :: cSlash :: a).take 2 = (b' ++ cColon :: cSlash :: t).take 2 := by
      cases b' with
      | nil => rfl
      | cons y ys => cases ys <;> rfl
    simp only [List.cons_append, cutScheme, ht] at hs ⊢
    split at hs
    · cases hs
    · rename_i hc
      rw [if_neg hc]
      split at hs
      · rename_i b2 a2 hrec
        cases hs
        rw [ih hrec]
        cases r <;> rfl
      · cases hs

/-! ## fully qualified names -/

/-- what the cut lemmas need of a fully qualified name: every part non-empty and free of `/`, model and tag free of `:` -/
structure FQParts (n : Name) : Prop where
  hne : n.host ≠ []
  nne : n.ns ≠ []
  mne : n.model ≠ []
  tne : n.tag ≠ []
  hslash : ∀ c ∈ n.host, c ≠ cSlash
  nslash : ∀ c ∈ n.ns, c ≠ cSlash
  mslash : ∀ c ∈ n.model, c ≠ cSlash
  tslash : ∀ c ∈ n.tag, c ≠ cSlash
  mcolon : ∀ c ∈ n.model, c ≠ cColon
  tcolon : ∀ c ∈ n.tag, c ≠ cColon

theorem isFQM_iff (n : Name) : isFQM n = true ↔ validPartM .host n.host = true ∧ validPartM .ns n.ns = true ∧
    validPartM .model n.model = true ∧ validPartM .tag n.tag = true := by
  simp only [isFQM, Bool.and_eq_true, and_assoc]

theorem fqParts_of_isFQM {n : Name} (h : isFQM n = true) : FQParts n := by
  obtain ⟨hh, hn, hm, ht⟩ := (isFQM_iff n).mp h
  exact {
    hne := validPartM_ne_nil hh, nne := validPartM_ne_nil hn, mne := validPartM_ne_nil hm, tne := validPartM_ne_nil ht
    hslash := (validPartM_safe hh).noSlash, nslash := (validPartM_safe hn).noSlash
    mslash := (validPartM_safe hm).noSlash, tslash := (validPartM_safe ht).noSlash
    mcolon := charsOk_noColon (by decide) (by decide) (validPartM_charsOk hm)
    tcolon := charsOk_noColon (by decide) (by decide) (validPartM_charsOk ht) }

theorem toStr_fq {n : Name} (p : FQParts n) :
    toStr n = (n.host ++ cSlash :: n.ns ++ cSlash :: n.model) ++ cColon :: n.tag := by
  have h1 : n.host.isEmpty = false := by simpa [List.isEmpty_iff] using p.hne
  have h2 : n.ns.isEmpty = false := by simpa [List.isEmpty_iff] using p.nne
  have h3 : n.tag.isEmpty = false := by simpa [List.isEmpty_iff] using p.tne
  simp [toStr, h1, h2, h3]

theorem merge_fq {n d : Name} (p : FQParts n) : merge n d = n := by
  cases n with
  | mk h ns m t =>
    simp only [merge, orElse_ne p.hne, orElse_ne p.nne, orElse_ne p.tne]

theorem fq_safe {n : Name} (h : isFQM n = true) :
    ∀ c ∈ [n.host, n.ns, n.model, n.tag], SafeComp c := by
  obtain ⟨hh, hn, hm, ht⟩ := (isFQM_iff n).mp h
  exact List.forall_mem_cons.mpr ⟨validPartM_safe hh, List.forall_mem_cons.mpr ⟨validPartM_safe hn,
    List.forall_mem_cons.mpr ⟨validPartM_safe hm, List.forall_mem_singleton.mpr (validPartM_safe ht)⟩⟩⟩

/-! ## hex digits and ASCII -/

theorem isHexB_alnum {c : UInt8} (h : isHexB c = true) : isAlnumU c = true := by
  simp only [isHexB, isAlnumU, Bool.or_eq_true, Bool.and_eq_true, decide_eq_true_eq, UInt8.le_iff_toNat_le,
    UInt8.toNat_ofNat] at h ⊢
  omega

theorem charsOk_ascii (k : Kind) (s : Bytes) (h : charsOk k s = true) : ∀ c ∈ s, c.toNat < 128 :=
  fun c hc => (restOk_byte k c (charsOk_all k s h c hc)).2

/-! ## case folding -/

theorem toLowerB_ascii (c : UInt8) : (toLowerB c).toNat < 128 ↔ c.toNat < 128 := by
  unfold toLowerB
  split
  · next h =>
    simp only [UInt8.le_iff_toNat_le, UInt8.toNat_add, UInt8.toNat_ofNat] at h ⊢
    omega
  · rfl

/-- against an ASCII string `y`, `foldMatch` is equality with the lower-cased `y` (no Kelvin sign, no long s) -/
theorem foldMatch_ascii (v y : Bytes) (hy : ∀ c ∈ y, c.toNat < 128) : foldMatch v y = true ↔ v = y.map toLowerB := by
  induction v generalizing y with
  | nil => cases y <;> simp [foldMatch]
  | cons c cs ih =>
    cases y with
    | nil => simp [foldMatch]
    | cons b ys =>
      have hb : b < 128 := UInt8.lt_iff_toNat_lt.mpr (hy b List.mem_cons_self)
      simp only [foldMatch, hb, if_true, Bool.and_eq_true, beq_iff_eq, List.map_cons, List.cons.injEq,
        ih ys (fun c' hc' => hy c' (List.mem_cons_of_mem _ hc')), eq_comm (a := c)]

/-! ## directory listings -/

theorem mem_insertLink (l : Bytes) (disk : List Bytes) (y : Bytes) (h : y ∈ insertLink l disk) :
    y = l ∨ y ∈ disk := by
  fun_induction insertLink l disk with
  | case1 => exact Or.inl (List.mem_singleton.mp h)
  | case2 x xs hx => exact Or.inr h
  | case3 x xs hx hlt => exact List.mem_cons.mp h
  | case4 x xs hx hlt ih =>
    rcases List.mem_cons.mp h with rfl | h
    · exact Or.inr List.mem_cons_self
    · exact (ih h).imp_right (List.mem_cons_of_mem x)

theorem mem_removeLink (l : Bytes) (disk : List Bytes) (y : Bytes) (h : y ∈ removeLink l disk) : y ∈ disk := by
  simp only [removeLink, List.mem_filter] at h; exact h.1

/-! ## `filepath.Clean` as a stack of components -/

/-- how `filepath.Clean` renders a stack of components -/
def renderPath (rooted : Bool) (comps : List Bytes) : Bytes :=
  if rooted then cSlash :: joinWith cSlash comps
  else if comps.isEmpty then sDot else joinWith cSlash comps

def isRooted (root : Bytes) : Bool := root.head? == some cSlash

/-- the component stack `filepath.Clean` computes for `root` -/
def rootStack (root : Bytes) : List Bytes :=
  ((splitOn cSlash root).foldl (cleanStep (isRooted root)) []).reverse

theorem clean_eq_render (root : Bytes) (hne : root ≠ []) :
    clean root = renderPath (isRooted root) (rootStack root) := by
  have h : root.isEmpty = false := by simpa [List.isEmpty_iff] using hne
  unfold clean renderPath rootStack isRooted
  simp only [h, Bool.false_eq_true, if_false]

end OllamaVerif.C13

namespace OllamaVerif.Names
open OllamaVerif OllamaVerif.C13

/-! ## filepath.Clean on clean components -/

/-- what `filepath.Clean` leaves alone: a component that is non-empty, not `.`/`..` and has no `/`.
    (Every directory entry name returned by the OS is one; every `SafeComp` is one.) -/
def CleanComp (s : Bytes) : Prop := s ≠ [] ∧ s ≠ sDot ∧ s ≠ sDotDot ∧ ∀ c ∈ s, c ≠ cSlash

theorem SafeComp.toClean {s : Bytes} (h : SafeComp s) : CleanComp s :=
  ⟨h.1, h.2.1, h.2.2.1, h.noSlash⟩

theorem CleanComp.noSlash {s : Bytes} (h : CleanComp s) : ∀ c ∈ s, c ≠ cSlash := h.2.2.2

theorem cleanStep_nil (rooted : Bool) (st : List Bytes) : cleanStep rooted st [] = st := rfl

theorem cleanStep_clean (rooted : Bool) (st : List Bytes) (c : Bytes) (h : CleanComp c) :
    cleanStep rooted st c = c :: st := by
  obtain ⟨h1, h2, h3, _⟩ := h
  simp [cleanStep, h1, h2, h3]

theorem foldl_cleanStep_clean (rooted : Bool) (comps st : List Bytes) (h : ∀ c ∈ comps, CleanComp c) :
    comps.foldl (cleanStep rooted) st = comps.reverse ++ st := by
  induction comps generalizing st with
  | nil => rfl
  | cons c cs ih =>
    simp only [List.foldl_cons, cleanStep_clean rooted st c (h c List.mem_cons_self)]
    rw [ih _ (fun d hd => h d (List.mem_cons_of_mem _ hd))]
    simp

theorem foldl_cleanStep_safe (rooted : Bool) (comps st : List Bytes) (h : ∀ c ∈ comps, SafeComp c) :
    comps.foldl (cleanStep rooted) st = comps.reverse ++ st :=
  foldl_cleanStep_clean rooted comps st (fun c hc => (h c hc).toClean)

def absPath (comps : List Bytes) : Bytes := cSlash :: joinWith cSlash comps

theorem splitOn_absPath' (comps : List Bytes) (hne : comps ≠ []) (h : ∀ c ∈ comps, CleanComp c) :
    splitOn cSlash (absPath comps) = [] :: comps :=
  congrArg ([] :: ·) (splitOn_joinWith cSlash comps hne (fun p hp => (h p hp).noSlash))

theorem splitOn_absPath (comps : List Bytes) (hne : comps ≠ []) (h : ∀ c ∈ comps, SafeComp c) :
    splitOn cSlash (absPath comps) = [] :: comps :=
  splitOn_absPath' comps hne (fun c hc => (h c hc).toClean)

/-! ## `filepath.Clean` / `filepath.Join` of `root/c₁/…/cₙ` -/

theorem isRooted_append (root : Bytes) (hne : root ≠ []) (s : Bytes) : isRooted (root ++ s) = isRooted root := by
  obtain ⟨x, xs, rfl⟩ := List.exists_cons_of_ne_nil hne
  rfl

theorem rootStack_absPath (comps : List Bytes) (h : ∀ c ∈ comps, CleanComp c) :
    rootStack (absPath comps) = comps := by
  cases comps with
  | nil => rfl
  | cons a rest =>
    unfold rootStack
    rw [splitOn_absPath' _ (List.cons_ne_nil a rest) h, List.foldl_cons, cleanStep_nil,
      foldl_cleanStep_clean _ _ [] h, List.append_nil, List.reverse_reverse]

theorem isRooted_clean {a : Bytes} (h : CleanComp a) : isRooted a = false := by
  obtain ⟨x, xs, rfl⟩ := List.exists_cons_of_ne_nil h.1
  have hx : x ≠ cSlash := h.noSlash x List.mem_cons_self
  simp only [isRooted, List.head?_cons, Option.some_beq_some, beq_false_of_ne hx]

theorem rootStack_clean {a : Bytes} (h : CleanComp a) : rootStack a = [a] := by
  unfold rootStack
  rw [splitOn_noSep cSlash a h.noSlash, List.foldl_cons, cleanStep_clean _ _ a h]
  rfl

theorem clean_join (root : Bytes) (hne : root ≠ []) (comps : List Bytes) (hc0 : comps ≠ [])
    (hc : ∀ c ∈ comps, CleanComp c) :
    clean (root ++ cSlash :: joinWith cSlash comps) = renderPath (isRooted root) (rootStack root ++ comps) := by
  rw [clean_eq_render _ (List.append_ne_nil_of_left_ne_nil hne _)]
  unfold rootStack
  rw [isRooted_append root hne, splitOn_append_sep, splitOn_joinWith cSlash comps hc0 (fun p hp => (hc p hp).noSlash),
    List.foldl_append, foldl_cleanStep_clean _ comps _ hc, List.reverse_append, List.reverse_reverse]

theorem clean_trailing (p : Bytes) (hne : p ≠ []) : clean (p ++ [cSlash]) = clean p := by
  rw [clean_eq_render _ (List.append_ne_nil_of_left_ne_nil hne _), clean_eq_render p hne]
  unfold rootStack
  rw [isRooted_append p hne, splitOn_append_sep, List.foldl_append]
  rfl

theorem pathJoin_cons (a : Bytes) (ha : a ≠ []) (rest : List Bytes) :
    pathJoin (a :: rest) = clean (joinWith cSlash (a :: rest)) := by
  obtain ⟨x, xs, rfl⟩ := List.exists_cons_of_ne_nil ha
  rfl

theorem clean_absPath' (comps : List Bytes) (h : ∀ c ∈ comps, CleanComp c) :
    clean (absPath comps) = absPath comps := by
  rw [clean_eq_render (absPath comps) (List.cons_ne_nil _ _), rootStack_absPath comps h]
  rfl

theorem pathDir_absPath (comps : List Bytes) (hne : comps ≠ []) (hc : ∀ c ∈ comps, CleanComp c) (x : Bytes)
    (hx : ∀ c ∈ x, c ≠ cSlash) : pathDir (absPath (comps ++ [x])) = absPath comps := by
  have e : absPath (comps ++ [x]) = absPath comps ++ cSlash :: x :=
    congrArg (cSlash :: ·) (joinWith_append cSlash comps [x] hne (List.cons_ne_nil _ _))
  rw [pathDir, e, splitLast_append _ _ _ cSlash rfl (fun c hc => beq_false_of_ne (hx c hc))]
  exact (clean_trailing _ (List.cons_ne_nil _ _)).trans (clean_absPath' _ hc)

theorem clean_absPath (comps : List Bytes) (hne : comps ≠ []) (h : ∀ c ∈ comps, SafeComp c) :
    clean (absPath comps) = absPath comps :=
  clean_absPath' comps (fun c hc => (h c hc).toClean)

theorem clean_relPath (comps : List Bytes) (hne : comps ≠ []) (h : ∀ c ∈ comps, CleanComp c) :
    clean (joinWith cSlash comps) = joinWith cSlash comps := by
  obtain ⟨a, rest, rfl⟩ := List.exists_cons_of_ne_nil hne
  obtain ⟨ha, hrest⟩ := List.forall_mem_cons.mp h
  cases rest with
  | nil =>
    rw [joinWith, clean_eq_render a ha.1, isRooted_clean ha, rootStack_clean ha]
    rfl
  | cons b rest =>
    rw [joinWith, clean_join a ha.1 (b :: rest) (List.cons_ne_nil _ _) hrest, isRooted_clean ha, rootStack_clean ha]
    rfl

theorem pathJoin_comps (comps : List Bytes) (hne : comps ≠ []) (h : ∀ c ∈ comps, SafeComp c) :
    pathJoin comps = joinWith cSlash comps := by
  obtain ⟨a, rest, rfl⟩ := List.exists_cons_of_ne_nil hne
  rw [pathJoin_cons a (h a List.mem_cons_self).1]
  exact clean_relPath _ hne (fun c hc => (h c hc).toClean)

theorem pathJoin_abs_rel (rc : List Bytes) (hs : ∀ c ∈ rc, CleanComp c)
    (comps : List Bytes) (hne : comps ≠ []) (hc : ∀ c ∈ comps, CleanComp c) :
    pathJoin [absPath rc, joinWith cSlash comps] = absPath (rc ++ comps) := by
  refine (pathJoin_cons (absPath rc) (List.cons_ne_nil _ _) _).trans ?_
  refine (clean_join (absPath rc) (List.cons_ne_nil _ _) comps hne hc).trans ?_
  rw [rootStack_absPath rc hs]
  rfl

end OllamaVerif.Names
