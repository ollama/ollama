/-
  C20 (tokenizers): what splitting and the merge loop preserve (`LoopInv`); `Decode ∘ Encode`, proved piece by piece
  (`DecHom.flatMap`), a guard on the text reaching a piece because the piece `Occurs` in it.  Core Lean only.
-/
import OllamaVerif.Model.Tokenizer
import OllamaVerif.Proofs.Basic

namespace OllamaVerif.Tok

/-! ## byte map -/

/-- NUL is lost (U+0100 is skipped); pinned: `~` comes back as a space -/
theorem decRune_encByte (pinned : Bool) : ∀ b, b < 256 →
    decRune (encByte pinned b) = if b = 0 then none else some (if pinned = true ∧ b = 0x7e then 0x20 else b) := by
  cases pinned <;> decide +kernel

theorem dec_enc_table (pinned : Bool) (b : Nat) (h : b < 256) (h0 : b ≠ 0) (h7 : pinned = true → b ≠ 0x7e) :
    decRune (encByte pinned b) = some b := by
  rw [decRune_encByte pinned b h, if_neg h0, if_neg (fun h' => h7 h'.1 h'.2)]

theorem dec_enc_all (b : Nat) (h : b < 256) : decRune (encByte false b) = if b = 0 then none else some b := by
  simp [decRune_encByte false b h]

theorem decodeRunes_append (a b : Str) : decodeRunes (a ++ b) = decodeRunes a ++ decodeRunes b := by
  simp [decodeRunes, List.filterMap_append]

/-- the per-byte guard of the BPE round trip -/
def byteOk (pinned : Bool) (b : Nat) : Prop := b < 256 ∧ b ≠ 0 ∧ (pinned = true → b ≠ 0x7e)

theorem decodeRunes_map_enc (pinned : Bool) (bs : Str) (h : ∀ b ∈ bs, byteOk pinned b) :
    decodeRunes (bs.map (encByte pinned)) = bs := by
  induction bs with
  | nil => rfl
  | cons b bs ih =>
    have hb := h b (by simp)
    have := dec_enc_table pinned b hb.1 hb.2.1 hb.2.2
    simp only [decodeRunes, List.map_cons, List.filterMap_cons, this]
    congr 1
    exact ih (fun x hx => h x (by simp [hx]))

/-! ## strings.Index -/

def Occurs (p t : Str) : Prop := ∃ a b, t = a ++ p ++ b

theorem Occurs.trans {q u t : Str} (h : Occurs q u) (ht : Occurs u t) : Occurs q t := by
  obtain ⟨c, d, rfl⟩ := h
  obtain ⟨a, b, rfl⟩ := ht
  exact ⟨a ++ c, d ++ b, by simp [List.append_assoc]⟩

theorem isPrefixOf_list (p s : Str) : isPrefixOf p s = p.isPrefixOf s := by
  fun_induction isPrefixOf p s <;> simp_all [List.isPrefixOf]

/-- arguments the other way round -/
theorem indexOf_eq (s pat : Str) : indexOf s pat = Basic.indexOf pat s := by
  induction s with
  | nil => cases pat <;> rfl
  | cons c t ih =>
    unfold indexOf
    simp only [isPrefixOf_list, Basic.indexOf, ih]
    split
    · rfl
    · cases Basic.indexOf pat t <;> rfl

theorem indexOf_split (s pat : Str) (i : Nat) (h : indexOf s pat = some i) :
    s = s.take i ++ pat ++ s.drop (i + pat.length) :=
  Basic.indexOf_split (indexOf_eq s pat ▸ h)

theorem indexOf_add_le {s pat : Str} {i : Nat} (h : indexOf s pat = some i) : i + pat.length ≤ s.length :=
  Basic.indexOf_add_le (indexOf_eq s pat ▸ h)

theorem indexOf_none (s pat : Str) (h : indexOf s pat = none) : ¬ Occurs pat s :=
  Basic.indexOf_eq_none_iff.mp (indexOf_eq s pat ▸ h)

theorem indexOf_min (s pat : Str) (i : Nat) (h : indexOf s pat = some i) :
    ∀ a b, s = a ++ pat ++ b → i ≤ a.length :=
  ((Basic.indexOf_cases pat s).1 i (indexOf_eq s pat ▸ h)).2

/-! ## special splitting -/

theorem mem_flatten_split {α} (l : List (List α)) (x : List α) (h : x ∈ l) :
    ∃ a b, l.flatten = a ++ x ++ b := by
  obtain ⟨s, t, rfl⟩ := List.append_of_mem h
  exact ⟨s.flatten, t.flatten, by simp⟩

def fragsLit (frs : List Frag) : Str := (frs.map Frag.lit).flatten

theorem fragsLit_append (a b : List Frag) : fragsLit (a ++ b) = fragsLit a ++ fragsLit b := by
  simp [fragsLit]

theorem occurs_of_fragsLit {frs : List Frag} {s : Str} (h : fragsLit frs = s) {fr : Frag} (hfr : fr ∈ frs) :
    Occurs fr.lit s := by
  obtain ⟨a, b, hab⟩ := mem_flatten_split _ fr.lit (List.mem_map_of_mem (f := Frag.lit) hfr)
  exact ⟨a, b, hab ▸ h.symm⟩

theorem splitSpecial_lit (sp : Special) (f : Nat) (s : Str) : fragsLit (splitSpecial sp f s) = s := by
  fun_induction splitSpecial sp f s with
  | case1 s => simp [fragsLit, Frag.lit]
  | case2 f s hi => simp [fragsLit, Frag.lit]
  | case3 f s i hi ih =>
    have h1 : fragsLit (if i > 0 then [Frag.text (s.take i)] else []) = s.take i := by
      by_cases h0 : i > 0
      · simp [h0, fragsLit, Frag.lit]
      · simp [show i = 0 by omega, fragsLit]
    have h3 : fragsLit (if (s.drop (i + sp.lit.length)).isEmpty then []
        else splitSpecial sp f (s.drop (i + sp.lit.length))) = s.drop (i + sp.lit.length) := by
      split
      · rename_i he
        simp [fragsLit, List.isEmpty_iff.mp he]
      · exact ih
    simp only [fragsLit_append, h1, h3]
    simpa [fragsLit, Frag.lit] using (indexOf_split s sp.lit i hi).symm

theorem splitFrags_cons (sp : Special) (fr : Frag) (frs : List Frag) :
    splitFrags sp (fr :: frs) = (match fr with
      | .text s => splitSpecial sp (s.length + 1) s
      | .special q => [.special q]) ++ splitFrags sp frs := by
  cases fr <;> simp [splitFrags]

theorem splitFrags_lit (sp : Special) (frs : List Frag) : fragsLit (splitFrags sp frs) = fragsLit frs := by
  induction frs with
  | nil => rfl
  | cons fr frs ih =>
    rw [splitFrags_cons, fragsLit_append, ih]
    cases fr with
    | text s =>
      simp only [splitSpecial_lit]
      simp [fragsLit, Frag.lit]
    | special q => simp [fragsLit]

theorem fragments_induct (I : List Frag → Prop) (specials : List Special) (s : Str) (h0 : I [.text s])
    (hstep : ∀ sp ∈ specials, ∀ frs, I frs → I (splitFrags sp frs)) : I (fragments specials s) :=
  List.foldlRecOn specials _ h0 fun frs h sp hsp => hstep sp hsp frs h

theorem fragments_lit (specials : List Special) (s : Str) : fragsLit (fragments specials s) = s :=
  fragments_induct (fragsLit · = s) specials s (by simp [fragsLit, Frag.lit]) fun sp _ frs h =>
    (splitFrags_lit sp frs).trans h

theorem fragments_occurs (specials : List Special) (s : Str) (fr : Frag) (h : fr ∈ fragments specials s) :
    Occurs fr.lit s := occurs_of_fragsLit (fragments_lit specials s) h

theorem splitSpecial_from (sp : Special) (f : Nat) (s : Str) (q : Special) :
    Frag.special q ∈ splitSpecial sp f s → q = sp := by
  fun_induction splitSpecial sp f s with
  | case1 s => simp
  | case2 f s hi => simp
  | case3 f s i hi ih =>
    intro h
    simp only [List.mem_append] at h
    rcases h with (h | h) | h
    · split at h <;> simp at h
    · simpa using h
    · split at h
      · simp at h
      · exact ih h

theorem fragments_from (specials : List Special) (s : Str) (q : Special) :
    Frag.special q ∈ fragments specials s → q ∈ specials :=
  fragments_induct (fun frs => Frag.special q ∈ frs → q ∈ specials) specials s (by simp) fun sp hsp frs ih h => by
    simp only [splitFrags, List.mem_flatMap] at h
    obtain ⟨g, hg, h⟩ := h
    cases g with
    | text t => exact splitSpecial_from sp _ t q h ▸ hsp
    | special q' =>
      obtain rfl : q = q' := by simpa using h
      exact ih hg

/-! ## binary heap: sifting only permutes the entries -/

theorem heapUp_perm (less : Cand → Cand → Bool) (f : Nat) (h : Array Cand) (j : Nat) :
    (heapUp less f h j).Perm h := by
  fun_induction heapUp less f h j with
  | case1 => exact .rfl
  | case2 => exact .rfl
  | case3 f h j _ i _ ih => exact ih.trans (Basic.swapIfInBounds_perm h _ _)
  | case4 => exact .rfl

theorem heapDown_perm (less : Cand → Cand → Bool) (f : Nat) (h : Array Cand) (i : Nat) :
    (heapDown less f h i).Perm h := by
  fun_induction heapDown less f h i with
  | case1 => exact .rfl
  | case2 f h j j1 _ j' _ ih => exact ih.trans (Basic.swapIfInBounds_perm h _ _)
  | case3 => exact .rfl
  | case4 => exact .rfl

theorem mem_heapPush (less : Cand → Cand → Bool) (h : Array Cand) (c x : Cand) :
    x ∈ heapPush less h c ↔ x ∈ h ∨ x = c := by
  unfold heapPush
  simp only
  rw [(heapUp_perm ..).mem_iff, Array.mem_push]

theorem size_heapPush (less : Cand → Cand → Bool) (h : Array Cand) (c : Cand) :
    (heapPush less h c).size = h.size + 1 :=
  (heapUp_perm ..).size_eq.trans (Array.size_push ..)

theorem heapPop_none (less : Cand → Cand → Bool) (h : Array Cand) (hs : h.size = 0) : heapPop less h = none := by
  simp [heapPop, hs]

theorem heapPop_mem (less : Cand → Cand → Bool) (h h' : Array Cand) (c : Cand)
    (hp : heapPop less h = some (c, h')) : c ∈ h ∧ ∀ x ∈ h', x ∈ h := by
  unfold heapPop at hp
  split at hp
  · cases hp
  · rename_i hsz
    simp only [Option.some.injEq, Prod.mk.injEq] at hp
    obtain ⟨rfl, rfl⟩ := hp
    constructor
    · have : 0 < h.size := by omega
      simp [Array.getD, this]
    · intro x hx
      have hx := (heapDown_perm ..).mem_iff.mp hx
      have : x ∈ h.swapIfInBounds 0 (h.size - 1) := by
        have h1 := Array.mem_toList_iff.mpr hx
        rw [Array.toList_pop] at h1
        exact Array.mem_toList_iff.mp ((List.dropLast_sublist _).subset h1)
      exact (Basic.swapIfInBounds_perm ..).mem_iff.mp this

theorem size_heapPop (less : Cand → Cand → Bool) (h h' : Array Cand) (c : Cand)
    (hp : heapPop less h = some (c, h')) : h'.size + 1 = h.size := by
  unfold heapPop at hp
  split at hp
  · cases hp
  · rename_i hne
    simp only [Option.some.injEq, Prod.mk.injEq] at hp
    rw [← hp.2, (heapDown_perm ..).size_eq]
    simp
    omega

/-! ## merge loop -/

def concatParts (ps : List Part) : Str := (ps.map (·.runes)).flatten

theorem joinAt_some (ok : Str → Str → Bool) (ps ps' : List Part) (a b : Nat)
    (h : joinAt ok ps a b = some ps') :
    ∃ pre p q rest, ps = pre ++ p :: q :: rest ∧ p.start = a ∧ q.start = b ∧ ok p.runes q.runes = true ∧
      ps' = pre ++ ({ start := a, runes := p.runes ++ q.runes } : Part) :: rest := by
  fun_induction joinAt ok ps a b generalizing ps' with
  | case1 p q rest b hq => cases h; exact ⟨[], p, q, rest, rfl, rfl, hq.1, hq.2, rfl⟩
  | case2 => cases h
  | case3 p q rest a b hpa ih =>
    obtain ⟨ps2, h2, rfl⟩ := Option.map_eq_some_iff.mp h
    obtain ⟨pre, p', q', rest', he, h1, h2', h3, h4⟩ := ih ps2 h2
    exact ⟨p :: pre, p', q', rest', by rw [he]; rfl, h1, h2', h3, by rw [h4]; rfl⟩
  | case4 => cases h

theorem joinAt_starts_sublist (ok : Str → Str → Bool) (ps ps' : List Part) (a b : Nat)
    (h : joinAt ok ps a b = some ps') : (ps'.map (·.start)).Sublist (ps.map (·.start)) := by
  obtain ⟨pre, p, q, rest, hps, hpa, _, _, hps'⟩ := joinAt_some _ _ _ _ _ h
  rw [hps', hps]
  simp only [List.map_append, List.map_cons]
  apply List.Sublist.append (List.Sublist.refl _)
  rw [hpa]
  exact List.Sublist.cons_cons _ (List.sublist_cons_self _ _)

def SortedP (ps : List Part) : Prop := ps.Pairwise (fun p q => p.start < q.start)

theorem joinAt_sorted (ok : Str → Str → Bool) (ps ps' : List Part) (a b : Nat) (hs : SortedP ps)
    (h : joinAt ok ps a b = some ps') : SortedP ps' :=
  List.pairwise_map.mp ((List.pairwise_map.mpr hs).sublist (joinAt_starts_sublist _ _ _ _ _ h))

theorem getPart_some (ps : List Part) (a : Nat) (l : Part) (h : getPart ps a = some l) :
    l ∈ ps ∧ l.start = a := by
  unfold getPart at h
  exact ⟨List.mem_of_find?_eq_some h, by simpa using List.find?_some h⟩

theorem getPart_cons (p : Part) (ps : List Part) (x : Nat) :
    getPart (p :: ps) x = if p.start = x then some p else getPart ps x := by
  unfold getPart
  rw [List.find?_cons]
  by_cases h : p.start = x
  · simp [h]
  · have : (p.start == x) = false := by simp [h]
    simp [this, h]

theorem getPart_of_mem (ps : List Part) (hs : SortedP ps) (q : Part) (hq : q ∈ ps) : getPart ps q.start = some q := by
  induction ps with
  | nil => cases hq
  | cons x ps ih =>
    have hp := List.pairwise_cons.mp hs
    rw [getPart_cons]
    rcases List.mem_cons.mp hq with rfl | hq
    · simp
    · have := hp.1 q hq
      rw [if_neg (by omega)]
      exact ih hp.2 hq

theorem getPart_none_of_lt (ps : List Part) (x : Nat) (h : ∀ p ∈ ps, x < p.start) : getPart ps x = none := by
  unfold getPart
  rw [List.find?_eq_none]
  intro p hp
  have := h p hp
  simp; omega

theorem joinAt_concat (ok : Str → Str → Bool) (ps ps' : List Part) (a b : Nat)
    (h : joinAt ok ps a b = some ps') : concatParts ps' = concatParts ps := by
  obtain ⟨pre, p, q, rest, rfl, _, _, _, rfl⟩ := joinAt_some _ _ _ _ _ h
  simp [concatParts]

theorem joinAt_all (P : Str → Prop) (ok : Str → Str → Bool) (hok : ∀ l r, ok l r = true → P (l ++ r))
    (ps ps' : List Part) (a b : Nat) (hps : ∀ p ∈ ps, P p.runes)
    (h : joinAt ok ps a b = some ps') : ∀ p ∈ ps', P p.runes := by
  obtain ⟨pre, p, q, rest, rfl, _, _, hpq, rfl⟩ := joinAt_some _ _ _ _ _ h
  intro x hx
  simp only [List.mem_append, List.mem_cons] at hx
  rcases hx with hx | rfl | hx
  · exact hps x (by simp [hx])
  · exact hok _ _ hpq
  · exact hps x (by simp [hx])

theorem initParts_concat (rs : Str) (i : Nat) : concatParts (initParts rs i) = rs := by
  induction rs generalizing i with
  | nil => rfl
  | cons r rs ih =>
    simp only [initParts, concatParts, List.map_cons, List.flatten_cons, List.singleton_append]
    congr 1
    exact ih (i + 1)

theorem initParts_single (rs : Str) (i : Nat) : ∀ p ∈ initParts rs i, ∃ r ∈ rs, p.runes = [r] := by
  induction rs generalizing i with
  | nil => intro p hp; simp [initParts] at hp
  | cons r rs ih =>
    intro p hp
    simp only [initParts, List.mem_cons] at hp
    rcases hp with rfl | hp
    · exact ⟨r, by simp, rfl⟩
    · obtain ⟨x, hx, hxe⟩ := ih (i + 1) p hp
      exact ⟨x, by simp [hx], hxe⟩

theorem initParts_ge (rs : Str) (i : Nat) : ∀ p ∈ initParts rs i, i ≤ p.start := by
  induction rs generalizing i with
  | nil => intro p hp; simp [initParts] at hp
  | cons r rs ih =>
    intro p hp
    simp only [initParts, List.mem_cons] at hp
    rcases hp with rfl | hp
    · exact Nat.le_refl _
    · have := ih (i + 1) p hp; omega

theorem initParts_sorted (rs : Str) (i : Nat) : SortedP (initParts rs i) := by
  induction rs generalizing i with
  | nil => exact List.Pairwise.nil
  | cons r rs ih =>
    simp only [initParts]
    apply List.Pairwise.cons _ (ih (i + 1))
    intro p hp
    have := initParts_ge rs (i + 1) p hp
    simp only; omega

/-- `x`, `y` start two neighbouring live parts -/
def Consec (ps : List Part) (x y : Nat) : Prop :=
  ∃ pre p q rest, ps = pre ++ p :: q :: rest ∧ p.start = x ∧ q.start = y

theorem prevStart_consec (ps : List Part) (a x : Nat) (h : prevStart ps a = some x) : Consec ps x a := by
  induction ps with
  | nil => simp [prevStart] at h
  | cons p rest ih =>
    cases rest with
    | nil => simp [prevStart] at h
    | cons q rest =>
      unfold prevStart at h
      split at h
      · rename_i hq
        cases h
        exact ⟨[], p, q, rest, rfl, rfl, hq⟩
      · obtain ⟨pre, p', q', rest', he, h1, h2⟩ := ih h
        exact ⟨p :: pre, p', q', rest', by rw [he]; rfl, h1, h2⟩

theorem nextStart_consec (ps : List Part) (a n : Nat) (h : nextStart ps a n ≠ n) : Consec ps a (nextStart ps a n) := by
  induction ps with
  | nil => exact absurd rfl h
  | cons p rest ih =>
    cases rest with
    | nil => exact absurd rfl h
    | cons q rest =>
      unfold nextStart at h ⊢
      split
      · rename_i hp
        exact ⟨[], p, q, rest, rfl, hp, rfl⟩
      · rename_i hp
        rw [if_neg hp] at h
        obtain ⟨pre, p', q', rest', he, h1, h2⟩ := ih h
        exact ⟨p :: pre, p', q', rest', by rw [he]; rfl, h1, h2⟩

theorem Consec.mem {ps : List Part} {x y : Nat} (hc : Consec ps x y) :
    (∃ p ∈ ps, p.start = x) ∧ ∃ q ∈ ps, q.start = y := by
  obtain ⟨pre, p, q, rest, rfl, hx, hy⟩ := hc
  exact ⟨⟨p, by simp, hx⟩, ⟨q, by simp, hy⟩⟩

/-- the queue after a successful join at `a`: `pairwise(prev a, a)` and `pairwise(a, next a)` are pushed -/
abbrev pushesAt (cfg : Cfg) (n : Nat) (ps : List Part) (h : Array Cand) (a : Nat) : Array Cand :=
  let h := match prevStart ps a with
    | some p => pushCand cfg ps h p a
    | none => h
  let nx := nextStart ps a n
  if nx < n then pushCand cfg ps h a nx else h

abbrev Inv (P : List Part → Prop) (Q : List Part → Cand → Prop) (ps : List Part) (h : Array Cand) : Prop :=
  P ps ∧ ∀ c ∈ h, Q ps c

/-- the merge loop keeps `Inv P Q` (`P` of the live parts, `Q` of every queue entry) if joining the parts of a queued
    candidate does (`join`) and a candidate made from two neighbouring parts has `Q` (`cand`) -/
structure LoopInv (cfg : Cfg) (P : List Part → Prop) (Q : List Part → Cand → Prop) : Prop where
  join : ∀ ps ps' (h : Array Cand) c, Inv P Q ps h → c ∈ h → joinAt (cfg.ok c) ps c.a c.b = some ps' → Inv P Q ps' h
  cand : ∀ ps x y l r key size value, P ps → Consec ps x y → getPart ps x = some l → getPart ps y = some r →
    cfg.make l.runes r.runes = some (key, size, value) → Q ps ⟨x, y, key, size, value⟩

section
variable {cfg : Cfg} {P : List Part → Prop} {Q : List Part → Cand → Prop}

theorem LoopInv.push (L : LoopInv cfg P Q) {ps h x y} (hi : Inv P Q ps h) (hc : Consec ps x y) :
    Inv P Q ps (pushCand cfg ps h x y) := by
  refine ⟨hi.1, ?_⟩
  unfold pushCand
  split
  · rename_i l r hl hr
    split
    · rename_i key size value hmk
      intro c hcm
      rcases (mem_heapPush ..).mp hcm with hcm | rfl
      · exact hi.2 c hcm
      · exact L.cand _ _ _ _ _ _ _ _ hi.1 hc hl hr hmk
    · exact hi.2
  · exact hi.2

theorem Inv.pop {less} {ps h c h'} (hi : Inv P Q ps h) (hp : heapPop less h = some (c, h')) : Inv P Q ps h' :=
  ⟨hi.1, fun x hx => hi.2 x ((heapPop_mem _ _ _ _ hp).2 x hx)⟩

theorem LoopInv.step (L : LoopInv cfg P Q) (n : Nat) {ps ps' h c h'} (hi : Inv P Q ps h)
    (hp : heapPop cfg.less h = some (c, h')) (hj : joinAt (cfg.ok c) ps c.a c.b = some ps') :
    Inv P Q ps' (pushesAt cfg n ps' h' c.a) := by
  have h1 : Inv P Q ps' h' := Inv.pop (L.join ps ps' h c hi (heapPop_mem _ _ _ _ hp).1 hj) hp
  have h2 : Inv P Q ps' (match prevStart ps' c.a with
      | some p => pushCand cfg ps' h' p c.a
      | none => h') := by
    split
    · rename_i x hx
      exact L.push h1 (prevStart_consec ps' c.a x hx)
    · exact h1
  unfold pushesAt
  simp only
  split
  · rename_i hlt
    exact L.push h2 (nextStart_consec ps' c.a n (by omega))
  · exact h2

theorem LoopInv.loop (L : LoopInv cfg P Q) (n f : Nat) (ps : List Part) (h : Array Cand) (hi : Inv P Q ps h) :
    P (mergeLoop cfg n f ps h) := by
  fun_induction mergeLoop cfg n f ps h with
  | case1 ps h => exact hi.1
  | case2 f ps h => exact hi.1
  | case3 f ps h c h' hpop ps' hj _ _ _ ih => exact ih (L.step n hi hpop hj)
  | case4 f ps h c h' hpop hj ih => exact ih (Inv.pop hi hpop)

theorem LoopInv.init (L : LoopInv cfg P Q) (ps pre l : List Part) (h : Array Cand) (he : ps = pre ++ l)
    (hi : Inv P Q ps h) : Inv P Q ps (initHeap cfg ps l h) := by
  induction l generalizing pre h with
  | nil => exact hi
  | cons p rest ih =>
    cases rest with
    | nil => exact hi
    | cons q rest =>
      exact ih (pre ++ [p]) _ (by rw [he]; simp) (L.push hi ⟨pre, p, q, rest, he, rfl, rfl⟩)

theorem LoopInv.all (L : LoopInv cfg P Q) (rs : Str) (hi : P (initParts rs 0)) : P (mergeAll cfg rs) :=
  L.loop _ _ _ _ (L.init _ [] _ #[] rfl ⟨hi, fun c hc => by simp at hc⟩)

theorem LoopInv.ofParts (hjoin : ∀ ps ps' c, P ps → joinAt (cfg.ok c) ps c.a c.b = some ps' → P ps') :
    LoopInv cfg P fun _ _ => True where
  join ps ps' _ c hi _ hj := ⟨hjoin ps ps' c hi.1 hj, fun _ _ => trivial⟩
  cand := fun _ _ _ _ _ _ _ _ _ _ _ _ _ => trivial

end

theorem mergeAll_concat (cfg : Cfg) (rs : Str) : concatParts (mergeAll cfg rs) = rs :=
  (LoopInv.ofParts fun _ _ _ hi hj => (joinAt_concat _ _ _ _ _ hj).trans hi).all rs (initParts_concat rs 0)

theorem mergeAll_all (P : Str → Prop) (cfg : Cfg) (hok : ∀ c l r, cfg.ok c l r = true → P (l ++ r))
    (rs : Str) (h1 : ∀ r ∈ rs, P [r]) : ∀ p ∈ mergeAll cfg rs, P p.runes :=
  (LoopInv.ofParts fun _ _ c hi hj => joinAt_all P _ (hok c) _ _ _ _ hi hj).all rs fun p hp => by
    obtain ⟨r, hr, hre⟩ := initParts_single rs 0 p hp
    exact hre ▸ h1 r hr


/-! ## the round-trip step (fragments of a text, pieces of a fragment, parts of a piece) -/

theorem addSpecials_noAdd (ids : List Nat) : addSpecials noAdd ids = ids := by simp [addSpecials, noAdd]

/-- both `Decode`s work token by token -/
structure DecHom (dec : List Nat → Option Str) : Prop where
  nil : dec [] = some []
  append : ∀ a b x y, dec a = some x → dec b = some y → dec (a ++ b) = some (x ++ y)

structure AppendHom (g : Str → Str) : Prop where
  nil : g [] = []
  append : ∀ a b, g (a ++ b) = g a ++ g b

theorem AppendHom.flatten {g} (G : AppendHom g) {α} (proj : α → Str) (l : List α) :
    l.flatMap (fun x => g (proj x)) = g (l.map proj).flatten := by
  induction l with
  | nil => exact G.nil.symm
  | cons a l ih => rw [List.flatMap_cons, List.map_cons, List.flatten_cons, G.append, ih]

theorem DecHom.flatMap {dec} (H : DecHom dec) {g} (G : AppendHom g) {α} (enc : α → List Nat) (proj : α → Str)
    (l : List α) (h : ∀ x ∈ l, dec (enc x) = some (g (proj x))) :
    dec (l.flatMap enc) = some (g (l.map proj).flatten) := by
  rw [← G.flatten]
  induction l with
  | nil => exact H.nil
  | cons x l ih =>
    rw [List.flatMap_cons, List.flatMap_cons]
    exact H.append _ _ _ _ (h x (by simp)) (ih fun y hy => h y (List.mem_cons_of_mem _ hy))

theorem DecHom.filterMap {dec} (H : DecHom dec) {g} (G : AppendHom g) {α} (enc : α → Option Nat) (proj : α → Str)
    (l : List α) (h : ∀ x ∈ l, ∃ i, enc x = some i ∧ dec [i] = some (g (proj x))) :
    dec (l.filterMap enc) = some (g (l.map proj).flatten) := by
  rw [← G.flatten]
  induction l with
  | nil => exact H.nil
  | cons x l ih =>
    obtain ⟨i, hi, hd⟩ := h x (by simp)
    rw [List.filterMap_cons_some hi, List.flatMap_cons]
    exact H.append [i] _ _ _ hd (ih fun y hy => h y (List.mem_cons_of_mem _ hy))

theorem fragments_decode {dec} (H : DecHom dec) {g} (G : AppendHom g) (encFrag : Frag → List Nat)
    (specials : List Special) (s : Str) (h : ∀ fr ∈ fragments specials s, dec (encFrag fr) = some (g fr.lit)) :
    dec (addSpecials noAdd ((fragments specials s).flatMap encFrag)) = some (g s) := by
  rw [addSpecials_noAdd, H.flatMap G encFrag Frag.lit _ h]
  exact congrArg (fun t => some (g t)) (fragments_lit specials s)

/-! ## BPE encode/decode -/

/-- `Values[values[s]] = s` (the lookup map is built from `Values`) -/
def Vocab.Wf (V : Vocab) : Prop := ∀ t i, V.tokId t = some i → V.tokStr i = t ∧ i < V.size

/-- "the vocabulary covers every byte" (every remapped byte that can occur is a token) -/
def Vocab.CoversBytes (V : Vocab) (pinned : Bool) : Prop :=
  ∀ b, byteOk pinned b → (V.tokId [encByte pinned b]).isSome = true

theorem bpeDecode_append (V : Vocab) (a b : List Nat) :
    bpeDecode V (a ++ b) = bpeDecode V a ++ bpeDecode V b := by
  simp [bpeDecode]

theorem bpeDecode_hom (V : Vocab) : DecHom fun ids => some (bpeDecode V ids) :=
  ⟨rfl, fun a b x y ha hb => by cases ha; cases hb; rw [bpeDecode_append]⟩

theorem encByte_hom (pinned : Bool) : AppendHom fun t => decodeRunes (t.map (encByte pinned)) :=
  ⟨rfl, fun a b => by rw [List.map_append, decodeRunes_append]⟩

theorem bpeCfg_ok (V : Vocab) (c : Cand) (l r : Str) (h : (bpeCfg V).ok c l r = true) :
    (V.tokId (l ++ r)).isSome = true := by
  simp only [bpeCfg, Bool.and_eq_true, beq_iff_eq] at h
  rw [h.1]; exact h.2

theorem bpePiece_decode (pinned : Bool) (V : Vocab) (hwf : V.Wf) (piece : Str)
    (hcov : ∀ b ∈ piece, (V.tokId [encByte pinned b]).isSome = true) :
    bpeDecode V (bpePiece pinned V piece) = decodeRunes (piece.map (encByte pinned)) := by
  unfold bpePiece
  simp only
  split
  · rename_i id hid
    simp [bpeDecode, (hwf _ _ hid).1]
  · -- every part the merge loop leaves is a token, so the final loop drops nothing
    have hall := mergeAll_all (fun t => (V.tokId t).isSome = true) _ (bpeCfg_ok V) (piece.map (encByte pinned))
      (by simpa using hcov)
    have := (bpeDecode_hom V).filterMap ⟨rfl, decodeRunes_append⟩ (fun p => V.tokId p.runes) Part.runes _ fun p hp => by
      obtain ⟨i, hi⟩ := Option.isSome_iff_exists.mp (hall p hp)
      exact ⟨i, hi, by simp [bpeDecode, (hwf _ _ hi).1]⟩
    exact (Option.some.inj this).trans (congrArg decodeRunes (mergeAll_concat _ _))

/-- `Decode ∘ Encode` acts on the text as the two byte switches do, byte by byte -/
theorem bpeEncode_decode (pinned : Bool) (V : Vocab) (split : Str → List Str) (specials : List Special) (s : Str)
    (hwf : V.Wf) (hsplit : ∀ t, Frag.text t ∈ fragments specials s → (split t).flatten = t)
    (hcov : ∀ b ∈ s, (V.tokId [encByte pinned b]).isSome = true)
    (hsp : ∀ q, Frag.special q ∈ fragments specials s → Occurs q.lit s →
      decodeRunes (V.tokStr q.id) = decodeRunes (q.lit.map (encByte pinned))) :
    bpeDecode V (bpeEncode pinned V split specials noAdd s) = decodeRunes (s.map (encByte pinned)) := by
  refine Option.some.inj (fragments_decode (bpeDecode_hom V) (encByte_hom pinned) _ specials s fun fr hfr => ?_)
  have hocc := fragments_occurs specials s fr hfr
  cases fr with
  | text t =>
    obtain ⟨a, b, hab⟩ := hocc
    have := (bpeDecode_hom V).flatMap (encByte_hom pinned) (bpePiece pinned V) id (split t) fun piece hp =>
      congrArg some (bpePiece_decode pinned V hwf piece fun b hb =>
        hcov b (by
          rw [hab, ← hsplit t hfr]
          simp only [Frag.lit, List.mem_append, List.mem_flatten]
          exact Or.inl (Or.inr ⟨piece, hp, hb⟩)))
    rwa [List.map_id, hsplit t hfr] at this
  | special q => simp [bpeFrag, bpeDecode, Frag.lit, hsp q hfr hocc]

theorem bpePiece_ids (pinned : Bool) (V : Vocab) (piece : Str) :
    ∀ id ∈ bpePiece pinned V piece, ∃ t, V.tokId t = some id := by
  intro id hid
  unfold bpePiece at hid
  simp only at hid
  split at hid
  · rename_i i hi
    simp at hid; subst hid
    exact ⟨_, hi⟩
  · simp only [List.mem_filterMap] at hid
    obtain ⟨p, _, hp⟩ := hid
    exact ⟨_, hp⟩

theorem mem_addSpecials (c : AddCfg) (ids : List Nat) :
    ∀ id ∈ addSpecials c ids, id ∈ ids ∨ (c.addSpecial = true ∧ c.addBOS = true ∧ id = c.bos) ∨
      (c.addSpecial = true ∧ c.addEOS = true ∧ id = c.eos) := by
  intro id hid
  unfold addSpecials at hid
  split at hid
  · rename_i hc
    simp only [Bool.and_eq_true] at hc
    simp only at hid
    by_cases hb : c.addBOS = true <;> by_cases he : c.addEOS = true <;>
      simp [hb, he] at hid <;> simp [hc.1, hb, he] <;> grind
  · exact Or.inl hid


/-! ## SentencePiece -/

theorem spmDecode_append (V : Vocab) (a b : List Nat) (x y : Str)
    (ha : spmDecode V a = some x) (hb : spmDecode V b = some y) :
    spmDecode V (a ++ b) = some (x ++ y) := by
  induction a generalizing x with
  | nil => simp [spmDecode] at ha; subst ha; simpa using hb
  | cons id ids ih =>
    simp only [spmDecode, List.cons_append] at ha ⊢
    cases h1 : spmDecodeTok V id with
    | none => simp [h1] at ha
    | some u =>
      cases h2 : spmDecode V ids with
      | none => simp [h1, h2] at ha
      | some v =>
        simp only [h1, h2, Option.some.injEq] at ha
        subst ha
        simp [ih v h2, List.append_assoc]

theorem spmDecode_hom (V : Vocab) : DecHom (spmDecode V) := ⟨rfl, spmDecode_append V⟩

theorem byteTok_facts : ∀ b, b < 256 →
    utf8s ((byteTok b).map sepToSpace) = byteTok b ∧ parseByteTok (byteTok b) = some (some b) := by
  decide +kernel

theorem utf8_lt (r : Nat) (h : r < 0x110000) : ∀ b ∈ utf8 r, b < 256 := by
  intro b hb
  unfold utf8 at hb
  split at hb
  · simp at hb; omega
  · split at hb
    · simp at hb; omega
    · split at hb
      · simp at hb; omega
      · simp at hb; omega

theorem utf8s_lt (rs : Str) (h : ∀ r ∈ rs, r < 0x110000) : ∀ b ∈ utf8s rs, b < 256 := by
  intro b hb
  simp only [utf8s, List.mem_flatMap] at hb
  obtain ⟨r, hr, hbr⟩ := hb
  exact utf8_lt r (h r hr) b hbr

theorem utf8s_append (a b : Str) : utf8s (a ++ b) = utf8s a ++ utf8s b := by simp [utf8s]

def Vocab.HasByteTokens (V : Vocab) : Prop := ∀ b, b < 256 → (V.tokId (byteTok b)).isSome = true

theorem spm_fallback (V : Vocab) (hwf : V.Wf) (hbt : V.HasByteTokens) (bs : Str) (h : ∀ b ∈ bs, b < 256) :
    spmDecode V (bs.filterMap fun b => V.tokId (byteTok b)) = some bs := by
  have := (spmDecode_hom V).filterMap (g := id) ⟨rfl, fun _ _ => rfl⟩ (fun b => V.tokId (byteTok b)) (fun b => [b]) bs
    fun b hb => by
      obtain ⟨i, hi⟩ := Option.isSome_iff_exists.mp (hbt b (h b hb))
      have hf := byteTok_facts b (h b hb)
      exact ⟨i, hi, by simp [spmDecode, spmDecodeTok, (hwf _ _ hi).1, hf.1, hf.2]⟩
  rwa [← List.flatMap_def, List.flatMap_singleton'] at this

theorem map_sepToSpace_id (p : Str) (h : sepRune ∉ p) : p.map sepToSpace = p := by
  induction p with
  | nil => rfl
  | cons r p ih =>
    simp only [List.mem_cons, not_or] at h
    simp only [List.map_cons, ih h.2]
    congr 1
    simp only [sepToSpace]
    split
    · rename_i h'; exact absurd h'.symm h.1
    · rfl

theorem map_sep_roundtrip (t : Str) (h : sepRune ∉ t) : (t.map spaceToSep).map sepToSpace = t := by
  induction t with
  | nil => rfl
  | cons r t ih =>
    simp only [List.mem_cons, not_or] at h
    simp only [List.map_cons, ih h.2]
    congr 1
    simp only [spaceToSep, sepToSpace]
    split
    · rename_i h'; simp [h']
    · split
      · rename_i h'; exact absurd h'.symm h.1
      · rfl

/-- no contiguous piece of the text that IS A TOKEN of the vocabulary (after space -> U+2581) spells a
    byte-token literal `<0x??>` (6 bytes) -/
def NoByteLit (V : Vocab) (s : Str) : Prop :=
  ∀ pre m post, s = pre ++ m ++ post → (V.tokId (m.map spaceToSep)).isSome = true →
    parseByteTok (utf8s m) = none

theorem NoByteLit.of_occurs {V : Vocab} {s t : Str} (h : NoByteLit V s) (ho : Occurs t s) : NoByteLit V t := by
  obtain ⟨a, b, rfl⟩ := ho
  intro pre m post ht
  apply h (a ++ pre) m (post ++ b)
  rw [ht]; simp [List.append_assoc]

/-- the text guards of the SentencePiece round trip -/
structure SpmOk (V : Vocab) (t : Str) : Prop where
  sep : 32 ∈ t → (V.tokId [sepRune]).isSome = true
  valid : ∀ r ∈ t, r < 0x110000
  nosep : sepRune ∉ t
  nolit : NoByteLit V t

theorem SpmOk.of_occurs {V : Vocab} {s t : Str} (h : SpmOk V s) (ho : Occurs t s) : SpmOk V t := by
  obtain ⟨a, b, rfl⟩ := ho
  exact ⟨fun h' => h.sep (by simp [h']), fun r hr => h.valid r (by simp [hr]), fun h' => h.nosep (by simp [h']),
    h.nolit.of_occurs ⟨a, b, rfl⟩⟩

theorem flatten_eq_map {f : Nat → Nat} {t : Str} {l : List Str} (h : l.flatten = t.map f) :
    ∀ x ∈ l, ∃ u, Occurs u t ∧ x = u.map f := by
  intro x hx
  obtain ⟨a, b, hab⟩ := mem_flatten_split l x hx
  rw [h] at hab
  obtain ⟨ab', b', rfl, hab', _⟩ := List.map_eq_append_iff.mp hab
  obtain ⟨a', u, rfl, _, hu⟩ := List.map_eq_append_iff.mp hab'
  exact ⟨u, ⟨a', b', rfl⟩, hu.symm⟩

/-! ## SPM: the size-only staleness test of the Go code suffices -/

theorem utf8_length_pos (r : Nat) : 0 < (utf8 r).length := by
  unfold utf8
  split
  · simp
  · split
    · simp
    · split <;> simp

theorem utf8s_length_eq_zero (x : Str) (h : (utf8s x).length = 0) : x = [] := by
  cases x with
  | nil => rfl
  | cons r x =>
    have := utf8_length_pos r
    have h2 : (utf8s (r :: x)).length = (utf8 r).length + (utf8s x).length := by simp [utf8s]
    omega

theorem prefix_size_eq (l0 l r0 r : Str) (hl : l0 <+: l) (hr : r0 <+: r)
    (hs : (utf8s l).length + (utf8s r).length = (utf8s l0).length + (utf8s r0).length) :
    l = l0 ∧ r = r0 := by
  obtain ⟨x, rfl⟩ := hl
  obtain ⟨y, rfl⟩ := hr
  simp only [utf8s_append, List.length_append] at hs
  have hx := utf8s_length_eq_zero x (by omega)
  have hy := utf8s_length_eq_zero y (by omega)
  simp [hx, hy]

/-- what a queue entry remembers: it was created from two strings whose join is a token, its recorded
    size is theirs, and the parts at its two ends (if still live) extend those strings -/
def CandOk (V : Vocab) (ps : List Part) (c : Cand) : Prop :=
  ∃ l0 r0, (V.tokId (l0 ++ r0)).isSome = true ∧ c.size = (utf8s l0).length + (utf8s r0).length ∧
    (∀ p ∈ ps, p.start = c.a → l0 <+: p.runes) ∧ (∀ p ∈ ps, p.start = c.b → r0 <+: p.runes)

def TokOrSingle (V : Vocab) (u : Str) : Prop := (V.tokId u).isSome = true ∨ ∃ r, u = [r]

abbrev SpmParts (V : Vocab) (ps : List Part) : Prop := SortedP ps ∧ ∀ p ∈ ps, TokOrSingle V p.runes

theorem join_inv (V : Vocab) (ps ps' : List Part) (h : Array Cand) (c : Cand) (hi : Inv (SpmParts V) (CandOk V) ps h)
    (hc : c ∈ h) (hj : joinAt ((spmCfg V).ok c) ps c.a c.b = some ps') : Inv (SpmParts V) (CandOk V) ps' h := by
  obtain ⟨⟨hn, hp⟩, hcs⟩ := hi
  obtain ⟨pre, p, q, rest, hps, hpa, hqb, hok, hps'⟩ := joinAt_some _ _ _ _ _ hj
  have hpm : p ∈ ps := by rw [hps]; simp
  have hqm : q ∈ ps := by rw [hps]; simp
  -- the popped candidate is not stale: its two ends are exactly the strings it was created from
  obtain ⟨l0, r0, htok, hsz, hl, hr⟩ := hcs c hc
  have hsize : (utf8s p.runes).length + (utf8s q.runes).length = (utf8s l0).length + (utf8s r0).length := by
    simp only [spmCfg, beq_iff_eq] at hok
    rw [hok, hsz]
  obtain ⟨e1, e2⟩ := prefix_size_eq l0 p.runes r0 q.runes (hl p hpm hpa) (hr q hqm hqb) hsize
  have hmem' : ∀ z ∈ ps', z ∈ ps ∨ z = ({ start := c.a, runes := p.runes ++ q.runes } : Part) := by
    intro z hz
    rw [hps'] at hz
    rw [hps]
    simp only [List.mem_append, List.mem_cons] at hz ⊢
    rcases hz with hz | rfl | hz
    · exact Or.inl (Or.inl hz)
    · exact Or.inr rfl
    · exact Or.inl (Or.inr (Or.inr (Or.inr hz)))
  refine ⟨⟨joinAt_sorted _ _ _ _ _ hn hj, fun z hz => ?_⟩, fun c' hc' => ?_⟩
  · rcases hmem' z hz with hz | rfl
    · exact hp z hz
    · left; simp only; rw [e1, e2]; exact htok
  · obtain ⟨l1, r1, ht1, hs1, hl1, hr1⟩ := hcs c' hc'
    have hext : ∀ k x0, (∀ z ∈ ps, z.start = k → x0 <+: z.runes) → ∀ z ∈ ps', z.start = k → x0 <+: z.runes := by
      intro k x0 hk z hz hzs
      rcases hmem' z hz with hz | rfl
      · exact hk z hz hzs
      · exact (hk p hpm (hpa.trans hzs)).trans (List.prefix_append _ _)
    exact ⟨l1, r1, ht1, hs1, hext _ _ hl1, hext _ _ hr1⟩

theorem spmInv_loop (V : Vocab) : LoopInv (spmCfg V) (SpmParts V) (CandOk V) where
  join := join_inv V
  cand ps x y l r key size value hP _ hl hr hmk := by
    simp only [spmCfg, Option.map_eq_some_iff, Prod.mk.injEq] at hmk
    obtain ⟨id, hid, _, hsz, _⟩ := hmk
    -- the part found at a start is the only part with that start
    have huniq : ∀ a e, getPart ps a = some e → ∀ p ∈ ps, p.start = a → e.runes <+: p.runes := fun a e he p hp hpa => by
      have := getPart_of_mem ps hP.1 p hp
      rw [hpa, he] at this
      cases this
      exact List.prefix_refl _
    exact ⟨l.runes, r.runes, by simp [hid], hsz.symm, huniq x l hl, huniq y r hr⟩

/-- **SPM merge loop with the Go code's size-only staleness test: every part it leaves is a token or a
    single rune of the input.** -/
theorem spm_mergeAll_parts (V : Vocab) (rs : Str) :
    ∀ p ∈ mergeAll (spmCfg V) rs, TokOrSingle V p.runes :=
  ((spmInv_loop V).all rs ⟨initParts_sorted rs 0, fun p hp => by
    obtain ⟨r, _, hr⟩ := initParts_single rs 0 p hp
    exact Or.inr ⟨r, hr⟩⟩).2

/-- stated for the image of a piece `u` of the text, since the guards are guards on the text -/
theorem spmToken_decode (V : Vocab) (hwf : V.Wf) (hbt : V.HasByteTokens) (u : Str) (ok : SpmOk V u)
    (hP : TokOrSingle V (u.map spaceToSep)) :
    spmDecode V (spmToken V (u.map spaceToSep)) = some (utf8s u) := by
  unfold spmToken
  split
  · rename_i id hid
    have := ok.nolit [] u [] (by simp) (by simp [hid])
    simp [spmDecode, spmDecodeTok, (hwf _ _ hid).1, map_sep_roundtrip u ok.nosep, this]
  · rename_i hnone
    obtain ⟨r, hr⟩ := hP.resolve_left (by simp [hnone])
    obtain ⟨x, rfl⟩ : ∃ x, u = [x] := by
      match u, hr with
      | [x], _ => exact ⟨x, rfl⟩
    by_cases hx : x = 32
    · -- a lone space became `▁`, which is a token
      have := ok.sep (by simp [hx])
      rw [hx] at hnone
      rw [show V.tokId [sepRune] = none from hnone] at this
      cases this
    · rw [List.map_singleton, show spaceToSep x = x from if_neg hx]
      exact spm_fallback V hwf hbt _ (utf8s_lt [x] ok.valid)

theorem spmText_decode (V : Vocab) (hwf : V.Wf) (hbt : V.HasByteTokens) (t : Str) (ok : SpmOk V t) :
    spmDecode V (spmText V t) = some (utf8s t) := by
  unfold spmText
  simp only
  split
  · rename_i id hid
    have := spmToken_decode V hwf hbt t ok (Or.inl (by simp [hid]))
    simpa [spmToken, hid] using this
  · have hcat := mergeAll_concat (spmCfg V) (t.map spaceToSep)
    have G : AppendHom fun u => utf8s (u.map sepToSpace) := ⟨rfl, fun a b => by rw [List.map_append, utf8s_append]⟩
    refine ((spmDecode_hom V).flatMap G _ Part.runes _ fun p hp => ?_).trans
      (congrArg (fun u => some (utf8s u)) ((congrArg (List.map sepToSpace) hcat).trans (map_sep_roundtrip t ok.nosep)))
    -- `p.runes` is the image of a contiguous piece `u` of the text, and the guards hold of `u`
    obtain ⟨u, hu, hpu⟩ := flatten_eq_map hcat p.runes (List.mem_map_of_mem hp)
    have oku := ok.of_occurs hu
    rw [hpu, map_sep_roundtrip u oku.nosep]
    exact spmToken_decode V hwf hbt u oku (hpu ▸ spm_mergeAll_parts V _ p hp)


/-! ## no special literal is left inside a text fragment -/

theorem splitSpecial_text_occurs (sp : Special) (f : Nat) (s u : Str) (hu : Frag.text u ∈ splitSpecial sp f s) :
    Occurs u s := occurs_of_fragsLit (splitSpecial_lit sp f s) hu

theorem splitSpecial_noOcc (sp : Special) (hne : sp.lit ≠ []) (f : Nat) (s : Str) (hf : s.length < f) :
    ∀ u, Frag.text u ∈ splitSpecial sp f s → ¬ Occurs sp.lit u := by
  have hpos : 0 < sp.lit.length := List.length_pos_iff.mpr hne
  induction f generalizing s with
  | zero => omega
  | succ f ih =>
    intro u hu
    unfold splitSpecial at hu
    split at hu
    · rename_i hnone
      simp at hu; subst hu
      exact indexOf_none _ _ hnone
    · rename_i i hi
      have hlen := indexOf_add_le hi
      simp only [List.mem_append] at hu
      rcases hu with (hu | hu) | hu
      · split at hu
        · simp at hu; subst hu
          exact Basic.not_occurs_take hne fun j hj =>
            Nat.le_of_eq (Option.some.inj ((indexOf_eq s sp.lit ▸ hi).symm.trans hj))
        · simp at hu
      · simp at hu
      · split at hu
        · simp at hu
        · apply ih _ _ u hu
          simp only [List.length_drop]
          omega

def NoOcc (q : Str) (frs : List Frag) : Prop := ∀ u, Frag.text u ∈ frs → ¬ Occurs q u

theorem splitFrags_text (sp : Special) (frs : List Frag) (u : Str) (h : Frag.text u ∈ splitFrags sp frs) :
    ∃ t, Frag.text t ∈ frs ∧ Frag.text u ∈ splitSpecial sp (t.length + 1) t := by
  simp only [splitFrags, List.mem_flatMap] at h
  obtain ⟨g, hg, hu⟩ := h
  cases g with
  | text t => exact ⟨t, hg, hu⟩
  | special q => simp at hu

theorem splitFrags_noOcc_self (sp : Special) (hne : sp.lit ≠ []) (frs : List Frag) :
    NoOcc sp.lit (splitFrags sp frs) := by
  intro u hu
  obtain ⟨t, _, hut⟩ := splitFrags_text sp frs u hu
  exact splitSpecial_noOcc sp hne _ t (by omega) u hut

theorem splitFrags_noOcc_keep (sp : Special) (q : Str) (frs : List Frag) (h : NoOcc q frs) :
    NoOcc q (splitFrags sp frs) := by
  intro u hu hocc
  obtain ⟨t, ht, hut⟩ := splitFrags_text sp frs u hu
  exact h t ht (hocc.trans (splitSpecial_text_occurs sp _ t u hut))

theorem fragments_noOcc (specials : List Special) (hne : ∀ q ∈ specials, q.lit ≠ []) (s : Str) :
    ∀ q ∈ specials, NoOcc q.lit (fragments specials s) := by
  -- `NoOcc q.lit` holds only from `q`'s own pass on: induction over the list, not `fragments_induct`
  unfold fragments
  generalize ([Frag.text s] : List Frag) = frs
  induction specials generalizing frs with
  | nil => intro q hq; cases hq
  | cons sp sps ih =>
    intro q hq
    rcases List.mem_cons.mp hq with rfl | hq
    · exact List.foldlRecOn sps _ (splitFrags_noOcc_self q (hne q (by simp)) frs) fun frs h sp _ =>
        splitFrags_noOcc_keep sp _ frs h
    · exact ih (fun x hx => hne x (List.mem_cons_of_mem _ hx)) _ q hq

end OllamaVerif.Tok
