/-
  C14 — lemmas for the model in Model/Stop.lean (core Lean only).  UTF-8: after a prefix of valid text the automaton's
  state counts the bytes still missing, which `IncompleteUnicode` sees.  Occurrences, both `FindStop`s, `TruncateStop`.
  The loop body, as the record it returns (`stepPiece_cases`, for facts about chunks) and as a three-way relation on the
  streamed, pending and generated text (`stepPiece_text`, for all else).  The loop, analysed once for non-empty stops of
  arbitrary bytes (`Inv`, `PostG`, `step_mainG`, `run_mainG`; `G` for general); what holds for valid UTF-8 stops (`Post`)
  follows.  Then the ghost fields against the script; what leaves `run`'s result unchanged (channel and reader,
  batch-mates, a script in two parts, the number of calls); the shape of `TruncateStop`'s result; the client's view.
-/
import OllamaVerif.Model.Stop
import OllamaVerif.Proofs.Basic

namespace OllamaVerif.Stop
open OllamaVerif

/-! ## bytes, the UTF-8 automaton, IncompleteUnicode -/

theorem cont_of_range : ∀ b : UInt8, 0x80 ≤ b → b ≤ 0xBF → (b &&& 0xc0 == 0x80) = true := by
  apply Basic.forall_byte; decide +kernel

/-- every range list the automaton can be in: at most 3 ranges, all inside 80..BF -/
def Good (st : Ranges) : Prop := st.length ≤ 3 ∧ ∀ r ∈ st, 0x80 ≤ r.1 ∧ r.2 ≤ 0xBF

/-- per-byte facts about accepted lead bytes, in decidable form -/
def leadFacts (b : UInt8) : Bool :=
  match leadRanges b with
  | none => true
  | some st =>
    decide (st.length ≤ 3) && st.all (fun r => decide (0x80 ≤ r.1) && decide (r.2 ≤ 0xBF))
      && !(b &&& 0xc0 == 0x80) && (List.range st.length).all fun k => incompleteAux (k + 1) [b]

theorem leadFacts_all : ∀ b : UInt8, leadFacts b = true := by
  apply Basic.forall_byte; decide +kernel

theorem incompleteAux_lead {b : UInt8} (h : (b &&& 0xc0 == 0x80) = false) (i : Nat) (tl : Bytes) :
    incompleteAux i (b :: tl) = incompleteAux i [b] := by
  simp only [incompleteAux, h, Bool.false_eq_true, if_false]

/-- what `IncompleteUnicode` computes at a lead byte, for every lead the automaton accepts:
    at distance `k+1` from the end, a lead that still needs `n` more bytes is reported incomplete iff `k < n`. -/
theorem lead_incomplete (b : UInt8) (st : Ranges) (h : leadRanges b = some st) :
    Good st ∧ (!(b &&& 0xc0 == 0x80)) = true ∧
      ∀ k, k < st.length → ∀ tl, incompleteAux (k + 1) (b :: tl) = true := by
  have hf := leadFacts_all b
  simp only [leadFacts, h, Bool.and_eq_true, decide_eq_true_eq, List.all_eq_true] at hf
  obtain ⟨⟨⟨hlen, hall⟩, hnc⟩, hinc⟩ := hf
  refine ⟨⟨hlen, fun r hr => by simpa using hall r hr⟩, hnc, fun k hk tl => ?_⟩
  rw [incompleteAux_lead (by simpa using hnc)]
  exact hinc k (List.mem_range.mpr hk)

theorem utf8Run_append (st : Option Ranges) (a b : Bytes) :
    utf8Run st (a ++ b) = utf8Run (utf8Run st a) b := by
  simp [utf8Run, List.foldl_append]

@[simp] theorem utf8Run_nil (st : Option Ranges) : utf8Run st [] = st := rfl

theorem utf8Run_none (l : Bytes) : utf8Run none l = none := by
  induction l with
  | nil => rfl
  | cons b l ih => simpa [utf8Run, utf8Step] using ih

theorem utf8Run_snoc (st : Option Ranges) (a : Bytes) (b : UInt8) :
    utf8Run st (a ++ [b]) = utf8Step (utf8Run st a) b := by
  simp [utf8Run, List.foldl_append]

theorem validUtf8_iff (l : Bytes) : validUtf8 l = true ↔ utf8Run (some []) l = some [] := by
  simp [validUtf8]

@[simp] theorem validUtf8_nil : validUtf8 [] = true := by decide

theorem validUtf8_append {a b : Bytes} (ha : validUtf8 a = true) (hb : validUtf8 b = true) :
    validUtf8 (a ++ b) = true := by
  rw [validUtf8_iff] at *
  rw [utf8Run_append, ha, hb]

theorem validUtf8_flatten : ∀ (l : List Bytes), (∀ c ∈ l, validUtf8 c = true) → validUtf8 l.flatten = true := by
  intro l
  induction l with
  | nil => intro _; exact validUtf8_nil
  | cons c l ih =>
    intro h
    simp only [List.flatten_cons]
    exact validUtf8_append (h c (List.mem_cons_self ..)) (ih (fun c' hc' => h c' (List.mem_cons_of_mem _ hc')))

theorem validUtf8_append_left {a : Bytes} (ha : validUtf8 a = true) (b : Bytes) :
    validUtf8 (a ++ b) = validUtf8 b := by
  rw [validUtf8_iff] at ha
  simp [validUtf8, utf8Run_append, ha]

/-- `g` is a prefix of some valid UTF-8 string: valid except that the last character may still be incomplete
    (the limit may cut generation inside a character) -/
def ValidPrefix (g : Bytes) : Prop := ∃ r, validUtf8 (g ++ r) = true

theorem ValidPrefix.left {a b : Bytes} (h : ValidPrefix (a ++ b)) : ValidPrefix a := by
  obtain ⟨r, hr⟩ := h
  exact ⟨b ++ r, by simpa [List.append_assoc] using hr⟩

theorem ValidPrefix.right {a b : Bytes} (ha : validUtf8 a = true) (h : ValidPrefix (a ++ b)) :
    ValidPrefix b := by
  obtain ⟨r, hr⟩ := h
  exact ⟨r, by rw [List.append_assoc, validUtf8_append_left ha] at hr; exact hr⟩

theorem ValidPrefix.of_valid {a : Bytes} (h : validUtf8 a = true) : ValidPrefix a :=
  ⟨[], by simpa using h⟩

theorem ValidPrefix.run_some {a : Bytes} (h : ValidPrefix a) : ∃ st, utf8Run (some []) a = some st := by
  obtain ⟨r, hr⟩ := h
  rw [validUtf8_iff, utf8Run_append] at hr
  cases hst : utf8Run (some []) a with
  | none => rw [hst, utf8Run_none] at hr; cases hr
  | some st => exact ⟨st, rfl⟩

theorem snoc_induction {α} {P : List α → Prop} (nil : P [])
    (append_singleton : ∀ a b, P a → P (a ++ [b])) : ∀ l, P l := by
  have h : ∀ l : List α, P l.reverse := by
    intro l
    induction l with
    | nil => exact nil
    | cons b l ih => simpa using append_singleton _ b ih
  intro l
  simpa using h l.reverse

/-- reachable automaton states are `Good`, and the state counts the bytes still missing: `IncompleteUnicode` sees
    them -/
theorem run_state (a : Bytes) : ∀ st, utf8Run (some []) a = some st →
    Good st ∧ ∀ k, k < st.length → incompleteAux (k + 1) a.reverse = true := by
  induction a using snoc_induction with
  | nil => intro st h; cases h; exact ⟨⟨by simp, by simp⟩, fun k hk => by simp at hk⟩
  | append_singleton a b ih =>
    intro st h
    rw [utf8Run_snoc] at h
    cases hst' : utf8Run (some []) a with
    | none => rw [hst'] at h; cases h
    | some st' =>
      rw [hst'] at h
      obtain ⟨hg, hinc⟩ := ih st' hst'
      simp only [List.reverse_append, List.reverse_cons, List.reverse_nil, List.nil_append,
        List.singleton_append]
      cases st' with
      | nil =>
        have := lead_incomplete b st h
        exact ⟨this.1, fun k hk => this.2.2 k hk _⟩
      | cons r rest =>
        obtain ⟨lo, hi⟩ := r
        simp only [utf8Step] at h
        split at h
        · rename_i hc
          cases h
          have hr := hg.2 (lo, hi) (List.mem_cons_self ..)
          have hcont := cont_of_range b (UInt8.le_trans hr.1 hc.1) (UInt8.le_trans hc.2 hr.2)
          have hlen := hg.1
          simp only [List.length_cons] at hlen
          refine ⟨⟨by omega, fun r hr => hg.2 r (List.mem_cons_of_mem _ hr)⟩, fun k hk => ?_⟩
          have := hinc (k + 1) (by simp; omega)
          unfold incompleteAux
          have h5 : ¬ (k + 1 ≥ 5) := by omega
          simp only [h5, if_false, hcont, if_true]
          exact this
        · cases h

/-- **Key fact for the unicode hold.** On a prefix of valid UTF-8, "IncompleteUnicode is false"
    means the text is valid as it stands (no character is cut). -/
theorem valid_of_not_incomplete {a : Bytes} (hp : ValidPrefix a)
    (hi : incompleteUnicode a = false) : validUtf8 a = true := by
  obtain ⟨st, hst⟩ := hp.run_some
  rw [validUtf8_iff, hst]
  cases st with
  | nil => rfl
  | cons r rest =>
    have := (run_state a _ hst).2 0 (by simp)
    simp [incompleteUnicode] at hi
    rw [hi] at this; cases this

/- The converse (a valid text is never held back by `IncompleteUnicode`) is not needed and not claimed:
   `IncompleteUnicode` only looks at byte classes. -/

theorem lead_of_validPrefix {c : UInt8} {s : Bytes} (h : ValidPrefix (c :: s)) :
    ∃ st, leadRanges c = some st := by
  obtain ⟨st, hst⟩ := h.run_some
  have : utf8Run (some []) (c :: s) = utf8Run (leadRanges c) s := rfl
  rw [this] at hst
  cases hl : leadRanges c with
  | none => rw [hl, utf8Run_none] at hst; cases hst
  | some st' => exact ⟨st', rfl⟩

/-- **Self-synchronisation.** If a text that is a prefix of valid UTF-8 is cut right before an
    occurrence of a non-empty valid string, the part before the cut is valid. -/
theorem valid_before_valid {a s : Bytes} (hs : validUtf8 s = true) (hne : s ≠ [])
    (h : ValidPrefix (a ++ s)) : validUtf8 a = true := by
  obtain ⟨st, hst⟩ := h.left.run_some
  rw [validUtf8_iff, hst]
  cases st with
  | nil => rfl
  | cons r rest =>
    exfalso
    obtain ⟨lo, hi⟩ := r
    have hg := (run_state a _ hst).1
    cases s with
    | nil => exact hne rfl
    | cons c s' =>
      obtain ⟨stc, hc⟩ := lead_of_validPrefix (ValidPrefix.of_valid hs)
      have hnc := (lead_incomplete c stc hc).2.1
      obtain ⟨st2, hst2⟩ := h.run_some
      rw [utf8Run_append, hst] at hst2
      have : utf8Run (some ((lo, hi) :: rest)) (c :: s') = utf8Run (utf8Step (some ((lo, hi) :: rest)) c) s' := rfl
      rw [this] at hst2
      simp only [utf8Step] at hst2
      split at hst2
      · rename_i hcond
        have hr := hg.2 (lo, hi) (List.mem_cons_self ..)
        have := cont_of_range c (UInt8.le_trans hr.1 hcond.1) (UInt8.le_trans hcond.2 hr.2)
        rw [this] at hnc; cases hnc
      · rw [utf8Run_none] at hst2; cases hst2

/-! ## trimValid / flushChunk -/

theorem trimTo_valid (l : Bytes) (n : Nat) : validUtf8 (trimTo l n) = true := by
  induction n with
  | zero => simp [trimTo]
  | succ n ih =>
    unfold trimTo
    split
    · assumption
    · exact ih

theorem trimTo_take (l : Bytes) (n : Nat) : ∃ m, trimTo l n = l.take m := by
  induction n with
  | zero => exact ⟨0, by simp [trimTo]⟩
  | succ n ih =>
    unfold trimTo
    split
    · exact ⟨n + 1, rfl⟩
    · exact ih

theorem trimValid_valid (l : Bytes) : validUtf8 (trimValid l) = true := trimTo_valid l _

theorem trimValid_prefix (l : Bytes) : trimValid l <+: l := by
  obtain ⟨m, h⟩ := trimTo_take l l.length
  rw [trimValid, h]
  exact List.take_prefix m l

theorem trimTo_of_valid {l : Bytes} {n : Nat} (h : validUtf8 (l.take n) = true) : trimTo l n = l.take n := by
  cases n with
  | zero => rfl
  | succ n => rw [trimTo, if_pos h]

theorem trimValid_of_valid {l : Bytes} (h : validUtf8 l = true) : trimValid l = l := by
  rw [trimValid, trimTo_of_valid (by rwa [List.take_length]), List.take_length]

theorem trimTo_append_valid {a : Bytes} (ha : validUtf8 a = true) (b : Bytes) (n : Nat) :
    trimTo (a ++ b) (a.length + n) = a ++ trimTo b n := by
  induction n with
  | zero =>
    rw [trimTo_of_valid (by rwa [List.take_length_add_append, List.take_zero, List.append_nil]),
      List.take_length_add_append]
    rfl
  | succ n ih =>
    rw [← Nat.add_assoc]
    unfold trimTo
    rw [Nat.add_assoc, List.take_length_add_append, validUtf8_append_left ha]
    split
    · rfl
    · exact ih

theorem trimValid_append_valid {a : Bytes} (ha : validUtf8 a = true) (b : Bytes) :
    trimValid (a ++ b) = a ++ trimValid b := by
  unfold trimValid
  rw [List.length_append, trimTo_append_valid ha]

theorem flush_out (st : St) : st.flush.out.flatten = st.out.flatten ++ trimValid st.pending.flatten := by
  unfold St.flush flushChunk
  cases he : trimValid st.pending.flatten with
  | nil => simp
  | cons c t => simp

theorem flush_out_chunks (st : St) :
    st.flush.out = st.out ∨ ∃ c, st.flush.out = st.out ++ [c] ∧ validUtf8 c = true ∧ c ≠ [] := by
  unfold St.flush flushChunk
  cases he : trimValid st.pending.flatten with
  | nil => left; simp
  | cons c t => right; exact ⟨c :: t, by simp, he ▸ trimValid_valid _, nofun⟩

@[simp] theorem flush_pending (st : St) : st.flush.pending = [] := by
  unfold St.flush; split <;> rfl
@[simp] theorem flush_gen (st : St) : st.flush.gen = st.gen := by
  unfold St.flush; split <;> rfl
@[simp] theorem flush_genText (st : St) : st.flush.genText = st.genText :=
  congrArg List.flatten (flush_gen st)
@[simp] theorem flush_np (st : St) : st.flush.numPredicted = st.numPredicted := by
  unfold St.flush; split <;> rfl
@[simp] theorem flush_done (st : St) : st.flush.done = st.done := by
  unfold St.flush; split <;> rfl
@[simp] theorem flush_cause (st : St) : st.flush.cause = st.cause := by
  unfold St.flush; split <;> rfl

/-! ## occurrences -/

def Occurs (sub s : Bytes) : Prop := ∃ a b, s = a ++ sub ++ b

/-- the model's `indexOf` is the shared one at bytes; what it returns is specified in Proofs/Basic.lean -/
theorem indexOf_eq (sub s : Bytes) : indexOf sub s = Basic.indexOf sub s := by
  induction s with
  | nil => rfl
  | cons c t ih => simp only [indexOf, Basic.indexOf, ih]; rfl

theorem indexOf_spec (sub : Bytes) (s : Bytes) (i : Nat) : indexOf sub s = some i →
    (∃ a b, s = a ++ sub ++ b ∧ a.length = i) ∧ ∀ a' b', s = a' ++ sub ++ b' → i ≤ a'.length :=
  indexOf_eq sub s ▸ (Basic.indexOf_cases sub s).1 i

theorem occurs_of_indexOf {sub s : Bytes} {i : Nat} (h : indexOf sub s = some i) : Occurs sub s := by
  obtain ⟨⟨a, b, hab, _⟩, _⟩ := indexOf_spec sub s i h
  exact ⟨a, b, hab⟩

theorem indexOf_add_le {sub s : Bytes} {i : Nat} (h : indexOf sub s = some i) : i + sub.length ≤ s.length :=
  Basic.indexOf_add_le (indexOf_eq sub s ▸ h)

theorem indexOf_eq_none_iff {sub s : Bytes} : indexOf sub s = none ↔ ¬ Occurs sub s :=
  indexOf_eq sub s ▸ Basic.indexOf_eq_none_iff

theorem Occurs.indexOf {sub s : Bytes} (h : Occurs sub s) : ∃ i, indexOf sub s = some i :=
  Option.ne_none_iff_exists'.mp fun hn => indexOf_eq_none_iff.mp hn h

theorem contains_iff (s sub : Bytes) : contains s sub = true ↔ Occurs sub s := by
  rw [contains, Option.isSome_iff_ne_none, Ne, indexOf_eq_none_iff, Classical.not_not]

theorem Occurs.append_right {sub s : Bytes} (x : Bytes) (h : Occurs sub s) : Occurs sub (s ++ x) := by
  obtain ⟨a, b, hab⟩ := h
  exact ⟨a, b ++ x, by simp [hab]⟩

theorem not_occurs_take {t g : Bytes} {idx : Nat} (hne : t ≠ [])
    (hmin : ∀ j, indexOf t g = some j → idx ≤ j) : ¬ Occurs t (g.take idx) :=
  Basic.not_occurs_take hne (indexOf_eq t g ▸ hmin)

theorem valid_take_indexOf {s g : Bytes} {idx : Nat} (hs : validUtf8 s = true) (hne : s ≠ [])
    (hvp : ValidPrefix g) (h : indexOf s g = some idx) : validUtf8 (g.take idx) = true := by
  obtain ⟨⟨a, b, hab, rfl⟩, _⟩ := indexOf_spec s g idx h
  subst hab
  rw [List.append_assoc, List.take_left]
  exact valid_before_valid hs hne hvp.left

theorem findStop_none {seq : Bytes} {stops : List Bytes} (h : findStop seq stops = none) :
    ∀ t ∈ stops, ¬ Occurs t seq := by
  intro t ht ho
  have := List.find?_eq_none.mp h t ht
  exact this ((contains_iff seq t).mpr ho)

theorem findStop_some {seq s : Bytes} {stops : List Bytes} (h : findStop seq stops = some s) :
    s ∈ stops ∧ Occurs s seq :=
  ⟨List.mem_of_find?_eq_some h, (contains_iff seq s).mp (List.find?_some h)⟩

theorem findStop_congr {seq seq' : Bytes} {stops : List Bytes}
    (h : ∀ t ∈ stops, contains seq t = contains seq' t) : findStop seq stops = findStop seq' stops := by
  unfold findStop
  induction stops with
  | nil => rfl
  | cons t ts ih =>
    simp only [List.find?, h t (List.mem_cons_self ..)]
    split
    · rfl
    · exact ih fun t' ht' => h t' (List.mem_cons_of_mem _ ht')

/-- `best` is a stop of `L` whose first occurrence in `seq` is the earliest of all of `L`; `none`: no stop of `L`
    occurs.  The scan of the repaired `FindStop` keeps this up, one stop at a time. -/
def Earliest (seq : Bytes) (L : List Bytes) (best : Option (Nat × Bytes)) : Prop :=
  (best = none → ∀ t ∈ L, indexOf t seq = none) ∧
  ∀ i s, best = some (i, s) → (s ∈ L ∧ indexOf s seq = some i) ∧ ∀ t ∈ L, ∀ j, indexOf t seq = some j → i ≤ j

theorem Earliest.step {seq : Bytes} {L : List Bytes} {best : Option (Nat × Bytes)} (h : Earliest seq L best)
    (t : Bytes) : Earliest seq (t :: L) (earliestAux seq [t] best) := by
  simp only [earliestAux]
  cases hi : indexOf t seq with
  | none =>
    refine ⟨fun hb => List.forall_mem_cons.mpr ⟨hi, h.1 hb⟩, fun i s hb => ?_⟩
    obtain ⟨⟨hm, hx⟩, hmin⟩ := h.2 i s hb
    exact ⟨⟨List.mem_cons_of_mem _ hm, hx⟩, List.forall_mem_cons.mpr ⟨fun j hj => (nomatch hi.symm.trans hj), hmin⟩⟩
  | some k =>
    have ht : ∀ j, indexOf t seq = some j → k ≤ j := fun j hj => by rw [hi] at hj; cases hj; exact Nat.le_refl _
    cases best with
    | none =>
      refine ⟨nofun, fun i s hb => ?_⟩
      cases hb
      exact ⟨⟨List.mem_cons_self .., hi⟩, List.forall_mem_cons.mpr
        ⟨ht, fun t' ht' j hj => by rw [h.1 rfl t' ht'] at hj; cases hj⟩⟩
    | some b =>
      obtain ⟨j', s'⟩ := b
      obtain ⟨⟨hm, hx⟩, hmin⟩ := h.2 j' s' rfl
      simp only
      split
      · rename_i hlt
        refine ⟨nofun, fun i s hb => ?_⟩
        cases hb
        exact ⟨⟨List.mem_cons_self .., hi⟩, List.forall_mem_cons.mpr
          ⟨ht, fun t' ht' j hj => Nat.le_trans (Nat.le_of_lt hlt) (hmin t' ht' j hj)⟩⟩
      · rename_i hge
        refine ⟨nofun, fun i s hb => ?_⟩
        cases hb
        exact ⟨⟨List.mem_cons_of_mem _ hm, hx⟩, List.forall_mem_cons.mpr
          ⟨fun j hj => Nat.le_trans (Nat.le_of_not_lt hge) (ht j hj), hmin⟩⟩

theorem earliestAux_earliest (seq : Bytes) (stops : List Bytes) : Earliest seq stops (earliestAux seq stops none) := by
  have key : ∀ (stops L : List Bytes) (best : Option (Nat × Bytes)), Earliest seq L best →
      Earliest seq (stops.reverse ++ L) (earliestAux seq stops best) := by
    intro stops
    induction stops with
    | nil => intro L best h; exact h
    | cons t ts ih =>
      intro L best h
      rw [List.reverse_cons, List.append_assoc]
      exact ih (t :: L) _ (h.step t)
  have := key stops [] none ⟨fun _ => nofun, nofun⟩
  simpa [Earliest] using this

theorem findStopV_none {pinned : Bool} {seq : Bytes} {stops : List Bytes}
    (h : findStopV pinned seq stops = none) : ∀ t ∈ stops, ¬ Occurs t seq := by
  unfold findStopV at h
  split at h
  · exact findStop_none h
  · unfold findStopEarliest at h
    cases he : earliestAux seq stops none with
    | some b => rw [he] at h; cases h
    | none =>
      intro t ht
      exact indexOf_eq_none_iff.mp ((he ▸ earliestAux_earliest seq stops).1 rfl t ht)

/-- the repaired `FindStop` returns a listed stop whose first occurrence is the earliest of all -/
theorem findStopEarliest_spec {seq s : Bytes} {stops : List Bytes} (h : findStopEarliest seq stops = some s) :
    s ∈ stops ∧ ∃ i, indexOf s seq = some i ∧ ∀ t ∈ stops, ∀ j, indexOf t seq = some j → i ≤ j := by
  unfold findStopEarliest at h
  cases he : earliestAux seq stops none with
  | none => rw [he] at h; cases h
  | some b =>
    rw [he] at h
    cases h
    obtain ⟨⟨hm, hi⟩, hmin⟩ := (he ▸ earliestAux_earliest seq stops).2 b.1 b.2 rfl
    exact ⟨hm, b.1, hi, hmin⟩

theorem findStopV_some {pinned : Bool} {seq s : Bytes} {stops : List Bytes}
    (h : findStopV pinned seq stops = some s) : s ∈ stops ∧ ∃ idx, indexOf s seq = some idx := by
  unfold findStopV at h
  split at h
  · exact ⟨(findStop_some h).1, (findStop_some h).2.indexOf⟩
  · obtain ⟨hm, i, hi, _⟩ := findStopEarliest_spec h
    exact ⟨hm, i, hi⟩

theorem stopSuffix_false {seq : Bytes} {stops : List Bytes} (h : containsStopSuffix seq stops = false) :
    ∀ t ∈ stops, ∀ i, 1 ≤ i → i ≤ t.length → ¬ (t.take i <:+ seq) := by
  intro t ht i h1 hi hs
  unfold containsStopSuffix at h
  have h2 := List.any_eq_false.mp h t ht
  apply h2
  apply List.any_eq_true.mpr
  refine ⟨i - 1, List.mem_range.mpr (by omega), ?_⟩
  have : i - 1 + 1 = i := by omega
  rw [this]
  exact List.isSuffixOf_iff_suffix.mpr hs

theorem suffix_of_append_short {x o p : Bytes} (h : x <:+ o ++ p) (hl : x.length ≤ p.length) : x <:+ p :=
  List.suffix_of_suffix_length_le h (List.suffix_append _ _) hl

/-- the invariant about partially matched stops: a non-empty prefix of a stop at the very end of
    the generated text lies entirely in the pending (unsent) part -/
def Held (stops : List Bytes) (g : Bytes) (pendLen : Nat) : Prop :=
  ∀ t ∈ stops, ∀ i, 1 ≤ i → i ≤ t.length → t.take i <:+ g → i ≤ pendLen

theorem Held.append {stops : List Bytes} {g : Bytes} {n : Nat} (h : Held stops g n) (p : Bytes) :
    Held stops (g ++ p) (n + p.length) := by
  intro t ht i h1 hi hs
  obtain ⟨w, hw⟩ := hs
  have hlen : (t.take i).length = i := by rw [List.length_take]; omega
  rcases List.append_eq_append_iff.mp hw with ⟨as, hg, h2⟩ | ⟨bs, _, h2⟩
  · -- `g = w ++ as` and `t.take i = as ++ p`: `as` is a prefix of `t` at the end of `g`
    have hl := congrArg List.length h2
    rw [hlen, List.length_append] at hl
    by_cases has : as.length = 0
    · omega
    · have hpre : as = t.take as.length :=
        List.prefix_iff_eq_take.mp ((h2 ▸ List.prefix_append as p : as <+: t.take i).trans (List.take_prefix i t))
      have := h t ht as.length (by omega) (by omega) (by rw [← hpre]; exact ⟨w, hg.symm⟩)
      omega
  · -- `p = bs ++ t.take i`
    have hl := congrArg List.length h2
    rw [List.length_append, hlen] at hl
    omega

theorem indexOf_append_of_late {t o : Bytes} (x : Bytes)
    (h : ∀ a b, o ++ x = a ++ t ++ b → o.length ≤ a.length) :
    indexOf t (o ++ x) = (indexOf t x).map (o.length + ·) := by
  induction o with
  | nil => cases hx : indexOf t x <;> simp [hx]
  | cons c o ih =>
    have hp : ¬ t.isPrefixOf (c :: (o ++ x)) = true := fun hp => by
      obtain ⟨b, hb⟩ := List.isPrefixOf_iff_prefix.mp hp
      exact absurd (h [] b hb.symm) (by simp)
    rw [List.cons_append, indexOf, if_neg hp, ih fun a b hab => by simpa using h (c :: a) b (by simp [hab])]
    cases indexOf t x <;> simp; omega

/-- the occurrence lemma: under the two invariants, an occurrence of a stop in `o ++ pend ++ p` does not start inside
    the streamed part `o` -/
theorem occurrence_in_pending {stops : List Bytes} {o pend p t a b : Bytes} (ht : t ∈ stops)
    (hno : ¬ Occurs t (o ++ pend)) (hheld : Held stops (o ++ pend) pend.length)
    (h : o ++ (pend ++ p) = a ++ t ++ b) : o.length ≤ a.length := by
  rw [← List.append_assoc, List.append_assoc a t b] at h
  rcases List.append_eq_append_iff.mp h with ⟨as, h1, h2⟩ | ⟨bs, h1, h2⟩
  · -- a = (o ++ pend) ++ as
    rw [h1]; simp
  · -- o ++ pend = a ++ bs ∧ t ++ b = bs ++ p
    rcases List.append_eq_append_iff.mp h2 with ⟨cs, h3, h4⟩ | ⟨ds, h3, h4⟩
    · -- bs = t ++ cs : occurrence inside o ++ pend
      exfalso; apply hno
      exact ⟨a, cs, by rw [h1, h3, List.append_assoc]⟩
    · -- t = bs ++ ds ∧ p = ds ++ b
      have hl := congrArg List.length h1
      simp only [List.length_append] at hl
      by_cases hbs : bs.length ≤ pend.length
      · omega
      · have hpre : bs = t.take bs.length := by rw [h3]; simp
        have hlt : bs.length ≤ t.length := by rw [h3]; simp
        have := hheld t ht bs.length (by omega) hlt (by rw [← hpre]; exact ⟨a, h1.symm⟩)
        omega

theorem indexOf_in_pending {stops : List Bytes} {o pend p t : Bytes} (ht : t ∈ stops)
    (hno : ¬ Occurs t (o ++ pend)) (hheld : Held stops (o ++ pend) pend.length) :
    indexOf t (o ++ pend ++ p) = (indexOf t (pend ++ p)).map (o.length + ·) :=
  List.append_assoc o pend p ▸ indexOf_append_of_late _ fun _ _ => occurrence_in_pending ht hno hheld

/-! ## TruncateStop -/

theorem splitBack_flatten : ∀ (lens : List Nat) (rem : Bytes), rem.length ≤ lens.sum →
    (splitBack lens rem).1.flatten = rem := by
  intro lens
  induction lens with
  | nil =>
    intro rem h
    have : rem = [] := List.eq_nil_of_length_eq_zero (by simpa using h)
    simp [splitBack, this]
  | cons len ls ih =>
    intro rem h
    unfold splitBack
    split
    · rename_i he; simp [List.isEmpty_iff.mp he]
    · split
      · simp
      · rename_i hlen
        simp only [List.flatten_cons]
        rw [ih (rem.drop len) (by simp at h ⊢; omega)]
        exact List.take_append_drop len rem

theorem truncateStop_some {pieces : List Bytes} {stop : Bytes} {idx : Nat}
    (h : indexOf stop pieces.flatten = some idx) :
    truncateStop pieces stop = splitBack (pieces.map List.length) (pieces.flatten.take idx) := by
  unfold truncateStop
  simp only [h]

theorem truncateStop_none {pieces : List Bytes} {stop : Bytes} (h : indexOf stop pieces.flatten = none) :
    truncateStop pieces stop = (pieces, false) := by
  unfold truncateStop
  simp only [h]

theorem truncateStop_flatten {pieces : List Bytes} {stop : Bytes} {idx : Nat}
    (h : indexOf stop pieces.flatten = some idx) :
    (truncateStop pieces stop).1.flatten = pieces.flatten.take idx := by
  rw [truncateStop_some h]
  apply splitBack_flatten
  rw [List.length_take, List.length_flatten]
  exact Nat.min_le_right _ _

/-! ## the loop -/

@[simp] theorem finish_out (st : St) (r : Reason) (c : Cause) : (st.finish r c).out = st.flush.out := rfl
@[simp] theorem finish_done (st : St) (r : Reason) (c : Cause) : (st.finish r c).done = some r := rfl
@[simp] theorem finish_cause (st : St) (r : Reason) (c : Cause) : (st.finish r c).cause = some c := rfl
@[simp] theorem finish_gen (st : St) (r : Reason) (c : Cause) : (st.finish r c).gen = st.gen := by
  simp [St.finish]
@[simp] theorem finish_genText (st : St) (r : Reason) (c : Cause) : (st.finish r c).genText = st.genText :=
  congrArg List.flatten (finish_gen st r c)
@[simp] theorem finish_outText (st : St) (r : Reason) (c : Cause) : (st.finish r c).outText = st.flush.outText :=
  rfl
@[simp] theorem finish_pending (st : St) (r : Reason) (c : Cause) : (st.finish r c).pending = [] := by
  simp [St.finish]
@[simp] theorem finish_np (st : St) (r : Reason) (c : Cause) :
    (st.finish r c).numPredicted = st.numPredicted := by
  simp [St.finish]

/-- the state after `numPredicted++` and the append of the piece -/
def St.push (st : St) (p : Bytes) : St :=
  { st with numPredicted := st.numPredicted + 1, pending := st.pending ++ [p], gen := st.gen ++ [p] }

theorem stepPiece_cases (pinned : Bool) (stops : List Bytes) (st : St) (p : Bytes) :
    let st1 := st.push p
    let seq := st1.pending.flatten
    (∃ s, findStopV pinned seq stops = some s ∧
        stepPiece pinned stops st p =
          ({ st1 with pending := (truncateStop st1.pending s).1 }).finish .stop (.stopString s)) ∨
    (findStopV pinned seq stops = none ∧ (containsStopSuffix seq stops = true ∨ incompleteUnicode seq = true) ∧
        stepPiece pinned stops st p = st1) ∨
    (findStopV pinned seq stops = none ∧ containsStopSuffix seq stops = false ∧ incompleteUnicode seq = false ∧
        stepPiece pinned stops st p = st1.flush) := by
  intro st1 seq
  unfold stepPiece
  simp only
  cases hf : findStopV pinned (st.pending ++ [p]).flatten stops with
  | some s => left; exact ⟨s, hf, rfl⟩
  | none =>
    right
    cases hs : containsStopSuffix (st.pending ++ [p]).flatten stops with
    | true => left; exact ⟨hf, Or.inl hs, rfl⟩
    | false =>
      cases hi : incompleteUnicode (st.pending ++ [p]).flatten with
      | true => left; exact ⟨hf, Or.inr hi, rfl⟩
      | false => right; exact ⟨hf, hs, hi, rfl⟩

theorem stepPiece_text (pinned : Bool) (stops : List Bytes) (st : St) (p : Bytes) :
    let x := stepPiece pinned stops st p
    let q := st.pending.flatten ++ p
    x.gen = st.gen ++ [p] ∧ x.numPredicted = st.numPredicted + 1 ∧
    ((∃ s idx, findStopV pinned q stops = some s ∧ indexOf s q = some idx ∧
        x.outText = st.outText ++ trimValid (q.take idx) ∧ x.pending = [] ∧
        x.done = some .stop ∧ x.cause = some (.stopString s)) ∨
     (findStopV pinned q stops = none ∧ (containsStopSuffix q stops = true ∨ incompleteUnicode q = true) ∧
        x.outText = st.outText ∧ x.pending = st.pending ++ [p] ∧ x.done = st.done ∧ x.cause = st.cause) ∨
     (findStopV pinned q stops = none ∧ containsStopSuffix q stops = false ∧ incompleteUnicode q = false ∧
        x.outText = st.outText ++ trimValid q ∧ x.pending = [] ∧ x.done = st.done ∧ x.cause = st.cause)) := by
  intro x q
  have hq : (st.push p).pending.flatten = q := by
    show (st.pending ++ [p]).flatten = _
    rw [List.flatten_append, List.flatten_singleton]
  have hc := stepPiece_cases pinned stops st p
  simp only [hq] at hc
  rcases hc with ⟨s, hs, e⟩ | ⟨hn, hg, e⟩ | ⟨hn, h1, h2, e⟩ <;> rw [show x = _ from e]
  · obtain ⟨idx, hidx⟩ := (findStopV_some hs).2
    refine ⟨by rw [finish_gen]; rfl, by rw [finish_np]; rfl,
      Or.inl ⟨s, idx, hs, hidx, ?_, finish_pending .., rfl, rfl⟩⟩
    rw [finish_outText, St.outText, flush_out]
    show st.out.flatten ++ trimValid (truncateStop (st.push p).pending s).1.flatten = _
    rw [truncateStop_flatten (hq.symm ▸ hidx), hq]; rfl
  · exact ⟨rfl, rfl, Or.inr (Or.inl ⟨hn, hg, rfl, rfl, rfl, rfl⟩)⟩
  · refine ⟨by rw [flush_gen]; rfl, by rw [flush_np]; rfl,
      Or.inr (Or.inr ⟨hn, h1, h2, ?_, flush_pending _, flush_done _, flush_cause _⟩)⟩
    rw [St.outText, flush_out, hq]; rfl

theorem stepPiece_genText (pinned : Bool) (stops : List Bytes) (st : St) (p : Bytes) :
    (stepPiece pinned stops st p).genText = st.genText ++ p := by
  rw [St.genText, (stepPiece_text pinned stops st p).1, List.flatten_append, List.flatten_singleton]
  rfl

theorem run_limit {pinned : Bool} {limit : Int} {stops : List Bytes} {st : St}
    (h : limit > 0 ∧ (st.numPredicted : Int) ≥ limit) (evs : List Ev) :
    run pinned limit stops st evs = st.finish .length .limit := by
  cases evs <;> simp only [run, h, and_self, if_true]

theorem run_nil {pinned : Bool} {limit : Int} {stops : List Bytes} {st : St}
    (h : ¬ (limit > 0 ∧ (st.numPredicted : Int) ≥ limit)) : run pinned limit stops st [] = st := by
  rw [run, if_neg h]

theorem run_eos {pinned : Bool} {limit : Int} {stops : List Bytes} {st : St}
    (h : ¬ (limit > 0 ∧ (st.numPredicted : Int) ≥ limit)) (rest : List Ev) :
    run pinned limit stops st (.eos :: rest) =
      ({ st with numPredicted := st.numPredicted + 1 }).finish .stop .eos := by
  rw [run, if_neg h]

theorem run_piece {pinned : Bool} {limit : Int} {stops : List Bytes} {st : St}
    (h : ¬ (limit > 0 ∧ (st.numPredicted : Int) ≥ limit)) (p : Bytes) (rest : List Ev) :
    run pinned limit stops st (.piece p :: rest) =
      if (stepPiece pinned stops st p).done.isSome then stepPiece pinned stops st p
      else run pinned limit stops (stepPiece pinned stops st p) rest := by
  simp only [run, h, if_false]

/-- induction over the loop: `I` holds between iterations, `Q` of every way to leave it -/
theorem run_ind {pinned : Bool} {limit : Int} {stops : List Bytes} {I Q : St → Prop}
    (hrun : ∀ st, I st → ¬ (limit > 0 ∧ (st.numPredicted : Int) ≥ limit) → Q st)
    (hlim : ∀ st, I st → (limit > 0 ∧ (st.numPredicted : Int) ≥ limit) →
      Q (st.finish .length .limit))
    (heos : ∀ st, I st → ¬ (limit > 0 ∧ (st.numPredicted : Int) ≥ limit) →
      Q (({ st with numPredicted := st.numPredicted + 1 }).finish .stop .eos))
    (hstop : ∀ st p, I st → ¬ (limit > 0 ∧ (st.numPredicted : Int) ≥ limit) →
      (stepPiece pinned stops st p).done.isSome = true → Q (stepPiece pinned stops st p))
    (hcont : ∀ st p, I st → ¬ (limit > 0 ∧ (st.numPredicted : Int) ≥ limit) →
      (stepPiece pinned stops st p).done.isSome = false → I (stepPiece pinned stops st p)) :
    ∀ evs st, I st → Q (run pinned limit stops st evs) := by
  intro evs st
  fun_induction run pinned limit stops st evs with
  | case1 st h | case3 st _ _ h => exact fun hi => hlim st hi h
  | case2 st h => exact fun hi => hrun st hi h
  | case4 st _ h => exact fun hi => heos st hi h
  | case5 st _ h p st' hd => exact fun hi => hstop st p hi h hd
  | case6 st _ h p st' hd ih => exact fun hi => ih (hcont st p hi h (by simpa using hd))

/-- for facts with no hypothesis on the text: a relation on (chunks sent, pending pieces, pieces sampled) that the append of
    a piece, `TruncateStop` and `flushPending` keep holds after every run -/
theorem run_preserves {Q : List Bytes → List Bytes → List Bytes → Prop}
    (hpush : ∀ o q g p, Q o q g → Q o (q ++ [p]) (g ++ [p]))
    (hcut : ∀ o q g s idx, indexOf s q.flatten = some idx → Q o q g → Q o (truncateStop q s).1 g)
    (hflush : ∀ st : St, Q st.out st.pending st.gen → Q st.flush.out [] st.gen)
    (pinned : Bool) (limit : Int) (stops : List Bytes) (evs : List Ev) (st : St) (h : Q st.out st.pending st.gen) :
    let f := run pinned limit stops st evs
    Q f.out f.pending f.gen := by
  let P : St → Prop := fun s => Q s.out s.pending s.gen
  have hfin : ∀ (st : St) r c, P st → P (st.finish r c) := by
    intro st r c h
    show Q (st.finish r c).out (st.finish r c).pending (st.finish r c).gen
    rw [finish_out, finish_pending, finish_gen]
    exact hflush st h
  have hstep : ∀ (st : St) p, P st → P (stepPiece pinned stops st p) := by
    intro st p h
    have hp := hpush _ _ _ p h
    rcases stepPiece_cases pinned stops st p with ⟨s, hs, e⟩ | ⟨_, _, e⟩ | ⟨_, _, _, e⟩
    · obtain ⟨idx, hidx⟩ := (findStopV_some hs).2
      rw [e]
      exact hfin { st.push p with pending := _ } _ _ (hcut _ _ _ s idx hidx hp)
    · rw [e]; exact hp
    · rw [e]
      show Q (st.push p).flush.out (st.push p).flush.pending (st.push p).flush.gen
      rw [flush_pending, flush_gen]
      exact hflush (st.push p) hp
  exact run_ind (I := P) (Q := P) (fun _ h _ => h) (fun s h _ => hfin s _ _ h)
    (fun s h _ => hfin { s with numPredicted := s.numPredicted + 1 } _ _ h)
    (fun s p h _ _ => hstep s p h) (fun s p h _ _ => hstep s p h) evs st h

/-! ## the main invariant (generated text a prefix of valid UTF-8, non-empty stops) -/

/-- the stops the stop clauses speak about: non-empty and valid UTF-8 (they reach the runner
    through JSON) -/
def StopsOk (stops : List Bytes) : Prop := ∀ t ∈ stops, t ≠ [] ∧ validUtf8 t = true

def StopsNe (stops : List Bytes) : Prop := ∀ t ∈ stops, t ≠ []

theorem StopsOk.ne {stops : List Bytes} (h : StopsOk stops) : StopsNe stops := fun t ht => (h t ht).1

/-- holds between iterations while the sequence is running -/
structure Inv (stops : List Bytes) (st : St) : Prop where
  done : st.done = none
  cause : st.cause = none
  split : st.genText = st.outText ++ st.pending.flatten
  outValid : validUtf8 st.outText = true
  noOcc : ∀ t ∈ stops, ¬ Occurs t st.genText
  held : Held stops st.genText st.pending.flatten.length

def Post (pinned : Bool) (stops : List Bytes) (f : St) : Prop :=
  match f.cause with
  | none => Inv stops f
  | some (.stopString s) =>
      f.done = some .stop ∧ s ∈ stops ∧ (pinned = true → findStop f.genText stops = some s) ∧
      (∃ idx, indexOf s f.genText = some idx ∧ f.outText = f.genText.take idx ∧
        (pinned = false → ∀ t ∈ stops, ∀ j, indexOf t f.genText = some j → idx ≤ j)) ∧
      (∀ t ∈ stops, ¬ Occurs t f.gen.dropLast.flatten) ∧ f.pending = []
  | some .eos =>
      f.done = some .stop ∧ f.outText = trimValid f.genText ∧ (∀ t ∈ stops, ¬ Occurs t f.genText) ∧
      f.pending = []
  | some .limit =>
      f.done = some .length ∧ f.outText = trimValid f.genText ∧ (∀ t ∈ stops, ¬ Occurs t f.genText) ∧
      f.pending = []

/-- `Post` for stops of arbitrary bytes: a stop may begin inside a character, so the final flush trims and the streamed
    text is `trimValid` of the text before the stop's first occurrence; for a valid stop nothing is trimmed
    (`PostG.post`). -/
def PostG (pinned : Bool) (stops : List Bytes) (f : St) : Prop :=
  match f.cause with
  | none => Inv stops f
  | some (.stopString s) =>
      f.done = some .stop ∧ s ∈ stops ∧ (pinned = true → findStop f.genText stops = some s) ∧
      (∃ idx, indexOf s f.genText = some idx ∧ f.outText = trimValid (f.genText.take idx) ∧
        (pinned = false → ∀ t ∈ stops, ∀ j, indexOf t f.genText = some j → idx ≤ j)) ∧
      (∀ t ∈ stops, ¬ Occurs t f.gen.dropLast.flatten) ∧ f.pending = []
  | some .eos =>
      f.done = some .stop ∧ f.outText = trimValid f.genText ∧ (∀ t ∈ stops, ¬ Occurs t f.genText) ∧
      f.pending = []
  | some .limit =>
      f.done = some .length ∧ f.outText = trimValid f.genText ∧ (∀ t ∈ stops, ¬ Occurs t f.genText) ∧
      f.pending = []

theorem inv_initG (stops : List Bytes) (h : StopsNe stops) : Inv stops init := by
  refine ⟨rfl, rfl, rfl, validUtf8_nil, ?_, ?_⟩
  · intro t ht ⟨a, b, hab⟩
    have : t = [] := by
      have := congrArg List.length hab
      simp [init, St.genText] at this
      exact List.eq_nil_of_length_eq_zero (by omega)
    exact h t ht this
  · intro t ht i h1 hi hs
    have := hs.length_le
    rw [List.length_take] at this
    have h0 : init.genText.length = 0 := rfl
    omega

theorem inv_init (stops : List Bytes) (h : StopsOk stops) : Inv stops init :=
  inv_initG stops h.ne

/-- the part of the invariant that needs nothing of the stops -/
theorem step_split (pinned : Bool) (stops : List Bytes) {st : St} (p : Bytes)
    (hsplit : st.genText = st.outText ++ st.pending.flatten) (hov : validUtf8 st.outText = true)
    (hvp : ValidPrefix (st.genText ++ p)) :
    let st' := stepPiece pinned stops st p
    (st'.outText <+: st'.genText ∧ validUtf8 st'.outText = true) ∧
    (st'.done.isSome = false → st'.genText = st'.outText ++ st'.pending.flatten) := by
  intro st'
  obtain ⟨-, -, hcases⟩ := stepPiece_text pinned stops st p
  have hg : st'.genText = st.outText ++ (st.pending.flatten ++ p) := by
    rw [stepPiece_genText, hsplit, List.append_assoc]
  have hpre : ∀ y : Bytes, y <+: st.pending.flatten ++ p →
      st.outText ++ trimValid y <+: st'.genText ∧ validUtf8 (st.outText ++ trimValid y) = true := fun y hy =>
    ⟨hg ▸ (List.prefix_append_right_inj _).mpr ((trimValid_prefix y).trans hy),
      validUtf8_append hov (trimValid_valid y)⟩
  rcases hcases with ⟨s, idx, _, _, hout, _, hdone, _⟩ | ⟨_, _, hout, hpend, _, _⟩ | ⟨_, _, hinc, hout, hpend, _, _⟩
  · rw [hout, hdone]
    exact ⟨hpre _ (List.take_prefix _ _), nofun⟩
  · rw [hout, hpend, List.flatten_append, List.flatten_singleton]
    exact ⟨⟨hg ▸ List.prefix_append _ _, hov⟩, fun _ => hg⟩
  · rw [hout, hpend]
    refine ⟨hpre _ (List.prefix_refl _), fun _ => ?_⟩
    rw [hsplit, List.append_assoc] at hvp
    rw [trimValid_of_valid (valid_of_not_incomplete (hvp.right hov) hinc), List.flatten_nil, List.append_nil]
    exact hg

/-- on a state that has lost nothing and whose streamed text is valid, `removeSequence` streams the valid part of the
    rest -/
theorem finish_trim {st : St} (hs : st.genText = st.outText ++ st.pending.flatten)
    (hv : validUtf8 st.outText = true) (r : Reason) (c : Cause) :
    (st.finish r c).outText = trimValid (st.finish r c).genText := by
  rw [finish_genText, finish_outText, St.outText, flush_out, hs, trimValid_append_valid hv]
  rfl

theorem step_mainG (pinned : Bool) {stops : List Bytes} (_hne : StopsNe stops) {st : St} (p : Bytes)
    (hi : Inv stops st) (hvp : ValidPrefix (st.genText ++ p)) :
    let st' := stepPiece pinned stops st p
    (st'.done.isSome = true → PostG pinned stops st') ∧ (st'.done.isSome = false → Inv stops st') := by
  intro st'
  obtain ⟨⟨_, hov'⟩, hsp⟩ := step_split pinned stops p hi.split hi.outValid hvp
  obtain ⟨hgen, -, hcases⟩ := stepPiece_text pinned stops st p
  have hg : st'.genText = st.outText ++ st.pending.flatten ++ p := by
    rw [stepPiece_genText, hi.split]
  -- a stop first occurs in the new text where it first occurs in the pending part
  have hidx : ∀ t ∈ stops, indexOf t st'.genText =
      (indexOf t (st.pending.flatten ++ p)).map (st.outText.length + ·) := fun t ht =>
    hg ▸ indexOf_in_pending ht (hi.split ▸ hi.noOcc t ht) (hi.split ▸ hi.held)
  have hnoOcc : findStopV pinned (st.pending.flatten ++ p) stops = none → ∀ t ∈ stops, ¬ Occurs t st'.genText := by
    intro hnone t ht
    rw [← indexOf_eq_none_iff, hidx t ht, indexOf_eq_none_iff.mpr (findStopV_none hnone t ht)]
    rfl
  have hheld : Held stops st'.genText (st.pending.flatten ++ p).length := by
    rw [hg, List.length_append, ← hi.split]
    exact hi.held.append p
  rcases hcases with ⟨s, idx, hs, hidxs, hout, hpend, hdone, hcause⟩ | ⟨hnone, _, _, hpend, hdone, hcause⟩ |
      ⟨hnone, hsuf, _, _, hpend, hdone, hcause⟩
  · -- a stop was found
    refine ⟨fun _ => ?_, fun hd => by rw [hdone] at hd; cases hd⟩
    have hsmem := (findStopV_some hs).1
    unfold PostG
    rw [hcause]
    refine ⟨hdone, hsmem, fun hp => ?_, ⟨st.outText.length + idx, ?_, ?_, fun hp t ht j hj => ?_⟩, fun t ht => ?_, hpend⟩
    · subst hp
      rw [← show findStop _ stops = some s from hs]
      exact findStop_congr fun t ht => by rw [contains, contains, hidx t ht, Option.isSome_map]
    · rw [hidx s hsmem, hidxs]; rfl
    · rw [hout, hg, List.append_assoc, List.take_length_add_append, trimValid_append_valid hi.outValid]
    · subst hp
      obtain ⟨_, i0, hi0, hmin0⟩ := findStopEarliest_spec (show findStopEarliest _ stops = some s from hs)
      rw [hidxs] at hi0; cases hi0
      rw [hidx t ht] at hj
      obtain ⟨k, hk, rfl⟩ := Option.map_eq_some_iff.mp hj
      exact Nat.add_le_add_left (hmin0 t ht k hk) _
    · rw [hgen, List.dropLast_concat]; exact hi.noOcc t ht
  · -- held back (stop suffix or incomplete character)
    have hd : st'.done = none := hdone.trans hi.done
    refine ⟨fun h => (by rw [hd] at h; cases h), fun h => ⟨hd, hcause.trans hi.cause, hsp h, hov', hnoOcc hnone, ?_⟩⟩
    rw [hpend, List.flatten_append, List.flatten_singleton]; exact hheld
  · -- flushed: a prefix of a stop at the end of the text lies within `pending ++ [p]`, where there is none
    have hd : st'.done = none := hdone.trans hi.done
    refine ⟨fun h => (by rw [hd] at h; cases h), fun h => ⟨hd, hcause.trans hi.cause, hsp h, hov', hnoOcc hnone, ?_⟩⟩
    intro t ht i h1 hile hs
    exfalso
    have hle := hheld t ht i h1 hile hs
    rw [hg, List.append_assoc] at hs
    exact stopSuffix_false hsuf t ht i h1 hile (suffix_of_append_short hs (by rw [List.length_take]; omega))

/-- `run_ind` for facts that need the generated text to be a prefix of valid UTF-8: the text only grows, so the
    hypothesis on the final text reaches every step. -/
theorem run_ind_valid {pinned : Bool} {limit : Int} {stops : List Bytes} {I Q : St → Prop}
    (hrun : ∀ st, I st → Q st)
    (hlim : ∀ st, I st → Q (st.finish .length .limit))
    (heos : ∀ st, I st → Q (({ st with numPredicted := st.numPredicted + 1 }).finish .stop .eos))
    (hstep : ∀ st p, I st → ValidPrefix (st.genText ++ p) →
      ((stepPiece pinned stops st p).done.isSome = true → Q (stepPiece pinned stops st p)) ∧
      ((stepPiece pinned stops st p).done.isSome = false → I (stepPiece pinned stops st p)))
    (evs : List Ev) (st : St) (h : I st) :
    ValidPrefix (run pinned limit stops st evs).genText → Q (run pinned limit stops st evs) := by
  refine run_ind (pinned := pinned) (limit := limit) (stops := stops)
    (I := fun st => ValidPrefix st.genText → I st) (Q := fun f => ValidPrefix f.genText → Q f)
    (fun st hi _ hvp => hrun st (hi hvp)) (fun st hi _ hvp => hlim st (hi (finish_genText .. ▸ hvp)))
    (fun st hi _ hvp => heos st (hi (finish_genText { st with numPredicted := st.numPredicted + 1 } .. ▸ hvp)))
    (fun st p hi _ hd hvp => ?_) (fun st p hi _ hd hvp => ?_) evs st fun _ => h
  all_goals rw [stepPiece_genText] at hvp
  · exact (hstep st p (hi hvp.left) hvp).1 hd
  · exact (hstep st p (hi hvp.left) hvp).2 hd

theorem run_mainG (pinned : Bool) {stops : List Bytes} (hne : StopsNe stops) (limit : Int) (evs : List Ev) :
    ValidPrefix (run pinned limit stops init evs).genText →
      PostG pinned stops (run pinned limit stops init evs) := by
  refine run_ind_valid (I := Inv stops) (Q := PostG pinned stops) (fun st hi => ?_) (fun st hi => ?_) (fun st hi => ?_)
    (fun st p => step_mainG pinned hne p) evs init (inv_initG stops hne)
  · unfold PostG; rw [hi.cause]; exact hi
  · unfold PostG; rw [finish_cause]
    exact ⟨rfl, finish_trim hi.split hi.outValid _ _, finish_genText st .. ▸ hi.noOcc, finish_pending ..⟩
  · unfold PostG; rw [finish_cause]
    exact ⟨rfl, finish_trim (st := { st with numPredicted := st.numPredicted + 1 }) hi.split hi.outValid _ _,
      finish_genText { st with numPredicted := st.numPredicted + 1 } .. ▸ hi.noOcc, finish_pending ..⟩

/-- for valid stops the final flush at a stop trims nothing -/
theorem PostG.post {pinned : Bool} {stops : List Bytes} {f : St} (hok : StopsOk stops)
    (hvp : ValidPrefix f.genText) (h : PostG pinned stops f) : Post pinned stops f := by
  unfold PostG at h
  unfold Post
  split
  · rename_i hc; rw [hc] at h; exact h
  · rename_i s hc
    rw [hc] at h
    obtain ⟨hd, hmem, hfind, ⟨idx, hidx, hout, hmin⟩, hrest⟩ := h
    refine ⟨hd, hmem, hfind, ⟨idx, hidx, ?_, hmin⟩, hrest⟩
    rw [hout, trimValid_of_valid (valid_take_indexOf (hok s hmem).2 (hok s hmem).1 hvp hidx)]
  · rename_i hc; rw [hc] at h; exact h
  · rename_i hc; rw [hc] at h; exact h

theorem run_main (pinned : Bool) {stops : List Bytes} (hok : StopsOk stops) (limit : Int) (evs : List Ev) :
    ValidPrefix (run pinned limit stops init evs).genText →
      Post pinned stops (run pinned limit stops init evs) :=
  fun hvp => (run_mainG pinned hok.ne limit evs hvp).post hok hvp

/-! ## the ghost fields and the script -/

theorem stepPiece_cause (pinned : Bool) (stops : List Bytes) (st : St) (p : Bytes) (h0 : st.done = none)
    (h1 : st.cause = none) :
    ((stepPiece pinned stops st p).done.isSome = true →
      ∃ s, (stepPiece pinned stops st p).cause = some (.stopString s) ∧
        (stepPiece pinned stops st p).done = some .stop) ∧
    ((stepPiece pinned stops st p).done.isSome = false →
      (stepPiece pinned stops st p).done = none ∧ (stepPiece pinned stops st p).cause = none) := by
  obtain ⟨-, -, ⟨s, _, _, _, _, _, hd, hc⟩ | ⟨_, _, _, _, hd, hc⟩ | ⟨_, _, _, _, _, hd, hc⟩⟩ :=
    stepPiece_text pinned stops st p
  · exact ⟨fun _ => ⟨s, hc, hd⟩, fun h => by rw [hd] at h; cases h⟩
  all_goals
    rw [hd, hc, h0, h1]
    exact ⟨nofun, fun _ => ⟨rfl, rfl⟩⟩

/-- what the ghost fields `gen` and `cause` mean in terms of the script: the sampled pieces are
    the first events of the script, and the cause says why the next event was not consumed -/
theorem consumed_gen (pinned : Bool) (limit : Int) (stops : List Bytes) :
    ∀ (evs : List Ev) (st : St), st.done = none → st.cause = none →
      st.numPredicted = st.gen.length → (limit > 0 → (st.numPredicted : Int) ≤ limit) →
      let f := run pinned limit stops st evs
      ∃ ps, f.gen = st.gen ++ ps ∧ ps.map Ev.piece <+: evs ∧
        (f.cause = some .eos → evs[ps.length]? = some .eos ∧ f.numPredicted = f.gen.length + 1) ∧
        (f.cause = some .limit → limit > 0 ∧ (f.gen.length : Int) = limit ∧ f.numPredicted = f.gen.length) ∧
        (f.cause = none → ps.length = evs.length ∧ ¬ (limit > 0 ∧ (f.gen.length : Int) ≥ limit) ∧
          f.numPredicted = f.gen.length) ∧
        (∀ s, f.cause = some (.stopString s) → f.numPredicted = f.gen.length ∧
          ¬ (limit > 0 ∧ (f.gen.length : Int) > limit)) := by
  intro evs st
  fun_induction run pinned limit stops st evs with
  | case1 st hl | case3 st _ _ hl =>
    intro hd hc hnp hle
    dsimp only
    have := hle hl.1
    refine ⟨[], by simp, List.nil_prefix, nofun, fun _ => ⟨hl.1, ?_, by simpa using hnp⟩, nofun, nofun⟩
    rw [finish_gen]; omega
  | case2 st hl =>
    intro hd hc hnp hle
    exact ⟨[], by simp, by simp, by simp [hc], by simp [hc], fun _ => ⟨rfl, hnp ▸ hl, hnp⟩, by simp [hc]⟩
  | case4 st rest hl =>
    intro hd hc hnp hle
    exact ⟨[], by simp, List.nil_prefix, fun _ => by simp [hnp], nofun, nofun, nofun⟩
  | case5 st rest hl p st' hdone =>
    intro hd hc hnp hle
    dsimp only
    obtain ⟨(hgen' : st'.gen = _), (hnp' : st'.numPredicted = _), -⟩ := stepPiece_text pinned stops st p
    obtain ⟨s, (hs : st'.cause = _), _⟩ := (stepPiece_cause pinned stops st p hd hc).1 hdone
    refine ⟨[p], hgen', by simp, by simp [hs], by simp [hs], by simp [hs], fun s' _ => ?_⟩
    rw [hnp', hgen', List.length_append, ← hnp]
    exact ⟨rfl, fun ⟨h1, h2⟩ => hl ⟨h1, by simp only [List.length_singleton] at h2; omega⟩⟩
  | case6 st rest hl p st' hdone ih =>
    intro hd hc hnp hle
    dsimp only
    obtain ⟨(hgen' : st'.gen = _), (hnp' : st'.numPredicted = _), -⟩ := stepPiece_text pinned stops st p
    obtain ⟨hd', hc'⟩ := (stepPiece_cause pinned stops st p hd hc).2 (by simpa using hdone)
    have hnp2 : st'.numPredicted = st'.gen.length := by rw [hnp', hgen', hnp, List.length_append]; rfl
    have hle2 : limit > 0 → (st'.numPredicted : Int) ≤ limit := by
      intro hpos
      have : ¬ ((st.numPredicted : Int) ≥ limit) := fun h => hl ⟨hpos, h⟩
      rw [hnp']; omega
    obtain ⟨ps, h1, ⟨w, hw⟩, h3, h4, h5, h6⟩ := ih hd' hc' hnp2 hle2
    refine ⟨p :: ps, by rw [h1, hgen']; simp, ⟨w, by simp [← hw]⟩, ?_, h4, ?_, h6⟩
    · intro he; simpa using h3 he
    · intro hn; simpa using h5 hn

/-! ## the response channel: what the reader receives does not depend on its schedule -/

theorem Chan.send_all (cap : Nat) (c : Chan) (x : Bytes) :
    (c.send cap x).recv ++ (c.send cap x).buf = c.recv ++ c.buf ++ [x] := by
  unfold Chan.send
  split
  · simp
  · split
    · rename_i h; simp [h]
    · rename_i h; simp [h]

theorem Chan.read_all (c : Chan) (n : Nat) : (c.read n).recv ++ (c.read n).buf = c.recv ++ c.buf := by
  simp [Chan.read]

theorem Chan.drain_buf (c : Chan) : c.drain.buf = [] := by
  simp [Chan.drain, Chan.read]

theorem Chan.drain_all (c : Chan) : c.drain.recv ++ c.drain.buf = c.recv ++ c.buf :=
  Chan.read_all c _

theorem Chan.foldl_send_all (cap : Nat) : ∀ (l : List Bytes) (c : Chan),
    (l.foldl (Chan.send cap) c).recv ++ (l.foldl (Chan.send cap) c).buf = c.recv ++ c.buf ++ l := by
  intro l
  induction l with
  | nil => intro c; simp
  | cons x l ih =>
    intro c
    simp only [List.foldl_cons]
    rw [ih, Chan.send_all]; simp

theorem Chan.deliver_all (cap : Nat) (c : Chan) (st st' : St)
    (hc : c.recv ++ c.buf = st.out) (hout : st.out <+: st'.out) :
    (c.deliver cap st st').recv ++ (c.deliver cap st st').buf = st'.out := by
  obtain ⟨new, hnew⟩ := hout
  rw [Chan.deliver, Chan.foldl_send_all, hc, ← hnew, List.drop_left]

/-- the premise of the second part is that of the last clause of `runSched_eq_run`, which this serves -/
theorem Chan.deliver_drain (cap : Nat) (c : Chan) (st st' : St)
    (hc : c.recv ++ c.buf = st.out) (hout : st.out <+: st'.out) :
    (c.deliver cap st st').drain.recv ++ (c.deliver cap st st').drain.buf = st'.out ∧
    (st'.done.isSome = true → (c.deliver cap st st').drain.buf = []) :=
  ⟨by rw [Chan.drain_all]; exact Chan.deliver_all cap c st st' hc hout, fun _ => Chan.drain_buf _⟩

theorem flush_out_grows (st : St) : st.out <+: st.flush.out := by
  rcases flush_out_chunks st with h | ⟨c, h, _, _⟩
  · rw [h]; exact List.prefix_refl _
  · rw [h]; exact List.prefix_append _ _

theorem finish_out_grows (st : St) (r : Reason) (c : Cause) : st.out <+: (st.finish r c).out :=
  flush_out_grows st

theorem stepPiece_out_grows (pinned : Bool) (stops : List Bytes) (st : St) (p : Bytes) :
    st.out <+: (stepPiece pinned stops st p).out := by
  rcases stepPiece_cases pinned stops st p with ⟨s, _, h⟩ | ⟨_, _, h⟩ | ⟨_, _, _, h⟩
  · rw [h]; exact finish_out_grows { st.push p with pending := _ } _ _
  · rw [h]; exact List.prefix_refl _
  · rw [h]; exact flush_out_grows (st.push p)

theorem run_out_grows (pinned : Bool) (limit : Int) (stops : List Bytes) (evs : List Ev) (st : St) :
    st.out <+: (run pinned limit stops st evs).out :=
  run_preserves (Q := fun o _ _ => st.out <+: o) (fun _ _ _ _ h => h) (fun _ _ _ _ _ _ h => h)
    (fun s h => h.trans (flush_out_grows s)) pinned limit stops evs st (List.prefix_refl _)

/-- **The consumer's schedule does not matter.**  For every channel capacity, every schedule of the
    reader (how many chunks it takes after each token, `0` = stalled, for how long) and every
    script: the loop ends in the same state as with no channel at all (`run`), everything streamed
    is either received or still in the buffer, in order, and once the sequence is done the reader
    has received exactly `run`'s chunks. -/
theorem runSched_eq_run (pinned : Bool) (limit : Int) (stops : List Bytes) (cap tail : Nat) :
    ∀ (evs : List Ev) (st : St) (c : Chan) (sched : List Nat), st.done = none → c.recv ++ c.buf = st.out →
      (runSched pinned limit stops cap tail st c sched evs).1 = run pinned limit stops st evs ∧
      (runSched pinned limit stops cap tail st c sched evs).2.recv ++
        (runSched pinned limit stops cap tail st c sched evs).2.buf = (run pinned limit stops st evs).out ∧
      ((run pinned limit stops st evs).done.isSome = true →
        (runSched pinned limit stops cap tail st c sched evs).2.buf = []) := by
  intro evs st c sched
  fun_induction runSched pinned limit stops cap tail st c sched evs with
  | case1 st c _ hl | case3 st c _ _ _ hl =>
    intro _ hc
    rw [run_limit hl]
    exact ⟨rfl, Chan.deliver_drain cap c st _ hc (finish_out_grows st .length .limit)⟩
  | case2 st c _ hl =>
    intro hd hc
    rw [run_nil hl]
    exact ⟨rfl, hc, fun h => by rw [hd] at h; cases h⟩
  | case4 st c _ _ hl =>
    intro _ hc
    rw [run_eos hl]
    exact ⟨rfl, Chan.deliver_drain cap c st _ hc
      (finish_out_grows { st with numPredicted := st.numPredicted + 1 } .stop .eos)⟩
  | case5 st c _ _ hl p st' c' hdone =>
    intro _ hc
    rw [(run_piece hl p _).trans (if_pos hdone)]
    exact ⟨rfl, Chan.deliver_drain cap c st _ hc (stepPiece_out_grows pinned stops st p)⟩
  | case6 st c _ hl p st' c' hdone ih | case7 st c _ hl p st' c' hdone _ _ ih =>
    intro _ hc
    rw [(run_piece hl p _).trans (if_neg hdone)]
    refine ih (Option.not_isSome_iff_eq_none.mp hdone) ?_
    rw [Chan.read_all]
    exact Chan.deliver_all cap c st _ hc (stepPiece_out_grows pinned stops st p)

/-! ## the shape of TruncateStop's result (piece-preserving) -/

/-- `Shape res pieces t`: `res` is `pieces` cut somewhere: every returned piece but the last equals
    the original piece at the same position, the last is a prefix of it, and `t` (tokenTruncated)
    says whether that last piece was cut. -/
def Shape : List Bytes → List Bytes → Bool → Prop
  | [], _, t => t = false
  | _ :: _, [], _ => False
  | [r], p :: _, t => r <+: p ∧ (t = true ↔ r ≠ p)
  | r :: r' :: rs, p :: ps, t => r = p ∧ Shape (r' :: rs) ps t

theorem shape_len : ∀ (res pieces : List Bytes) (t : Bool), Shape res pieces t → res.length ≤ pieces.length := by
  intro res pieces t
  fun_induction Shape res pieces t with
  | case1 => intro _; exact Nat.zero_le _
  | case2 => nofun
  | case3 => intro _; simp
  | case4 r r' rs p ps t ih =>
    intro h
    have := ih h.2
    simp only [List.length_cons] at this ⊢
    omega

theorem shape_trunc_nonempty (res pieces : List Bytes) (h : Shape res pieces true) : res ≠ [] := by
  intro he; subst he; simp [Shape] at h

theorem splitBack_shape : ∀ (pieces : List Bytes) (rem : Bytes), rem <+: pieces.flatten →
    Shape (splitBack (pieces.map List.length) rem).1 pieces (splitBack (pieces.map List.length) rem).2 := by
  intro pieces
  induction pieces with
  | nil => intro rem _; simp [splitBack, Shape]
  | cons p ps ih =>
    intro rem h
    simp only [List.map_cons]
    unfold splitBack
    split
    · simp [Shape]
    · rename_i hne
      simp only [List.flatten_cons] at h
      split
      · rename_i hlen
        -- rem is shorter than p: a proper prefix of it
        have hp : rem <+: p := List.prefix_of_prefix_length_le h (List.prefix_append _ _) (by omega)
        refine ⟨hp, ?_⟩
        constructor
        · intro _ he; rw [he] at hlen; omega
        · intro _; rfl
      · rename_i hlen
        obtain ⟨r', rfl⟩ : p <+: rem := List.prefix_of_prefix_length_le (List.prefix_append _ _) h (by omega)
        have htake : (p ++ r').take p.length = p := by simp
        have hdrop : (p ++ r').drop p.length = r' := by simp
        rw [htake, hdrop]
        have hr : r' <+: ps.flatten := (List.prefix_append_right_inj p).mp h
        have := ih r' hr
        show Shape (p :: (splitBack (ps.map List.length) r').1) (p :: ps) (splitBack (ps.map List.length) r').2
        cases hres : (splitBack (ps.map List.length) r').1 with
        | nil =>
          rw [hres] at this
          simp only [Shape] at this ⊢
          refine ⟨List.prefix_refl _, ?_⟩
          rw [this]; simp
        | cons x xs =>
          rw [hres] at this
          simp only [Shape]
          exact ⟨trivial, this⟩

/-- **TruncateStop is piece-preserving.**  If the stop occurs, the returned pieces are the original
    pieces cut at the stop's first occurrence (`truncateStop_flatten`) with `Shape`; if not, the pieces
    come back unchanged and `tokenTruncated = false`. -/
theorem truncateStop_shape (pieces : List Bytes) (stop : Bytes) :
    (∀ idx, indexOf stop pieces.flatten = some idx →
      Shape (truncateStop pieces stop).1 pieces (truncateStop pieces stop).2) ∧
    (indexOf stop pieces.flatten = none → truncateStop pieces stop = (pieces, false)) := by
  constructor
  · intro idx h
    rw [truncateStop_some h]
    exact splitBack_shape pieces _ (List.take_prefix _ _)
  · exact truncateStop_none

/-! ## other sequences in the batch do not matter -/

theorem skipCalls_cases (limit : Int) (st : St) (k : Nat) :
    skipCalls limit st k = st ∨
    ((limit > 0 ∧ (st.numPredicted : Int) ≥ limit) ∧ skipCalls limit st k = st.finish .length .limit) := by
  induction k with
  | zero => left; rfl
  | succ k ih =>
    unfold skipCalls
    split
    · rename_i h; right; exact ⟨h, rfl⟩
    · exact ih

/-- **Batch-mates do not matter.**  However many calls of processBatch pass in which the sequence is
    not sampled (because of other sequences in the batch), it ends in the state `run` computes. -/
theorem runSkips_eq_run (pinned : Bool) (limit : Int) (stops : List Bytes) :
    ∀ (evs : List Ev) (st : St) (skips : List Nat), st.done = none →
      runSkips pinned limit stops st skips evs = run pinned limit stops st evs := by
  intro evs
  induction evs with
  | nil =>
    intro st skips hd
    unfold runSkips run
    rcases skipCalls_cases limit st (skips.headD 0) with h | ⟨hl, h⟩
    · simp only [h, hd, Option.isSome_none, Bool.false_eq_true, if_false]
    · simp only [h, finish_done, Option.isSome_some, if_true, hl, and_self]
  | cons ev rest ih =>
    intro st skips hd
    unfold runSkips run
    rcases skipCalls_cases limit st (skips.headD 0) with h | ⟨hl, h⟩
    · simp only [h, hd, Option.isSome_none, Bool.false_eq_true, if_false]
      split
      · rfl
      · cases ev with
        | eos => rfl
        | piece p =>
          simp only
          split
          · rfl
          · rename_i hdone
            exact ih _ _ (Option.not_isSome_iff_eq_none.mp hdone)
    · simp only [h, finish_done, Option.isSome_some, if_true, hl, and_self]

/-! ## a script in two parts (for a reader that stops reading) -/

theorem run_append (pinned : Bool) (limit : Int) (stops : List Bytes) (e2 : List Ev) :
    ∀ (e1 : List Ev) (st : St), st.done = none →
      run pinned limit stops st (e1 ++ e2) =
        if (run pinned limit stops st e1).done.isSome then run pinned limit stops st e1
        else run pinned limit stops (run pinned limit stops st e1) e2 := by
  intro e1 st
  fun_induction run pinned limit stops st e1 with
  | case1 st hl | case3 st _ _ hl => intro _; rw [run_limit hl]; rfl
  | case2 st hl => intro hd; rw [hd]; rfl
  | case4 st rest hl => intro _; rw [List.cons_append, run_eos hl]; rfl
  | case5 st rest hl p st' hdone =>
    intro _
    rw [List.cons_append, run_piece hl]
    exact (if_pos hdone).trans (if_pos hdone).symm
  | case6 st rest hl p st' hdone ih =>
    intro _
    rw [List.cons_append, run_piece hl]
    exact (if_neg hdone).trans (ih (Option.not_isSome_iff_eq_none.mp hdone))

/-! ## the completion handler -/

theorem runN_eq_run (pinned : Bool) (limit : Int) (stops : List Bytes) :
    ∀ (evs : List Ev) (n : Nat) (st : St), evs.length < n →
      runN pinned limit stops n st evs = run pinned limit stops st evs := by
  intro evs
  induction evs with
  | nil =>
    intro n st h
    cases n with
    | zero => simp at h
    | succ n => simp [runN, run]
  | cons ev rest ih =>
    intro n st h
    cases n with
    | zero => simp at h
    | succ n =>
      unfold runN run
      split
      · rfl
      · cases ev with
        | eos => rfl
        | piece p =>
          simp only
          split
          · rfl
          · exact ih n _ (by simp at h; omega)

theorem clientText_append (a b : List Line) : clientText (a ++ b) = clientText a ++ clientText b := by
  induction a with
  | nil => rfl
  | cons l ls ih => cases l <;> simp [clientText, ih]

theorem clientText_contents (out : List Bytes) : clientText (out.map Line.content) = out.flatten := by
  induction out with
  | nil => rfl
  | cons c cs ih => simp [clientText, ih]

theorem clientReason_contents (out : List Bytes) (tl : List Line) :
    clientReason (out.map Line.content ++ tl) = clientReason tl := by
  induction out with
  | nil => rfl
  | cons c cs ih => simp [clientReason, ih]

/-- what the client assembles from the handler's lines is the streamed text, and the finish reason
    it reads is the sequence's -/
theorem client_view (promptLen : Nat) (f : St) :
    clientText (handlerLines promptLen f) = f.outText ∧
    clientReason (handlerLines promptLen f) = f.done := by
  unfold handlerLines
  constructor
  · rw [clientText_append, clientText_contents]
    cases f.done <;> simp [clientText, St.outText]
  · rw [clientReason_contents]
    cases f.done <;> simp [clientReason]

end OllamaVerif.Stop
