/-
  C06 — defragmentation: one rule for its scan (`defragLoop_rule`) and four invariants through it.  Both variants keep
  `Inv`, only move cells, write only rows that were there, and compact; the repaired coalescing (`fixDefrag = true`)
  also preserves the abstraction and hence the number of free cells.

  `defrag` fills holes at the front of the cache with owned cells taken from the tail and performs
  the data movement as coalesced block copies that are *deferred* (a pending move is only executed
  when the next move cannot be merged into it).  The invariant for the abstraction (`PInv`) talks about the rows
  the cache will hold once the pending move has been flushed (`eff`): at every step the list of
  (cell, effective row) pairs of owned cells is a permutation of the initial one.
-/
import OllamaVerif.Proofs.Causal

namespace OllamaVerif.Causal
open OllamaVerif.KV

/-! ### a permutation lemma over `(List.range n).filterMap g` -/

/-- the values at `lo .. lo+p-1` move up by one, the value at `s` moves to `lo`, `lo+p` held nothing
    before and `s` holds nothing afterwards: the produced list is a permutation -/
theorem perm_filterMap_rotmove {β} (g g' : Nat → Option β) (n lo p s : Nat) (h1 : lo + p < s) (h2 : s < n)
    (hhole : g (lo + p) = none) (hlo : g' lo = g s) (hk : ∀ k, k < p → g' (lo + k + 1) = g (lo + k))
    (hs : g' s = none) (hel : ∀ j, j < n → ¬(lo ≤ j ∧ j ≤ lo + p) → j ≠ s → g' j = g j) :
    ((List.range n).filterMap g').Perm ((List.range n).filterMap g) := by
  have hout : ∀ a k, (∀ j, a ≤ j → j < a + k → j < n ∧ ¬(lo ≤ j ∧ j ≤ lo + p) ∧ j ≠ s) →
      (List.range' a k).filterMap g' = (List.range' a k).filterMap g := fun a k h =>
    filterMap_congr fun j hj =>
      have ⟨x, y, z⟩ := h j (List.mem_range'_1.mp hj).1 (List.mem_range'_1.mp hj).2
      hel j x y z
  obtain ⟨b, rfl⟩ : ∃ b, lo + (p + 1) + b = s := Nat.le.dest h1
  obtain ⟨c, rfl⟩ : ∃ c, lo + (p + 1) + b + 1 + c = n := Nat.le.dest h2
  have hB' : (List.range' lo (p + 1)).filterMap g' =
      (g (lo + (p + 1) + b)).toList ++ (List.range' lo p).filterMap g := by
    have hsh : (List.range' (lo + 1) p).filterMap g' = (List.range' lo p).filterMap g := by
      rw [List.range'_eq_map_range, List.range'_eq_map_range, List.filterMap_map, List.filterMap_map]
      exact filterMap_congr fun k hk' => (Nat.add_right_comm lo 1 k ▸ hk k (List.mem_range.mp hk') :)
    rw [List.range'_succ, List.filterMap_cons, hlo, hsh]
    cases g (lo + (p + 1) + b) <;> rfl
  have hB : (List.range' lo (p + 1)).filterMap g = (List.range' lo p).filterMap g := by
    rw [List.range'_concat, List.filterMap_append, List.filterMap_cons, Nat.one_mul, hhole, List.filterMap_nil,
      List.append_nil]
  have hlo' : lo < lo + (p + 1) + b := Nat.lt_of_le_of_lt (Nat.le_add_right lo p) h1
  rw [List.range_eq_range', ← List.range'_append_1, ← List.range'_append_1, ← List.range'_append_1,
    ← List.range'_append_1]
  simp only [Nat.zero_add, List.filterMap_append, List.range'_one, List.filterMap_cons, List.filterMap_nil, hs]
  rw [hout 0 lo fun j _ hj =>
      have hj : j < lo := Nat.zero_add lo ▸ hj
      ⟨Nat.lt_trans hj (Nat.lt_trans hlo' h2), fun h => Nat.not_le_of_lt hj h.1, Nat.ne_of_lt (Nat.lt_trans hj hlo')⟩,
    hout (lo + (p + 1)) b fun j hj hj' => ⟨Nat.lt_trans hj' h2, fun h => Nat.not_le_of_lt hj h.2, Nat.ne_of_lt hj'⟩,
    hout (lo + (p + 1) + b + 1) c fun j hj hj' =>
      ⟨hj', fun h => Nat.not_le_of_lt (Nat.lt_trans h1 hj) h.2, Nat.ne_of_gt hj⟩,
    hB', hB]
  cases g (lo + (p + 1) + b) with
  | none => exact List.Perm.refl _
  | some x =>
    simp only [Option.toList, List.append_assoc, List.cons_append, List.nil_append]
    rw [← List.append_assoc ((List.range' lo p).filterMap g), ← List.append_assoc ((List.range' lo p).filterMap g)]
    exact List.perm_middle.symm.append_left _

/-! ### block copy, rotation and hole fill at one location -/

theorem getD_eq_getElem {α} (l : List α) (i : Nat) (d : α) (h : i < l.length) : l.getD i d = l[i] := by
  rw [List.getD_eq_getElem?_getD, List.getElem?_eq_getElem h, Option.getD_some]

theorem getD_moveRowsFrom (old : List Row) (src dst len : Nat) (i : Nat) (rows : List Row) (k : Nat)
    (hk : k < rows.length) (d : Row) :
    (moveRowsFrom old src dst len i rows).getD k d =
      if dst ≤ i + k ∧ i + k < dst + len then old.getD (src + (i + k - dst)) (rows.getD k d) else rows.getD k d := by
  induction rows generalizing i k with
  | nil => exact absurd hk (Nat.not_lt_zero k)
  | cons r rs ih =>
    cases k with
    | zero => simp only [moveRowsFrom, List.getD_cons_zero, Nat.add_zero]
    | succ k =>
      simp only [moveRowsFrom, List.getD_cons_succ]
      rw [ih (i + 1) k (Nat.lt_of_succ_lt_succ hk), Nat.add_assoc i 1 k, Nat.add_comm 1 k]

theorem getD_moveRows {rows : List Row} {n : Nat} (hr : rows.length = n) (src dst len k : Nat) (hk : k < n)
    (hin : src + len ≤ n) (d : Row) :
    (moveRows rows src dst len).getD k d =
      rows.getD (if dst ≤ k ∧ k < dst + len then src + (k - dst) else k) d := by
  subst hr
  unfold moveRows
  rw [getD_moveRowsFrom _ _ _ _ _ _ _ hk, Nat.zero_add]
  split
  · next h =>
    have : src + (k - dst) < rows.length :=
      Nat.lt_of_lt_of_le (Nat.add_lt_add_left (Nat.sub_lt_left_of_lt_add h.1 h.2) src) hin
    rw [getD_eq_getElem rows _ _ this, getD_eq_getElem rows _ d this]
  · rfl

theorem mem_moveRowsFrom (old : List Row) (src dst len i : Nat) (rows : List Row) :
    ∀ x ∈ moveRowsFrom old src dst len i rows, x ∈ old ∨ x ∈ rows := by
  induction rows generalizing i with
  | nil => nofun
  | cons r rs ih =>
    intro x hx
    simp only [moveRowsFrom, List.mem_cons] at hx ⊢
    rcases hx with rfl | hx
    · split
      · exact (getD_mem_or old _ r).symm.imp_right Or.inl
      · exact Or.inr (Or.inl rfl)
    · exact (ih (i + 1) x hx).imp_right Or.inr

theorem getD_rotateIn {cells : List Cell} {n : Nat} (hc : cells.length = n) (pDst dst j : Nat) (hj : j < n) :
    (rotateIn cells pDst dst).getD j Cell.empty =
      if j = pDst then cells.getD dst Cell.empty
      else if pDst < j ∧ j ≤ dst then cells.getD (j - 1) Cell.empty else cells.getD j Cell.empty := by
  subst hc
  unfold rotateIn
  have hj1 : j - 1 < cells.length := Nat.lt_of_le_of_lt (Nat.sub_le j 1) hj
  rw [getD_eq_getElem _ j _ (by rw [length_mapFrom]; exact hj), getElem_mapFrom _ _ _ j hj]
  simp only [Nat.zero_add]
  rw [getD_eq_getElem cells (j - 1) cells[j] hj1, getD_eq_getElem cells (j - 1) Cell.empty hj1,
    getD_eq_getElem cells j Cell.empty hj]

theorem moveRowsFrom_zero (old : List Row) (src dst i : Nat) (rows : List Row) :
    moveRowsFrom old src dst 0 i rows = rows := by
  induction rows generalizing i with
  | nil => rfl
  | cons r rs ih => rw [moveRowsFrom, ih, if_neg fun h => Nat.not_lt_of_le h.1 h.2]

theorem rotateIn_self (cells : List Cell) (d : Nat) : rotateIn cells d d = cells := by
  unfold rotateIn
  apply List.ext_getElem (length_mapFrom _ _ _)
  intro j _ hj
  rw [getElem_mapFrom _ _ _ j hj, Nat.zero_add]
  split
  · next e => rw [getD_eq_getElem cells d _ (e ▸ hj)]; simp only [e]
  · rw [if_neg fun h => Nat.lt_irrefl _ (Nat.lt_of_lt_of_le h.1 h.2)]

abbrev Unowned (cells : List Cell) (j : Nat) : Prop := (cells.getD j Cell.empty).seqs = []

/-- the metadata move of one hole fill: `dst` takes the cell of `s`, `s` becomes unowned -/
def holeCells (cells : List Cell) (dst s : Nat) : List Cell :=
  (cells.set dst (cells.getD s Cell.empty)).set s Cell.empty

theorem length_holeCells (cells : List Cell) (dst s : Nat) : (holeCells cells dst s).length = cells.length := by
  simp [holeCells]

theorem getD_holeCells {cells : List Cell} {n : Nat} (hc : cells.length = n) (dst s j : Nat) (hd : dst < n)
    (hs : s < n) :
    (holeCells cells dst s).getD j Cell.empty =
      if j = s then Cell.empty else if j = dst then cells.getD s Cell.empty else cells.getD j Cell.empty := by
  subst hc
  unfold holeCells
  split
  · next h1 => rw [h1, getD_set_eq _ s _ _ (by rw [List.length_set]; exact hs)]
  · next h1 =>
    rw [getD_set_ne _ s j _ _ (Ne.symm h1)]
    split
    · next h2 => rw [h2, getD_set_eq _ dst _ _ hd]
    · next h2 => rw [getD_set_ne _ dst j _ _ (Ne.symm h2)]

/-- a move merged into the pending block copy `(s + 1, lo, p)` (repaired coalescing): the copy becomes
    `(s, lo, p + 1)` and the metadata of its destination block is rotated to stay in the order of the rows -/
theorem perm_coalesce (cells : List Cell) (rows : List Row) (n lo p s : Nat) (hc : cells.length = n)
    (hr : rows.length = n) (h1 : lo + p < s) (h2 : s + 1 + p ≤ n)
    (hhole : Unowned cells (lo + p)) :
    ((List.range n).filterMap
        (slotEntry (rotateIn (holeCells cells (lo + p) s) lo (lo + p)) (moveRows rows s lo (p + 1)))).Perm
      ((List.range n).filterMap (slotEntry cells (moveRows rows (s + 1) lo p))) := by
  have hsn : s < n :=
    Nat.lt_of_lt_of_le (Nat.lt_succ_of_le (Nat.le_add_right s p)) (Nat.add_right_comm s 1 p ▸ h2 : s + p + 1 ≤ n)
  have hdn : lo + p < n := Nat.lt_trans h1 hsn
  have hln : lo < n := Nat.lt_of_le_of_lt (Nat.le_add_right lo p) hdn
  have hR := getD_rotateIn ((length_holeCells cells (lo + p) s).trans hc) lo (lo + p)
  have hH := (getD_holeCells hc (lo + p) s · hdn hsn)
  have hM := (getD_moveRows hr s lo (p + 1) · · (Nat.add_right_comm s 1 p ▸ h2))
  have hM' := (getD_moveRows hr (s + 1) lo p · · h2)
  apply perm_filterMap_rotmove _ _ n lo p s h1 hsn
  · exact if_pos hhole
  · unfold slotEntry
    rw [hR lo hln, if_pos rfl, hH, if_neg (Nat.ne_of_lt h1), if_pos rfl, hM lo hln,
      if_pos ⟨Nat.le_refl lo, Nat.lt_add_of_pos_right (Nat.succ_pos p)⟩, Nat.sub_self, Nat.add_zero,
      hM' s hsn, if_neg fun h => Nat.lt_asymm h1 h.2]
  · intro k hk
    have a : lo + k < lo + p := Nat.add_lt_add_left hk lo
    have b : lo < lo + k + 1 := Nat.lt_succ_of_le (Nat.le_add_right lo k)
    have hjn : lo + k + 1 < n := Nat.lt_of_le_of_lt a hdn
    unfold slotEntry
    rw [hR _ hjn, if_neg (Nat.ne_of_gt b), if_pos ⟨b, a⟩, Nat.add_sub_cancel, hH,
      if_neg (Nat.ne_of_lt (Nat.lt_trans a h1)), if_neg (Nat.ne_of_lt a), hM _ hjn,
      if_pos ⟨Nat.le_of_lt b, Nat.succ_lt_succ a⟩, hM' _ (Nat.lt_trans a hdn),
      if_pos ⟨Nat.le_add_right lo k, a⟩, Nat.add_assoc lo k 1, Nat.add_sub_cancel_left, Nat.add_sub_cancel_left,
      Nat.add_right_comm s 1 k, Nat.add_assoc s k 1]
  · unfold slotEntry
    rw [hR s hsn, if_neg (Nat.ne_of_gt (Nat.lt_of_le_of_lt (Nat.le_add_right lo p) h1)),
      if_neg fun h => Nat.lt_irrefl _ (Nat.lt_of_lt_of_le h1 h.2), hH, if_pos rfl]
    rfl
  · intro j hjn hj hjs
    unfold slotEntry
    rw [hR j hjn, if_neg fun (e : j = lo) => hj (e ▸ ⟨Nat.le_refl j, Nat.le_add_right j p⟩),
      if_neg fun h => hj ⟨Nat.le_of_lt h.1, h.2⟩, hH, if_neg hjs,
      if_neg fun (e : j = lo + p) => hj ⟨e ▸ Nat.le_add_right lo p, Nat.le_of_eq e⟩, hM j hjn,
      if_neg fun h => hj ⟨h.1, Nat.le_of_lt_succ h.2⟩, hM' j hjn, if_neg fun h => hj ⟨h.1, Nat.le_of_lt h.2⟩]

/-! ### the pending copy; the scan -/

/-- the rows once the pending block copy has been executed -/
def eff (st : DS) : List Row :=
  if st.pLen > 0 then moveRows st.rows st.pSrc st.pDst st.pLen else st.rows

theorem length_eff (st : DS) : (eff st).length = st.rows.length := by
  unfold eff; split
  · exact length_moveRows _ _ _ _
  · rfl

theorem eff_pos (st : DS) (h : st.pLen > 0) : eff st = moveRows st.rows st.pSrc st.pDst st.pLen := if_pos h

theorem mem_eff (st : DS) : ∀ x ∈ eff st, x ∈ st.rows := by
  intro x hx
  unfold eff at hx
  split at hx
  · exact (mem_moveRowsFrom _ _ _ _ 0 _ x hx).elim id id
  · exact hx

theorem fillHole_cases (fix : Bool) (st : DS) (dst s : Nat) :
    fillHole fix st dst s = ⟨holeCells st.cells dst s, eff st, s, dst, 1⟩ ∨
    (st.pLen > 0 ∧ dst = st.pDst + st.pLen ∧ (fix = true → s + 1 = st.pSrc) ∧
      fillHole fix st dst s =
        { st with cells := if fix then rotateIn (holeCells st.cells dst s) st.pDst dst else holeCells st.cells dst s,
                  pSrc := s, pLen := st.pLen + 1 }) := by
  unfold eff
  fun_cases fillHole fix st dst s with
  | case1 _ hp hf hco => exact Or.inr ⟨hp, hco.2, fun _ => hco.1, by rw [if_pos hf]; rfl⟩
  | case2 _ hp => exact Or.inl (by rw [if_pos hp]; rfl)
  | case3 _ hp hf hco => exact Or.inr ⟨hp, hco.2, fun h => absurd h hf, by rw [if_neg hf]; rfl⟩
  | case4 _ hp => exact Or.inl (by rw [if_pos hp]; rfl)
  | case5 _ hp => exact Or.inl (by rw [if_neg hp]; rfl)

theorem findSrc_spec (cells : List Cell) (dst src : Nat) :
    findSrc cells dst src ≤ src ∧
    (∀ j, findSrc cells dst src < j → j ≤ src → Unowned cells j) ∧
    (dst < findSrc cells dst src → ¬Unowned cells (findSrc cells dst src)) := by
  have stop : ∀ s, s ≤ s ∧ (∀ j, s < j → j ≤ s → Unowned cells j) := fun s =>
    ⟨Nat.le_refl s, fun j h1 h2 => absurd h2 (Nat.not_le_of_lt h1)⟩
  fun_induction findSrc cells dst src with
  | case1 => exact ⟨(stop 0).1, (stop 0).2, nofun⟩
  | case2 s _ h2 => exact ⟨(stop _).1, (stop _).2, fun _ => h2⟩
  | case3 s _ h2 ih =>
    refine ⟨Nat.le_succ_of_le ih.1, fun j hj1 hj2 => ?_, ih.2.2⟩
    rcases Nat.eq_or_lt_of_le hj2 with hj | hj
    · rw [hj]; exact Decidable.not_not.mp h2
    · exact ih.2.1 j hj1 (Nat.le_of_lt_succ hj)
  | case4 s h1 => exact ⟨(stop _).1, (stop _).2, fun h => absurd h h1⟩

/-- invariant rule for the scan of `defrag`: if `P` is kept when `src` drops over unowned cells (`lower`),
    when `dst` moves on unfilled (`adv`) and when hole `dst` is filled from `src` (`fill`), it holds
    where the scan ends -/
theorem defragLoop_rule (fix : Bool) (P : DS → Nat → Nat → Prop)
    (lower : ∀ st dst src s, P st dst src → s ≤ src →
      (∀ j, s < j → j ≤ src → Unowned st.cells j) → P st dst s)
    (adv : ∀ st dst src, P st dst src → (Unowned st.cells dst → src ≤ dst) → P st (dst + 1) src)
    (fill : ∀ st dst src, P st dst src → dst < src → Unowned st.cells dst → ¬Unowned st.cells src →
      P (fillHole fix st dst src) (dst + 1) src)
    (fuel : Nat) (st : DS) (dst src : Nat) (h : P st dst src) :
    ∃ d s, P (defragLoop fix fuel st dst src) d s ∧ (s ≤ d ∨ dst + fuel ≤ d) := by
  fun_induction defragLoop fix fuel st dst src with
  | case1 dst src st => exact ⟨dst, src, h, Or.inr (Nat.le_refl _)⟩
  | case2 f st dst src _ hhole s hgt ih =>
    have ⟨hle, hgap, hown⟩ := findSrc_spec st.cells dst src
    exact Nat.add_right_comm dst 1 f ▸ ih (fill st dst s (lower st dst src s h hle hgap) hgt hhole (hown hgt))
  | case3 f st dst src _ _ s hgt ih =>
    have ⟨hle, hgap, _⟩ := findSrc_spec st.cells dst src
    exact Nat.add_right_comm dst 1 f ▸ ih (adv st dst s (lower st dst src s h hle hgap) fun _ => Nat.le_of_not_lt hgt)
  | case4 f st dst src _ hhole ih =>
    exact Nat.add_right_comm dst 1 f ▸ ih (adv st dst src h fun h' => absurd h' hhole)
  | case5 f st dst src hlt => exact ⟨dst, src, h, Or.inl (Nat.le_of_not_lt hlt)⟩

/-! ### defrag only moves cells -/

/-- loop invariant of `defrag`: sizes are kept and every cell is an original cell or unowned -/
structure DInv (cells : List Cell) (rows : List Row) (st : DS) : Prop where
  clen : st.cells.length = cells.length
  rlen : st.rows.length = rows.length
  sub : ∀ x ∈ st.cells, x.seqs = [] ∨ x ∈ cells

theorem moved_set {cells l : List Cell} (h : ∀ x ∈ l, x.seqs = [] ∨ x ∈ cells) (i : Nat) (a : Cell)
    (ha : a.seqs = [] ∨ a ∈ cells) : ∀ x ∈ l.set i a, x.seqs = [] ∨ x ∈ cells := by
  intro x hx
  rcases List.mem_or_eq_of_mem_set hx with hx | hx
  · exact h x hx
  · rw [hx]; exact ha

theorem moved_getD {cells l : List Cell} (h : ∀ x ∈ l, x.seqs = [] ∨ x ∈ cells) (i : Nat) :
    (l.getD i Cell.empty).seqs = [] ∨ l.getD i Cell.empty ∈ cells := by
  rcases getD_mem_or l i Cell.empty with hx | hx
  · left; rw [hx]; rfl
  · exact h _ hx

theorem moved_rotateIn {cells l : List Cell} (h : ∀ x ∈ l, x.seqs = [] ∨ x ∈ cells) (pDst dst : Nat) :
    ∀ x ∈ rotateIn l pDst dst, x.seqs = [] ∨ x ∈ cells := by
  intro x hx
  obtain ⟨k, c, hc, rfl⟩ := mem_mapFrom hx
  split
  · exact moved_getD h dst
  · split
    · rcases getD_mem_or l (k - 1) c with hx | hx
      · rw [hx]; exact h c hc
      · exact h _ hx
    · exact h c hc

theorem fillHole_dinv (fix : Bool) (cells : List Cell) (rows : List Row) (st : DS) (dst s : Nat)
    (h : DInv cells rows st) : DInv cells rows (fillHole fix st dst s) := by
  have hsub : ∀ x ∈ holeCells st.cells dst s, x.seqs = [] ∨ x ∈ cells :=
    moved_set (moved_set h.sub dst _ (moved_getD h.sub s)) s Cell.empty (Or.inl rfl)
  have hlen := (length_holeCells st.cells dst s).trans h.clen
  rcases fillHole_cases fix st dst s with he | ⟨_, _, _, he⟩ <;> rw [he]
  · exact ⟨hlen, (length_eff st).trans h.rlen, hsub⟩
  · refine ⟨?_, h.rlen, ?_⟩
    · show (if fix then _ else _ : List Cell).length = _
      split
      · exact (length_mapFrom ..).trans hlen
      · exact hlen
    · show ∀ x ∈ (if fix then _ else _ : List Cell), _
      split
      · exact moved_rotateIn hsub _ _
      · exact hsub

/-- both variants: sizes are kept and cells are only moved or emptied -/
theorem defragCore_moved (fix : Bool) (cells : List Cell) (rows : List Row) :
    (defragCore fix cells rows).1.length = cells.length ∧ (defragCore fix cells rows).2.length = rows.length ∧
    ∀ x ∈ (defragCore fix cells rows).1, x.seqs = [] ∨ x ∈ cells := by
  obtain ⟨_, _, h, _⟩ := defragLoop_rule fix (fun st _ _ => DInv cells rows st) (fun _ _ _ _ h _ _ => h)
    (fun _ _ _ h _ => h) (fun st dst s h _ _ _ => fillHole_dinv fix cells rows st dst s h)
    cells.length ⟨cells, rows, 0, 0, 0⟩ 0 (cells.length - 1) ⟨rfl, rfl, fun x hx => Or.inr hx⟩
  exact ⟨h.clen, (length_eff _).trans h.rlen, h.sub⟩

theorem defrag_inv (c : Cache) (h : Inv c) : Inv (defrag c) := by
  obtain ⟨hlen, hr, hsub⟩ := defragCore_moved c.v.fixDefrag c.cells c.rows
  unfold defrag
  refine h.of_sizes hlen ?_ rfl (fun j hj s hs => ?_) fun s r hs => ?_
  · simp only [apply_ite List.length, hr, ite_self]
  · rcases hsub _ (List.getElem_mem hj) with hx | hx
    · rw [hx] at hs
      cases hs
    · obtain ⟨k, hk, hk'⟩ := List.getElem_of_mem hx
      obtain ⟨r, hr', _⟩ := h.cover k hk s (hk' ▸ hs)
      exact ⟨_, congrArg (Option.map _) hr', rangeOf_covers _ _ j hj (decide_eq_true hs)⟩
  · obtain ⟨_, _, rfl⟩ := Option.map_eq_some_iff.mp hs
    exact hlen ▸ rangeOf_max_lt ..

/-! ### the repaired defragmentation keeps the abstraction -/

theorem lt_of_le_pred {d s n : Nat} (h1 : d < s) (h2 : s ≤ n - 1) : s < n := by omega

/-- loop invariant of the repaired `defrag`: sizes, the source rows of the pending block lie in the
    cache, and the owned (cell, effective row) pairs are a permutation of the initial ones -/
structure PInv (n : Nat) (base : List Entry) (st : DS) (src : Nat) : Prop where
  clen : st.cells.length = n
  rlen : st.rows.length = n
  slt : src ≤ n - 1
  pend : st.pLen > 0 → st.pSrc + st.pLen ≤ n
  perm : ((List.range n).filterMap (slotEntry st.cells (eff st))).Perm base

theorem fillHole_pinv (n : Nat) (base : List Entry) (st : DS) (dst s : Nat) (h : PInv n base st s)
    (hds : dst < s) (hhole : Unowned st.cells dst) :
    PInv n base (fillHole true st dst s) s := by
  have hsn : s < n := lt_of_le_pred hds h.slt
  have hel : (eff st).length = n := (length_eff st).trans h.rlen
  rcases fillHole_cases true st dst s with he | ⟨hpl, hd, hs, he⟩
  · rw [he]
    -- a move that starts a block copy of its own is the one merged into an empty pending copy (`p = 0`)
    have hp := perm_coalesce st.cells (eff st) n dst 0 s h.clen hel hds hsn hhole
    unfold moveRows at hp
    rw [Nat.add_zero, rotateIn_self, moveRowsFrom_zero] at hp
    exact ⟨(length_holeCells _ _ _).trans h.clen, hel, h.slt, fun _ => hsn, hp.trans h.perm⟩
  · have hs := hs rfl
    have h2 : s + 1 + st.pLen ≤ n := hs ▸ h.pend hpl
    have hp := h.perm
    rw [eff_pos st hpl, ← hs] at hp
    rw [he, if_pos rfl]
    subst hd
    refine ⟨(length_mapFrom _ _ _).trans ((length_holeCells _ _ _).trans h.clen), h.rlen, h.slt,
      fun _ => Nat.add_right_comm s 1 st.pLen ▸ h2, ?_⟩
    rw [eff_pos _ (Nat.succ_pos _)]
    exact (perm_coalesce st.cells st.rows n st.pDst st.pLen s h.clen h.rlen hds h2 hhole).trans hp

/-- **The repaired defragmentation only relocates**: sizes are kept and the owned cells together with
    the rows found at their locations are a permutation of what was there before — no entry is lost,
    duplicated, or paired with another entry's data. -/
theorem defragCore_perm (cells : List Cell) (rows : List Row) (hlen : cells.length = rows.length) :
    (defragCore true cells rows).1.length = cells.length ∧
    (defragCore true cells rows).2.length = rows.length ∧
    (((defragCore true cells rows).1.zip (defragCore true cells rows).2).filterMap entryOf).Perm
      ((cells.zip rows).filterMap entryOf) := by
  have hm := defragCore_moved true cells rows
  refine ⟨hm.1, hm.2.1, ?_⟩
  obtain ⟨d, s, hd, _⟩ := defragLoop_rule true (fun st _ => PInv cells.length ((cells.zip rows).filterMap entryOf) st)
    (fun _ _ _ _ h hs _ => { h with slt := Nat.le_trans hs h.slt }) (fun _ _ _ h _ => h)
    (fun st dst s h hds hhole _ => fillHole_pinv _ _ st dst s h hds hhole)
    cells.length ⟨cells, rows, 0, 0, 0⟩ 0 (cells.length - 1)
    ⟨rfl, hlen.symm, Nat.le_refl _, nofun, List.Perm.of_eq (abs_zip_eq_range cells rows hlen).symm⟩
  rw [abs_zip_eq_range _ _ (hm.1.trans (hlen.trans hm.2.1.symm)), hm.1]
  exact hd.perm

/-! ### defragmentation compacts -/

/-- owned cells first, then only unowned ones -/
def Compact (cells : List Cell) : Prop :=
  ∃ m, (∀ j, j < m → (cells.getD j Cell.empty).seqs ≠ []) ∧
       (∀ j, m ≤ j → j < cells.length → (cells.getD j Cell.empty).seqs = [])

structure CInv (n : Nat) (cells : List Cell) (dst src : Nat) : Prop where
  clen : cells.length = n
  slt : src ≤ n - 1
  /-- only below `src`: when nothing is left to move, `dst` still steps over the hole it stands on -/
  low : ∀ j, j < dst → j < src → ¬Unowned cells j
  high : ∀ j, src < j → j < n → Unowned cells j

theorem compact_of_exit (n : Nat) (cells : List Cell) (dst src : Nat) (h : CInv n cells dst src) (hx : src ≤ dst) :
    Compact cells := by
  have hhigh : ∀ j, src + 1 ≤ j → j < cells.length → Unowned cells j :=
    fun j h1 h2 => h.high j h1 (h.clen ▸ h2)
  have hlow : ∀ j, j < src → ¬Unowned cells j :=
    fun j hj => h.low j (Nat.lt_of_lt_of_le hj hx) hj
  by_cases ho : Unowned cells src
  · exact ⟨src, hlow, fun j hj1 hj2 => (Nat.eq_or_lt_of_le hj1).elim (fun e => e ▸ ho) (hhigh j · hj2)⟩
  · exact ⟨src + 1, fun j hj => (Nat.eq_or_lt_of_le (Nat.le_of_lt_succ hj)).elim (fun e => e ▸ ho) (hlow j), hhigh⟩

theorem fillHole_cinv (fix : Bool) (n : Nat) (st : DS) (dst s : Nat) (h : CInv n st.cells dst s)
    (hds : dst < s) (hown : ¬Unowned st.cells s) :
    CInv n (fillHole fix st dst s).cells (dst + 1) s := by
  have hsn : s < n := lt_of_le_pred hds h.slt
  have hdn : dst < n := Nat.lt_trans hds hsn
  have hX : (holeCells st.cells dst s).length = n := (length_holeCells _ _ _).trans h.clen
  have hH := (getD_holeCells h.clen dst s · hdn hsn)
  have hlow : ∀ j, j ≤ dst → ¬Unowned (holeCells st.cells dst s) j := by
    intro j hj
    unfold Unowned
    rw [hH, if_neg (Nat.ne_of_lt (Nat.lt_of_le_of_lt hj hds))]
    split
    · exact hown
    · next hjd => exact h.low j (Nat.lt_of_le_of_ne hj hjd) (Nat.lt_of_le_of_lt hj hds)
  have hhigh : ∀ j, s < j → j < n → Unowned (holeCells st.cells dst s) j := by
    intro j hj1 hj2
    unfold Unowned
    rw [hH, if_neg (Nat.ne_of_gt hj1), if_neg (Nat.ne_of_gt (Nat.lt_trans hds hj1))]
    exact h.high j hj1 hj2
  have hflat : CInv n (holeCells st.cells dst s) (dst + 1) s :=
    ⟨hX, h.slt, fun j hj _ => hlow j (Nat.le_of_lt_succ hj), hhigh⟩
  rcases fillHole_cases fix st dst s with he | ⟨_, hd, _, he⟩
  · rw [he]
    exact hflat
  · rw [he]
    split
    · refine ⟨(length_mapFrom _ _ _).trans hX, h.slt, fun j hj _ => ?_, fun j hj1 hj2 => ?_⟩
      · have hj := Nat.le_of_lt_succ hj
        unfold Unowned
        rw [getD_rotateIn hX st.pDst dst j (Nat.lt_of_le_of_lt hj hdn)]
        split
        · exact hlow dst (Nat.le_refl dst)
        · split
          · exact hlow (j - 1) (Nat.le_trans (Nat.sub_le j 1) hj)
          · exact hlow j hj
      · have hdj : dst < j := Nat.lt_trans hds hj1
        unfold Unowned
        rw [getD_rotateIn hX st.pDst dst j hj2,
          if_neg (Nat.ne_of_gt (Nat.lt_of_le_of_lt (hd ▸ Nat.le_add_right _ _) hdj)),
          if_neg fun h => Nat.not_le_of_lt hdj h.2]
        exact hhigh j hj1 hj2
    · exact hflat

/-- **Defragmentation compacts** (pinned and repaired coalescing): afterwards every owned cell lies
    before every unowned one -/
theorem defragCore_compact (fix : Bool) (cells : List Cell) (rows : List Row) :
    Compact (defragCore fix cells rows).1 := by
  unfold defragCore
  simp only
  obtain ⟨d, s, hd, hx⟩ := defragLoop_rule fix (fun st => CInv cells.length st.cells)
    (fun st dst src s h hs hgap => ⟨h.clen, Nat.le_trans hs h.slt,
      fun j hj hjs => h.low j hj (Nat.lt_of_lt_of_le hjs hs),
      fun j hj1 hj2 => (Nat.lt_or_ge src j).elim (h.high j · hj2) (hgap j hj1)⟩)
    (fun st dst src h hd => { h with
      low := fun j hj hjs => (Nat.eq_or_lt_of_le (Nat.le_of_lt_succ hj)).elim
        (fun e hh => Nat.not_le_of_lt hjs (e ▸ hd (e ▸ hh))) (h.low j · hjs) })
    (fun st dst s h hds _ hown => fillHole_cinv fix _ st dst s h hds hown)
    cells.length ⟨cells, rows, 0, 0, 0⟩ 0 (cells.length - 1)
    ⟨rfl, Nat.le_refl _, nofun,
      fun j hj1 hj2 => absurd hj2 (Nat.not_lt_of_le (Nat.le_of_pred_lt hj1))⟩
  exact compact_of_exit _ _ d s hd
    (hx.elim id fun h => Nat.le_trans hd.slt (Nat.le_trans (Nat.sub_le _ 1) (Nat.zero_add cells.length ▸ h)))

/-! ### a compact cache rejects a batch only when it has fewer free cells than tokens -/

def freeCount (cells : List Cell) : Nat := (cells.filter (fun c => decide (c.seqs = []))).length

/-- `m`: the owned cells still ahead; once free cells have been counted the owned prefix lies behind (`hm`) -/
theorem findStartFrom_compact (k : Nat) (cells : List Cell) (m i start count : Nat) (hc : count < k)
    (hm : 0 < m → count = 0) (h1 : ∀ j, j < m → ¬Unowned cells j)
    (h2 : ∀ j, m ≤ j → j < cells.length → Unowned cells j)
    (h : findStartFrom k cells i start count = none) : freeCount cells + count < k := by
  unfold freeCount
  fun_induction findStartFrom k cells i start count generalizing m with
  | case1 => exact (Nat.zero_add _).symm ▸ hc
  | case2 => cases h
  | case3 c cs i start count hc0 hk ih =>
    have hm0 : m = 0 := Nat.eq_zero_of_not_pos fun hm' => h1 0 hm' hc0
    rw [List.filter_cons, if_pos (decide_eq_true hc0), List.length_cons, Nat.add_right_comm]
    exact ih 0 (Nat.lt_of_not_le hk) nofun nofun
      (fun j _ hj => h2 (j + 1) (hm0 ▸ Nat.zero_le _) (Nat.succ_lt_succ hj)) h
  | case4 c cs i start count hc0 ih =>
    have hm0 : 0 < m := Nat.pos_of_ne_zero fun e => hc0 (h2 0 (e ▸ Nat.le_refl 0) (Nat.succ_pos _))
    rw [hm hm0] at hc ⊢
    rw [List.filter_cons_of_neg (by simpa using hc0)]
    exact ih (m - 1) hc (fun _ => rfl) (fun j hj => h1 (j + 1) (Nat.add_lt_of_lt_sub hj))
      (fun j hj1 hj2 => h2 (j + 1) (Nat.le_add_of_sub_le hj1) (Nat.succ_lt_succ hj2)) h

theorem findStart_compact_none (cells : List Cell) (k : Nat) (hk : 0 < k) (hc : Compact cells)
    (h : findStart cells k = none) : freeCount cells < k :=
  have ⟨m, h1, h2⟩ := hc
  findStartFrom_compact k cells m 0 0 0 hk (fun _ => rfl) h1 h2 h

theorem length_abs_zip (cells : List Cell) (rows : List Row) (h : cells.length = rows.length) :
    ((cells.zip rows).filterMap entryOf).length + freeCount cells = cells.length := by
  induction cells generalizing rows with
  | nil => rfl
  | cons c cs ih =>
    cases rows with
    | nil => exact absurd h (Nat.succ_ne_zero _)
    | cons r rs =>
      have := ih rs (Nat.succ.inj h)
      unfold freeCount at this ⊢
      rw [List.zip_cons_cons, List.filterMap_cons, List.filter_cons, List.length_cons, ← this]
      unfold entryOf
      by_cases hc : c.seqs = []
      · rw [if_pos hc, if_pos (decide_eq_true hc), List.length_cons, Nat.add_assoc]
      · rw [if_neg hc, if_neg (by simpa using hc), List.length_cons, Nat.add_right_comm]

theorem defragCore_freeCount (cells : List Cell) (rows : List Row) (hlen : cells.length = rows.length) :
    freeCount (defragCore true cells rows).1 = freeCount cells := by
  obtain ⟨h1, h2, hp⟩ := defragCore_perm cells rows hlen
  have a := length_abs_zip _ _ (h1.trans (hlen.trans h2.symm))
  have b := length_abs_zip cells rows hlen
  rw [← hp.length_eq] at b
  exact Nat.add_left_cancel (a.trans (h1.trans b.symm))

/-- defrag's block copies only ever write rows that were in the cache -/
theorem defragCore_rows_sub (fix : Bool) (cells : List Cell) (rows : List Row) :
    ∀ x ∈ (defragCore fix cells rows).2, x ∈ rows := by
  obtain ⟨_, _, h, _⟩ := defragLoop_rule fix (fun st _ _ => ∀ x ∈ st.rows, x ∈ rows) (fun _ _ _ _ h _ _ => h)
    (fun _ _ _ h _ => h)
    (fun st dst s h _ _ _ x hx => h x <| by
      rcases fillHole_cases fix st dst s with he | ⟨_, _, _, he⟩ <;> rw [he] at hx
      · exact mem_eff st x hx
      · exact hx)
    cells.length ⟨cells, rows, 0, 0, 0⟩ 0 (cells.length - 1) (fun x hx => hx)
  exact fun x hx => h x (mem_eff _ x hx)

theorem eq_of_all_default (l1 l2 : List Row) (hlen : l1.length = l2.length)
    (h1 : ∀ x ∈ l1, x = default) (h2 : ∀ x ∈ l2, x = default) : l1 = l2 := by
  rw [List.eq_replicate_iff.mpr ⟨rfl, h1⟩, List.eq_replicate_iff.mpr ⟨rfl, h2⟩, hlen]

end OllamaVerif.Causal
