/-
  C10 — the retained size of a decoded value in BYTES of the Go representation (64-bit), not in cells.

  Upper bounds per Go value the decoder keeps:
    key / string / tensor name   16 B string header + its bytes
    value in the `KV` map        16 B interface word pair + payload (a scalar boxed in ≤ 8 B; a string: header + bytes;
                                 an array: `*array` = 8 B pointer, 32 B struct (size + slice header), 16 B per collected
                                 element interface + the element's payload)
    map bucket overhead          ≤ 48 B per entry (bucket slot, tophash, overflow share)
    tensor                       8 B pointer in the slice + 80 B struct (name header, kind, offset, shape header, WriterTo)
                                 + name bytes + 8 B per dimension
  `Decoded.goBytes ≤ 128 * weight`, hence `≤ 128 * (input length + 24)` on every successful decode.
-/
import OllamaVerif.Proofs.GgufSafe

namespace OllamaVerif.Gguf
open OllamaVerif

def Elem.goBytes : Elem → Nat
  | .scalar _ => 16 + 8
  | .str s => 16 + 16 + s.length

def elemsGoBytes (es : List Elem) : Nat := (es.map Elem.goBytes).sum

def Val.goBytes : Val → Nat
  | .scalar _ _ => 16 + 8
  | .str s => 16 + 16 + s.length
  | .arr _ _ none => 16 + 8 + 32
  | .arr _ _ (some es) => 16 + 8 + 32 + elemsGoBytes es

def kvsGoBytes (kvs : List (Bytes × Val)) : Nat := (kvs.map (fun p => 48 + 16 + p.1.length + p.2.goBytes)).sum

def TInfo.goBytes (t : TInfo) : Nat := 8 + 80 + t.name.length + 8 * t.shape.length

def Decoded.goBytes (d : Decoded) : Nat := kvsGoBytes d.kvs + (d.tensors.map TInfo.goBytes).sum

theorem Elem.goBytes_le (e : Elem) : e.goBytes ≤ 32 * e.weight := by
  cases e <;> simp only [Elem.goBytes, Elem.weight] <;> omega

theorem sum_map_le_mul {α : Type} (f g : α → Nat) (c : Nat) (h : ∀ x, f x ≤ c * g x) (l : List α) :
    (l.map f).sum ≤ c * (l.map g).sum := by
  induction l with
  | nil => exact Nat.zero_le _
  | cons x xs ih =>
    have := h x
    simp only [List.map_cons, List.sum_cons, Nat.mul_add]
    omega

theorem elemsGoBytes_le (es : List Elem) : elemsGoBytes es ≤ 32 * elemsWeight es :=
  sum_map_le_mul _ _ 32 Elem.goBytes_le es

theorem Val.goBytes_le (v : Val) : v.goBytes ≤ 64 * v.weight := by
  cases v with
  | scalar t raw => simp only [Val.goBytes, Val.weight]; omega
  | str s => simp only [Val.goBytes, Val.weight]; omega
  | arr t size vals =>
    cases vals with
    | none => simp only [Val.goBytes, Val.weight]; omega
    | some es =>
      have := elemsGoBytes_le es
      simp only [Val.goBytes, Val.weight]; omega

theorem kvsGoBytes_le (kvs : List (Bytes × Val)) : kvsGoBytes kvs ≤ 128 * kvsWeight kvs :=
  sum_map_le_mul _ _ 128 (fun p => by have := p.2.goBytes_le; have := p.2.weight_pos; omega) kvs

theorem tensorsGoBytes_le (ts : List TInfo) : (ts.map TInfo.goBytes).sum ≤ 128 * tensorsWeight ts :=
  sum_map_le_mul _ _ 128 (fun t => by simp only [TInfo.goBytes, TInfo.weight]; omega) ts

theorem Decoded.goBytes_le (d : Decoded) : d.goBytes ≤ 128 * d.weight := by
  have h1 := kvsGoBytes_le d.kvs
  have h2 := tensorsGoBytes_le d.tensors
  simp only [Decoded.goBytes, Decoded.weight]
  omega

/-- **Retained bytes**: a successful decode keeps at most 128 bytes per input byte (+ 3 KiB for the entry it adds) -/
theorem decodeFrom_goBytes (r : Rd) (maxArraySize : Int) (budget : Option Nat) (g : Guards) (d : Decoded)
    (h : decodeFrom r maxArraySize budget g = .ok d) : d.goBytes ≤ 128 * r.rest.length + 3072 := by
  have h1 := Decoded.goBytes_le d
  have h2 := decodeFrom_weight r maxArraySize budget g d h
  omega

end OllamaVerif.Gguf
