/-
  C06 — the cell level of kvcache.Causal: the abstraction `abs` to the location-free spec, the invariant `Inv` and its
  preservation by slide, place, Remove, Put and CopyPrefix (defrag: CausalDefrag.lean), and per primitive the pointwise
  facts (what it does to one cell and its row, as an operation on the entry) from which Properties/C06 assembles the
  commutation with `abs`.
-/
import OllamaVerif.Model.Causal
import OllamaVerif.Proofs.KVSpec

namespace OllamaVerif.Causal

open OllamaVerif.KV

/-- the spec entry a (cell, row) pair stands for; an unowned cell stands for nothing -/
def entryOf (x : Cell × Row) : Option Entry :=
  if x.1.seqs = [] then none else some ⟨x.1.seqs, x.1.pos, x.2.id, x.2.shift⟩

/-- **abstraction**: owned cells, in location order, each with the row found at its location -/
def abs (c : Cache) : Spec := (c.cells.zip c.rows).filterMap entryOf

/-! ### CopyPrefix -/

theorem entryOf_cpCell (src dst : Nat) (len : Int) (x : Cell × Row) :
    entryOf (cpCell src dst len x.1, x.2) = (entryOf x).bind (cpEntry src dst len) := by
  obtain ⟨⟨pos, seqs⟩, r⟩ := x
  by_cases h : seqs = []
  · subst h; simp [entryOf, cpCell, cpSeqs]
  · by_cases hc : cpSeqs src dst len pos seqs = [] <;> simp [entryOf, cpCell, cpEntry, h, hc]

/-! ### Remove -/

/-- what `Remove`'s loop does to one cell when it does not bail out -/
def rmCell (seq : Nat) (b e off : Int) (c : Cell) : Cell :=
  if seq ∈ c.seqs then
    if b ≤ c.pos ∧ c.pos < e then dropSeq seq c
    else if c.pos ≥ e then { c with pos := c.pos + off }
    else c
  else c

/-- `mustRefuse` on a cell: where the loop of `Remove` stops; written out, the first test of `removeGuard` -/
def refuseCell (seq : Nat) (b e : Int) (c : Cell) : Bool :=
  decide (seq ∈ c.seqs) && !(decide (b ≤ c.pos ∧ c.pos < e)) && decide (c.pos ≥ e) && sharedOther seq c.seqs

/-- the loop of `Remove` stops at the first cell it refuses -/
theorem removeCells_cons (seq : Nat) (b e off : Int) (c : Cell) (cs : List Cell) :
    removeCells seq b e off (c :: cs) =
      if refuseCell seq b e c then (c :: cs, true)
      else (rmCell seq b e off c :: (removeCells seq b e off cs).1, (removeCells seq b e off cs).2) := by
  by_cases h1 : seq ∈ c.seqs
  · by_cases h2 : b ≤ c.pos ∧ c.pos < e
    · simp [removeCells, refuseCell, rmCell, h1, h2]
    · by_cases h3 : c.pos ≥ e
      · cases h4 : sharedOther seq c.seqs <;> simp [removeCells, refuseCell, rmCell, h1, h2, h3, h4]
      · simp [removeCells, refuseCell, rmCell, h1, h2, h3]
  · simp [removeCells, refuseCell, rmCell, h1]

theorem mem_dropSeq {s seq : Nat} {c : Cell} (h : s ∈ (dropSeq seq c).seqs) : s ∈ c.seqs ∧ s ≠ seq := by
  simpa [dropSeq] using h

theorem rmCell_seqs_sub {seq : Nat} {b e off : Int} {c : Cell} {s : Nat} (h : s ∈ (rmCell seq b e off c).seqs) :
    s ∈ c.seqs := by
  unfold rmCell at h
  split at h
  · split at h
    · exact (mem_dropSeq h).1
    · split at h <;> exact h
  · exact h

theorem mem_rmCell_of_ge {seq : Nat} {b e off : Int} {c : Cell} (hs : seq ∈ c.seqs) (he : e ≤ c.pos) :
    seq ∈ (rmCell seq b e off c).seqs := by
  unfold rmCell
  rw [if_pos hs, if_neg (by omega), if_pos he]
  exact hs

theorem rmCell_pos_le (seq : Nat) (b e : Int) {off : Int} (hoff : off ≤ 0) (c : Cell) :
    (rmCell seq b e off c).pos ≤ c.pos := by
  unfold rmCell
  split
  · split
    · exact Int.le_refl _
    · split
      · show c.pos + off ≤ c.pos
        omega
      · exact Int.le_refl _
  · exact Int.le_refl _

theorem removeCells_flag (seq : Nat) (b e off : Int) (cells : List Cell) :
    (removeCells seq b e off cells).2 = cells.any (refuseCell seq b e) := by
  induction cells with
  | nil => rfl
  | cons c cs ih =>
    rw [removeCells_cons, List.any_cons]
    cases refuseCell seq b e c
    · exact ih
    · rfl

theorem removeCells_ok (seq : Nat) (b e off : Int) (cells : List Cell)
    (h : (removeCells seq b e off cells).2 = false) :
    (removeCells seq b e off cells).1 = cells.map (rmCell seq b e off) := by
  induction cells with
  | nil => rfl
  | cons c cs ih =>
    rw [removeCells_cons] at h ⊢
    split at h
    · cases h
    · rw [if_neg ‹_›, List.map_cons, ih h]

theorem length_removeCells (seq : Nat) (b e off : Int) (cells : List Cell) :
    (removeCells seq b e off cells).1.length = cells.length := by
  induction cells with
  | nil => rfl
  | cons c cs ih =>
    rw [removeCells_cons]
    split
    · rfl
    · rw [List.length_cons, List.length_cons, ih]

theorem removeCells_getElem (seq : Nat) (b e off : Int) (cells : List Cell) (j : Nat) (hj : j < cells.length)
    (hj' : j < (removeCells seq b e off cells).1.length) :
    (removeCells seq b e off cells).1[j] = cells[j] ∨ (removeCells seq b e off cells).1[j] = rmCell seq b e off cells[j] := by
  induction cells generalizing j with
  | nil => exact absurd hj (Nat.not_lt_zero j)
  | cons c cs ih =>
    simp only [removeCells_cons]
    split
    · exact Or.inl rfl
    · cases j with
      | zero => exact Or.inr rfl
      | succ k => exact ih k (Nat.lt_of_succ_lt_succ hj) _

theorem removeCells_sub (seq : Nat) (b e off : Int) (cells : List Cell) (j : Nat)
    (hj : j < cells.length) :
    ∀ s ∈ ((removeCells seq b e off cells).1[j]'(by rw [length_removeCells]; exact hj)).seqs, s ∈ cells[j].seqs := by
  intro s hs
  rcases removeCells_getElem seq b e off cells j hj _ with h | h
  · rw [h] at hs; exact hs
  · rw [h] at hs; exact rmCell_seqs_sub hs

/-- cell and row after an accepted `Remove` with shift, as one pointwise function -/
def rmPair (seq : Nat) (b e off : Int) (doShift : Bool) (x : Cell × Row) : Cell × Row :=
  let c' := rmCell seq b e off x.1
  (c', if doShift ∧ seq ∈ c'.seqs ∧ c'.pos ≥ e + off then { x.2 with shift := x.2.shift + off } else x.2)

theorem zip_shiftRows (seq : Nat) (b e off : Int) (cells : List Cell) (rows : List Row) :
    (cells.map (rmCell seq b e off)).zip (shiftRows seq (e + off) off (cells.map (rmCell seq b e off)) rows)
      = (cells.zip rows).map (rmPair seq b e off true) := by
  induction cells generalizing rows with
  | nil => simp
  | cons c cs ih =>
    cases rows with
    | nil => simp [shiftRows]
    | cons r rs => simp [shiftRows, ih, rmPair]

theorem zip_noShift (seq : Nat) (b e off : Int) (cells : List Cell) (rows : List Row) :
    (cells.map (rmCell seq b e off)).zip rows = (cells.zip rows).map (rmPair seq b e off false) := by
  rw [List.zip_map_left]
  exact List.map_congr_left fun x _ => by simp [rmPair, Prod.map]

/-- pointwise: an accepted `Remove` is the spec's `rmEntry`, provided the data shift is applied, or
    is not needed because no position moves (offset 0, the `MaxInt32` case) or because this cell is
    not one that moves -/
theorem entryOf_rmPair (seq : Nat) (b e : Int) (doShift : Bool) (x : Cell × Row)
    (h : doShift = true ∨ rmOffset b e = 0 ∨ ¬ (seq ∈ x.1.seqs ∧ e ≤ x.1.pos)) :
    entryOf (rmPair seq b e (rmOffset b e) doShift x) = (entryOf x).bind (rmEntry seq b e) := by
  obtain ⟨⟨pos, seqs⟩, r⟩ := x
  by_cases h0 : seqs = []
  · subst h0; simp [entryOf, rmPair, rmCell]
  · by_cases h1 : seq ∈ seqs
    · by_cases h2 : b ≤ pos ∧ pos < e
      · simp [entryOf, rmPair, rmCell, rmEntry, h0, h1, h2, dropSeq]
      · by_cases h3 : pos ≥ e
        · rcases h with h | h | h
          · simp [entryOf, rmPair, rmCell, rmEntry, h0, h1, h2, h3, h]
          · simp [entryOf, rmPair, rmCell, rmEntry, h0, h1, h2, h3, h]
          · exact absurd ⟨h1, h3⟩ h
        · have h4 : ¬ (e + rmOffset b e ≤ pos) := by unfold rmOffset; split <;> omega
          simp [entryOf, rmPair, rmCell, rmEntry, h0, h1, h2, h3, h4]
    · simp [entryOf, rmPair, rmCell, rmEntry, h0, h1]

theorem any_refuse_abs (seq : Nat) (b e : Int) (cells : List Cell) (rows : List Row)
    (hlen : cells.length = rows.length) :
    ((cells.zip rows).filterMap entryOf).any (mustRefuse seq b e) = cells.any (refuseCell seq b e) := by
  induction cells generalizing rows with
  | nil => simp
  | cons c cs ih =>
    cases rows with
    | nil => simp at hlen
    | cons r rs =>
      simp only [List.length_cons, Nat.add_right_cancel_iff] at hlen
      by_cases h0 : c.seqs = []
      · simp [List.zip_cons_cons, entryOf, h0, ih rs hlen, refuseCell]
      · simp [List.zip_cons_cons, entryOf, h0, ih rs hlen, refuseCell, mustRefuse]

/-! ### ranges -/

theorem Range.add_min_le (r : Range) (i : Nat) : (r.add i).min ≤ r.min ∧ (r.add i).min ≤ i := by
  unfold Range.add; simp only; split <;> omega

theorem Range.add_max_ge (r : Range) (i : Nat) : r.max ≤ (r.add i).max ∧ i ≤ (r.add i).max := by
  unfold Range.add; simp only; split <;> omega

theorem Range.add_max_eq (r : Range) (i : Nat) : (r.add i).max = r.max ∨ (r.add i).max = i := by
  unfold Range.add; simp only; split <;> simp

theorem rangeFrom_spec (p : Nat → Cell → Bool) (cells : List Cell) (i : Nat) (r : Range) :
    (∀ k (hk : k < cells.length), p (i + k) cells[k] = true →
      (rangeFrom p i cells r).min ≤ i + k ∧ i + k ≤ (rangeFrom p i cells r).max) ∧
    (rangeFrom p i cells r).min ≤ r.min ∧ r.max ≤ (rangeFrom p i cells r).max ∧
    ((rangeFrom p i cells r).max = r.max ∨ (rangeFrom p i cells r).max < i + cells.length) := by
  induction cells generalizing i r with
  | nil => exact ⟨nofun, Nat.le_refl _, Nat.le_refl _, Or.inl rfl⟩
  | cons c cs ih =>
    have a1 := Range.add_min_le r i
    have a2 := Range.add_max_ge r i
    simp only [rangeFrom, List.length_cons]
    refine ⟨fun k hk hp => ?_, ?_⟩
    · cases k with
      | zero =>
        rw [if_pos (show p i c = true from hp)]
        have ⟨_, h2, h3, _⟩ := ih (i + 1) (r.add i)
        exact ⟨Nat.le_trans h2 a1.2, Nat.le_trans a2.2 h3⟩
      | succ k =>
        rw [← Nat.add_assoc, Nat.add_right_comm] at hp ⊢
        exact (ih (i + 1) _).1 k (Nat.lt_of_succ_lt_succ hk) hp
    · have a3 := Range.add_max_eq r i
      by_cases hb : p i c = true
      · rw [if_pos hb]
        have := ih (i + 1) (r.add i)
        omega
      · rw [if_neg hb]
        have := ih (i + 1) r
        omega

theorem rangeFrom_none (p : Nat → Cell → Bool) (i : Nat) (cells : List Cell) (r : Range)
    (h : ∀ k, ∀ x ∈ cells, p k x = false) : rangeFrom p i cells r = r := by
  induction cells generalizing i with
  | nil => rfl
  | cons x xs ih =>
    rw [rangeFrom, h i x (List.mem_cons_self ..), if_neg Bool.false_ne_true]
    exact ih _ fun k y hy => h k y (List.mem_cons_of_mem _ hy)

theorem rangeOf_covers (p : Nat → Cell → Bool) (cells : List Cell) (k : Nat) (hk : k < cells.length)
    (hp : p k cells[k] = true) : (rangeOf p cells).min ≤ k ∧ k ≤ (rangeOf p cells).max := by
  simpa only [rangeOf, Nat.zero_add] using (rangeFrom_spec p cells 0 Range.new).1 k hk (by rwa [Nat.zero_add])

theorem rangeOf_max_lt (p : Nat → Cell → Bool) (cells : List Cell) :
    (rangeOf p cells).max < cells.length ∨ (rangeOf p cells).max = 0 := by
  have := (rangeFrom_spec p cells 0 Range.new).2.2.2
  rw [Nat.zero_add] at this
  exact this.symm

theorem rangeOf_new (p : Nat → Cell → Bool) (cells : List Cell) (hsz : cells.length ≤ maxInt)
    (h : rangeOf p cells = Range.new) : ∀ k (hk : k < cells.length), p k cells[k] = false := by
  intro k hk
  cases hp : p k cells[k] with
  | false => rfl
  | true =>
    have := rangeOf_covers p cells k hk hp
    rw [h] at this
    simp only [Range.new] at this
    omega

/-! ### the mask -/

def entryAt (c : Cache) (j : Nat) : Option Entry :=
  entryOf (c.cells.getD j Cell.empty, c.rows.getD j default)

theorem zip_eq_range {α β} (l1 : List α) (l2 : List β) (d1 : α) (d2 : β) (h : l1.length = l2.length) :
    l1.zip l2 = (List.range l1.length).map (fun j => (l1.getD j d1, l2.getD j d2)) := by
  apply List.ext_getElem
  · simp [h]
  · intro i h1 h2
    simp only [List.length_zip, ← h, Nat.min_self] at h1
    simp [List.getD_eq_getElem?_getD, List.getElem?_eq_getElem h1, List.getElem?_eq_getElem (h ▸ h1)]

/-- `entryAt` for cells and rows that are not (yet) those of a cache: the states of the defrag loop -/
def slotEntry (cells : List Cell) (rows : List Row) (j : Nat) : Option Entry :=
  entryOf (cells.getD j Cell.empty, rows.getD j default)

theorem abs_zip_eq_range (cells : List Cell) (rows : List Row) (h : cells.length = rows.length) :
    (cells.zip rows).filterMap entryOf = (List.range cells.length).filterMap (slotEntry cells rows) := by
  rw [zip_eq_range cells rows Cell.empty default h, List.filterMap_map]
  rfl

theorem abs_eq_range (c : Cache) (hlen : c.cells.length = c.rows.length) :
    abs c = (List.range c.cells.length).filterMap (entryAt c) :=
  abs_zip_eq_range c.cells c.rows hlen

theorem range_split3 (n lo len : Nat) (h : lo + len ≤ n) :
    List.range n = List.range' 0 lo ++ (List.range' lo len ++ List.range' (lo + len) (n - (lo + len))) := by
  have := List.range'_append_1 (s := 0) (m := lo) (n := len + (n - (lo + len)))
  rw [Nat.zero_add] at this
  rw [List.range_eq_range', List.range'_append_1, this]
  congr 1
  omega

theorem filterMap_range_restrict {β} (g : Nat → Option β) (n lo len : Nat) (h1 : lo + len ≤ n)
    (h2 : ∀ j, j < n → (j < lo ∨ lo + len ≤ j) → g j = none) :
    (List.range n).filterMap g = (List.range' lo len).filterMap g := by
  rw [range_split3 n lo len h1, List.filterMap_append, List.filterMap_append]
  have hlo : (List.range' 0 lo).filterMap g = [] := List.filterMap_eq_nil_iff.mpr fun x hx => by
    simp only [List.mem_range'_1] at hx
    exact h2 x (by omega) (Or.inl (by omega))
  have hhi : (List.range' (lo + len) (n - (lo + len))).filterMap g = [] := List.filterMap_eq_nil_iff.mpr fun x hx => by
    simp only [List.mem_range'_1] at hx
    exact h2 x (by omega) (Or.inr hx.1)
  rw [hlo, hhi, List.nil_append, List.append_nil]

/-- one mask entry is the spec's visibility test on the entry found at that location -/
theorem maskBitE_entryAt (en : Bool) (c : Cache) (t : Tok) (j : Nat) :
    (if maskBitE en c t j then entryAt c j else none) = (entryAt c j).filter (visE en c.window t.seq t.pos) := by
  unfold maskBitE entryAt entryOf visE
  generalize c.cells.getD j Cell.empty = cell
  generalize c.rows.getD j default = row
  obtain ⟨pos, seqs⟩ := cell
  by_cases h0 : seqs = []
  · subst h0; simp
  · simp only [h0, if_false, Option.filter]

theorem maskBit_entryAt (c : Cache) (t : Tok) (j : Nat) :
    (if maskBit c t j then entryAt c j else none) = (entryAt c j).filter (vis c.window t.seq t.pos) :=
  maskBitE_entryAt true c t j

/-! ### invariants -/

theorem length_mapFrom (f : Nat → Cell → Cell) (i : Nat) (l : List Cell) : (mapFrom f i l).length = l.length := by
  induction l generalizing i with
  | nil => rfl
  | cons a as ih => simp [mapFrom, ih]

theorem getElem_mapFrom (f : Nat → Cell → Cell) (i : Nat) (l : List Cell) (k : Nat) (hk : k < l.length) :
    (mapFrom f i l)[k]'(by rw [length_mapFrom]; exact hk) = f (i + k) l[k] := by
  induction l generalizing i k with
  | nil => simp at hk
  | cons a as ih =>
    cases k with
    | zero => simp [mapFrom]
    | succ k =>
      simp only [mapFrom, List.getElem_cons_succ]
      rw [ih (i + 1) k (by simpa using hk)]
      congr 1; omega

structure Inv (c : Cache) : Prop where
  len : c.cells.length = c.rows.length
  /-- `ranges_cover`: every cell holding `s` lies inside `cellRanges[s]` -/
  cover : ∀ j (hj : j < c.cells.length) s, s ∈ c.cells[j].seqs →
    ∃ r, c.ranges s = some r ∧ r.min ≤ j ∧ j ≤ r.max
  /-- `∨ r.max = 0`: `newRange()` has max 0, which is no location of a cache without cells -/
  rmax : ∀ s r, c.ranges s = some r → r.max < c.cells.length ∨ r.max = 0
  pad : 0 < c.cachePad ∧ c.cells.length % c.cachePad = 0
  /-- the cache is smaller than `math.MaxInt` cells (so `newRange()` is never a real range) -/
  size : c.cells.length ≤ maxInt

theorem Inv.of_sizes {c c' : Cache} (h : Inv c) (hl : c'.cells.length = c.cells.length)
    (hr : c'.rows.length = c.rows.length) (hp : c'.cachePad = c.cachePad)
    (cover : ∀ j (hj : j < c'.cells.length) s, s ∈ c'.cells[j].seqs →
      ∃ r, c'.ranges s = some r ∧ r.min ≤ j ∧ j ≤ r.max)
    (rmax : ∀ s r, c'.ranges s = some r → r.max < c.cells.length ∨ r.max = 0) : Inv c' := by
  refine ⟨?_, cover, ?_, ?_, ?_⟩
  · rw [hl, hr]; exact h.len
  · rw [hl]; exact rmax
  · rw [hl, hp]; exact h.pad
  · rw [hl]; exact h.size

theorem Inv.of_eq {c c' : Cache} (h : Inv c) (hc : c'.cells = c.cells) (hr : c'.rows = c.rows)
    (hg : c'.ranges = c.ranges) (hp : c'.cachePad = c.cachePad) : Inv c' := by
  cases c; cases c'; cases hc; cases hr; cases hg; cases hp
  exact ⟨h.len, h.cover, h.rmax, h.pad, h.size⟩

theorem setRange_some {f : Nat → Option Range} {seq s : Nat} {o : Option Range} {r : Range}
    (h : setRange f seq o s = some r) : f s = some r ∨ o = some r := by
  unfold setRange at h
  split at h
  · exact Or.inr h
  · exact Or.inl h

theorem slideSeq_inv (c : Cache) (w : Int) (seq : Nat) (low : Int) (h : Inv c) : Inv (slideSeq c w seq low) := by
  unfold slideSeq
  cases hr : c.ranges seq with
  | none => exact h
  | some old =>
    refine h.of_sizes (length_mapFrom ..) rfl rfl (fun j hj s hs => ?_)
      fun s r hs => (setRange_some hs).elim (h.rmax s r) fun h' => Option.some.inj h' ▸ rangeOf_max_lt ..
    have hj' : j < c.cells.length := length_mapFrom .. ▸ hj
    rw [getElem_mapFrom _ _ _ _ hj', Nat.zero_add] at hs
    unfold evictCell at hs
    split at hs
    · obtain ⟨hs, hne⟩ := mem_dropSeq hs
      obtain ⟨r, hr', hb⟩ := h.cover j hj' s hs
      exact ⟨r, (if_neg hne).trans hr', hb⟩
    · rename_i hk
      obtain ⟨r, hr', hb⟩ := h.cover j hj' s hs
      by_cases hseq : s = seq
      · -- the cell was in the old range of `seq` and has not been evicted, so the new range is computed over it
        subst hseq
        rw [hr] at hr'
        cases hr'
        exact ⟨_, if_pos rfl, rangeOf_covers _ _ j hj'
          (decide_eq_true ⟨hb.1, hb.2, hs, fun hlt => hk ⟨hb.1, hb.2, hs, hlt⟩⟩)⟩
      · exact ⟨r, (if_neg hseq).trans hr', hb⟩

theorem slide_ind {P : Cache → Prop} (hs : ∀ c w seq low, P c → P (slideSeq c w seq low)) (c : Cache)
    (b : List Tok) (h : P c) : P (slide c b) := by
  unfold slide
  cases c.window with
  | none => exact h
  | some w =>
    simp only
    generalize batchSeqs b = seqs
    induction seqs generalizing c with
    | nil => exact h
    | cons seq rest ih =>
      simp only [List.foldl_cons]
      cases lowest b seq with
      | none => exact ih c h
      | some low => exact ih _ (hs c w seq low h)

theorem slide_inv (c : Cache) (b : List Tok) (h : Inv c) : Inv (slide c b) :=
  slide_ind slideSeq_inv c b h

theorem slide_fields (c : Cache) (b : List Tok) :
    (slide c b).v = c.v ∧ (slide c b).window = c.window ∧ (slide c b).hasLayers = c.hasLayers ∧
    (slide c b).rows = c.rows ∧ (slide c b).except = c.except ∧ (slide c b).cells.length = c.cells.length := by
  refine slide_ind (P := fun c' => c'.v = c.v ∧ c'.window = c.window ∧ c'.hasLayers = c.hasLayers ∧
    c'.rows = c.rows ∧ c'.except = c.except ∧ c'.cells.length = c.cells.length) ?_ c b ⟨rfl, rfl, rfl, rfl, rfl, rfl⟩
  intro c' w seq low h
  unfold slideSeq
  cases c'.ranges seq with
  | none => exact h
  | some old => simpa only [length_mapFrom] using h

/-! ### placement -/

/-- the current range contains the range of every sequence in `S`, and ends inside the cache -/
structure CurOK (c : Cache) (S : List Tok) : Prop where
  sub : ∀ t ∈ S, ∃ r, c.ranges t.seq = some r ∧ c.curRange.min ≤ r.min ∧ r.max ≤ c.curRange.max
  cmax : c.curRange.max < c.cells.length ∨ c.curRange.max = 0

theorem placeTok_rmax (c : Cache) (idx : Nat) (t : Tok) (h : Inv c) (hidx : idx < c.cells.length) :
    (((c.ranges t.seq).getD Range.new).add idx).max < c.cells.length ∨
      (((c.ranges t.seq).getD Range.new).add idx).max = 0 := by
  rcases Range.add_max_eq ((c.ranges t.seq).getD Range.new) idx with h1 | h1
  · rw [h1]
    cases hr : c.ranges t.seq with
    | none => exact Or.inr rfl
    | some r0 => exact h.rmax _ _ hr
  · rw [h1]
    exact Or.inl hidx

theorem placeTok_inv (c : Cache) (idx : Nat) (t : Tok) (h : Inv c) (hidx : idx < c.cells.length) :
    Inv (placeTok c idx t) := by
  unfold placeTok
  refine h.of_sizes (List.length_set ..) rfl rfl (fun j hj s hs => ?_) fun s r hs =>
    (setRange_some hs).elim (h.rmax s r) fun h' => Option.some.inj h' ▸ placeTok_rmax c idx t h hidx
  have a1 := Range.add_min_le ((c.ranges t.seq).getD Range.new) idx
  have a2 := Range.add_max_ge ((c.ranges t.seq).getD Range.new) idx
  rw [List.getElem_set] at hs
  split at hs
  · rename_i hji
    cases List.mem_singleton.mp hs
    exact ⟨_, if_pos rfl, hji ▸ a1.2, hji ▸ a2.2⟩
  · obtain ⟨r, hr, hb⟩ := h.cover j (List.length_set .. ▸ hj) s hs
    by_cases hseq : s = t.seq
    · subst hseq
      rw [hr, Option.getD_some] at a1 a2 ⊢
      exact ⟨_, if_pos rfl, Nat.le_trans a1.1 hb.1, Nat.le_trans hb.2 a2.1⟩
    · exact ⟨r, (if_neg hseq).trans hr, hb⟩

theorem placeTok_cur (c : Cache) (idx : Nat) (t : Tok) (S : List Tok) (h : Inv c) (hc : CurOK c S)
    (hidx : idx < c.cells.length) : CurOK (placeTok c idx t) (t :: S) := by
  unfold placeTok
  constructor
  · intro u hu
    simp only
    by_cases hseq : u.seq = t.seq
    · refine ⟨_, if_pos hseq, ?_⟩
      constructor <;> split <;> omega
    · obtain ⟨r, hr, hmin, hmax⟩ :=
        hc.sub u ((List.mem_cons.mp hu).resolve_left fun hut => hseq (hut ▸ rfl))
      refine ⟨r, (if_neg hseq).trans hr, ?_⟩
      constructor <;> split <;> omega
  · simp only [List.length_set]
    split
    · exact placeTok_rmax c idx t h hidx
    · exact hc.cmax

theorem place_inv (c : Cache) (idx : Nat) (toks S : List Tok) (h : Inv c) (hc : CurOK c S)
    (hfit : idx + toks.length ≤ c.cells.length) :
    Inv (place c idx toks) ∧ ∃ S', CurOK (place c idx toks) S' ∧ ∀ t, t ∈ toks ∨ t ∈ S → t ∈ S' := by
  induction toks generalizing c idx S with
  | nil => exact ⟨h, S, hc, fun t ht => ht.resolve_left List.not_mem_nil⟩
  | cons t ts ih =>
    simp only [List.length_cons] at hfit
    have hidx : idx < c.cells.length := by omega
    obtain ⟨hi, S', hS', hsub⟩ := ih (placeTok c idx t) (idx + 1) (t :: S) (placeTok_inv c idx t h hidx)
      (placeTok_cur c idx t S h hc hidx) (by simp only [placeTok, List.length_set]; omega)
    exact ⟨hi, S', hS', fun u hu => hsub u (by simpa [or_assoc, or_left_comm] using hu)⟩

theorem roundUp_ge (m pad : Nat) (hp : 0 < pad) : m ≤ roundUp m pad := by
  unfold roundUp
  have h1 := Nat.div_add_mod (m + pad - 1) pad
  have h2 := Nat.mod_lt (m + pad - 1) hp
  rw [Nat.mul_comm] at h1
  omega

theorem roundUp_le (m pad n : Nat) (hp : 0 < pad) (hn : n % pad = 0) (hm : m ≤ n) : roundUp m pad ≤ n := by
  unfold roundUp
  obtain ⟨q, hq⟩ : ∃ q, n = q * pad := ⟨n / pad, by have := Nat.div_add_mod n pad; rw [hn, Nat.mul_comm] at this; omega⟩
  subst hq
  apply Nat.mul_le_mul_right
  apply Nat.le_of_lt_succ
  rw [Nat.div_lt_iff_lt_mul hp, Nat.succ_mul]
  omega

theorem roundDown_le (m pad : Nat) : roundDown m pad ≤ m := Nat.div_mul_le_self m pad

/-! ### block copies and indexed maps -/

theorem getD_mem_or {α} (l : List α) (i : Nat) (d : α) : l.getD i d = d ∨ l.getD i d ∈ l := by
  by_cases h : i < l.length
  · right; simp [List.getD_eq_getElem?_getD, List.getElem?_eq_getElem h]
  · left; simp [List.getD_eq_getElem?_getD, List.getElem?_eq_none (Nat.le_of_not_lt h)]

theorem length_moveRowsFrom (old : List Row) (src dst len i : Nat) (rows : List Row) :
    (moveRowsFrom old src dst len i rows).length = rows.length := by
  induction rows generalizing i with
  | nil => rfl
  | cons r rs ih => simp [moveRowsFrom, ih]

theorem length_moveRows (rows : List Row) (src dst len : Nat) : (moveRows rows src dst len).length = rows.length :=
  length_moveRowsFrom _ _ _ _ _ _

theorem mem_mapFrom {f : Nat → Cell → Cell} {i : Nat} {l : List Cell} {x : Cell} (h : x ∈ mapFrom f i l) :
    ∃ k c, c ∈ l ∧ x = f k c := by
  obtain ⟨k, hk, rfl⟩ := List.getElem_of_mem h
  have hk' : k < l.length := length_mapFrom f i l ▸ hk
  exact ⟨i + k, l[k], List.getElem_mem hk', getElem_mapFrom f i l k hk'⟩

/-! ### the block returned by findStartLoc is free -/

theorem findStartFrom_spec (k : Nat) (cells : List Cell) (i start count s : Nat)
    (h : findStartFrom k cells i start count = some s) (hinv : start + count = i) :
    (s + k ≤ i + cells.length ∧ 0 < cells.length ∧ start ≤ s) ∧
    ∀ j, s ≤ j → j < s + k → i ≤ j → (cells.getD (j - i) Cell.empty).seqs = [] := by
  fun_induction findStartFrom k cells i start count with
  | case1 => cases h
  | case2 c cs i start count hc =>
    cases h
    refine ⟨by rw [List.length_cons]; omega, fun j _ _ _ => ?_⟩
    rw [show j - i = 0 by omega]
    exact hc
  | case3 c cs i start count hc _ ih =>
    obtain ⟨h0, ih⟩ := ih h (by omega)
    refine ⟨by rw [List.length_cons]; omega, fun j h1 h2 _ => ?_⟩
    by_cases hj : j = i
    · rw [hj, Nat.sub_self]
      exact hc
    · rw [show j - i = j - (i + 1) + 1 by omega]
      exact ih j h1 h2 (by omega)
  | case4 c cs i start count _ ih =>
    obtain ⟨h0, ih⟩ := ih h rfl
    refine ⟨by rw [List.length_cons]; omega, fun j h1 h2 _ => ?_⟩
    rw [show j - i = j - (i + 1) + 1 by omega]
    exact ih j h1 h2 (by omega)

theorem findStart_holes (cells : List Cell) (k s : Nat) (h : findStart cells k = some s) :
    ∀ j, s ≤ j → j < s + k → (cells.getD j Cell.empty).seqs = [] :=
  fun j h1 h2 => (findStartFrom_spec k cells 0 0 0 s h rfl).2 j h1 h2 (Nat.zero_le j)

/-! ### placement and `Put` as one block write -/

theorem getD_map_lt {α β} (f : α → β) (l : List α) (j : Nat) (h : j < l.length) (d : β) (d' : α) :
    (l.map f).getD j d = f (l.getD j d') := by
  simp [List.getD_eq_getElem?_getD, List.getElem?_eq_getElem h]

theorem getD_set_eq {α} (l : List α) (i : Nat) (a d : α) (h : i < l.length) : (l.set i a).getD i d = a := by
  simp [List.getD_eq_getElem?_getD, h]

theorem getD_set_ne {α} (l : List α) (i j : Nat) (a d : α) (h : i ≠ j) : (l.set i a).getD j d = l.getD j d := by
  simp [List.getD_eq_getElem?_getD, List.getElem?_set_ne h]

/-- writing the images of `as` to the consecutive locations `i, i+1, …`: what `place` does to the
    cells and `Put` to the rows -/
def setBlock {α β} (f : α → β) : List β → Nat → List α → List β
  | l, _, [] => l
  | l, i, a :: as => setBlock f (l.set i (f a)) (i + 1) as

theorem length_setBlock {α β} (f : α → β) (l : List β) (i : Nat) (as : List α) :
    (setBlock f l i as).length = l.length := by
  induction as generalizing l i with
  | nil => rfl
  | cons a as ih => rw [setBlock, ih, List.length_set]

theorem getD_setBlock {α β} (f : α → β) (l : List β) (i : Nat) (as : List α) (j : Nat) (d : β)
    (hfit : i + as.length ≤ l.length) :
    (j < i ∨ i + as.length ≤ j → (setBlock f l i as).getD j d = l.getD j d) ∧
    (i ≤ j → j < i + as.length → ∃ a ∈ as, (setBlock f l i as).getD j d = f a) := by
  induction as generalizing l i with
  | nil => exact ⟨fun _ => rfl, fun h1 h2 => absurd h2 (Nat.not_lt.mpr h1)⟩
  | cons a as ih =>
    rw [List.length_cons] at hfit ⊢
    obtain ⟨ih1, ih2⟩ := ih (l.set i (f a)) (i + 1) (by rw [List.length_set]; omega)
    refine ⟨fun h => ?_, fun h1 h2 => ?_⟩
    · rw [setBlock, ih1 (by omega), getD_set_ne _ _ _ _ _ (by omega)]
    · by_cases hj : j = i
      · subst hj
        exact ⟨a, List.mem_cons_self .., by rw [setBlock, ih1 (by omega), getD_set_eq _ _ _ _ (by omega)]⟩
      · obtain ⟨u, hu, he⟩ := ih2 (by omega) (by omega)
        exact ⟨u, List.mem_cons_of_mem _ hu, he⟩

theorem mem_setBlock {α β} (f : α → β) (l : List β) (i : Nat) (as : List α) (x : β)
    (h : x ∈ setBlock f l i as) : x ∈ l ∨ ∃ a ∈ as, x = f a := by
  induction as generalizing l i with
  | nil => exact Or.inl h
  | cons a as ih =>
    rcases ih _ _ h with h1 | ⟨u, hu, he⟩
    · rcases List.mem_or_eq_of_mem_set h1 with h2 | h2
      · exact Or.inl h2
      · exact Or.inr ⟨a, List.mem_cons_self .., h2⟩
    · exact Or.inr ⟨u, List.mem_cons_of_mem _ hu, he⟩

def placeCells (cells : List Cell) (idx : Nat) (toks : List Tok) : List Cell :=
  setBlock (fun t => (⟨t.pos, [t.seq]⟩ : Cell)) cells idx toks

theorem putRows_eq (rows : List Row) (idx : Nat) (ids : List Nat) :
    putRows rows idx ids = setBlock (fun id => (⟨id, 0⟩ : Row)) rows idx ids := by
  induction ids generalizing rows idx with
  | nil => rfl
  | cons a as ih => exact ih _ _

theorem length_placeCells (cells : List Cell) (idx : Nat) (toks : List Tok) :
    (placeCells cells idx toks).length = cells.length :=
  length_setBlock _ cells idx toks

theorem length_putRows (rows : List Row) (idx : Nat) (ids : List Nat) : (putRows rows idx ids).length = rows.length := by
  rw [putRows_eq, length_setBlock]

theorem place_fields (c : Cache) (idx : Nat) (toks : List Tok) :
    (place c idx toks).cells = placeCells c.cells idx toks ∧ (place c idx toks).rows = c.rows ∧
    (place c idx toks).hasLayers = c.hasLayers ∧ (place c idx toks).curLoc = c.curLoc ∧
    (place c idx toks).window = c.window ∧ (place c idx toks).except = c.except ∧
    (place c idx toks).cachePad = c.cachePad ∧ (place c idx toks).v = c.v := by
  induction toks generalizing c idx with
  | nil => exact ⟨rfl, rfl, rfl, rfl, rfl, rfl, rfl, rfl⟩
  | cons t ts ih => exact ih (placeTok c idx t) (idx + 1)

theorem getD_placeCells (cells : List Cell) (idx : Nat) (toks : List Tok) (j : Nat)
    (hfit : idx + toks.length ≤ cells.length) :
    (j < idx ∨ idx + toks.length ≤ j → (placeCells cells idx toks).getD j Cell.empty = cells.getD j Cell.empty) ∧
    (idx ≤ j → j < idx + toks.length →
      ∃ t ∈ toks, (placeCells cells idx toks).getD j Cell.empty = ⟨t.pos, [t.seq]⟩) :=
  getD_setBlock _ cells idx toks j Cell.empty hfit

theorem mem_placeCells (cells : List Cell) (idx : Nat) (toks : List Tok) (x : Cell)
    (h : x ∈ placeCells cells idx toks) : x ∈ cells ∨ ∃ t ∈ toks, x = ⟨t.pos, [t.seq]⟩ :=
  mem_setBlock _ cells idx toks x h

theorem length_shiftRows (seq : Nat) (frm off : Int) (cells : List Cell) (rows : List Row) :
    (shiftRows seq frm off cells rows).length = rows.length := by
  fun_induction shiftRows seq frm off cells rows with
  | case1 _ _ _ _ ih => rw [List.length_cons, List.length_cons, ih]
  | case2 => rfl

/-! ### `Remove` on a cache: field by field, `Inv`, the removal to the end, the clear after it -/

/-- what the metadata loop of `Remove` returns on the cells of `c` -/
abbrev rmLoop (c : Cache) (seq : Nat) (b e : Int) : List Cell × Bool :=
  removeCells seq b e (rmOffset b e) c.cells

theorem remove_cells (c : Cache) (seq : Nat) (b e : Int) : (remove c seq b e).1.cells = (rmLoop c seq b e).1 := by
  simp only [remove, apply_ite Prod.fst, apply_ite Cache.cells, ite_self]

theorem remove_snd (c : Cache) (seq : Nat) (b e : Int) :
    (remove c seq b e).2 =
      if (rmLoop c seq b e).2 then .shared
      else if rangeOf (hasSeq seq) (rmLoop c seq b e).1 = Range.new then .ok
      else if e = maxInt32 then .ok else if !c.hasShift then .notsup else .ok := by
  simp only [remove, apply_ite Prod.snd]

theorem remove_rows (c : Cache) (seq : Nat) (b e : Int) :
    (remove c seq b e).1.rows =
      if (rmLoop c seq b e).2 then c.rows
      else if rangeOf (hasSeq seq) (rmLoop c seq b e).1 = Range.new then c.rows
      else if e = maxInt32 then c.rows else if !c.hasShift then c.rows
      else if c.hasLayers then shiftRows seq (e + rmOffset b e) (rmOffset b e) (rmLoop c seq b e).1 c.rows
      else c.rows := by
  simp only [remove, apply_ite Prod.fst, apply_ite Cache.rows]

theorem remove_ranges (c : Cache) (seq : Nat) (b e : Int) :
    (remove c seq b e).1.ranges =
      if (rmLoop c seq b e).2 then c.ranges
      else if rangeOf (hasSeq seq) (rmLoop c seq b e).1 = Range.new then setRange c.ranges seq none
      else setRange c.ranges seq (some (rangeOf (hasSeq seq) (rmLoop c seq b e).1)) := by
  simp only [remove, apply_ite Prod.fst, apply_ite Cache.ranges, ite_self]

theorem remove_rows_length (c : Cache) (seq : Nat) (b e : Int) :
    (remove c seq b e).1.rows.length = c.rows.length := by
  simp only [remove_rows, apply_ite List.length, length_shiftRows, ite_self]

theorem remove_cachePad (c : Cache) (seq : Nat) (b e : Int) : (remove c seq b e).1.cachePad = c.cachePad := by
  simp only [remove, apply_ite Prod.fst, apply_ite Cache.cachePad, ite_self]

theorem remove_fields (c : Cache) (seq : Nat) (b e : Int) :
    (remove c seq b e).1.v = c.v ∧ (remove c seq b e).1.window = c.window ∧
    (remove c seq b e).1.hasLayers = c.hasLayers ∧
    (c.hasLayers = false → (remove c seq b e).1.rows = c.rows) := by
  refine ⟨?_, ?_, ?_, fun hl => ?_⟩
  · simp only [remove, apply_ite Prod.fst, apply_ite Cache.v, ite_self]
  · simp only [remove, apply_ite Prod.fst, apply_ite Cache.window, ite_self]
  · simp only [remove, apply_ite Prod.fst, apply_ite Cache.hasLayers, ite_self]
  · simp only [remove_rows, hl, Bool.false_eq_true, if_false, ite_self]

theorem ite_of {α} {Q : α → Prop} {p : Prop} [Decidable p] {a b : α} (ha : p → Q a) (hb : ¬p → Q b) :
    Q (if p then a else b) := by
  split
  · exact ha ‹_›
  · exact hb ‹_›

theorem remove_rows_ind {Q : List Row → Prop} (c : Cache) (seq : Nat) (b e : Int) (h0 : Q c.rows)
    (h1 : (rmLoop c seq b e).2 = false →
      Q (shiftRows seq (e + rmOffset b e) (rmOffset b e) (rmLoop c seq b e).1 c.rows)) :
    Q (remove c seq b e).1.rows := by
  rw [remove_rows]
  exact ite_of (fun _ => h0) fun hf => ite_of (fun _ => h0) fun _ => ite_of (fun _ => h0) fun _ =>
    ite_of (fun _ => h0) fun _ => ite_of (fun _ => h1 (eq_false_of_ne_true hf)) fun _ => h0

theorem remove_inv (c : Cache) (seq : Nat) (b e : Int) (h : Inv c) : Inv (remove c seq b e).1 := by
  have hc := remove_cells c seq b e
  have hl : (remove c seq b e).1.cells.length = c.cells.length := by rw [hc, length_removeCells]
  have hg := remove_ranges c seq b e
  rw [← hc] at hg
  refine h.of_sizes hl (remove_rows_length ..) (remove_cachePad ..) (fun j hj s hs => ?_) fun s r hs => ?_
  · obtain ⟨r, hr, hb⟩ := h.cover j (hl ▸ hj) s (by
      rw [List.getElem_of_eq hc hj] at hs
      exact removeCells_sub seq b e _ c.cells j (hl ▸ hj) s hs)
    rw [hg]
    split
    · exact ⟨r, hr, hb⟩
    by_cases hseq : s = seq
    · -- the range of `seq` is recomputed from the new cells, so it covers `j`; it cannot be empty
      subst hseq
      split
      · cases (decide_eq_true hs).symm.trans (rangeOf_new (hasSeq s) _ (hl ▸ h.size) ‹_› j hj)
      · exact ⟨_, if_pos rfl, rangeOf_covers (hasSeq s) _ j hj (decide_eq_true hs)⟩
    · refine ⟨r, ?_, hb⟩
      split <;> exact (if_neg hseq).trans hr
  · rw [hg] at hs
    split at hs
    · exact h.rmax s r hs
    · split at hs
      · exact (setRange_some hs).elim (h.rmax s r) nofun
      · exact (setRange_some hs).elim (h.rmax s r) fun h' => Option.some.inj h' ▸ hl ▸ rangeOf_max_lt ..

/-- `Remove(seq, p, MaxInt32)` on one cell whose position is a real int32 -/
def rmInf (seq : Nat) (p : Int) (x : Cell) : Cell :=
  if seq ∈ x.seqs ∧ p ≤ x.pos then dropSeq seq x else x

/-- all recorded positions are below the `MaxInt32` sentinel -/
def PosBound (cells : List Cell) : Prop := ∀ x ∈ cells, ∀ s ∈ x.seqs, x.pos < maxInt32

theorem rmInf_pos (seq : Nat) (p : Int) (x : Cell) : (rmInf seq p x).pos = x.pos := by
  unfold rmInf
  split <;> rfl

theorem mem_rmInf {seq s : Nat} {p : Int} {x : Cell} (h : s ∈ (rmInf seq p x).seqs) :
    s ∈ x.seqs ∧ ¬ (s = seq ∧ p ≤ x.pos) := by
  unfold rmInf at h
  split at h
  · exact ⟨(mem_dropSeq h).1, fun hs => (mem_dropSeq h).2 hs.1⟩
  · rename_i hne
    exact ⟨h, fun hs => hne ⟨hs.1 ▸ h, hs.2⟩⟩

theorem posBound_removeCells (seq : Nat) (b e : Int) (hbe : b ≤ e) (cells : List Cell) (h : PosBound cells) :
    PosBound (removeCells seq b e (rmOffset b e) cells).1 := by
  have hoff : rmOffset b e ≤ 0 := by unfold rmOffset; split <;> omega
  intro x hx s hs
  obtain ⟨j, hj, rfl⟩ := List.getElem_of_mem hx
  have hj' : j < cells.length := length_removeCells .. ▸ hj
  rcases removeCells_getElem seq b e (rmOffset b e) cells j hj' hj with hx | hx
  · rw [hx] at hs ⊢
    exact h _ (List.getElem_mem hj') s hs
  · rw [hx] at hs ⊢
    exact Int.lt_of_le_of_lt (rmCell_pos_le seq b e hoff cells[j]) (h _ (List.getElem_mem hj') s (rmCell_seqs_sub hs))

theorem posBound_remove (c : Cache) (seq : Nat) (b e : Int) (hbe : b ≤ e) (h : PosBound c.cells) :
    PosBound (remove c seq b e).1.cells := by
  rw [remove_cells]; exact posBound_removeCells seq b e hbe c.cells h

theorem rmCell_inf (seq : Nat) (p : Int) (x : Cell) (hx0 : ∀ s ∈ x.seqs, x.pos < maxInt32) :
    rmCell seq p maxInt32 (rmOffset p maxInt32) x = rmInf seq p x := by
  unfold rmCell rmInf
  by_cases h1 : seq ∈ x.seqs
  · have hx := hx0 seq h1
    by_cases h2 : p ≤ x.pos
    · simp [h1, h2, hx]
    · have : ¬ x.pos ≥ maxInt32 := by omega
      simp [h1, h2, this]
  · simp [h1]

theorem refuseCell_inf (seq : Nat) (p : Int) (cells : List Cell) (hb : PosBound cells) :
    cells.any (refuseCell seq p maxInt32) = false := by
  apply List.any_eq_false.mpr
  intro x hx
  by_cases hs : seq ∈ x.seqs
  · have := hb x hx seq hs
    have h3 : ¬ x.pos ≥ maxInt32 := by omega
    simp [refuseCell, h3]
  · simp [refuseCell, hs]

theorem remove_inf (c : Cache) (seq : Nat) (p : Int) (hb : PosBound c.cells) :
    (remove c seq p maxInt32).1.cells = c.cells.map (rmInf seq p) ∧
    (remove c seq p maxInt32).1.rows = c.rows ∧ (remove c seq p maxInt32).2 = .ok := by
  have hflag : (rmLoop c seq p maxInt32).2 = false := (removeCells_flag ..).trans (refuseCell_inf seq p c.cells hb)
  refine ⟨?_, ?_, ?_⟩
  · rw [remove_cells, removeCells_ok _ _ _ _ _ hflag]
    exact List.map_congr_left (fun x hx => rmCell_inf seq p x (hb x hx))
  · simp only [remove_rows, if_true, ite_self]
  · simp only [remove_snd, hflag, Bool.false_eq_true, if_false, if_true, ite_self]

/-- clearing `seq` after one cell's share of an unrefused `Remove` gives what clearing the untouched cell gives,
    whether or not the row was re-shifted: a cell that moves is owned by `seq` alone, so the clear empties it -/
theorem clear_rmPair (seq : Nat) (b e : Int) (hb : 0 ≤ b) (doShift : Bool) (x : Cell × Row)
    (hc : seq ∈ x.1.seqs → 0 ≤ x.1.pos) (hr : refuseCell seq b e x.1 = false) :
    entryOf (rmInf seq 0 (rmPair seq b e (rmOffset b e) doShift x).1, (rmPair seq b e (rmOffset b e) doShift x).2)
      = entryOf (rmInf seq 0 x.1, x.2) := by
  obtain ⟨c, r⟩ := x
  unfold rmPair rmCell
  by_cases hs : seq ∈ c.seqs
  · have hp : 0 ≤ c.pos := hc hs
    simp only [if_pos hs]
    by_cases hin : b ≤ c.pos ∧ c.pos < e
    · simp [rmInf, dropSeq, hs, hp, hin]
    · simp only [if_neg hin]
      by_cases hge : c.pos ≥ e
      · simp only [if_pos hge]
        -- solely owned by `seq` (the cell was not refused): after the clear nobody owns it, whatever its position and row
        have hnone : ∀ a ∈ c.seqs, a = seq := by simpa [refuseCell, sharedOther, hs, hin, hge] using hr
        have hoff : 0 ≤ c.pos + rmOffset b e := by unfold rmOffset; split <;> omega
        simp only [entryOf, rmInf, dropSeq, hs, hp, hoff, and_self, if_true, List.filter_eq_nil_iff, decide_not,
          Bool.not_eq_true', decide_eq_false_iff_not, Decidable.not_not]
        rw [if_pos hnone, if_pos hnone]
      · have hlt : ¬(c.pos ≥ e + rmOffset b e) := by unfold rmOffset; split <;> omega
        simp only [if_neg hge, hlt, and_false, if_false]
  · simp only [hs, false_and, and_false, if_false]

/-- clearing `seq` after the (possibly half-done) metadata loop of `Remove` gives, entry by entry, what
    clearing the untouched cells gives -/
theorem clear_after_removeCells (seq : Nat) (b e : Int) (hb : 0 ≤ b) (cells : List Cell) (rows : List Row)
    (hpos : ∀ x ∈ cells, seq ∈ x.seqs → 0 ≤ x.pos) :
    ((((removeCells seq b e (rmOffset b e) cells).1.map (rmInf seq 0)).zip rows).filterMap entryOf)
      = (((cells.map (rmInf seq 0)).zip rows).filterMap entryOf) := by
  induction cells generalizing rows with
  | nil => rfl
  | cons c cs ih =>
    rw [removeCells_cons]
    cases hr : refuseCell seq b e c
    · rw [if_neg Bool.false_ne_true]
      cases rows with
      | nil => rfl
      | cons r rs =>
        have hc : entryOf (rmInf seq 0 (rmCell seq b e (rmOffset b e) c), r) = entryOf (rmInf seq 0 c, r) :=
          clear_rmPair seq b e hb false (c, r) (hpos c (List.mem_cons_self ..)) hr
        simp only [List.map_cons, List.zip_cons_cons, List.filterMap_cons]
        rw [hc, ih rs (fun x hx => hpos x (List.mem_cons_of_mem _ hx))]
    · rw [if_pos rfl]

theorem posBound_map_rmInf (cells : List Cell) (seq : Nat) (p : Int) (h : PosBound cells) :
    PosBound (cells.map (rmInf seq p)) := by
  intro x hx s hs
  obtain ⟨y, hy, rfl⟩ := List.mem_map.mp hx
  rw [rmInf_pos]
  exact h y hy s (mem_rmInf hs).1

/-- with positions below `MaxInt32` a removal to the end is never refused, so the repaired `Remove`
    behaves like the pinned one -/
theorem removeV_inf (c : Cache) (seq : Nat) (p : Int) (hb : PosBound c.cells) :
    removeV c seq p maxInt32 = remove c seq p maxInt32 := by
  unfold removeV
  split
  · have h1 := refuseCell_inf seq p c.cells hb
    unfold refuseCell at h1
    rw [removeGuard, h1]
    simp
  · rfl

/-! ### the unwind -/

/-- the whole unwind on one cell -/
def unwCell (b : List Tok) (x : Cell) : Cell := b.foldl (fun x t => rmInf t.seq t.pos x) x

theorem unwind_cells (c : Cache) (b : List Tok) (hb : PosBound c.cells) :
    (unwind c b).cells = c.cells.map (unwCell b) ∧ (unwind c b).rows = c.rows := by
  induction b generalizing c with
  | nil => exact ⟨(List.map_id _).symm, rfl⟩
  | cons t ts ih =>
    obtain ⟨h1, h2, _⟩ := remove_inf c t.seq t.pos hb
    have := ih (remove c t.seq t.pos maxInt32).1 (h1 ▸ posBound_map_rmInf _ _ _ hb)
    simp only [unwind, List.foldl_cons] at this ⊢
    rw [removeV_inf c t.seq t.pos hb, this.1, this.2, h1, h2]
    simp [unwCell, List.map_map, Function.comp]

theorem unwCell_pos (b : List Tok) (x : Cell) : (unwCell b x).pos = x.pos := by
  induction b generalizing x with
  | nil => rfl
  | cons t ts ih => exact (ih _).trans (rmInf_pos ..)

theorem unwCell_sub (b : List Tok) (x : Cell) : ∀ s ∈ (unwCell b x).seqs, s ∈ x.seqs := by
  induction b generalizing x with
  | nil => exact fun s hs => hs
  | cons t ts ih => exact fun s hs => (mem_rmInf (ih _ s hs)).1

theorem unwCell_drops (b : List Tok) (x : Cell) (t : Tok) (ht : t ∈ b) (hp : t.pos ≤ x.pos) :
    t.seq ∉ (unwCell b x).seqs := by
  induction b generalizing x with
  | nil => cases ht
  | cons u us ih =>
    rcases List.mem_cons.mp ht with rfl | ht'
    · exact fun hmem => (mem_rmInf (unwCell_sub us _ _ hmem)).2 ⟨rfl, hp⟩
    · exact ih _ ht' (by rw [rmInf_pos]; exact hp)

/-- a cell the batch does not reach (no token of one of its sequences at or below its position) is
    left alone by the unwind -/
theorem unwCell_id (b : List Tok) (x : Cell) (h : ∀ t ∈ b, t.seq ∈ x.seqs → x.pos < t.pos) : unwCell b x = x := by
  induction b with
  | nil => rfl
  | cons u us ih =>
    have hu : rmInf u.seq u.pos x = x :=
      if_neg fun hc => Int.not_le.mpr (h u (List.mem_cons_self ..) hc.1) hc.2
    show unwCell us (rmInf u.seq u.pos x) = x
    rw [hu]
    exact ih fun t ht => h t (List.mem_cons_of_mem _ ht)

/-! ### Inv is kept by Put and CopyPrefix -/

theorem put_inv (c : Cache) (ids : List Nat) (h : Inv c) : Inv (put c ids) :=
  h.of_sizes rfl (length_putRows ..) rfl h.cover h.rmax

theorem copyPrefix_inv (c : Cache) (src dst : Nat) (len : Int) (h : Inv c) : Inv (copyPrefix c src dst len) := by
  unfold copyPrefix
  refine h.of_sizes (List.length_map ..) rfl rfl (fun j hj s hs => ?_) fun s r hs =>
    (setRange_some hs).elim (h.rmax s r) fun h' =>
      Option.some.inj h' ▸ List.length_map (cpCell src dst len) ▸ rangeOf_max_lt ..
  by_cases hsd : s = dst
  · exact ⟨_, if_pos hsd, rangeOf_covers _ _ j hj (decide_eq_true (hsd ▸ hs))⟩
  · rw [List.getElem_map] at hs
    obtain ⟨r, hr, hb⟩ := h.cover j (List.length_map .. ▸ hj) s ((mem_cpSeqs hs).resolve_left hsd)
    exact ⟨r, (if_neg hsd).trans hr, hb⟩

end OllamaVerif.Causal
