/-
  C12 — consistency of download debris is an INVARIANT of the store, not a hypothesis.

  `C12.crash_safe` takes the named hypothesis `PullPre` (whatever an earlier, interrupted
  pull left behind for the digests of this pull is consistent with what the registry serves).  Here
  that hypothesis is discharged: for a fixed `world` (the bytes behind every digest any honest
  registry serves)

    DebrisOK world st  :=  ∀ d data, world d = some data → PartOK st d data

  is preserved by EVERY effect of EVERY operation at EVERY crash prefix (last write cut at any byte)
  and by the start-up sequence; in the fixed variant (`atomicPart`) so is `RecsWhole` (no part record
  is ever torn).  The argument has the same shape as the one for `Inv`: a local condition per effect
  (`DebEffOK`), preservation by one effect, and a proof that every operation issues each effect in a
  state where the condition holds (`exec_seqDeb`; only the stage of a pull writes debris)
  — this is where the ORDER of the download's effects is used: the record is written
  with `Completed = 0` before any byte, the record that says `Completed = Size` only after the last
  byte, the record is removed before the rename.
-/
import OllamaVerif.Proofs.StoreCrashPhases
namespace OllamaVerif.StoreCrash
open OllamaVerif

/-! ## byte-level lemmas (`resize`, `overlay`) -/

theorem resize_resize (bs : Bytes) (n : Nat) : resize (resize bs n) n = resize bs n := by
  have h : (resize bs n).length = n := length_resize bs n
  unfold resize at h ⊢
  rw [List.take_of_length_le (Nat.le_of_eq h), h]
  simp

theorem length_overlay (old : Bytes) (off : Nat) (bs : Bytes) (h : off + bs.length ≤ old.length) :
    (overlay old off bs).length = old.length := by
  have ho : off ≤ old.length := Nat.le_trans (Nat.le_add_right _ _) h
  rw [overlay_eq old bs ho, List.length_append, List.length_append, List.length_take_of_le ho, List.length_drop]
  exact Nat.add_sub_cancel' h

theorem take_overlay (old : Bytes) (off : Nat) (bs : Bytes) (c : Nat) (hc : c ≤ off) (ho : off ≤ old.length) :
    (overlay old off bs).take c = old.take c := by
  rw [overlay_eq old bs ho, List.append_assoc,
    List.take_append_of_le_length (by rw [List.length_take_of_le ho]; exact hc), List.take_take,
    Nat.min_eq_left hc]

/-- what the consistency of a record looks at: the first `c` bytes of the file once it has its full size -/
theorem take_resize (bs : Bytes) (s c : Nat) (hc : c ≤ s) (hl : c ≤ bs.length) :
    (resize bs s).take c = bs.take c := by
  unfold resize
  rw [List.take_append_of_le_length (by rw [List.length_take]; omega), List.take_take]
  congr 1
  omega

theorem resize_self (bs : Bytes) : resize bs bs.length = bs := by simp [resize]

/-! ## the invariants -/

def Path.isDebris : Path → Bool
  | .pfile _ | .part _ _ => true
  | _ => false

/-- record `r` describes `data` and the bytes it declares complete are in the file `bs` -/
def RecFits (bs data : Bytes) (r : PartRec) : Prop :=
  r.off = 0 ∧ r.size = data.length ∧ r.completed ≤ r.size ∧
    (resize bs r.size).take r.completed = data.take r.completed

theorem RecFits.overlay {old data : Bytes} {r : PartRec} (hf : RecFits old data r) {off : Nat} (x : Bytes)
    (hc : r.completed ≤ off) (hoff : off ≤ old.length) : RecFits (overlay old off x) data r := by
  obtain ⟨h1, h2, h3, h4⟩ := hf
  have hlen : off ≤ (StoreCrash.overlay old off x).length := by
    unfold StoreCrash.overlay
    simp only [List.length_append, List.length_take]
    omega
  refine ⟨h1, h2, h3, ?_⟩
  rw [take_resize _ _ _ h3 (Nat.le_trans hc hlen), take_overlay _ _ _ _ hc hoff]
  rw [take_resize _ _ _ h3 (Nat.le_trans hc hoff)] at h4
  exact h4

theorem RecFits.resize {bs data : Bytes} {r : PartRec} (hf : RecFits bs data r) :
    RecFits (resize bs r.size) data r :=
  ⟨hf.1, hf.2.1, hf.2.2.1, by rw [resize_resize]; exact hf.2.2.2⟩

/-- `world d` = the bytes every honest registry serves for digest `d`.  All download debris in the
store is consistent with it. -/
def DebrisOK (world : Digest → Option Bytes) (st : Store) : Prop :=
  ∀ d data, world d = some data → PartOK st d data

def DebInv (strict : Bool) (world : Digest → Option Bytes) (st : Store) : Prop :=
  DebrisOK world st ∧ (strict = true → RecsWhole st)

variable {strict : Bool} {world : Digest → Option Bytes} {st : Store}

theorem partOK_iff {d : Digest} {data : Bytes} :
    PartOK st d data ↔ ∃ bs, pfileBytes st d = some bs ∧
      ∀ r, get st (.part d 0) = some (.prec r) → RecFits bs data r := by
  unfold PartOK RecFits
  constructor
  · rintro ⟨bs, hb, h⟩
    refine ⟨bs, hb, ?_⟩
    intro r hr
    rw [hr] at h; exact h
  · rintro ⟨bs, hb, h⟩
    refine ⟨bs, hb, ?_⟩
    split
    · rename_i r hr; exact h r hr
    · trivial

theorem NoPullDebris.debrisOK (h : NoPullDebris st) (world : Digest → Option Bytes) :
    DebrisOK world st := fun d data _ => h.partOK d data

theorem NoPullDebris.debInv (h : NoPullDebris st) (strict : Bool) (world : Digest → Option Bytes) :
    DebInv strict world st := ⟨h.debrisOK world, fun _ => h.recsWhole⟩

/-- what a new content of the record file `-partial-0` of `d` has to satisfy at the moment it
becomes visible under that name -/
def PutFits (strict : Bool) (world : Digest → Option Bytes) (st : Store) (d : Digest) (c : Content) : Prop :=
  (strict = true → ∃ r, c = .prec r) ∧
  ∀ r, c = .prec r → ∀ data, world d = some data → ∀ bs, pfileBytes st d = some bs → RecFits bs data r

def DebEffOK (strict : Bool) (world : Digest → Option Bytes) (st : Store) : Effect → Prop
  | .mk p => (∀ d, p ≠ .pfile d) ∧ (strict = true → ∀ d j, p ≠ .part d j)
  | .touch p => ∀ d j, p ≠ .part d j
  | .app p _ => p.isDebris = false
  | .pw p off _ => (∀ d j, p ≠ .part d j) ∧
      ∀ d, p = .pfile d → (∃ old, get st p = some (.raw old) ∧ off ≤ old.length) ∧
        ∀ r, get st (.part d 0) = some (.prec r) → r.completed ≤ off
  | .ftr p n => (∀ d j, p ≠ .part d j) ∧
      ∀ d, p = .pfile d → ∀ r, get st (.part d 0) = some (.prec r) → n = r.size ∨ r.completed = 0
  | .put p c => (∀ d, p ≠ .pfile d) ∧ ∀ d, p = .part d 0 → PutFits strict world st d c
  | .cp _ dst => dst.isDebris = false
  | .mv src dst => (∀ d j, src ≠ .part d j) ∧ (∀ d, dst ≠ .pfile d) ∧
      (∀ d, src = .pfile d → ∀ r, get st (.part d 0) ≠ some (.prec r)) ∧
      (∀ d, dst = .part d 0 → ∀ c, get st src = some c → PutFits strict world st d c)
  | .chmod _ => True
  | .rm p => ∀ d, p ≠ .pfile d

theorem debFree_ok {e : Effect}
    (h : ∀ q ∈ writes e, q.isDebris = false) : DebEffOK strict world st e := by
  have np : ∀ p ∈ writes e, ∀ d, p ≠ .pfile d := fun p hp d hd => by subst hd; cases h _ hp
  have nr : ∀ p ∈ writes e, ∀ d j, p ≠ .part d j := fun p hp d j hd => by subst hd; cases h _ hp
  cases e <;> simp only [DebEffOK]
  case mk p => exact ⟨np p (.head _), fun _ => nr p (.head _)⟩
  case touch p => exact nr p (.head _)
  case app p bs => exact h p (.head _)
  case pw p _ _ | ftr p _ => exact ⟨nr p (.head _), fun d hp => absurd hp (np p (.head _) d)⟩
  case put p c => exact ⟨np p (.head _), fun d hp => absurd hp (nr p (.head _) d 0)⟩
  case cp src dst => exact h dst (.head _)
  case mv src dst =>
    exact ⟨nr src (.head _), np dst (.tail _ (.head _)), fun d hp => absurd hp (np src (.head _) d),
      fun d hp => absurd hp (nr dst (.tail _ (.head _)) d 0)⟩
  case rm p => exact np p (.head _)

/-! ## one effect preserves the invariants -/

theorem pfileBytes_congr {st st' : Store} {d : Digest} (h : get st' (.pfile d) = get st (.pfile d)) :
    pfileBytes st' d = pfileBytes st d := by unfold pfileBytes; rw [h]

theorem pfileBytes_some_raw {d : Digest} {old : Bytes} (h : get st (.pfile d) = some (.raw old)) :
    pfileBytes st d = some old := by unfold pfileBytes; rw [h]

theorem RecFits.of_zero {bs data : Bytes} {r : PartRec} (h : RecFits bs data r) (bs' : Bytes) (hc : r.completed = 0) :
    RecFits bs' data r := by
  obtain ⟨h1, h2, h3, _⟩ := h
  exact ⟨h1, h2, h3, by rw [hc]; rfl⟩

theorem PartOK.of_rec {st st' : Store} {d : Digest} {data : Bytes} (h : PartOK st d data)
    (hP : get st' (.pfile d) = get st (.pfile d))
    (hR : ∀ r, get st' (.part d 0) = some (.prec r) → ∀ bs, pfileBytes st d = some bs → RecFits bs data r) :
    PartOK st' d data := by
  obtain ⟨bs, hbs, _⟩ := partOK_iff.mp h
  exact partOK_iff.mpr ⟨bs, (pfileBytes_congr hP).trans hbs, fun r hr => hR r hr bs hbs⟩

theorem PartOK.of_pfile {st st' : Store} {d : Digest} {data : Bytes} (h : PartOK st d data)
    (hR : get st' (.part d 0) = get st (.part d 0)) {bs' : Bytes} (hP : pfileBytes st' d = some bs')
    (hfit : ∀ bs r, pfileBytes st d = some bs → get st (.part d 0) = some (.prec r) →
      RecFits bs data r → RecFits bs' data r) :
    PartOK st' d data := by
  obtain ⟨bs, hbs, hrec⟩ := partOK_iff.mp h
  exact partOK_iff.mpr ⟨bs', hP, fun r hr => hfit bs r hbs (hR ▸ hr) (hrec r (hR ▸ hr))⟩

theorem debrisOK_after {e : Effect}
    (hinv : DebrisOK world st) (hok : DebEffOK strict world st e) : DebrisOK world (apply e st) := by
  intro d data hw
  have hold := hinv d data hw
  -- effects that touch neither d's -partial file nor d's record
  have frame : Path.pfile d ∉ writes e → Path.part d 0 ∉ writes e → PartOK (apply e st) d data :=
    fun h1 h2 => hold.transfer (get_apply_of_not_written h1) (get_apply_of_not_written h2)
  have ndeb : ∀ {p : Path}, p.isDebris = false → Path.pfile d ∉ [p] ∧ Path.part d 0 ∉ [p] := fun {p} hp =>
    ⟨not_mem_one (by rintro rfl; cases hp), not_mem_one (by rintro rfl; cases hp)⟩
  have nP : ∀ {p : Path}, (∀ d j, p ≠ .part d j) → Path.part d 0 ∉ [p] := fun h => not_mem_one (h d 0).symm
  cases e <;> simp only [DebEffOK] at hok
  case chmod p => exact frame (List.not_mem_nil) (List.not_mem_nil)
  case app | cp => exact frame (ndeb hok).1 (ndeb hok).2
  case rm p =>
    by_cases hp : p = .part d 0
    · subst hp
      exact hold.of_rec (get_apply_of_not_written (not_mem_one (by simp)))
        (fun r hr => by rw [get_apply_rm] at hr; cases hr)
    · exact frame (not_mem_one (hok d).symm) (not_mem_one (Ne.symm hp))
  case mk p =>
    by_cases hp : p = .part d 0
    · subst hp
      exact hold.of_rec (get_apply_of_not_written (not_mem_one (by simp)))
        (fun r hr => by rw [get_apply_mk] at hr; cases hr)
    · exact frame (not_mem_one (hok.1 d).symm) (not_mem_one (Ne.symm hp))
  case put p c =>
    by_cases hp : p = .part d 0
    · subst hp
      refine hold.of_rec (get_apply_of_not_written (not_mem_one (by simp))) (fun r hr bs hbs => ?_)
      rw [get_apply_put] at hr
      exact (hok.2 d rfl).2 r (Option.some.inj hr) data hw bs hbs
    · exact frame (not_mem_one (hok.1 d).symm) (not_mem_one (Ne.symm hp))
  case touch p =>
    by_cases hp : p = .pfile d
    · subst hp
      obtain ⟨bs, hbs, _⟩ := partOK_iff.mp hold
      refine hold.of_pfile (get_apply_of_not_written (nP hok)) (bs' := bs) ?_ (fun b r hb _ hf => ?_)
      · unfold pfileBytes at hbs ⊢
        simp only [apply]
        cases hg : get st (.pfile d) with
        | none => rw [hg] at hbs; simpa [get_set] using hbs
        | some c => simp only [hg]; rw [hg] at hbs; exact hbs
      · rw [hbs] at hb; cases hb; exact hf
    · exact frame (not_mem_one (Ne.symm hp)) (nP hok)
  case ftr p n =>
    by_cases hp : p = .pfile d
    · subst hp
      have hR := get_apply_of_not_written (e := .ftr (.pfile d) n) (st := st) (nP hok.1)
      cases hg : get st (.pfile d) with
      | some c =>
        cases c with
        | raw old =>
          refine hold.of_pfile hR (bs' := resize old n) ?_ (fun b r hb hr hf => ?_)
          · apply pfileBytes_some_raw; simp [apply, hg, get_set]
          · rw [pfileBytes_some_raw hg] at hb; cases hb
            rcases hok.2 d rfl r hr with h | h
            · subst h; exact hf.resize
            · exact hf.of_zero _ h
        | _ => exact hold.transfer (by simp only [apply, hg]) hR
      | none => exact hold.transfer (by simp only [apply, hg]) hR
    · exact frame (not_mem_one (Ne.symm hp)) (nP hok.1)
  case pw p off x =>
    by_cases hp : p = .pfile d
    · subst hp
      obtain ⟨⟨old, hg, hoff⟩, hcomp⟩ := hok.2 d rfl
      refine hold.of_pfile (get_apply_of_not_written (nP hok.1)) (bs' := overlay old off x) ?_ (fun b r hb hr hf => ?_)
      · apply pfileBytes_some_raw; simp [apply, hg, get_set]
      · rw [pfileBytes_some_raw hg] at hb; cases hb
        exact hf.overlay x (hcomp r hr) hoff
    · exact frame (not_mem_one (Ne.symm hp)) (nP hok.1)
  case mv src dst =>
    obtain ⟨hsrc, hdst, hpf, hput⟩ := hok
    cases hs : get st src with
    | none => exact hold.transfer (by simp only [apply, hs]) (by simp only [apply, hs])
    | some c =>
      by_cases h1 : src = .pfile d
      · -- the rename of the -partial file: no readable record is there, and the file itself is none
        subst h1
        obtain ⟨bs, hbs, _⟩ := partOK_iff.mp hold
        refine partOK_iff.mpr ⟨[], ?_, fun r hr => ?_⟩
        · unfold pfileBytes
          rw [get_apply_mv_src _ _ (hdst d).symm]
        · by_cases h2 : dst = .part d 0
          · subst h2
            rw [get_apply_mv_dst hs] at hr
            cases hr
            unfold pfileBytes at hbs; rw [hs] at hbs; cases hbs
          · have : get st (.part d 0) = some (.prec r) := by
              simpa [apply, hs, get_set, get_del, Ne.symm h2] using hr
            exact absurd this (hpf d rfl r)
      · have hP : Path.pfile d ∉ writes (.mv src dst) := by
          simp only [writes, List.mem_cons, List.not_mem_nil, or_false, not_or]
          exact ⟨Ne.symm h1, (hdst d).symm⟩
        by_cases h2 : dst = .part d 0
        · subst h2
          refine hold.of_rec (get_apply_of_not_written hP) (fun r hr bs hbs => ?_)
          rw [get_apply_mv_dst hs] at hr
          exact (hput d rfl c hs).2 r (Option.some.inj hr) data hw bs hbs
        · refine frame hP ?_
          simp only [writes, List.mem_cons, List.not_mem_nil, or_false, not_or]
          exact ⟨(hsrc d 0).symm, Ne.symm h2⟩

theorem recsWhole_after {world : Digest → Option Bytes} {e : Effect}
    (hinv : RecsWhole st) (hok : DebEffOK true world st e) : RecsWhole (apply e st) := by
  intro d c hg
  have frame : Path.part d 0 ∉ writes e → ∃ r, c = .prec r := fun h => by
    rw [get_apply_of_not_written h] at hg; exact hinv d c hg
  have nP : ∀ {p : Path}, (∀ d j, p ≠ .part d j) → Path.part d 0 ∉ [p] := fun h => not_mem_one (h d 0).symm
  cases e <;> simp only [DebEffOK] at hok
  case chmod p => exact frame List.not_mem_nil
  case app | cp => exact frame (not_mem_one (by rintro rfl; cases hok))
  case rm p =>
    by_cases hp : p = .part d 0
    · subst hp; rw [get_apply_rm] at hg; cases hg
    · exact frame (not_mem_one (Ne.symm hp))
  case mk p => exact frame (nP (hok.2 trivial))
  case touch p => exact frame (nP hok)
  case ftr | pw => exact frame (nP hok.1)
  case put p c' =>
    by_cases hp : p = .part d 0
    · subst hp; rw [get_apply_put] at hg; cases hg; exact (hok.2 d rfl).1 rfl
    · exact frame (not_mem_one (Ne.symm hp))
  case mv src dst =>
    obtain ⟨hsrc, _, _, hput⟩ := hok
    cases hs : get st src with
    | none => simp only [apply, hs] at hg; exact hinv d c hg
    | some c' =>
      by_cases h2 : dst = .part d 0
      · subst h2; rw [get_apply_mv_dst hs] at hg; cases hg; exact (hput d rfl c hs).1 rfl
      · refine frame ?_
        simp only [writes, List.mem_cons, List.not_mem_nil, or_false, not_or]
        exact ⟨(hsrc d 0).symm, Ne.symm h2⟩

theorem debInv_after {strict : Bool} {world : Digest → Option Bytes} {st : Store} {e : Effect}
    (hinv : DebInv strict world st) (hok : DebEffOK strict world st e) : DebInv strict world (apply e st) := by
  refine ⟨debrisOK_after hinv.1 hok, ?_⟩
  intro hs; subst hs
  exact recsWhole_after (hinv.2 rfl) hok

/-! ## sequences, crash prefixes -/

def SeqDeb (strict : Bool) (world : Digest → Option Bytes) (st : Store) : List Effect → Prop
  | [] => True
  | e :: es => DebEffOK strict world st e ∧ SeqDeb strict world (apply e st) es

theorem seqDeb_iff {es : List Effect} : SeqDeb strict world st es ↔ Chain (DebEffOK strict world) st es := by
  induction es generalizing st with
  | nil => exact Iff.rfl
  | cons e es ih => exact and_congr Iff.rfl ih

theorem seqDeb_append {a b : List Effect} :
    SeqDeb strict world st (a ++ b) ↔ SeqDeb strict world st a ∧ SeqDeb strict world (run a st) b := by
  simp only [seqDeb_iff]; exact chain_append

theorem seq_preserves_debInv {es : List Effect}
    (hinv : DebInv strict world st) (hok : SeqDeb strict world st es) : DebInv strict world (run es st) :=
  chain_preserves (fun _ _ hi hc => debInv_after hi hc) hinv (seqDeb_iff.mp hok)

theorem seqDeb_crashPrefix {es p : List Effect}
    (h : SeqDeb strict world st es) (hp : CrashPrefix es p) : SeqDeb strict world st p :=
  seqDeb_iff.mpr (chain_crashPrefix (fun _ _ _ h hc => by cases hc <;> exact h) (seqDeb_iff.mp h) hp)

theorem seqDeb_foot {es : List Effect}
    {N : List Name} (h : WritesIn (Foot N false) es) : SeqDeb strict world st es := by
  induction es generalizing st with
  | nil => trivial
  | cons e es ih =>
    obtain ⟨he, hes⟩ := writesIn_cons.mp h
    refine ⟨debFree_ok fun q hq => ?_, ih hes⟩
    have := he q hq
    cases q <;> first | rfl | cases this

theorem seqDeb_andThen {a : Res} {f : Store → Res}
    (ha : SeqDeb strict world st a.effs) (hf : a.ok = true → SeqDeb strict world (run a.effs st) (f (run a.effs st)).effs) :
    SeqDeb strict world st (a.andThen st f).effs :=
  seqDeb_iff.mpr (chain_andThen (seqDeb_iff.mp ha) fun h => seqDeb_iff.mp (hf h))

theorem Phases.seqDeb {P : Prop} {atomic quiet : Bool} {s : List Effect} {c : Asg} {r : Res}
    (h : Phases P atomic quiet st s c r) (hs : SeqDeb strict world st s) : SeqDeb strict world st r.effs := by
  cases h with
  | stage => exact hs
  | @commit mid g n v hm hg =>
    exact seqDeb_append.mpr ⟨hs, seqDeb_foot (N := [n])
      (writesIn_append (hm.writesIn (.head _)) hg.foot)⟩

/-! ## the download: every effect is issued in a state where it keeps the debris consistent -/

theorem seqDeb_cons {e : Effect} {es : List Effect} :
    SeqDeb strict world st (e :: es) ↔ DebEffOK strict world st e ∧ SeqDeb strict world (apply e st) es := Iff.rfl

theorem deb_mv_temp_rec (k : Nat) (d : Digest)
    (h : ∀ c, get st (.temp k) = some c → PutFits strict world st d c) :
    DebEffOK strict world st (.mv (.temp k) (.part d 0)) := by
  unfold DebEffOK
  exact ⟨(fun _ _ h => nomatch h), (fun _ h => nomatch h), (fun _ h => nomatch h), fun _ hd => by cases hd; exact h⟩

theorem deb_mk_rec (d : Digest) (j : Nat) (hs : ¬ strict = true) : DebEffOK strict world st (.mk (.part d j)) := by
  unfold DebEffOK
  exact ⟨(fun _ h => nomatch h), fun h => absurd h hs⟩

theorem deb_put_rec (d : Digest) (c : Content) (h : PutFits strict world st d c) :
    DebEffOK strict world st (.put (.part d 0) c) := by
  unfold DebEffOK
  exact ⟨(fun _ h => nomatch h), fun _ hd => by cases hd; exact h⟩

theorem deb_pw (d : Digest) (off : Nat) (x old : Bytes) (hP : get st (.pfile d) = some (.raw old))
    (ho : off ≤ old.length) (hrec : ∀ r, get st (.part d 0) = some (.prec r) → r.completed ≤ off) :
    DebEffOK strict world st (.pw (.pfile d) off x) := by
  unfold DebEffOK
  exact ⟨(fun _ _ h => nomatch h), fun _ hd => by cases hd; exact ⟨⟨old, hP, ho⟩, hrec⟩⟩

theorem deb_touch (d : Digest) : DebEffOK strict world st (.touch (.pfile d)) := by
  unfold DebEffOK
  exact (fun _ _ h => nomatch h)

theorem deb_ftr (d : Digest) (n : Nat)
    (h : ∀ r, get st (.part d 0) = some (.prec r) → n = r.size ∨ r.completed = 0) :
    DebEffOK strict world st (.ftr (.pfile d) n) := by
  unfold DebEffOK
  exact ⟨(fun _ _ h => nomatch h), fun _ hd => by cases hd; exact h⟩

theorem deb_rm_rec (d : Digest) (j : Nat) : DebEffOK strict world st (.rm (.part d j)) := by
  unfold DebEffOK
  exact (fun _ h => nomatch h)

theorem deb_mv_pfile (d : Digest) (h : ∀ r, get st (.part d 0) ≠ some (.prec r)) :
    DebEffOK strict world st (.mv (.pfile d) (.blob d)) := by
  unfold DebEffOK
  exact ⟨(fun _ _ h => nomatch h), (fun _ h => nomatch h), fun _ hd => by cases hd; exact h, (fun _ h => nomatch h)⟩

theorem writePart_result (env : Env) (k : Nat) (d : Digest) (r : PartRec) (st : Store) :
    get (run (writePart env k (.part d 0) r) st) (.part d 0) = some (.prec r) := by
  unfold writePart; split
  · simp [writeAtomic, run, apply, get_set]
  · simp [run, apply, get_set]

theorem writePart_seqDeb (env : Env)
    (hstrict : strict = true → env.atomicPart = true) (k : Nat) (d : Digest) (r : PartRec) (st : Store)
    (hfit : ∀ data, world d = some data → ∀ bs, pfileBytes st d = some bs → RecFits bs data r) :
    SeqDeb strict world st (writePart env k (.part d 0) r) := by
  -- the record fits wherever the -partial file is as in `st`
  have hput : ∀ s, get s (.pfile d) = get st (.pfile d) → PutFits strict world s d (.prec r) := fun s hs =>
    ⟨fun _ => ⟨r, rfl⟩, fun r' hr' data hw bs hbs => by
      cases hr'; exact hfit data hw bs (pfileBytes_congr hs ▸ hbs)⟩
  unfold writePart
  split
  · -- temp + rename
    simp only [writeAtomic, seqDeb_cons]
    have hT : ∀ q ∈ [Path.temp k], q.isDebris = false := List.forall_mem_singleton.mpr rfl
    refine ⟨debFree_ok hT, debFree_ok hT, debFree_ok (fun _ h => nomatch h), deb_mv_temp_rec k d fun c hc => ?_, trivial⟩
    have hc' : some c = some (.prec r) := hc.symm.trans (get_apply_put (.temp k) (.prec r) _)
    cases hc'
    exact hput _ ((get_apply_of_not_written (e := .put (.temp k) _) (not_mem_one (by simp))).trans
      (get_apply_of_not_written (not_mem_one (by simp))))
  · rename_i hat
    simp only [seqDeb_cons]
    exact ⟨deb_mk_rec d 0 (fun hs => hat (hstrict hs)),
      deb_put_rec d _ (hput _ (get_apply_of_not_written (not_mem_one (by simp)))), trivial⟩

theorem pwrites_seqDeb (d : Digest) (pieces : List Bytes) (off : Nat)
    (st : Store) (old : Bytes) (hP : get st (.pfile d) = some (.raw old))
    (hlen : off + pieces.flatten.length ≤ old.length)
    (hrec : ∀ r, get st (.part d 0) = some (.prec r) → r.completed ≤ off) :
    SeqDeb strict world st (pwrites (.pfile d) off pieces) := by
  induction pieces generalizing off st old with
  | nil => trivial
  | cons x rest ih =>
    simp only [List.flatten_cons, List.length_append] at hlen
    simp only [pwrites, seqDeb_cons]
    refine ⟨deb_pw d off x old hP (by omega) hrec, ?_⟩
    apply ih (off + x.length) _ (overlay old off x)
    · simp [apply, hP, get_set]
    · rw [length_overlay _ _ _ (by omega)]; omega
    · intro r hr
      rw [get_apply_of_not_written (by simp [writes])] at hr
      have := hrec r hr; omega

theorem rm_mv_seqDeb (d : Digest) (s : Store) :
    SeqDeb strict world s ([.rm (.part d 0)] ++ [.mv (.pfile d) (.blob d)]) := by
  simp only [List.cons_append, List.nil_append, seqDeb_cons]
  refine ⟨deb_rm_rec d 0, deb_mv_pfile d ?_, trivial⟩
  intro r; simp [apply, get_del]

theorem touch_ftr_seqDeb (d : Digest) (n : Nat) (s : Store)
    (h : ∀ r, get s (.part d 0) = some (.prec r) → n = r.size ∨ r.completed = 0) :
    SeqDeb strict world s [.touch (.pfile d), .ftr (.pfile d) n] := by
  simp only [seqDeb_cons]
  refine ⟨deb_touch d, deb_ftr d n ?_, trivial⟩
  intro r hr
  rw [get_apply_of_not_written (by simp [writes])] at hr
  exact h r hr

theorem part_after_touch_ftr (d : Digest) (n : Nat) (s : Store) :
    get (run [Effect.touch (.pfile d), .ftr (.pfile d) n] s) (.part d 0) = get s (.part d 0) :=
  get_run_of_not_written (by intro e he; simp at he; rcases he with rfl | rfl <;> simp [writes])

/-- a fresh download is this after its first record -/
theorem resume_seqDeb (env : Env)
    (hstrict : strict = true → env.atomicPart = true) (hchunk : ∀ bs, (env.chunk bs).flatten = bs)
    (k : Nat) (d : Digest) (data : Bytes) (hw : world d = some data) (s : Store) (bs : Bytes) (r r' : PartRec)
    (hbs : pfileBytes s d = some bs) (hR : get s (.part d 0) = some (.prec r)) (hfit : RecFits bs data r)
    (hr1 : r'.off = 0) (hr2 : r'.size = data.length) (hr3 : r'.completed = data.length) :
    SeqDeb strict world s ([.touch (.pfile d), .ftr (.pfile d) r.size] ++
      (pwrites (.pfile d) r.completed (env.chunk (data.drop r.completed)) ++
        (writePart env k (.part d 0) r' ++ ([.rm (.part d 0)] ++ [.mv (.pfile d) (.blob d)])))) := by
  obtain ⟨_, hsize, hle, hpre⟩ := hfit
  have hc : r.completed ≤ data.length := hsize ▸ hle
  have hbl : (data.drop r.completed).length = data.length - r.completed := List.length_drop
  rw [seqDeb_append]
  refine ⟨touch_ftr_seqDeb d _ s (fun r0 h0 => by rw [hR] at h0; cases h0; exact Or.inl rfl), ?_⟩
  have hP := get_touch_ftr s d bs r.size hbs
  have hR2 := (part_after_touch_ftr d r.size s).trans hR
  have hfl : (resize bs r.size).length = data.length := (length_resize _ _).trans hsize
  generalize run [Effect.touch (.pfile d), .ftr (.pfile d) r.size] s = s2 at hP hR2
  rw [seqDeb_append]
  refine ⟨pwrites_seqDeb d _ _ s2 _ hP (by rw [hchunk, hbl]; omega) (fun r0 h0 => by
    rw [hR2] at h0; cases h0; exact Nat.le_refl _), ?_⟩
  -- after the body writes the file is `data`, the record is untouched
  have hP3 := fetch_fills env hchunk hP hfl hc hpre
  generalize run (pwrites (.pfile d) r.completed (env.chunk (data.drop r.completed))) s2 = s3 at hP3
  rw [seqDeb_append]
  refine ⟨writePart_seqDeb env hstrict k d r' s3 ?_, rm_mv_seqDeb d _⟩
  intro data' hw' bs' hbs'
  rw [hw] at hw'; cases hw'
  rw [pfileBytes_some_raw hP3] at hbs'; cases hbs'
  refine ⟨hr1, hr2, by omega, ?_⟩
  rw [hr2, hr3, resize_self]

theorem download_seqDeb (env : Env)
    (hstrict : strict = true → env.atomicPart = true) (hchunk : ∀ bs, (env.chunk bs).flatten = bs)
    (k : Nat) (d : Digest) (data : Bytes) (hw : world d = some data) (st : Store)
    (hinv : DebrisOK world st) :
    SeqDeb strict world st (download env k d data st).effs := by
  obtain ⟨bs, hbs, hrec⟩ := partOK_iff.mp (hinv d data hw)
  unfold download
  dsimp only
  cases hR : get st (.part d 0) with
  | none =>
    dsimp only
    by_cases hz : data.length = 0
    · simp only [hz, ↓reduceIte]
      rw [seqDeb_append]
      refine ⟨touch_ftr_seqDeb d 0 st (fun r hr => by rw [hR] at hr; cases hr), ?_⟩
      simp only [seqDeb_cons]
      refine ⟨deb_mv_pfile d ?_, trivial⟩
      intro r0
      rw [part_after_touch_ftr, hR]; simp
    · simp only [hz, ↓reduceIte, List.append_assoc]
      rw [seqDeb_append]
      refine ⟨writePart_seqDeb env hstrict k d _ st (fun data' hw' bs' _ => by
        rw [hw] at hw'; cases hw'
        exact ⟨rfl, rfl, Nat.zero_le _, rfl⟩), ?_⟩
      have hR1 := writePart_result env k d ⟨0, 0, data.length, 0⟩ st
      have hP1 : pfileBytes (run (writePart env k (.part d 0) ⟨0, 0, data.length, 0⟩) st) d = some bs := by
        rw [pfileBytes_congr (pfile_not_written_by_rec env k d _ st)]; exact hbs
      generalize run (writePart env k (.part d 0) ⟨0, 0, data.length, 0⟩) st = s1 at hR1 hP1
      exact resume_seqDeb env hstrict hchunk (k + 1) d data hw s1 bs ⟨0, 0, data.length, 0⟩
        ⟨0, 0, data.length, data.length⟩ hP1 hR1 ⟨rfl, rfl, Nat.zero_le _, rfl⟩ rfl rfl rfl
  | some c =>
    cases c with
    | prec r =>
      dsimp only
      have hfit := hrec r hR
      have ⟨hoff, hsize, hle, _⟩ := hfit
      by_cases hc : r.completed = r.size
      · simp only [hc, ↓reduceIte, List.append_nil, List.append_assoc]
        rw [seqDeb_append]
        exact ⟨touch_ftr_seqDeb d r.size st (fun r0 hr => by rw [hR] at hr; cases hr; exact Or.inl rfl),
          rm_mv_seqDeb d _⟩
      · simp only [hc, ↓reduceIte, List.append_assoc]
        rw [resume_body hoff hsize, hoff, Nat.zero_add]
        exact resume_seqDeb env hstrict hchunk k d data hw st bs r _ hbs hR hfit rfl hsize
          (by simp only [List.length_drop]; omega)
    | _ => trivial

/-! ## pull, and every operation -/

theorem downloads_seqDeb (env : Env)
    (hstrict : strict = true → env.atomicPart = true) (hchunk : ∀ bs, (env.chunk bs).flatten = bs)
    (reg : Digest → Option Bytes) (hsub : ∀ d data, reg d = some data → world d = some data)
    (k : Nat) (ds : List Digest) (st : Store) (hinv : DebInv strict world st) :
    SeqDeb strict world st (downloads env reg k ds st).effs := by
  induction ds generalizing st k with
  | nil => trivial
  | cons d rest ih =>
    unfold downloads
    split
    · exact ih _ st hinv
    · split
      · trivial
      · rename_i data hr
        have hd := download_seqDeb (strict := strict) env hstrict hchunk k d data (hsub d data hr) st hinv.1
        have hdv : SeqDeb strict world st ((download env k d data st).andThen st (verify1 env d)).effs :=
          seqDeb_andThen hd (fun _ => seqDeb_foot (N := []) (verify1_foot env d _))
        exact seqDeb_andThen hdv (fun _ => ih (k + 2) _ (seq_preserves_debInv hinv hdv))

/-- the registry of a pull serves what the world holds behind each digest -/
def OpW (world : Digest → Option Bytes) : Op → Prop
  | .pull reg _ _ => ∀ d data, reg d = some data → world d = some data
  | _ => True

/-- Every effect of every operation is issued in a state in which it keeps the download debris
consistent (and, in the fixed variant, every part record whole). -/
theorem exec_seqDeb {strict : Bool} {world : Digest → Option Bytes} (env : Env)
    (hstrict : strict = true → env.atomicPart = true) (hchunk : ∀ bs, (env.chunk bs).flatten = bs)
    (st : Store) (hinv : DebInv strict world st) (op : Op) (hop : OpW world op) :
    SeqDeb strict world st (op.exec env st).effs := by
  refine (exec_phases env op st).seqDeb ?_
  cases op with
  | pull reg n m => exact downloads_seqDeb env hstrict hchunk reg hop 0 _ st hinv
  | _ => exact seqDeb_foot (N := []) (stage_foot env _ st fun h => nomatch h)

theorem debInv_restartWith (env : Env) (h : DebInv strict world st) : DebInv strict world (restartWith env st) := by
  unfold restartWith restart
  split
  · exact h
  · split
    · exact (noDebris_prune st).debInv strict world
    · exact h

/-- **Crashes re-establish the hypothesis of the pull theorems.**  Consistent debris before ANY
operation ⇒ consistent debris after any crash prefix of it and after the start-up sequence. -/
theorem debInv_crash {strict : Bool} {world : Digest → Option Bytes} (env : Env)
    (hstrict : strict = true → env.atomicPart = true) (hchunk : ∀ bs, (env.chunk bs).flatten = bs)
    (st : Store) (hinv : DebInv strict world st) (op : Op) (hop : OpW world op)
    (p : List Effect) (hp : CrashPrefix (op.exec env st).effs p) :
    DebInv strict world (run p st) :=
  seq_preserves_debInv hinv (seqDeb_crashPrefix (exec_seqDeb env hstrict hchunk st hinv op hop) hp)

theorem DebrisOK.pullPre {world : Digest → Option Bytes} (h : DebrisOK world st)
    (reg : Digest → Option Bytes) (hsub : ∀ d data, reg d = some data → world d = some data) (ds : List Digest) :
    PullPre reg st ds := fun d _ _ data hr => h d data (hsub d data hr)

/-! ## every history: the stores the server can ever be in -/

/-- Stores reachable from the empty store by ANY sequence of: an operation run to any crash prefix of
its effect list (the whole list = the operation completed; last data write cut at any byte), and the
start-up sequence. -/
inductive Reach (env : Env) (world : Digest → Option Bytes) : Store → Prop
  | init : Reach env world []
  | crash {st : Store} (op : Op) (p : List Effect) :
      Reach env world st → OpW world op → CrashPrefix (op.exec env st).effs p → Reach env world (run p st)
  | restart {st : Store} : Reach env world st → Reach env world (restartWith env st)

theorem noPullDebris_nil : NoPullDebris [] := fun _ => ⟨rfl, fun _ => rfl⟩

theorem reach_debInv {env : Env} {world : Digest → Option Bytes} (hchunk : ∀ bs, (env.chunk bs).flatten = bs)
    (h : Reach env world st) : DebInv env.atomicPart world st := by
  induction h with
  | init => exact noPullDebris_nil.debInv _ _
  | crash op p _ hop hp ih => exact debInv_crash env id hchunk _ ih op hop p hp
  | restart _ ih => exact debInv_restartWith env ih

end OllamaVerif.StoreCrash
