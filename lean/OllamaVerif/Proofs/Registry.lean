/-
  C09 — theory of the `Pull` model (Model/Registry.lean) under Properties/C09.lean and
  Properties/C09Tree.lean: per section, the specification of one model function (or an induction
  principle for it) from which the results there follow in a few lines.  The chunk-writer section
  serves only the results about `putLoop` and `putAll`: on the verifying variants
  "success ⇒ verified" comes from the whole-file re-hash alone.
-/
import OllamaVerif.Model.Registry

namespace OllamaVerif.C09
open OllamaVerif OllamaVerif.Registry

/-! ### The chunk writer -/

theorem writeAt_nil (f : Bytes) (off : Nat) : writeAt f off [] = f := by simp [writeAt]

theorem writeAt_of_ne_nil (f : Bytes) (off : Nat) (d : Bytes) (h : d ≠ []) :
    writeAt f off d = (f ++ zeros (off - f.length)).take off ++ d ++ f.drop (off + d.length) := by
  cases d with
  | nil => exact absurd rfl h
  | cons x xs => simp [writeAt]

theorem writeAt_head_length (f : Bytes) (off : Nat) : ((f ++ zeros (off - f.length)).take off).length = off := by
  simp [zeros]; omega

theorem writeAt_length {f : Bytes} {off : Nat} {d : Bytes} (h : d ≠ []) :
    (writeAt f off d).length = max f.length (off + d.length) := by
  rw [writeAt_of_ne_nil f off d h]
  simp only [List.length_append, writeAt_head_length, List.length_drop]
  omega

theorem writeAt_prefix (P rest d : Bytes) :
    writeAt (P ++ rest) P.length d = P ++ d ++ rest.drop d.length := by
  by_cases hd : d = []
  · subst hd; simp [writeAt_nil]
  have h0 : P.length - (P ++ rest).length = 0 := by rw [List.length_append]; omega
  rw [writeAt_of_ne_nil _ _ d hd, h0, show zeros 0 = [] from rfl, List.append_nil, List.take_left,
    List.drop_length_add_append]

theorem writeAt_writeAt (f : Bytes) (off : Nat) (a b : Bytes) :
    writeAt (writeAt f off a) (off + a.length) b = writeAt f off (a ++ b) := by
  by_cases ha : a = []
  · subst ha; simp [writeAt_nil]
  rw [writeAt_of_ne_nil f off a ha, writeAt_of_ne_nil f off (a ++ b) (by simp [ha])]
  have hp := writeAt_head_length f off
  generalize (f ++ zeros (off - f.length)).take off = P at hp
  subst hp
  rw [← List.length_append, writeAt_prefix (P ++ a) _ b, List.drop_drop, List.length_append,
    List.length_append, List.append_assoc P a b, Nat.add_assoc]

theorem writeAt_zero_of_le {f data : Bytes} (h : f.length ≤ data.length) : writeAt f 0 data = data := by
  by_cases hd : data = []
  · subst hd; rw [writeAt_nil]; exact List.eq_nil_of_length_eq_zero (Nat.le_zero.mp h)
  · rw [writeAt_of_ne_nil f 0 data hd]
    simp [List.drop_of_length_le h]

theorem slice_writeAt (f : Bytes) (off : Nat) (data : Bytes) :
    ((writeAt f off data).drop off).take data.length = data := by
  cases data with
  | nil => rfl
  | cons x xs =>
    rw [writeAt_of_ne_nil f off _ (List.cons_ne_nil x xs)]
    have hp := writeAt_head_length f off
    generalize (f ++ zeros (off - f.length)).take off = P at *
    rw [List.append_assoc, List.drop_append, List.drop_of_length_le (by omega)]
    simp [hp]

theorem writeAt_end (f data : Bytes) : writeAt f f.length data = f ++ data := by
  simpa using writeAt_prefix f [] data

section
variable {D : Type} [DecidableEq D]

/-- What `Chunker.Put` does to the file, for every split of the body into reads: it writes a
    prefix `data` of what it read at the chunk's offset; on success `data` is the whole chunk and
    hashes (together with what was hashed before) to the expected digest; on failure `data` is
    strictly shorter than the chunk. -/
theorem putLoop_spec (H : Bytes → D) (d : D) (pieces : List Bytes) (fin : BodyEnd)
    (f : Bytes) (off rem : Nat) (acc : Bytes) :
    ∃ data : Bytes, (putLoop H d f off rem acc pieces fin).1 = writeAt f off data ∧
      ((putLoop H d f off rem acc pieces fin).2 = none →
          data.length = rem ∧ (0 < rem → H (acc ++ data) = d)) ∧
      (∀ e, (putLoop H d f off rem acc pieces fin).2 = some e → data.length < rem) := by
  fun_induction putLoop H d f off rem acc pieces fin with
  | case1 f off acc fin | case3 f off acc p ps fin =>
    exact ⟨[], (writeAt_nil f off).symm, fun _ => ⟨rfl, nofun⟩, nofun⟩
  | case2 f off rem acc fin h | case5 f off rem acc p ps fin h hfull hh =>
    exact ⟨[], (writeAt_nil f off).symm, nofun, fun _ _ => Nat.pos_of_ne_zero h⟩
  | case4 f off rem acc p ps fin h hfull hh => exact ⟨p.take rem, rfl, fun _ => ⟨hfull, fun _ => hh⟩, nofun⟩
  | case6 f off rem acc p ps fin h hfull ih =>
    have hle : (p.take rem).length ≤ rem := List.length_take_le ..
    obtain ⟨data2, h1, h2, h3⟩ := ih
    refine ⟨p.take rem ++ data2, by rw [h1, writeAt_writeAt], fun hn => ?_, fun e he => ?_⟩
    · obtain ⟨hl, hH⟩ := h2 hn
      refine ⟨by rw [List.length_append]; omega, fun _ => ?_⟩
      rw [← List.append_assoc]; exact hH (by omega)
    · have := h3 e he
      rw [List.length_append]; omega

/-! ### One run, up to `g.Wait()` -/

/-- Induction over one run: `P` holds at `g.Wait()` if it survives the main goroutine (`hadv`), the
    return of a chunk goroutine (`hret`) and — cancel, timeout and a stalled body in one — any change
    of `cancelled` and `firstErr` that empties `inflight` (`hfail`). -/
theorem pullRun_induct (H : Bytes → D) (cfg : Cfg) (P : Run D → Prop)
    (hadv : ∀ st, P st → P (advance cfg.variant cfg.limit st st.ops))
    (hret : ∀ st k t r, st.inflight[k]? = some t → P st →
      P (applyTask H cfg.variant { st with inflight := st.inflight.eraseIdx k } t r))
    (hfail : ∀ st c e, P st → P { st with cancelled := c, inflight := [], firstErr := e })
    {c : Cache D} {m : Manifest D} {a : Attempt D} {st : Run D} (h : pullRun H cfg c m a = some st)
    (h0 : P { cache := c, ops := layerOps cfg.thr a.plans 0 m.all }) : P st := by
  have hstep : ∀ st st' s, step H cfg.variant cfg.limit st s = some st' → P st → P st' := by
    intro st st' s
    fun_cases step H cfg.variant cfg.limit st s with
    | case1 => nofun
    | case2 => exact fun h hP => Option.some.inj h ▸ hP
    | case3 k r t ht _ st1 =>
      intro h hP
      rw [← Option.some.inj h]
      apply hadv
      show P (if stalls t r = true then _ else st1)
      split
      · exact hfail _ _ _ (hret st k t r ht hP)
      · exact hret st k t r ht hP
    | case4 | case5 => exact fun h hP => Option.some.inj h ▸ hadv _ (hfail st _ _ hP)
  have hrun : ∀ (ss : List Step) (st st' : Run D),
      runSteps H cfg.variant cfg.limit st ss = some st' → P st → P st' := by
    intro ss st st'
    fun_induction runSteps H cfg.variant cfg.limit st ss with
    | case1 => exact fun h hP => Option.some.inj h ▸ hP
    | case2 => nofun
    | case3 st s ss st1 hs ih => exact fun h hP => ih h (hstep st st1 s hs hP)
  exact hrun a.steps _ st h (hadv _ h0)

section
variable {α} (f : Cache D → α) (H : Bytes → D) (cfg : Cfg)
  (hw : ∀ c d b, f (c.setWork cfg.variant d b) = f c) (hm : ∀ c k, f (c.setMarker k) = f c)
include hw

theorem advance_cache_frame (st : Run D) (ops : List (Op D)) :
    f (advance cfg.variant cfg.limit st ops).cache = f st.cache := by
  fun_induction advance cfg.variant cfg.limit st ops with
  | case3 st e l big rest hsc ih =>
    -- the only instruction that touches the cache
    rw [ih]
    dsimp only
    split
    · rfl
    · unfold ensureFile; split
      · rfl
      · exact hw _ _ _
  | _ => first | rfl | assumption

include hm

theorem applyTask_cache_frame (st : Run D) (t : Registry.Task D) (r : ChunkResp) :
    f (applyTask H cfg.variant st t r).cache = f st.cache := by
  fun_cases applyTask H cfg.variant st t r
  case case4 => exact (hm _ _).trans (hw _ _ _)
  case case5 => exact hw _ _ _
  case case3 => exact hm _ _
  all_goals rfl

theorem pullRun_cache_frame {c : Cache D} {m : Manifest D} {a : Attempt D} {st : Run D}
    (h : pullRun H cfg c m a = some st) : f st.cache = f c :=
  pullRun_induct H cfg (fun st => f st.cache = f c)
    (fun st hP => (advance_cache_frame f cfg hw st st.ops).trans hP)
    (fun _ _ t r _ hP => (applyTask_cache_frame f H cfg hw hm _ t r).trans hP)
    (fun _ _ _ hP => hP) h rfl

end

theorem setWork_links (v : Variant) (c : Cache D) (d : D) (f : Bytes) : (c.setWork v d f).links = c.links := by
  unfold Cache.setWork; split <;> rfl

theorem pullRun_links {H : Bytes → D} {cfg : Cfg} {c : Cache D} {m : Manifest D} {a : Attempt D}
    {st : Run D} (h : pullRun H cfg c m a = some st) : st.cache.links = c.links :=
  pullRun_cache_frame (·.links) H cfg (setWork_links cfg.variant) (fun _ _ => rfl) h

theorem setWork_files (v : Variant) (hs : v.staged = true) (c : Cache D) (d : D) (f : Bytes) :
    (c.setWork v d f).files = c.files := by
  unfold Cache.setWork; simp [hs]

/-! ### The verification pass -/

/-- the blob `d` is in the cache as a file of exactly `s` bytes whose whole-file hash is `d` -/
def Good (H : Bytes → D) (c : Cache D) (d : D) (s : Nat) : Prop :=
  ∃ f, c.files d = some f ∧ f.length = s ∧ H f = d

/-- the one property of SHA-256 the `staged` theorems use: no collision between byte strings of
    different lengths -/
def NoLenCollision (H : Bytes → D) : Prop := ∀ x y : Bytes, H x = H y → x.length = y.length

omit [DecidableEq D] in
theorem Good.of_file {H : Bytes → D} {c c' : Cache D} {d : D} {s : Nat}
    (h : c'.files d = c.files d) (hg : Good H c d s) : Good H c' d s := by
  unfold Good at hg ⊢; rw [h]; exact hg

theorem commitStaged_spec (H : Bytes → D) (c : Cache D) (l : Layer D) :
    (commitStaged H c l).1.links = c.links ∧
    ((commitStaged H c l).2 = true → Good H (commitStaged H c l).1 l.digest l.size) ∧
    (NoLenCollision H → ∀ d s, Good H c d s → Good H (commitStaged H c l).1 d s) := by
  fun_cases commitStaged H c l with
  | case2 p _ hp =>
    -- the staged file `p` is renamed over the blob of `l.digest`: a verified blob already there
    -- hashes like `p`, so (`hcol`) has `p`'s length and its `(d, s)` survives
    simp only [Bool.and_eq_true, beq_iff_eq, decide_eq_true_eq] at hp
    refine ⟨rfl, fun _ => ⟨p, if_pos rfl, hp.1, hp.2⟩, fun hcol d s ⟨f, hf, hl, hH⟩ => ?_⟩
    by_cases hd : d = l.digest
    · exact ⟨p, if_pos hd, hl ▸ hcol p f (by rw [hp.2, hH, hd]), hd ▸ hp.2⟩
    · exact ⟨f, (if_neg hd).trans hf, hl, hH⟩
  | _ => exact ⟨rfl, nofun, fun _ _ _ hg => hg⟩

theorem verifyLayer_spec (H : Bytes → D) (c : Cache D) (l : Layer D) :
    (verifyLayer H c l).1.links = c.links ∧
    ((verifyLayer H c l).2 = true → Good H (verifyLayer H c l).1 l.digest l.size) ∧
    (NoLenCollision H → ∀ d s, Good H c d s → Good H (verifyLayer H c l).1 d s) := by
  fun_cases verifyLayer H c l with
  | case1 f hf hlen hH => exact ⟨rfl, fun _ => ⟨f, hf, by simpa using hlen, hH⟩, fun _ _ _ hg => hg⟩
  | case2 f hf _ hH =>
    -- a blob that fails the re-hash is not a verified one
    refine ⟨rfl, nofun, fun _ d s ⟨f', hf', hl, hH'⟩ => ?_⟩
    have hd : d ≠ l.digest := fun hd => hH (by rw [hd, hf] at hf'; cases hf'; rw [hH', hd])
    exact ⟨f', (if_neg hd).trans hf', hl, hH'⟩
  | _ => exact commitStaged_spec H c l

theorem verifyAll_spec (H : Bytes → D) (c : Cache D) (ls : List (Layer D)) :
    (verifyAll H c ls).1.links = c.links ∧
    (NoLenCollision H → ((verifyAll H c ls).2 = true → ∀ l ∈ ls, Good H (verifyAll H c ls).1 l.digest l.size) ∧
      ∀ d s, Good H c d s → Good H (verifyAll H c ls).1 d s) := by
  fun_induction verifyAll H c ls with
  | case1 => exact ⟨rfl, fun _ => ⟨nofun, fun _ _ hg => hg⟩⟩
  | case2 c l ls c1 h1 ih =>
    obtain ⟨hl, hg, hp⟩ := verifyLayer_spec H c l
    rw [h1] at hl hg hp
    refine ⟨ih.1.trans hl, fun hcol => ⟨fun h x hx => ?_, fun d s h => (ih.2 hcol).2 d s (hp hcol d s h)⟩⟩
    rcases List.mem_cons.mp hx with rfl | hx
    · exact (ih.2 hcol).2 _ _ (hg rfl)
    · exact (ih.2 hcol).1 h x hx
  | case3 c l ls c1 h1 =>
    obtain ⟨hl, _, hp⟩ := verifyLayer_spec H c l
    rw [h1] at hl hp
    exact ⟨hl, fun hcol => ⟨nofun, hp hcol⟩⟩

theorem verifyPass_links (H : Bytes → D) (cfg : Cfg) (c : Cache D) (m : Manifest D) :
    (verifyPass H cfg c m).1.links = c.links := by
  fun_cases verifyPass H cfg c m <;> first | rfl | exact (verifyAll_spec H c m.all).1

theorem layerGood_iff (H : Bytes → D) (c : Cache D) (l : Layer D) :
    layerGood H c l = true ↔ Good H c l.digest l.size := by
  unfold layerGood Good
  cases c.files l.digest <;> simp

theorem verifyPass_good (H : Bytes → D) (cfg : Cfg) (hv : cfg.verify = true)
    (hcol : cfg.staged = true → NoLenCollision H) {c c1 : Cache D} {m : Manifest D}
    (h : verifyPass H cfg c m = (c1, true)) : ∀ l ∈ m.all, Good H c1 l.digest l.size := by
  revert h
  fun_cases verifyPass H cfg c m with
  | case1 hs =>
    intro h
    have := ((verifyAll_spec H c m.all).2 (hcol (Bool.and_eq_true_iff.mp hs).2)).1
    rw [h] at this; exact this rfl
  | case2 => nofun
  | case3 _ _ hnone =>
    intro h l hl
    cases h
    exact (layerGood_iff H c l).mp (by simpa using List.find?_eq_none.mp hnone l hl)
  | case4 _ hnv => exact absurd hv hnv

theorem verifyPass_preserves (H : Bytes → D) (cfg : Cfg) (hs : cfg.staged = true)
    (hcol : NoLenCollision H) {c : Cache D} (m : Manifest D) {d : D} {s : Nat} (hg : Good H c d s) :
    Good H (verifyPass H cfg c m).1 d s := by
  fun_cases verifyPass H cfg c m with
  | case1 => exact ((verifyAll_spec H c m.all).2 hcol).2 d s hg
  | case2 hn hv => exact absurd (by rw [hv, hs]; rfl) hn
  | case3 => exact hg
  | case4 => exact hg

/-! ### One `Pull` -/

/-- `pull` inverted.  Failure: the cache is `c`, the run's, or the run's after the verification
    pass.  Success: the run ended clean, the pass passed (it never touches the links) and the one
    `Link` is the last change. -/
theorem pull_cases (H : Bytes → D) (cfg : Cfg) (c : Cache D) (a : Attempt D) :
    ((pull H cfg c a).2 ≠ .ok ∧ ((pull H cfg c a).1 = c ∨
      ∃ m st, a.man = .ok m ∧ pullRun H cfg c m a = some st ∧
        ((pull H cfg c a).1 = st.cache ∨ (pull H cfg c a).1 = (verifyPass H cfg st.cache m).1))) ∨
    ((pull H cfg c a).2 = .ok ∧
      ∃ m st c1, a.man = .ok m ∧ pullRun H cfg c m a = some st ∧ st.ops = [] ∧ st.inflight = [] ∧
        st.firstErr = none ∧ st.completed = expected m ∧ verifyPass H cfg st.cache m = (c1, true) ∧
        c1.links = c.links ∧ (pull H cfg c a).1 = c1.link cfg.linkShortcut a.name m) := by
  fun_cases pull H cfg c a with
  | case4 m hm _ st hst =>
    fun_cases finish H cfg a.name m st with
    | case4 hdone hfe hc c1 hv =>
      simp only [Bool.not_eq_true, Bool.not_eq_false', Bool.and_eq_true, List.isEmpty_iff] at hdone
      refine .inr ⟨rfl, m, st, c1, hm, hst, hdone.1, hdone.2, hfe, by simpa using hc, hv, ?_, rfl⟩
      rw [← pullRun_links hst, ← verifyPass_links H cfg st.cache m, hv]
    | case5 _ _ _ c1 hv => exact .inl ⟨nofun, .inr ⟨m, st, hm, hst, .inr (by rw [hv])⟩⟩
    | _ => exact .inl ⟨nofun, .inr ⟨m, st, hm, hst, .inl rfl⟩⟩
  | _ => exact .inl ⟨nofun, .inl rfl⟩

omit [DecidableEq D] in
theorem link_links (sc : Bool) (c : Cache D) (name : Nat) (m : Manifest D) (n : Nat) :
    (c.link sc name m).links n = c.links n ∨ (n = name ∧ (c.link sc name m).links n = some m) := by
  by_cases hn : n = name
  · fun_cases Cache.link sc c name m
    · exact .inl rfl
    all_goals exact .inr ⟨hn, if_pos hn⟩
  · left
    fun_cases Cache.link sc c name m
    · rfl
    all_goals exact if_neg hn

omit [DecidableEq D] in
theorem link_links_self (c : Cache D) (name : Nat) (m : Manifest D) :
    (c.link false name m).links name = some m := by
  unfold Cache.link; split <;> simp

omit [DecidableEq D] in
theorem link_files (sc : Bool) (c : Cache D) (n : Nat) (m : Manifest D) : (c.link sc n m).files = c.files := by
  unfold Cache.link
  split
  · split <;> rfl
  · rfl

theorem pull_preserves_good (H : Bytes → D) (cfg : Cfg) (c : Cache D) (a : Attempt D) (d : D) (s : Nat)
    (hrun : ∀ m st, a.man = .ok m → pullRun H cfg c m a = some st → st.cache.files d = c.files d)
    (hver : ∀ m c1, a.man = .ok m → Good H c1 d s → Good H (verifyPass H cfg c1 m).1 d s)
    (hg : Good H c d s) : Good H (pull H cfg c a).1 d s := by
  rcases pull_cases H cfg c a with
    ⟨_, he | ⟨m, st, hm, hst, he | he⟩⟩ | ⟨_, m, st, c1, hm, hst, _, _, _, _, hv, _, he⟩
  · rw [he]; exact hg
  · rw [he]; exact hg.of_file (hrun m st hm hst)
  · rw [he]; exact hver m _ hm (hg.of_file (hrun m st hm hst))
  · have h1 := hver m _ hm (hg.of_file (hrun m st hm hst))
    rw [hv] at h1
    rw [he]; exact h1.of_file (congrFun (link_files ..) d)

theorem pull_links (H : Bytes → D) (cfg : Cfg) (c : Cache D) (a : Attempt D) (n : Nat) :
    (pull H cfg c a).1.links n = c.links n ∨ ((pull H cfg c a).2 = .ok ∧ n = a.name ∧
      ∃ m, a.man = .ok m ∧ (pull H cfg c a).1.links n = some m) := by
  rcases pull_cases H cfg c a with
    ⟨_, he | ⟨m, st, _, hst, he | he⟩⟩ | ⟨hok, m, st, c1, hm, _, _, _, _, _, _, hl, he⟩
  · exact .inl (by rw [he])
  · exact .inl (by rw [he, pullRun_links hst])
  · exact .inl (by rw [he, verifyPass_links, pullRun_links hst])
  · rw [he, ← hl]
    exact (link_links cfg.linkShortcut c1 a.name m n).imp_right fun ⟨hn, h⟩ => ⟨hok, hn, m, hm, h⟩

theorem pull_success_linked (H : Bytes → D) (cfg : Cfg) (hv : cfg.verify = true)
    (hcol : cfg.staged = true → NoLenCollision H) {c : Cache D} {a : Attempt D}
    (hok : (pull H cfg c a).2 = .ok) :
    ∃ m, a.man = .ok m ∧ (∀ l ∈ m.all, Good H (pull H cfg c a).1 l.digest l.size) ∧
      (cfg.linkShortcut = false → (pull H cfg c a).1.links a.name = some m) := by
  rcases pull_cases H cfg c a with ⟨hne, _⟩ | ⟨_, m, st, c1, hm, _, _, _, _, _, hpass, _, he⟩
  · exact absurd hok hne
  · rw [he]
    exact ⟨m, hm, fun l hl => (verifyPass_good H cfg hv hcol hpass l hl).of_file
      (congrFun (link_files ..) _), fun hsc => hsc ▸ link_links_self c1 a.name m⟩

/-! ### Histories -/

theorem handlePull_eq_history (H : Bytes → D) (cfg : Cfg) (as : List (Attempt D)) (c : Cache D) :
    (handlePull H cfg c as).1 = (pullHistory H cfg c (as.take (handlePullAttempts H cfg c as))).1 := by
  fun_induction handlePull H cfg c as with
  | case1 => rfl
  | case2 c a as r hr ih => rw [handlePullAttempts, if_pos hr, List.take_succ_cons, pullHistory]; exact ih
  | case3 c a as r hr => rw [handlePullAttempts, if_neg hr, List.take_succ_cons, List.take_zero, pullHistory]; rfl

/-- `K`: a class of blobs (digest, size) the pulls in question do not damage.  `LinkedVerified` is
    `K := True`, `LinkedVerifiedSized sz` is `K d s := s = sz d`. -/
def LinkedIn (K : D → Nat → Prop) (H : Bytes → D) (c : Cache D) : Prop :=
  ∀ n m, c.links n = some m → (∀ l ∈ m.all, K l.digest l.size) ∧ ∀ l ∈ m.all, Good H c l.digest l.size

/-- If no pull of an attempt in `A` damages a verified blob of class `K` (digest, size) and the
    manifests served in `A` name only such blobs, `LinkedIn K` survives every history in `A`: a link
    changes only by a successful pull, which has verified every layer. -/
theorem history_keeps_linkedIn (K : D → Nat → Prop) (A : Attempt D → Prop) (H : Bytes → D) (cfg : Cfg)
    (hv : cfg.verify = true) (hcol : cfg.staged = true → NoLenCollision H)
    (hA : ∀ a m, A a → a.man = .ok m → ∀ l ∈ m.all, K l.digest l.size)
    (hkeep : ∀ c a d s, A a → K d s → Good H c d s → Good H (pull H cfg c a).1 d s)
    (as : List (Attempt D)) (hall : ∀ a ∈ as, A a) :
    ∀ c : Cache D, LinkedIn K H c → LinkedIn K H (pullHistory H cfg c as).1 := by
  intro c h
  fun_induction pullHistory H cfg c as with
  | case1 => exact h
  | case2 c a as r rest ih =>
    have ha := hall a (List.mem_cons_self ..)
    refine ih (fun x hx => hall x (List.mem_cons_of_mem _ hx)) fun n m hn => ?_
    rcases pull_links H cfg c a n with e | ⟨hok, _, m1, hm, e⟩
    · obtain ⟨hk, hg⟩ := h n m (e ▸ hn)
      exact ⟨hk, fun l hl => hkeep c a _ _ ha (hk l hl) (hg l hl)⟩
    · obtain ⟨m', hm', hg, _⟩ := pull_success_linked H cfg hv hcol hok
      rw [e] at hn; rw [hm] at hm'; cases hn; cases hm'
      exact ⟨hA a m ha hm, hg⟩

end

end OllamaVerif.C09
