/-
  The writer sorts the keys (`slices.Sort(keys)`) (C05).  `bytesLe` is a total preorder and `sortKVs` idempotent;
  `sortKVs` permutes its input, and looking a key up in a list with distinct keys does not depend on the arrangement —
  these last two are all the round trip (Proofs/GgufRoundTrip.lean) needs to know of the order the keys are written in.
-/
import OllamaVerif.Model.Gguf

namespace OllamaVerif.Gguf
open OllamaVerif

theorem u8_eq_of_not_lt {x y : UInt8} (h1 : ¬ x < y) (h2 : ¬ y < x) : x = y := by
  apply UInt8.toNat_inj.mp
  rw [UInt8.lt_iff_toNat_lt] at h1 h2
  omega

theorem bytesLe_total : ∀ (a b : Bytes), (bytesLe a b || bytesLe b a) = true := by
  intro a
  induction a with
  | nil => intro b; simp [bytesLe]
  | cons x xs ih =>
    intro b
    cases b with
    | nil => simp [bytesLe]
    | cons y ys =>
      unfold bytesLe
      by_cases h1 : x < y
      · simp [h1]
      · by_cases h2 : y < x
        · simp [h2]
        · simp only [h1, h2, ↓reduceIte]
          exact ih ys

theorem bytesLe_trans : ∀ (a b c : Bytes), bytesLe a b = true → bytesLe b c = true → bytesLe a c = true := by
  intro a
  induction a with
  | nil => intro b c _ _; simp [bytesLe]
  | cons x xs ih =>
    intro b c hab hbc
    cases b with
    | nil => simp [bytesLe] at hab
    | cons y ys =>
      cases c with
      | nil => simp [bytesLe] at hbc
      | cons z zs =>
        unfold bytesLe at hab hbc ⊢
        by_cases hxy : x < y
        · by_cases hyz : y < z
          · have : x < z := UInt8.lt_trans hxy hyz
            simp [this]
          · by_cases hzy : z < y
            · simp [hyz, hzy] at hbc
            · have : y = z := u8_eq_of_not_lt hyz hzy
              subst this; simp [hxy]
        · by_cases hyx : y < x
          · simp [hxy, hyx] at hab
          · have hxy' : x = y := u8_eq_of_not_lt hxy hyx
            subst hxy'
            simp only [hxy, ↓reduceIte] at hab
            by_cases hyz : x < z
            · simp [hyz]
            · by_cases hzy : z < x
              · simp [hyz, hzy] at hbc
              · simp only [hyz, hzy, ↓reduceIte] at hbc ⊢
                exact ih ys zs hab hbc

theorem sortKVs_idem (kvs : List (Bytes × KVal)) : sortKVs (sortKVs kvs) = sortKVs kvs := by
  unfold sortKVs
  apply List.mergeSort_of_pairwise
  apply List.pairwise_mergeSort
  · intro a b c hab hbc; exact bytesLe_trans _ _ _ hab hbc
  · intro a b; exact bytesLe_total _ _

theorem sortKVs_perm (kvs : List (Bytes × KVal)) : (sortKVs kvs).Perm kvs := List.mergeSort_perm _ _

theorem find?_key_perm {l l' : List (Bytes × KVal)} (hp : l.Perm l') (hnd : (l.map (·.1)).Nodup) (k : Bytes) :
    l'.find? (fun p => p.1 = k) = l.find? (fun p => p.1 = k) := by
  induction hp with
  | nil => rfl
  | cons x _ ih =>
    rw [List.map_cons, List.nodup_cons] at hnd
    rw [List.find?_cons, List.find?_cons, ih hnd.2]
  | swap x y l =>
    simp only [List.map_cons, List.nodup_cons, List.mem_cons, not_or] at hnd
    simp only [List.find?_cons]
    by_cases hx : x.1 = k
    · by_cases hy : y.1 = k
      · exact absurd (hy.trans hx.symm) hnd.1.1
      · simp only [hx, hy, decide_true, decide_false]
    · simp only [hx, decide_false]
  | trans h1 _ ih1 ih2 => rw [ih2 ((h1.map _).nodup_iff.mp hnd), ih1 hnd]

end OllamaVerif.Gguf
