/-
  Lemmas for C08 (blob cache), and `Trusted`, in which the properties are stated.  One store: `overlay`, `SeenOK`,
  `seqWrites` (what the copy loop issues; views `run_seqWrites`, `seqWrites_cut_trusted`, `seqWrites_noEarlyFull`,
  `seqWrites_good`).  Concurrent stores: `GoodWrites`, `ConcInv`.  Manifests: `find?_manSet`.  Names: `SafeC`.
-/
import OllamaVerif.Model.BlobCache
namespace OllamaVerif.BlobCache
open OllamaVerif

/-- The C08 predicate on one blob file: IF the cache reports it present (`Get`: exists, non-zero length)
    with the size it was stored under, THEN its content hashes to its digest. -/
def Trusted (hash : Bytes → Digest) (st : FileSt) (d : Digest) (size : Nat) : Prop :=
  ∀ f, st = some f → f.length ≠ 0 → f.length = size → hash f = d

theorem trusted_none {hash : Bytes → Digest} {d : Digest} {size : Nat} : Trusted hash none d size := by
  intro f h; cases h

instance (hash : Bytes → Digest) (st : FileSt) (d : Digest) (size : Nat) : Decidable (Trusted hash st d size) :=
  match st with
  | none => isTrue (trusted_none)
  | some f => decidable_of_iff (f.length ≠ 0 → f.length = size → hash f = d)
      ⟨fun h _ hg => Option.some.inj hg ▸ h, fun h => h f rfl⟩

theorem trusted_nil {hash : Bytes → Digest} {d : Digest} {size : Nat} : Trusted hash (some []) d size := by
  intro f h hz; cases h; exact absurd rfl hz

theorem trusted_hash {hash : Bytes → Digest} {size : Nat} (b : Bytes) : Trusted hash (some b) (hash b) size := by
  intro f h _ _; cases h; rfl

theorem trusted_size_zero {hash : Bytes → Digest} {d : Digest} {st : FileSt} : Trusted hash st d 0 := by
  intro f _ hz h0; exact absurd h0 hz

@[simp] theorem run_nil (st : FileSt) : run [] st = st := rfl
@[simp] theorem run_cons (e : Eff) (es : List Eff) (st : FileSt) :
    run (e :: es) st = run es (applyEff e st) := rfl

theorem run_append (a b : List Eff) (st : FileSt) : run (a ++ b) st = run b (run a st) :=
  List.foldl_append ..

theorem truncTo_zero (f : Bytes) : truncTo f 0 = [] := by
  simp [truncTo, zeros]

/-- the file while a sequential writer that has written `seen` works over old content `g` -/
def overlay (seen g : Bytes) : Bytes := seen ++ g.drop seen.length

theorem overlay_length (seen g : Bytes) : (overlay seen g).length = max seen.length g.length := by
  simp only [overlay, List.length_append, List.length_drop]; omega

theorem overlay_of_le (seen g : Bytes) (h : g.length ≤ seen.length) : overlay seen g = seen := by
  rw [overlay, List.drop_eq_nil_of_le h, List.append_nil]

theorem overlay_nil (s : Bytes) : overlay s [] = s := by
  rw [overlay, List.drop_nil, List.append_nil]

theorem pwriteAt_of_le (f c : Bytes) (off : Nat) (h : off ≤ f.length) :
    pwriteAt f off c = f.take off ++ c ++ f.drop (off + c.length) := by
  unfold pwriteAt
  split
  · next hc => subst hc; simp
  · simp only [Nat.sub_eq_zero_of_le h, zeros, List.replicate_zero, List.append_nil]

theorem pwriteAt_overlay (seen g bs : Bytes) :
    pwriteAt (overlay seen g) seen.length bs = overlay (seen ++ bs) g := by
  unfold pwriteAt
  split
  · next h => subst h; simp
  · have hlen : seen.length - (overlay seen g).length = 0 := by
      rw [overlay_length]; omega
    simp only [hlen, zeros, List.replicate_zero, List.append_nil]
    simp [overlay, List.drop_append]

/-- loop invariant of `io.Copy(checkWriter)`: never more than `size` bytes, and `size` bytes only verified -/
def SeenOK (hash : Bytes → Digest) (d : Digest) (size : Nat) (seen : Bytes) : Prop :=
  seen.length ≤ size ∧ (seen.length = size → hash seen = d)

theorem seenOK_nil {hash : Bytes → Digest} {d : Digest} {size : Nat} (hsz : size ≠ 0) :
    SeenOK hash d size [] := ⟨Nat.zero_le _, fun h => absurd h.symm hsz⟩

/-- a proper prefix is shorter than `size` -/
theorem SeenOK.prefix {hash : Bytes → Digest} {d : Digest} {size : Nat} {a b : Bytes}
    (h : SeenOK hash d size (a ++ b)) : SeenOK hash d size a := by
  cases b with
  | nil => rwa [List.append_nil] at h
  | cons x xs =>
    have hl := h.1
    rw [List.length_append, List.length_cons] at hl
    exact ⟨by omega, fun e => by omega⟩

theorem trusted_overlay {hash : Bytes → Digest} {d : Digest} {size : Nat} {seen g : Bytes}
    (hg : g.length < size) (hs : SeenOK hash d size seen) :
    Trusted hash (some (overlay seen g)) d size := by
  intro f hf _ hlen
  cases hf
  rw [overlay_length] at hlen
  have h1 : seen.length = size := by have := hs.1; omega
  rw [overlay_of_le seen g (by omega)]
  exact hs.2 h1

theorem cut_full : ∀ (es : List Eff), Cut es es
  | [] => Cut.stop _
  | e :: es => Cut.next e es es (cut_full es)

theorem trusted_truncate0 {hash : Bytes → Digest} {d : Digest} {size : Nat} {st : FileSt} :
    Trusted hash (applyEff (.truncate 0) st) d size := by
  cases st with
  | none => exact trusted_none
  | some f => rw [applyEff, truncTo_zero]; exact trusted_nil

/-- how `copyNamedFile` ends after the copy loop: `Close`, after `Truncate(0)` on any failure -/
def ending (r : Res) : List Eff := if r = .ok then [.close] else [.truncate 0, .close]

theorem ending_cut_trusted {hash : Bytes → Digest} {d : Digest} {size : Nat} {r : Res} {p : List Eff}
    {st : FileSt} (hc : Cut (ending r) p) (h : Trusted hash st d size) :
    Trusted hash (run p st) d size := by
  unfold ending at hc
  split at hc
  · cases hc with
    | stop => exact h
    | next _ _ _ hc' => cases hc'; exact h
  · cases hc with
    | stop => exact h
    | next _ _ _ hc' =>
      cases hc' with
      | stop => exact trusted_truncate0
      | next _ _ _ hc'' => cases hc''; exact trusted_truncate0

/-- what `io.Copy(checkWriter)` issues: the chunks it lets through, written one after the other from offset `off` on -/
def seqWrites : Nat → List Bytes → List Eff
  | _, [] => []
  | off, c :: cs => .pwrite off c :: seqWrites (off + c.length) cs

theorem run_seqWrites (g : Bytes) : ∀ (cs : List Bytes) (s : Bytes),
    run (seqWrites s.length cs) (some (overlay s g)) = some (overlay (s ++ cs.flatten) g)
  | [], s => by rw [List.flatten_nil, List.append_nil]; rfl
  | c :: cs, s => by
    rw [seqWrites, run_cons, applyEff, pwriteAt_overlay, ← List.length_append, run_seqWrites g cs,
      List.flatten_cons, List.append_assoc]

theorem run_seqWrites_end (cs : List Bytes) (f : Bytes) :
    run (seqWrites f.length cs) (some f) = some (f ++ cs.flatten) := by
  have := run_seqWrites [] cs f
  rwa [overlay_nil, overlay_nil] at this

section seqWrites
variable {hash : Bytes → Digest} {d : Digest} {size : Nat}

/-- **Core of crash safety.**  Over old content shorter than `size`, every cut of (the writes ++ the ending) leaves a
    trusted file. -/
theorem seqWrites_cut_trusted {g : Bytes} (hg : g.length < size) (r : Res) (cs : List Bytes) : ∀ (s : Bytes),
    SeenOK hash d size (s ++ cs.flatten) →
    ∀ p, Cut (seqWrites s.length cs ++ ending r) p → Trusted hash (run p (some (overlay s g))) d size := by
  induction cs with
  | nil => exact fun s hs p hc => ending_cut_trusted hc (trusted_overlay hg hs.prefix)
  | cons c cs ih =>
    intro s hs p hc
    rw [List.flatten_cons, ← List.append_assoc] at hs
    rw [seqWrites, List.cons_append] at hc
    cases hc with
    | stop => exact trusted_overlay hg hs.prefix.prefix
    | next _ _ p' hc' =>
      rw [run_cons, applyEff, pwriteAt_overlay]
      exact ih (s ++ c) hs p' (List.length_append ▸ hc')
    | torn _ _ _ k =>
      rw [run_cons, applyEff, pwriteAt_overlay]
      refine trusted_overlay hg (SeenOK.prefix (b := c.drop k) ?_)
      rw [List.append_assoc, List.take_append_drop]
      exact hs.prefix

/-- over a file of `glen` bytes a writer that has written `n` sees the length `max glen n` -/
theorem seqWrites_noEarlyFull {glen : Nat} (hg : glen < size) (r : Res) (cs : List Bytes) : ∀ (n : Nat),
    n + cs.flatten.length ≤ size →
    noEarlyFull size (max glen n) n ((seqWrites n cs ++ ending r).map Eff.toSize) = true := by
  induction cs with
  | nil =>
    intro n hl
    unfold ending
    split <;>
      simp only [seqWrites, List.nil_append, List.map_cons, List.map_nil, Eff.toSize, noEarlyFull, Bool.and_true,
        Bool.and_eq_true, decide_eq_true_eq] <;>
      omega
  | cons c cs ih =>
    intro n hl
    rw [List.flatten_cons, List.length_append] at hl
    have hlen : (if c.length = 0 then max glen n else max (max glen n) (n + c.length)) = max glen (n + c.length) := by
      split <;> omega
    simp only [seqWrites, List.cons_append, List.map_cons, Eff.toSize, noEarlyFull, hlen, Bool.and_eq_true,
      decide_eq_true_eq]
    exact ⟨by omega, ih (n + c.length) (by omega)⟩

end seqWrites

theorem noEarlyFull_open (size w : Nat) (t : Bool) (st : FileSt) (es : List SizeEff) :
    noEarlyFull size (fileLen st) w (.openS t :: es) =
      (decide (fileLen (applyEff (.openCreate t) st) = size → w ≥ size) &&
        noEarlyFull size (fileLen (applyEff (.openCreate t) st)) w es) := by
  cases t <;> cases st <;> rfl

/-- `cs`: the chunks `checkWriter` let through -/
theorem copyLoop_seq (hash : Bytes → Digest) (d : Digest) (size base : Nat) (chunks : List Bytes) (seen : Bytes)
    (fin : SrcEnd) (hs : SeenOK hash d size seen) :
    ∃ cs, (copyLoop hash d size base seen chunks fin).1 = seqWrites (base + seen.length) cs ∧
      SeenOK hash d size (seen ++ cs.flatten) ∧
      ((copyLoop hash d size base seen chunks fin).2 = .ok →
        cs.flatten = chunks.flatten ∧ (seen ++ chunks.flatten).length = size) := by
  fun_induction copyLoop hash d size base seen chunks fin with
  | case1 seen =>
    refine ⟨[], rfl, by rwa [List.flatten_nil, List.append_nil], fun hok => ⟨rfl, ?_⟩⟩
    dsimp only at hok
    split at hok
    · cases hok
    · next hn => rw [List.flatten_nil, List.append_nil]; exact Nat.le_antisymm hs.1 (Nat.le_of_not_lt hn)
  | case2 seen => exact ⟨[], rfl, by rwa [List.flatten_nil, List.append_nil], fun h => by cases h⟩
  | case3 seen cs fin ih => exact ih hs
  | case4 seen => exact ⟨[], rfl, by rwa [List.flatten_nil, List.append_nil], fun h => by cases h⟩
  | case5 seen => exact ⟨[], rfl, by rwa [List.flatten_nil, List.append_nil], fun h => by cases h⟩
  | case6 seen c cs fin hc hnu hne r ih =>
    obtain ⟨ws, he, hso, hok⟩ := ih ⟨by rw [List.length_append]; exact Nat.le_of_not_gt hne, fun hl =>
      Decidable.by_contra fun hh => hnu ⟨List.length_append ▸ hl, hh⟩⟩
    refine ⟨c :: ws, ?_, ?_, fun h => ?_⟩
    · rw [seqWrites, Nat.add_assoc, ← List.length_append]; exact congrArg _ he
    · rwa [List.flatten_cons, ← List.append_assoc]
    · rw [List.flatten_cons, List.flatten_cons, ← List.append_assoc]
      exact (hok h).imp (congrArg (c ++ ·)) id

theorem copyLoop_ok {hash : Bytes → Digest} {d : Digest} {size : Nat} {g : Bytes} (hg : g.length < size)
    {chunks : List Bytes} {fin : SrcEnd} (hok : (copyLoop hash d size 0 [] chunks fin).2 = .ok) :
    run (copyLoop hash d size 0 [] chunks fin).1 (some g) = some chunks.flatten
      ∧ chunks.flatten.length = size ∧ hash chunks.flatten = d := by
  obtain ⟨cs, he, hs, h⟩ := copyLoop_seq hash d size 0 chunks [] fin (seenOK_nil (Nat.ne_of_gt (Nat.zero_lt_of_lt hg)))
  obtain ⟨hfl, hl⟩ := h hok
  rw [hfl, List.nil_append] at hs
  rw [List.nil_append] at hl
  have hrun : run (seqWrites 0 cs) (some g) = _ := run_seqWrites g cs []
  rw [hfl, List.nil_append, overlay_of_le _ g (by rw [hl]; exact Nat.le_of_lt hg)] at hrun
  rw [he]
  exact ⟨hrun, hl, hs.2 hl⟩

theorem copyLoop_exact_ok (hash : Bytes → Digest) (content : Bytes) (base : Nat) (chunks : List Bytes) (seen : Bytes)
    (h : seen ++ chunks.flatten = content) :
    (copyLoop hash (hash content) content.length base seen chunks .eof).2 = .ok := by
  generalize hfin : SrcEnd.eof = fin
  fun_induction copyLoop hash (hash content) content.length base seen chunks fin with
  | case1 seen =>
    rw [List.flatten_nil, List.append_nil] at h
    exact h ▸ if_neg (Nat.lt_irrefl _)
  | case2 => cases hfin
  | case3 seen cs fin ih => exact ih h hfin
  | case4 seen c cs fin _ hu =>
    rw [List.flatten_cons, ← List.append_assoc] at h
    have hcs : cs.flatten = [] := List.eq_nil_of_length_eq_zero (by
      have := congrArg List.length h
      simp only [List.length_append] at this hu
      omega)
    rw [hcs, List.append_nil] at h
    exact absurd (congrArg hash h) hu.2
  | case5 seen c cs fin _ _ he =>
    have := congrArg List.length h
    simp only [List.flatten_cons, List.length_append] at this
    omega
  | case6 seen c cs fin _ _ _ r ih => exact ih (by rw [← h, List.flatten_cons, List.append_assoc]) hfin

theorem afterStat_zero (hash : Bytes → Digest) (trunc : Bool) (d : Digest) (s : Script) :
    afterStat hash trunc d 0 s = ([.openCreate trunc, .close], .ok) := rfl

theorem afterStat_of_pos {hash : Bytes → Digest} {trunc : Bool} {d : Digest} {size : Nat} {s : Script}
    (hsz : size ≠ 0) :
    afterStat hash trunc d size s =
      (.openCreate trunc :: ((copyLoop hash d size 0 [] s.chunks s.fin).1 ++
        ending (copyLoop hash d size 0 [] s.chunks s.fin).2), (copyLoop hash d size 0 [] s.chunks s.fin).2) := by
  unfold afterStat ending
  rw [if_neg hsz]
  dsimp only
  split
  · next h =>
    rw [h, if_pos rfl]
    rfl
  · next hne =>
    rw [if_neg hne]
    rfl

/-- what `open` leaves when the same-size shortcut was not taken: something shorter than `size` -/
theorem open_short {st : FileSt} {size : Nat} (hne : st.map List.length ≠ some size) :
    ∃ g, applyEff (.openCreate (statTrunc st size)) st = some g ∧ (size = 0 → g = []) ∧
      (size ≠ 0 → g.length < size) := by
  cases st with
  | none => exact ⟨[], rfl, fun _ => rfl, Nat.pos_of_ne_zero⟩
  | some f =>
    by_cases h : f.length > size
    · exact ⟨[], by simp [statTrunc, h, applyEff], fun _ => rfl, Nat.pos_of_ne_zero⟩
    · have hlt : f.length < size := Nat.lt_of_le_of_ne (Nat.le_of_not_gt h) fun e => hne (congrArg some e)
      exact ⟨f, by simp [statTrunc, h, applyEff], fun h0 => absurd hlt (h0 ▸ Nat.not_lt_zero _), fun _ => hlt⟩

section
variable {hash : Bytes → Digest} {st : FileSt} {d : Digest} {size : Nat} {s : Script}

theorem copyNamed_same (h : st.map List.length = some size) : copyNamedEffs hash st d size s = ([], .ok) :=
  if_pos h

theorem copyNamed_ok_run (hne : st.map List.length ≠ some size) (hok : (copyNamedEffs hash st d size s).2 = .ok) :
    ∃ f, run (copyNamedEffs hash st d size s).1 st = some f ∧ f.length = size ∧
      (f = [] ∨ f = s.data ∧ hash f = d) := by
  unfold copyNamedEffs at hok ⊢
  rw [if_neg hne] at hok ⊢
  obtain ⟨g, hopen, hg0, hg⟩ := open_short hne
  by_cases hsz : size = 0
  · subst hsz
    rw [afterStat_zero, run_cons, hopen, hg0 rfl]
    exact ⟨[], rfl, rfl, Or.inl rfl⟩
  · rw [afterStat_of_pos hsz] at hok ⊢
    obtain ⟨hrun, hl, hh⟩ := copyLoop_ok (hg hsz) hok
    refine ⟨s.data, ?_, hl, Or.inr ⟨rfl, hh⟩⟩
    dsimp only at hok ⊢
    rw [hok, run_cons, hopen, run_append, hrun]
    rfl

theorem copyNamed_fail_run (hne : st.map List.length ≠ some size) (hok : (copyNamedEffs hash st d size s).2 ≠ .ok) :
    ∀ f, run (copyNamedEffs hash st d size s).1 st = some f → f = [] := by
  unfold copyNamedEffs at hok ⊢
  rw [if_neg hne] at hok ⊢
  have hsz : size ≠ 0 := by rintro rfl; exact hok rfl
  rw [afterStat_of_pos hsz] at hok ⊢
  intro f hf
  dsimp only at hok hf
  rw [ending, if_neg hok, run_cons, run_append] at hf
  generalize run _ (applyEff _ st) = x at hf
  cases x with
  | none => cases hf
  | some g =>
    rw [run_cons, applyEff, truncTo_zero] at hf
    cases hf; rfl

end

theorem copyNamed_exact_ok (hash : Bytes → Digest) (st : FileSt) (f : Bytes) :
    (copyNamedEffs hash st (hash f) f.length ⟨[f], .eof⟩).2 = .ok := by
  unfold copyNamedEffs
  split
  · rfl
  · by_cases hz : f.length = 0
    · rw [hz, afterStat_zero]
    · rw [afterStat_of_pos hz]
      exact copyLoop_exact_ok hash f 0 [f] [] (by simp)

theorem copyNamed_whole_ok {hash : Bytes → Digest} {st : FileSt} {d : Digest} {f : Bytes}
    (hne : st.map List.length ≠ some f.length)
    (hok : (copyNamedEffs hash st d f.length ⟨[f], .eof⟩).2 = .ok) :
    run (copyNamedEffs hash st d f.length ⟨[f], .eof⟩).1 st = some f ∧ (f = [] ∨ hash f = d) := by
  obtain ⟨f', hrun, hl, h⟩ := copyNamed_ok_run hne hok
  have hd : Script.data ⟨[f], .eof⟩ = f := List.append_nil f
  rw [hrun]
  rcases h with rfl | ⟨rfl, hh⟩
  · have := List.eq_nil_of_length_eq_zero hl.symm
    exact ⟨by rw [this], Or.inl this⟩
  · rw [hd] at hh ⊢
    exact ⟨rfl, Or.inr hh⟩

theorem copyNamed_exact_file (hash : Bytes → Digest) (st : FileSt) (f : Bytes)
    (hne : st.map List.length ≠ some f.length) :
    run (copyNamedEffs hash st (hash f) f.length ⟨[f], .eof⟩).1 st = some f :=
  (copyNamed_whole_ok hne (copyNamed_exact_ok hash st f)).1

/-! ## concurrent writers whose sources all deliver the true content -/

/-- a source that delivers exactly `content` (any chunking, empty reads allowed) and then EOF -/
def GoodScript (content : Bytes) (s : Script) : Prop := s.chunks.flatten = content ∧ s.fin = .eof

/-- the rest of a good writer's effect list: sequential writes of `content`'s own bytes from `off` to the
    end, then `close` -/
inductive GoodWrites (content : Bytes) : Nat → List Eff → Prop
  | fin : GoodWrites content content.length [.close]
  | write (off : Nat) (c : Bytes) (rest : List Eff) :
      c = (content.drop off).take c.length → off + c.length ≤ content.length →
      GoodWrites content (off + c.length) rest → GoodWrites content off (.pwrite off c :: rest)

theorem seqWrites_good (content : Bytes) (cs : List Bytes) : ∀ (s : Bytes), s ++ cs.flatten = content →
    GoodWrites content s.length (seqWrites s.length cs ++ [.close]) := by
  induction cs with
  | nil =>
    intro s h
    rw [List.flatten_nil, List.append_nil] at h
    exact h ▸ .fin
  | cons c cs ih =>
    intro s h
    rw [List.flatten_cons, ← List.append_assoc] at h
    refine .write s.length c _ (by rw [← h, List.append_assoc, List.drop_left, List.take_left])
      (by rw [← h, List.length_append, List.length_append]; exact Nat.le_add_right ..) ?_
    rw [← List.length_append]
    exact ih (s ++ c) h

theorem afterStat_good (hash : Bytes → Digest) (d : Digest) (content : Bytes) (hh : hash content = d)
    (hsz : content.length ≠ 0) (trunc : Bool) (s : Script) (hs : GoodScript content s) :
    ∃ es, afterStat hash trunc d content.length s = (.openCreate trunc :: es, .ok) ∧ GoodWrites content 0 es := by
  subst hh
  have hok := copyLoop_exact_ok hash content 0 s.chunks [] hs.1
  rw [← hs.2] at hok
  obtain ⟨cs, he, _, h⟩ := copyLoop_seq hash (hash content) content.length 0 s.chunks [] s.fin (seenOK_nil hsz)
  refine ⟨_, ?_, seqWrites_good content cs [] ((h hok).1.trans hs.1)⟩
  rw [afterStat_of_pos hsz, hok, he]
  rfl

/-- the file while good writers work over the initial `g`: `content`'s first `N` bytes, then what is left of `g` -/
def FileB (content g : Bytes) (file : FileSt) (N : Nat) : Prop :=
  match file with
  | none => N = 0 ∧ g = []
  | some f => f = overlay (content.take N) g

theorem FileB.some_eq {content g f : Bytes} {N : Nat} (h : FileB content g (some f) N) :
    f = overlay (content.take N) g := h

/-- an `init` writer needs a good script only while the file is incomplete: a file that starts complete is taken as
    `content` whatever the scripts deliver (`C08.concurrent_good_writers_safe`).  `running`: about to open; writing
    inside the correct prefix; finished. -/
def WOK (content : Bytes) (file : FileSt) (N : Nat) : W → Prop
  | .init s => N = content.length ∨ GoodScript content s
  | .running es _ =>
      (∃ es', es = .openCreate false :: es' ∧ GoodWrites content 0 es') ∨
      (file ≠ none ∧ ∃ off, off ≤ N ∧ GoodWrites content off es) ∨ es = []
  | .done _ => True
  | .dead => True

theorem WOK_mono {content : Bytes} {file file' : FileSt} {N N' : Nat} {w : W}
    (hf : file ≠ none → file' ≠ none) (hN : N ≤ N') (hN' : N' ≤ content.length) (h : WOK content file N w) :
    WOK content file' N' w := by
  cases w with
  | init s => exact Or.imp (fun e : N = content.length => Nat.le_antisymm hN' (e ▸ hN)) id h
  | running es r =>
    rcases h with h | ⟨hne, off, ho, hg⟩ | h
    · exact Or.inl h
    · exact Or.inr (Or.inl ⟨hf hne, off, Nat.le_trans ho hN, hg⟩)
    · exact Or.inr (Or.inr h)
  | done r => trivial
  | dead => trivial

/-- writing `content`'s own bytes at an offset inside the already-correct prefix can only extend the correct
    prefix -/
theorem pwrite_good {content : Bytes} (g : Bytes) {c : Bytes} {N off : Nat} (hN : N ≤ content.length) (ho : off ≤ N)
    (hc : c = (content.drop off).take c.length) (hl : off + c.length ≤ content.length) :
    pwriteAt (overlay (content.take N) g) off c = overlay (content.take (max N (off + c.length))) g := by
  have htl : (content.take N).length = N := List.length_take_of_le hN
  -- the file written: `content`'s first `off + c.length` bytes, then what was there
  have hw : pwriteAt (overlay (content.take N) g) off c =
      content.take (off + c.length) ++ (overlay (content.take N) g).drop (off + c.length) := by
    rw [pwriteAt_of_le _ _ _ (by rw [overlay_length, htl]; exact Nat.le_trans ho (Nat.le_max_left ..)), overlay,
      List.take_append_of_le_length (by rw [htl]; exact ho), List.take_take, Nat.min_eq_left ho, List.take_add, ← hc]
  rw [hw, overlay, overlay, htl]
  by_cases hcase : off + c.length ≤ N
  · rw [Nat.max_eq_left hcase, htl, List.drop_append_of_le_length (by rw [htl]; exact hcase), ← List.append_assoc]
    congr 1
    conv => rhs; rw [← List.take_append_drop (off + c.length) (content.take N)]
    rw [List.take_take, Nat.min_eq_left hcase]
  · have hlt : N ≤ off + c.length := Nat.le_of_lt (Nat.lt_of_not_ge hcase)
    rw [Nat.max_eq_right hlt, List.length_take_of_le hl, List.drop_append, htl,
      List.drop_eq_nil_of_le (by rw [htl]; exact hlt), List.nil_append, List.drop_drop, Nat.add_sub_cancel' hlt]

/-- invariant of any interleaving of good writers: the file is a correct prefix of `content` plus leftovers and every
    running writer's next write lies inside (or right at the end of) that prefix -/
def ConcInv (content g : Bytes) (s : Sys) : Prop :=
  ∃ N, N ≤ content.length ∧ FileB content g s.file N ∧ ∀ w ∈ s.ws, WOK content s.file N w

section Conc
variable {hash : Bytes → Digest} {d : Digest} {content g : Bytes}

theorem concInv_init {f0 : FileSt} {N : Nat} (scripts : List Script) (hN : N ≤ content.length)
    (hf : FileB content g f0 N) (h : N = content.length ∨ ∀ s ∈ scripts, GoodScript content s) :
    ConcInv content g ⟨f0, scripts.map W.init⟩ :=
  ⟨N, hN, hf, fun w hw => by
    obtain ⟨sc, hsc, rfl⟩ := List.mem_map.mp hw
    exact h.imp id (· sc hsc)⟩

theorem concInv_trusted (hh : hash content = d) (hg : g.length < content.length) (s : Sys)
    (h : ConcInv content g s) : Trusted hash s.file d content.length := by
  obtain ⟨N, hN, hf, _⟩ := h
  cases hfile : s.file with
  | none => exact trusted_none
  | some f =>
    rw [hfile] at hf
    have hlen := List.length_take_of_le hN
    refine hf ▸ trusted_overlay hg ⟨by rw [hlen]; exact hN, fun hl => ?_⟩
    rw [hlen] at hl
    rw [hl, List.take_length]
    exact hh

/-- what one action of one writer leaves: a correct prefix at least as long, the writer within `WOK`, the file still
    there if it was -/
def GoodAct (content g : Bytes) (file : FileSt) (N : Nat) (r : W × FileSt) : Prop :=
  ∃ N', N ≤ N' ∧ N' ≤ content.length ∧ FileB content g r.2 N' ∧ WOK content r.2 N' r.1 ∧
    (file ≠ none → r.2 ≠ none)

theorem wstep_good (hh : hash content = d) (hg : g.length < content.length) (w : W) (file : FileSt) (N : Nat)
    (hN : N ≤ content.length) (hf : FileB content g file N) (hw : WOK content file N w) :
    GoodAct content g file N (wstep hash d content.length w file) := by
  have hsame : ∀ {w'}, WOK content file N w' → GoodAct content g file N (w', file) :=
    fun h => ⟨N, Nat.le_refl _, hN, hf, h, id⟩
  cases w with
  | init sc =>
    simp only [wstep]
    split
    · exact hsame trivial
    · have htr : statTrunc file content.length = false := by
        cases file with
        | none => rfl
        | some f =>
          cases hf.some_eq
          simp only [statTrunc, overlay_length, List.length_take_of_le hN, decide_eq_false_iff_not]
          omega
      have hsz : content.length ≠ 0 := Nat.ne_of_gt (Nat.zero_lt_of_lt hg)
      -- with the whole of `content` in place the file has its length, and the shortcut would have been taken
      have hsc : GoodScript content sc := hw.resolve_left fun hN' => by
        subst hN'
        cases file with
        | none => exact hsz hf.1
        | some f =>
          cases hf.some_eq
          next hne => exact hne (by rw [Option.map_some, overlay_length, List.length_take_of_le hN]; congr 1; omega)
      obtain ⟨es', hes, hgw⟩ := afterStat_good hash d content hh hsz false sc hsc
      rw [htr, hes]
      exact hsame (Or.inl ⟨es', rfl, hgw⟩)
  | running es r =>
    cases es with
    | nil => exact hsame trivial
    | cons e es =>
      simp only [wstep]
      rcases hw with ⟨es', he, hgw⟩ | ⟨hne, off, ho, hgw⟩ | he
      · -- the open
        cases he
        refine ⟨N, Nat.le_refl _, hN, ?_, Or.inr (Or.inl ⟨?_, 0, Nat.zero_le _, hgw⟩), fun _ => ?_⟩
        · cases file with
          | none => obtain ⟨rfl, rfl⟩ := hf; rfl
          | some f => exact hf
        all_goals cases file <;> exact Option.some_ne_none _
      · -- a write or the close
        cases file with
        | none => exact absurd rfl hne
        | some f =>
          cases hgw with
          | fin => exact hsame (Or.inr (Or.inr rfl))
          | write _ c rest hc hl hrest =>
            cases hf.some_eq
            exact ⟨max N (off + c.length), Nat.le_max_left .., Nat.max_le.mpr ⟨hN, hl⟩,
              pwrite_good g hN ho hc hl,
              Or.inr (Or.inl ⟨Option.some_ne_none _, off + c.length, Nat.le_max_right .., hrest⟩),
              fun _ => Option.some_ne_none _⟩
      · cases he
  | done | dead => exact hsame trivial

theorem wtear_good (k : Nat) (w : W) (file : FileSt) (N : Nat) (hN : N ≤ content.length)
    (hf : FileB content g file N) (hw : WOK content file N w) : GoodAct content g file N (wtear k w file) := by
  have hsame : GoodAct content g file N (.dead, file) := ⟨N, Nat.le_refl _, hN, hf, trivial, id⟩
  cases w with
  | running es r =>
    cases es with
    | nil => exact hsame
    | cons e rest =>
      cases e with
      | pwrite off bs =>
        rcases hw with ⟨es', he, _⟩ | ⟨hne, off', ho, hgw⟩ | he
        · cases he
        · cases file with
          | none => exact absurd rfl hne
          | some f =>
            cases hgw with
            | write _ _ _ hc hl hrest =>
              have hc' : bs.take k = (content.drop off).take (bs.take k).length := by
                conv => lhs; rw [hc]
                rw [List.take_take, List.length_take]
              have hl' : off + (bs.take k).length ≤ content.length := by
                rw [List.length_take]; omega
              cases hf.some_eq
              exact ⟨max N (off + (bs.take k).length), Nat.le_max_left .., Nat.max_le.mpr ⟨hN, hl'⟩,
                pwrite_good g hN ho hc' hl', trivial, fun _ => Option.some_ne_none _⟩
        · cases he
      | _ => exact hsame
  | _ => exact hsame

theorem concInv_act (s : Sys) (i : Nat) (w : W) (hi : s.ws[i]? = some w) (r : W × FileSt)
    (hr : ∀ N, N ≤ content.length → FileB content g s.file N → WOK content s.file N w →
      GoodAct content g s.file N r)
    (h : ConcInv content g s) : ConcInv content g ⟨r.2, s.ws.set i r.1⟩ := by
  obtain ⟨N, hN, hf, hws⟩ := h
  obtain ⟨N', hNN, hN', hf', hw', hne⟩ := hr N hN hf (hws w (List.mem_of_getElem? hi))
  refine ⟨N', hN', hf', fun x hx => ?_⟩
  rcases List.mem_or_eq_of_mem_set hx with hx | rfl
  · exact WOK_mono hne hNN hN' (hws x hx)
  · exact hw'

theorem exec_inv (hh : hash content = d) (hg : g.length < content.length) (evs : List Ev) :
    ∀ (s : Sys), ConcInv content g s → ConcInv content g (exec hash d content.length evs s) := by
  induction evs with
  | nil => exact fun s h => h
  | cons ev evs ih =>
    intro s h
    refine ih _ ?_
    cases ev with
    | step i =>
      simp only [execEv]
      cases hi : s.ws[i]? with
      | none => exact h
      | some w => exact concInv_act s i w hi _ (fun N hN hf hw => wstep_good hh hg w s.file N hN hf hw) h
    | tear i k =>
      simp only [execEv]
      cases hi : s.ws[i]? with
      | none => exact h
      | some w => exact concInv_act s i w hi _ (fun N hN hf hw => wtear_good k w s.file N hN hf hw) h

end Conc

theorem getB_of_blob {k : Disk} {d : Digest} {f : Bytes} (hb : k.blob d = some f) (hz : f.length ≠ 0) :
    getB k d = .entry f.length := by
  rw [getB, hb]
  exact if_neg hz

theorem getB_entry {k : Disk} {d : Digest} {n : Nat} (hg : getB k d = .entry n) :
    ∃ f, k.blob d = some f ∧ f.length = n ∧ f.length ≠ 0 := by
  unfold getB at hg
  cases hb : k.blob d with
  | none => rw [hb] at hg; cases hg
  | some f =>
    rw [hb] at hg
    dsimp only at hg
    split at hg
    · cases hg
    · next hz => exact ⟨f, rfl, Out.entry.inj hg, hz⟩

theorem importEffs_some {hash : Bytes → Digest} {size : Nat} {s : Script} {d : Digest} {es : List Eff}
    (hi : (importEffs hash size s).1 = some (d, es)) : d = hash s.data ∧ es = [.replace s.data] := by
  unfold importEffs at hi
  split at hi
  · cases hi
  · split at hi
    · cases hi
    · cases hi; exact ⟨rfl, rfl⟩

theorem cut_replace {b : Bytes} {p : List Eff} (hc : Cut [.replace b] p) : p = [] ∨ p = [.replace b] := by
  cases hc with
  | stop => exact Or.inl rfl
  | next _ _ p' hc' => cases hc'; exact Or.inr rfl

/-! ## manifests -/

theorem foldEq_refl (a : MPath) : foldEq a a = true := by simp [foldEq]

theorem find?_manInsertNew (q : MPath × Bytes → Bool) (p : MPath) (v : Bytes) (hq : q (p, v) = true)
    (mans : List (MPath × Bytes)) (h : ∀ e ∈ mans, q e = false) :
    (manInsertNew p v mans).find? q = some (p, v) := by
  fun_induction manInsertNew p v mans with
  | case1 => exact List.find?_cons_of_pos hq
  | case2 => exact List.find?_cons_of_pos hq
  | case3 x xs _ ih =>
    rw [List.find?_cons_of_neg (by rw [h x List.mem_cons_self]; exact Bool.false_ne_true)]
    exact ih fun e he => h e (List.mem_cons_of_mem _ he)

theorem find?_map_replace (r : MPath → Bool) (p : MPath) (v : Bytes) (mans : List (MPath × Bytes)) :
    (mans.map fun e => if e.1 == p then (p, v) else e).find? (fun e => r e.1) =
      (mans.find? fun e => r e.1).map fun e => if e.1 == p then (p, v) else e := by
  rw [List.find?_map]
  congr 2
  funext e
  simp only [Function.comp]
  split
  · next h => rw [eq_of_beq h]
  · rfl

/-- after writing `v` at `p`, the first manifest (glob order) whose path satisfies `q` is `(p, v)` — provided `p`
    satisfies `q` and was the path of the first such manifest, if there was one.  With `q` = "is `p`" this is what
    `manGet` finds; with `q` = "equals `want` up to case", what `manifestPath` finds. -/
theorem find?_manSet (q : MPath → Bool) (mans : List (MPath × Bytes)) (p : MPath) (v : Bytes) (hq : q p = true)
    (hfirst : ∀ e, mans.find? (fun e => q e.1) = some e → e.1 = p) :
    (manSet mans p (some v)).find? (fun e => q e.1) = some (p, v) := by
  unfold manSet
  dsimp only
  split
  · next h =>
    obtain ⟨e, he, hep⟩ := List.any_eq_true.mp h
    rw [find?_map_replace q]
    cases hfd : mans.find? (fun e => q e.1) with
    | none => exact absurd (eq_of_beq hep ▸ hq) (List.find?_eq_none.mp hfd e he)
    | some e' => rw [Option.map_some, hfirst e' hfd, beq_self_eq_true, if_pos rfl]
  · next h =>
    refine find?_manInsertNew _ p v hq mans fun e he => ?_
    cases hqe : q e.1 with
    | false => rfl
    | true =>
      -- a `q`-match in `mans` puts the first `q`-match at `p`, a path `mans` does not have
      cases hfd : mans.find? (fun e => q e.1) with
      | none => exact absurd hqe (List.find?_eq_none.mp hfd e he)
      | some e' =>
        exact absurd (List.any_eq_true.mpr
          ⟨e', List.mem_of_find?_eq_some hfd, by rw [hfirst e' hfd]; exact beq_self_eq_true p⟩) h

theorem manGet_manSet_same (mans : List (MPath × Bytes)) (p : MPath) (v : Bytes) :
    manGet (manSet mans p (some v)) p = some v := by
  unfold manGet
  rw [find?_manSet (· == p) mans p v (beq_self_eq_true p) fun e he =>
    eq_of_beq (List.find?_some (p := fun e : MPath × Bytes => e.1 == p) he)]
  rfl

theorem manifestPathOf_manSet (mans : List (MPath × Bytes)) (want : MPath) (v : Bytes) :
    manifestPathOf (manSet mans (manifestPathOf mans want) (some v)) want = manifestPathOf mans want := by
  generalize hp : manifestPathOf mans want = p
  unfold manifestPathOf at hp ⊢
  rw [find?_manSet (foldEq want) mans p v ?_ fun e he => by rw [← hp, he]]
  subst hp
  split
  · next e he => exact List.find?_some (p := fun e : MPath × Bytes => foldEq want e.1) he
  · exact foldEq_refl want

theorem manGet_mem {mans : List (MPath × Bytes)} {p : MPath} {file : Bytes} (h : manGet mans p = some file) :
    ∃ e ∈ mans, e.2 = file := by
  unfold manGet at h
  cases hf : mans.find? (fun e => e.1 == p) with
  | none => rw [hf] at h; cases h
  | some e =>
    rw [hf] at h
    exact ⟨e, List.mem_of_find?_eq_some hf, Option.some.inj h⟩

/-! ## names are confined to manifests/ -/

/-- a path component that `filepath.Join` keeps as one directory entry below its parent: non-empty, does not
    begin with `.` (so it is neither `.` nor `..`: `SafeC.ne_dot`), contains no `/` -/
def SafeC (s : Bytes) : Prop := s ≠ [] ∧ s.head? ≠ some 0x2e ∧ ∀ c ∈ s, c ≠ cSlash

theorem SafeC.ne_dot {s : Bytes} (h : SafeC s) : s ≠ [0x2e] ∧ s ≠ [0x2e, 0x2e] := by
  refine ⟨?_, ?_⟩ <;> intro e <;> subst e <;> exact h.2.1 rfl

theorem validRest_noSlash (kind : Part) : ∀ (s : Bytes), validRest kind s = true → ∀ c ∈ s, c ≠ cSlash := by
  intro s
  induction s with
  | nil => intro _ c hc; cases hc
  | cons x xs ih =>
    intro h c hc
    simp only [validRest, Bool.and_eq_true] at h
    rcases List.mem_cons.mp hc with rfl | hm
    · intro e
      subst e
      have h1 := h.1
      cases kind <;> exact absurd h1 (by decide)
    · exact ih h.2 c hm

/-- **`isValidPart` ⇒ safe component** (non-empty parts; emptiness is tested by `IsFullyQualified`) -/
theorem isValidPart_safe (kind : Part) (s : Bytes) (hne : s ≠ []) (h : isValidPart kind s = true) : SafeC s := by
  cases s with
  | nil => exact absurd rfl hne
  | cons c cs =>
    simp only [isValidPart, Bool.and_eq_true] at h
    obtain ⟨_, hc, hr⟩ := h
    have hs : c ≠ 0x2e ∧ c ≠ cSlash := by
      refine ⟨?_, ?_⟩ <;> intro e <;> subst e <;> revert hc <;> decide
    refine ⟨by simp, ?_, ?_⟩
    · simp only [List.head?_cons, ne_eq, Option.some.injEq]; exact hs.1
    · intro x hx
      rcases List.mem_cons.mp hx with rfl | hm
      · exact hs.2
      · exact validRest_noSlash kind cs hr x hm

def SafePath (p : MPath) : Prop := ∃ h n m t, p = [h, n, m, t] ∧ SafeC h ∧ SafeC n ∧ SafeC m ∧ SafeC t

/-- **`nameToPath` is confined**: whatever the string, it is refused or yields exactly four safe components,
    i.e. `manifests/<h>/<n>/<m>/<t>` is a file four levels below `manifests/` and nowhere else -/
theorem nameToPath_safe (name : Bytes) (p : MPath) (h : nameToPath name = some p) : SafePath p := by
  unfold nameToPath at h
  simp only at h
  split at h
  · next hfq =>
    cases h
    simp only [Name.isFullyQualified, Name.isValid, Bool.and_eq_true, Bool.or_eq_true, Bool.not_eq_true',
      List.isEmpty_eq_false_iff] at hfq
    obtain ⟨⟨⟨⟨⟨⟨⟨vh, vn⟩, vt⟩, _, vm⟩, hh⟩, hn⟩, hm⟩, ht⟩ := hfq
    have opt : ∀ kind (s : Bytes), s.isEmpty = true ∨ isValidPart kind s = true → s ≠ [] → SafeC s :=
      fun kind s v hne => isValidPart_safe kind s hne (v.resolve_left (by simpa using hne))
    exact ⟨_, _, _, _, rfl, opt _ _ vh hh, opt _ _ vn hn, isValidPart_safe _ _ hm vm, opt _ _ vt ht⟩
  · cases h

def AllSafe (mans : List (MPath × Bytes)) : Prop := ∀ e ∈ mans, SafePath e.1

theorem manifestPathOf_safe {mans : List (MPath × Bytes)} {want : MPath} (hm : AllSafe mans)
    (hw : SafePath want) : SafePath (manifestPathOf mans want) := by
  unfold manifestPathOf
  split
  · next e he => exact hm e (List.mem_of_find?_eq_some he)
  · exact hw

theorem manInsertNew_mem (p : MPath) (v : Bytes) (mans : List (MPath × Bytes)) (e : MPath × Bytes)
    (he : e ∈ manInsertNew p v mans) : e = (p, v) ∨ e ∈ mans := by
  fun_induction manInsertNew p v mans with
  | case1 => exact Or.inl (List.mem_singleton.mp he)
  | case2 x xs _ => exact List.mem_cons.mp he
  | case3 x xs _ ih =>
    rcases List.mem_cons.mp he with rfl | h
    · exact Or.inr List.mem_cons_self
    · exact (ih h).imp id (List.mem_cons_of_mem _)

theorem manSet_safe {mans : List (MPath × Bytes)} {p : MPath} (v : FileSt) (hm : AllSafe mans)
    (hp : SafePath p) : AllSafe (manSet mans p v) := by
  intro e he
  unfold manSet at he
  cases v with
  | none =>
    simp only [List.mem_filter] at he
    exact hm e he.1
  | some b =>
    simp only at he
    split at he
    · simp only [List.mem_map] at he
      obtain ⟨x, hx, rfl⟩ := he
      split
      · exact hp
      · exact hm x hx
    · rcases manInsertNew_mem p b mans e he with rfl | h
      · exact hp
      · exact hm e h

end OllamaVerif.BlobCache
