/-
  What one step of the scheduler model can do.  `Step v s a s'` has one named case per way an action can be enabled,
  with the guard as hypotheses and the state it produces written out (`setRunner`, `setReq`, `replyErr`, `replyRunner`
  and `triggerExpire` unfolded; the finished-request region stays `finishOn (releaseHold s q) r`), and holds exactly
  when `step v s a = some s'` (`step_iff`: each case computes `step`, and an enabled action takes one of its cases).
  Proofs about steps go by cases on it instead of unfolding `step` (`C11.incompatible_expires`, one action with its pc
  given, unfolds it).
-/
import OllamaVerif.Proofs.SchedEnabled
namespace OllamaVerif.Sched

theorem upd_self {α : Type} (f : Nat → α) (i : Nat) (x : α) : upd f i x i = x := by simp [upd]

theorem upd_upd {α : Type} (f : Nat → α) (i : Nat) (x y : α) : upd (upd f i x) i y = upd f i y := by
  funext j; simp only [upd]; split <;> rfl

/-- the record of a request after `replyRunner` / `replyErr` -/
def Req.granted (x : Req) (r : Rid) : Req := { x with replies := x.replies + 1, gotRunner := some r, heldBy := some r }
def Req.failed (x : Req) : Req := { x with replies := x.replies + 1, gotErr := true }

inductive Step (v : Variant) (s : State) : Act → State → Prop
  | submit_queued (m o se) (hlen : s.pendingQ.length < s.maxQueue) :
      Step v s (.submit m o se)
        { s with nReqs := s.nReqs + 1, reqs := upd s.reqs s.nReqs { model := m, opts := o, session := se },
                 pendingQ := s.pendingQ ++ [s.nReqs] }
  | submit_full (m o se) (hlen : ¬ s.pendingQ.length < s.maxQueue) :
      Step v s (.submit m o se)
        { s with nReqs := s.nReqs + 1,
                 reqs := upd s.reqs s.nReqs { model := m, opts := o, session := se, replies := 1, gotErr := true } }
  | done (q) (hq : q < s.nReqs) (hd : (s.reqs q).done = false) :
      Step v s (.done q) { s with reqs := upd s.reqs q { s.reqs q with done := true } }
  | loadDone_ok (r) (hr : r < s.nRunners) (hh : (s.runners r).refMuHeld = true) :
      Step v s (.loadDone r true)
        { s with loaders := s.loaders.erase (s.runners r).loaderReq,
                 runners := upd s.runners r
                   { s.runners r with loading := false, refMuHeld := false,
                                      holders := (s.runners r).loaderReq :: (s.runners r).holders },
                 finishWaiters := (s.runners r).loaderReq :: s.finishWaiters,
                 reqs := upd s.reqs (s.runners r).loaderReq (Req.granted (s.reqs (s.runners r).loaderReq) r) }
  | loadDone_fail (r) (hr : r < s.nRunners) (hh : (s.runners r).refMuHeld = true) :
      -- `refCount--` on a uint, which the model writes as an `if` between two records: at 0 it stays 0 and `wrapped` is set
      Step v s (.loadDone r false)
        { s with loaders := s.loaders.erase (s.runners r).loaderReq,
                 runners := upd s.runners r
                   { s.runners r with refCount := (s.runners r).refCount - 1,
                                      wrapped := (s.runners r).wrapped || decide ((s.runners r).refCount = 0),
                                      refMuHeld := false },
                 reqs := upd s.reqs (s.runners r).loaderReq (Req.failed (s.reqs (s.runners r).loaderReq)),
                 expiredQ := s.expiredQ ++ [r] }
  | timerFire (r) (hr : r < s.nRunners) (ha : (s.runners r).timerArmed = true) :
      Step v s (.timerFire r)
        { s with runners := upd s.runners r { s.runners r with timerArmed := false }, timerCbs := r :: s.timerCbs }
  | explicitUnload (m) : Step v s (.explicitUnload m) { s with unloadCalls := m :: s.unloadCalls }
  | pTake_dropped (q rest) (hpc : s.ppc = .idle) (hq : s.pendingQ = q :: rest) (hd : (s.reqs q).done = true) :
      Step v s .pTake { s with pendingQ := rest, reqs := upd s.reqs q { s.reqs q with dropped := true } }
  | pTake_eval (q rest) (hpc : s.ppc = .idle) (hq : s.pendingQ = q :: rest) (hd : (s.reqs q).done = false) :
      Step v s .pTake { s with pendingQ := rest, ppc := .eval q }
  | pDrainUnloaded (hpc : s.ppc = .idle) (hu : s.unloadedQ > 0) :
      Step v s .pDrainUnloaded { s with unloadedQ := s.unloadedQ - 1 }
  | pLookup_reuse (fit q r) (hpc : s.ppc = .eval q) (hn : ¬ fit.ngpus = 0) (hd : decideLoad s fit q = .reuse r) :
      Step v s (.pLookup fit) { s with ppc := .needsReload q r }
  | pLookup_evict (fit q vic) (hpc : s.ppc = .eval q) (hn : ¬ fit.ngpus = 0) (hd : decideLoad s fit q = .evict)
      (hv : findVictim s = some vic) :
      Step v s (.pLookup fit) { s with maxRunners := effMax s fit q, ppc := .expire q vic }
  | pLookup_retry (fit q) (hpc : s.ppc = .eval q) (hn : ¬ fit.ngpus = 0) (hd : decideLoad s fit q = .evict)
      (hv : findVictim s = none) :
      Step v s (.pLookup fit) { s with maxRunners := effMax s fit q }
  | pLookup_load (fit q) (hpc : s.ppc = .eval q) (hn : ¬ fit.ngpus = 0) (hd : decideLoad s fit q = .load) :
      Step v s (.pLookup fit) { s with maxRunners := effMax s fit q, ppc := .load q }
  | pLookup_fail (fit q) (hpc : s.ppc = .eval q) (hn : ¬ fit.ngpus = 0) (hd : decideLoad s fit q = .fail) :
      Step v s (.pLookup fit) { s with maxRunners := effMax s fit q, reqs := upd s.reqs q (Req.failed (s.reqs q)), ppc := .idle }
  | pLookup_delay (fit q) (hpc : s.ppc = .eval q) (hn : ¬ fit.ngpus = 0) (hd : decideLoad s fit q = .delay) :
      Step v s (.pLookup fit) { s with maxRunners := effMax s fit q, ppc := .idle, delayed := q :: s.delayed }
  | setPing (r ok) (hr : r < s.nRunners) :
      Step v s (.setPing r ok) { s with runners := upd s.runners r { s.runners r with pingOk := ok, pingBlock := false, pingOpen := false } }
  | setPingBlock (r) (hr : r < s.nRunners) :
      Step v s (.setPingBlock r) { s with runners := upd s.runners r { s.runners r with pingBlock := true, pingOpen := false } }
  | setPingOpen (r) (hr : r < s.nRunners) :
      Step v s (.setPingOpen r) { s with runners := upd s.runners r { s.runners r with pingBlock := true, pingOpen := true } }
  | pingDone (r ok q) (hpc : s.ppc = .pinging q r) :
      Step v s (.pingDone r ok)
        { s with runners := upd s.runners r { s.runners r with pingHeld := false },
                 ppc := if ok = true then .use q r else .expire q r }
  | pNeedsReload_reload (q r) (hpc : s.ppc = .needsReload q r) (hl : (s.runners r).locked = false)
      (hc : (s.runners r).closed = true ∨ (s.runners r).opts ≠ (s.reqs q).opts ∨
            ((s.runners r).pingBlock = false ∧ (s.runners r).pingOk = false)) :
      Step v s .pNeedsReload { s with ppc := .expire q r }
  | pNeedsReload_parks (q r) (hpc : s.ppc = .needsReload q r) (hl : (s.runners r).locked = false)
      (hc : (s.runners r).closed = false) (ho : (s.runners r).opts = (s.reqs q).opts) (hb : (s.runners r).pingBlock = true) :
      Step v s .pNeedsReload
        { s with runners := upd s.runners r { s.runners r with pingHeld := !(s.runners r).pingOpen },
                 ppc := .pinging q r }
  | pNeedsReload_ok (q r) (hpc : s.ppc = .needsReload q r) (hl : (s.runners r).locked = false)
      (hc : (s.runners r).closed = false) (ho : (s.runners r).opts = (s.reqs q).opts)
      (hb : (s.runners r).pingBlock = false) (hp : (s.runners r).pingOk = true) :
      Step v s .pNeedsReload { s with ppc := .use q r }
  | pUse_recheck (q r) (hpc : s.ppc = .use q r) (hl : (s.runners r).locked = false)
      (hc : v.recheckGrant = true ∧ (s.runners r).closed = true) :
      Step v s .pUse { s with ppc := .eval q }
  | pUse_grant (q r) (hpc : s.ppc = .use q r) (hl : (s.runners r).locked = false)
      (hc : v.recheckGrant = true → (s.runners r).closed = false) :
      Step v s .pUse
        { s with runners := upd s.runners r
                   { (s.runners r).stopTimer with
                       refCount := (s.runners r).refCount + 1, holders := q :: (s.runners r).holders,
                       session := ((s.reqs q).session).getD (s.runners r).session },
                 reqs := upd s.reqs q (Req.granted (s.reqs q) r),
                 ppc := .idle, finishWaiters := q :: s.finishWaiters }
  | pExpire (q r) (hpc : s.ppc = .expire q r) (hl : (s.runners r).locked = false) :
      Step v s .pExpire
        { s with runners := upd s.runners r { (s.runners r).stopTimer with session := 0 },
                 expiredQ := if (s.runners r).isZero then s.expiredQ ++ [r] else s.expiredQ,
                 ppc := .waitUnload q r }
  | pWaitUnload (q r) (hpc : s.ppc = .waitUnload q r) (hu : s.unloadedQ > 0) :
      Step v s .pWaitUnload { s with unloadedQ := s.unloadedQ - 1, ppc := .eval q }
  | pLoad_fail (q) (hpc : s.ppc = .load q) : Step v s (.pLoad false) { s with reqs := upd s.reqs q (Req.failed (s.reqs q)), ppc := .idle }
  | pLoad_ok (q) (hpc : s.ppc = .load q) :
      Step v s (.pLoad true)
        { s with nRunners := s.nRunners + 1,
                 runners := upd s.runners s.nRunners
                   { model := (s.reqs q).model, opts := (s.reqs q).opts, refCount := 1, loading := true, refMuHeld := true,
                     loaderReq := q, session := ((s.reqs q).session).getD s.defaultSession },
                 loaded := ((s.reqs q).model, s.nRunners) :: removeKey s.loaded (s.reqs q).model,
                 loaders := q :: s.loaders, ppc := .idle }
  | cTakeFinished_gone (q rest) (hc : s.cpc = .idle) (hq : s.finishedQ = q :: rest)
      (hl : lookup s.loaded (s.reqs q).model = none) :
      Step v s .cTakeFinished { s with finishedQ := rest }
  | cTakeFinished_found (q rest r) (hc : s.cpc = .idle) (hq : s.finishedQ = q :: rest)
      (hl : lookup s.loaded (s.reqs q).model = some r) :
      Step v s .cTakeFinished { s with finishedQ := rest, cpc := .fin q r }
  | cFin (q r) (hc : s.cpc = .fin q r) (hl : (s.runners r).locked = false) :
      Step v s .cFin (finishOn (releaseHold s q) r)
  | cTakeExpired (r rest) (hc : s.cpc = .idle) (hq : s.expiredQ = r :: rest) :
      Step v s .cTakeExpired { s with expiredQ := rest, cpc := .exp r }
  | cExp_busy (r) (hc : s.cpc = .exp r) (hl : (s.runners r).locked = false) (hz : (s.runners r).isZero = false) :
      Step v s .cExp { s with cpc := .idle, requeuers := r :: s.requeuers }
  | cExp_unload (r) (hc : s.cpc = .exp r) (hl : (s.runners r).locked = false) (hz : (s.runners r).isZero = true) :
      Step v s .cExp
        { s with cpc := .vram r,
                 runners := upd s.runners r (if (s.runners r).closed then (s.runners r).stopTimer
                    else { (s.runners r).stopTimer with closed := true, closeCount := (s.runners r).closeCount + 1 }),
                 loaded := if v.guardDelete = true → lookup s.loaded (s.runners r).model = some r
                           then removeKey s.loaded (s.runners r).model else s.loaded }
  | cVram (r) (hc : s.cpc = .vram r) : Step v s .cVram { s with cpc := .idle, unloadedQ := s.unloadedQ + 1 }
  | requeue (r) (hr : r ∈ s.requeuers) :
      Step v s (.requeue r) { s with requeuers := s.requeuers.erase r, expiredQ := s.expiredQ ++ [r] }
  | delayedRequeue (q) (hq : q ∈ s.delayed) (hlen : s.pendingQ.length < s.maxQueue) :
      Step v s (.delayedRequeue q) { s with delayed := s.delayed.erase q, pendingQ := s.pendingQ ++ [q] }
  | finishSend (q) (hq : q ∈ s.finishWaiters) (hd : (s.reqs q).done = true) :
      Step v s (.finishSend q) { s with finishWaiters := s.finishWaiters.erase q, finishedQ := s.finishedQ ++ [q] }
  | timerCb (r) (hr : r ∈ s.timerCbs) (hl : (s.runners r).locked = false) :
      Step v s (.timerCb r)
        { s with timerCbs := s.timerCbs.erase r, runners := upd s.runners r (s.runners r).stopTimer,
                 expiredQ := s.expiredQ ++ [r] }
  | unloadRun (r) (hr : r ∈ s.unloaders) (hl : (s.runners r).locked = false) :
      Step v s (.unloadRun r)
        { s with unloaders := s.unloaders.erase r,
                 runners := upd s.runners r { (s.runners r).stopTimer with session := 0 },
                 expiredQ := if (s.runners r).isZero then s.expiredQ ++ [r] else s.expiredQ }
  | unloadBind_absent (m) (hm : m ∈ s.unloadCalls) (hr : lookup s.loaded m = none) :
      Step v s (.unloadBind m) { s with unloadCalls := s.unloadCalls.erase m }
  | unloadBind_parks (m r) (hm : m ∈ s.unloadCalls) (hr : lookup s.loaded m = some r) (hl : (s.runners r).locked = true) :
      Step v s (.unloadBind m) { s with unloadCalls := s.unloadCalls.erase m, unloaders := r :: s.unloaders }
  | unloadBind_expire (m r) (hm : m ∈ s.unloadCalls) (hr : lookup s.loaded m = some r) (hl : (s.runners r).locked = false) :
      Step v s (.unloadBind m)
        { s with unloadCalls := s.unloadCalls.erase m,
                 runners := upd s.runners r { (s.runners r).stopTimer with session := 0 },
                 expiredQ := if (s.runners r).isZero then s.expiredQ ++ [r] else s.expiredQ }

theorem triggerExpire_eq (s : State) (r : Rid) :
    triggerExpire s r =
      { s with runners := upd s.runners r { (s.runners r).stopTimer with session := 0 },
               expiredQ := if (s.runners r).isZero then s.expiredQ ++ [r] else s.expiredQ } := by
  unfold triggerExpire
  simp only []
  split <;> rename_i h
  · rw [if_pos (show (s.runners r).isZero = true from h)]; rfl
  · rw [if_neg (show ¬ (s.runners r).isZero = true from h)]; rfl

/-- Of the runners the finished-request region writes only the counter, the timer and the holders (of the runner the
    request held and of the one the event names): whatever else is read of a runner (`p`) is as before. -/
theorem cFin_writes (s : State) (q : ReqId) (r : Rid) :
    ∃ rs eq, finishOn (releaseHold s q) r =
      { s with cpc := .idle, expiredQ := eq, runners := rs, reqs := upd s.reqs q { s.reqs q with heldBy := none } } ∧
      ∀ {β : Type} (p : Runner → β),
        (∀ x c w o a hs, p { x with refCount := c, wrapped := w, timerObj := o, timerArmed := a, holders := hs } = p x) →
        ∀ j, p (rs j) = p (s.runners j) := by
  have hrel : ∃ rs, releaseHold s q = { s with runners := rs, reqs := upd s.reqs q { s.reqs q with heldBy := none } } ∧
      ∀ j, ∃ hs, rs j = { s.runners j with holders := hs } := by
    unfold releaseHold
    split
    · rename_i h
      refine ⟨s.runners, ?_, fun _ => ⟨_, rfl⟩⟩
      have : upd s.reqs q { s.reqs q with heldBy := none } = s.reqs := by
        funext j; unfold upd; split
        · subst_vars; rw [← h]
        · rfl
      rw [this]
    · refine ⟨_, rfl, fun j => ?_⟩
      simp only [setRunner, upd]; split
      · subst_vars; exact ⟨_, rfl⟩
      · exact ⟨_, rfl⟩
  obtain ⟨rs, e, h0⟩ := hrel
  rw [e]
  unfold finishOn
  simp only []
  repeat' split
  all_goals
    refine ⟨_, _, rfl, fun p hp j => ?_⟩
    obtain ⟨hs, ej⟩ := h0 j
    simp only [setRunner, upd, Runner.stopTimer]
    split
    · subst_vars; rw [ej]; exact hp (s.runners _) _ _ _ _ _
    · rw [ej]; exact hp (s.runners j) _ _ _ _ _

theorem Step.to_step {v : Variant} {s s' : State} {a : Act} (h : Step v s a s') : step v s a = some s' := by
  cases h with
  | pNeedsReload_reload q r hpc hl hc => rcases hc with h | h | ⟨h1, h2⟩ <;> simp_all [step]
  | loadDone_fail r hr hh =>
    by_cases h0 : (s.runners r).refCount = 0 <;> simp [step, hr, hh, h0, replyErr, setReq, setRunner, Req.failed]
  | cExp_unload r hc hl hz =>
    simp only [step, hc, hl, hz, setRunner, Bool.false_eq_true, if_false, not_true_eq_false]
    congr 1
    (repeat' split) <;> simp_all
  | _ =>
    simp_all [step, triggerExpire_eq, replyErr, replyRunner, setReq, setRunner, upd_self, upd_upd, Req.granted, Req.failed,
      Runner.stopTimer]

theorem Step.of_enabled {v : Variant} {s : State} {a : Act} (he : Enabled s a) : ∃ s', Step v s a s' := by
  cases a with
  | submit m o se =>
    by_cases hlen : s.pendingQ.length < s.maxQueue
    · exact ⟨_, .submit_queued m o se hlen⟩
    · exact ⟨_, .submit_full m o se hlen⟩
  | loadDone r ok =>
    cases ok
    · exact ⟨_, .loadDone_fail r he.1 he.2⟩
    · exact ⟨_, .loadDone_ok r he.1 he.2⟩
  | pingDone r ok => exact he.elim fun q hpc => ⟨_, .pingDone r ok q hpc⟩
  | pTake =>
    obtain ⟨hpc, q, rest, hq⟩ := he
    cases hd : (s.reqs q).done
    · exact ⟨_, .pTake_eval q rest hpc hq hd⟩
    · exact ⟨_, .pTake_dropped q rest hpc hq hd⟩
  | pLookup fit =>
    obtain ⟨⟨q, hpc⟩, hn⟩ := he
    cases hd : decideLoad s fit q with
    | reuse r => exact ⟨_, .pLookup_reuse fit q r hpc hn hd⟩
    | evict =>
      cases hv : findVictim s
      · exact ⟨_, .pLookup_retry fit q hpc hn hd hv⟩
      · exact ⟨_, .pLookup_evict fit q _ hpc hn hd hv⟩
    | load => exact ⟨_, .pLookup_load fit q hpc hn hd⟩
    | fail => exact ⟨_, .pLookup_fail fit q hpc hn hd⟩
    | delay => exact ⟨_, .pLookup_delay fit q hpc hn hd⟩
  | pNeedsReload =>
    obtain ⟨q, r, hpc, hl⟩ := he
    cases hc : (s.runners r).closed
    · by_cases ho : (s.runners r).opts = (s.reqs q).opts
      · cases hb : (s.runners r).pingBlock
        · cases hp : (s.runners r).pingOk
          · exact ⟨_, .pNeedsReload_reload q r hpc hl (.inr (.inr ⟨hb, hp⟩))⟩
          · exact ⟨_, .pNeedsReload_ok q r hpc hl hc ho hb hp⟩
        · exact ⟨_, .pNeedsReload_parks q r hpc hl hc ho hb⟩
      · exact ⟨_, .pNeedsReload_reload q r hpc hl (.inr (.inl ho))⟩
    · exact ⟨_, .pNeedsReload_reload q r hpc hl (.inl hc)⟩
  | pUse =>
    obtain ⟨q, r, hpc, hl⟩ := he
    by_cases hc : v.recheckGrant = true ∧ (s.runners r).closed = true
    · exact ⟨_, .pUse_recheck q r hpc hl hc⟩
    · exact ⟨_, .pUse_grant q r hpc hl (fun hv => Bool.eq_false_iff.mpr fun h => hc ⟨hv, h⟩)⟩
  | pExpire => obtain ⟨q, r, hpc, hl⟩ := he; exact ⟨_, .pExpire q r hpc hl⟩
  | pWaitUnload => obtain ⟨⟨q, r, hpc⟩, hu⟩ := he; exact ⟨_, .pWaitUnload q r hpc hu⟩
  | pLoad ok =>
    obtain ⟨q, hpc⟩ := he
    cases ok
    · exact ⟨_, .pLoad_fail q hpc⟩
    · exact ⟨_, .pLoad_ok q hpc⟩
  | cTakeFinished =>
    obtain ⟨hc, q, rest, hq⟩ := he
    cases hl : lookup s.loaded (s.reqs q).model
    · exact ⟨_, .cTakeFinished_gone q rest hc hq hl⟩
    · exact ⟨_, .cTakeFinished_found q rest _ hc hq hl⟩
  | cFin => obtain ⟨q, r, hc, hl⟩ := he; exact ⟨_, .cFin q r hc hl⟩
  | cTakeExpired => obtain ⟨hc, r, rest, hq⟩ := he; exact ⟨_, .cTakeExpired r rest hc hq⟩
  | cExp =>
    obtain ⟨r, hc, hl⟩ := he
    cases hz : (s.runners r).isZero
    · exact ⟨_, .cExp_busy r hc hl hz⟩
    · exact ⟨_, .cExp_unload r hc hl hz⟩
  | cVram => exact he.elim fun r hc => ⟨_, .cVram r hc⟩
  | unloadBind m =>
    cases hr : lookup s.loaded m with
    | none => exact ⟨_, .unloadBind_absent m he hr⟩
    | some r =>
      cases hl : (s.runners r).locked
      · exact ⟨_, .unloadBind_expire m r he hr hl⟩
      · exact ⟨_, .unloadBind_parks m r he hr hl⟩
  | _ => exact ⟨_, by constructor <;> first | exact he | exact he.1 | exact he.2⟩

theorem Step.of_step {v : Variant} {s s' : State} {a : Act} (hs : step v s a = some s') : Step v s a s' := by
  obtain ⟨s'', h⟩ := Step.of_enabled (v := v) (Enabled.of_step hs)
  cases hs.symm.trans h.to_step
  exact h

theorem step_iff {v : Variant} {s s' : State} {a : Act} : step v s a = some s' ↔ Step v s a s' := ⟨Step.of_step, Step.to_step⟩

theorem run_cons {v : Variant} {s s1 s' : State} {a : Act} {as : List Act} (h : Step v s a s1) (hr : run v s1 as = some s') :
    run v s (a :: as) = some s' := by simp only [run, step_iff.mpr h, hr]

theorem Reach.induction {v : Variant} {s0 s : State} {P : State → Prop} (h0 : P s0)
    (hstep : ∀ {s s'} {a : Act}, Reach v s0 s → P s → Step v s a s' → P s') (h : Reach v s0 s) : P s := by
  induction h with
  | init => exact h0
  | step a hr hs ih => exact hstep hr ih (.of_step hs)

end OllamaVerif.Sched
