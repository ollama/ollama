/-
  C20: the adjacency invariant of the merge loop.  The Go loop pops `pair{a, b}` and indexes `merges[a]`, `merges[b]`
  DIRECTLY; the model's `joinAt` finds `b` as the live successor of `a`.  `joinDirect` is the direct indexing (on the
  list of live parts: set `a`'s runes, drop `b`); the two agree whenever no live part lies strictly between `a` and `b`,
  and that holds for every queue entry of every reachable state (either family, any queue order).
  Proofs/TokenizerPtr.lean reuses the invariant for the table.
-/
import OllamaVerif.Proofs.Tokenizer
namespace OllamaVerif.Tok

def AdjOk (ps : List Part) (a b : Nat) : Prop := a < b ∧ ∀ p ∈ ps, ¬ (a < p.start ∧ p.start < b)

abbrev AdjInv : List Part → Array Cand → Prop := Inv SortedP fun ps c => AdjOk ps c.a c.b

/-- the Go step: `left, right := merges[a], merges[b]`, both live and `ok` → `merges[a].runes = left ++ right`,
    `merges[b].runes = nil` -/
def joinDirect (ok : Str → Str → Bool) (ps : List Part) (a b : Nat) : Option (List Part) :=
  match getPart ps a, getPart ps b with
  | some l, some r =>
    if ok l.runes r.runes = true then
      some ((ps.filter (fun p => p.start != b)).map fun p =>
        if p.start = a then ({ start := a, runes := l.runes ++ r.runes } : Part) else p)
    else none
  | _, _ => none

theorem filter_map_id_of_gt (ps : List Part) (a b : Nat) (f : Part) (h : ∀ p ∈ ps, b < p.start) (hab : a < b) :
    ((ps.filter (fun p => p.start != b)).map fun p => if p.start = a then f else p) = ps := by
  induction ps with
  | nil => rfl
  | cons p ps ih =>
    have hp := h p (by simp)
    have h1 : p.start ≠ b := by omega
    have h2 : ¬ p.start = a := by omega
    have e : (p :: ps).filter (fun p => p.start != b) = p :: ps.filter (fun p => p.start != b) := by
      simp [h1]
    rw [e, List.map_cons, if_neg h2, ih (fun q hq => h q (List.mem_cons_of_mem _ hq))]

theorem joinAt_eq_direct (ok : Str → Str → Bool) (ps : List Part) (a b : Nat)
    (hs : SortedP ps) (hadj : AdjOk ps a b) : joinAt ok ps a b = joinDirect ok ps a b := by
  obtain ⟨hab, hbetween⟩ := hadj
  induction ps with
  | nil => simp [joinAt, joinDirect, getPart]
  | cons p rest ih =>
    have hsp := List.pairwise_cons.mp hs
    cases rest with
    | nil =>
      simp only [joinAt, joinDirect, getPart_cons]
      by_cases h1 : p.start = a
      · have h2 : ¬ a = b := by omega
        subst h1
        simp [h2, getPart]
      · simp [h1, getPart]
    | cons q rest =>
      have hsq := List.pairwise_cons.mp hsp.2
      have hpq : p.start < q.start := hsp.1 q (by simp)
      unfold joinAt
      by_cases hpa : p.start = a
      · -- `a` is the head
        rw [if_pos hpa]
        have hpb : ¬ p.start = b := by omega
        unfold joinDirect
        rw [getPart_cons, if_pos hpa, getPart_cons, if_neg hpb, getPart_cons]
        by_cases hqb : q.start = b
        · rw [if_pos hqb]
          by_cases hok : ok p.runes q.runes = true
          · rw [if_pos ⟨hqb, hok⟩]
            simp only [hok, if_true]
            congr 1
            have f1 : ((p :: q :: rest).filter (fun z => z.start != b)) = p :: rest.filter (fun z => z.start != b) := by
              simp [hpb, hqb]
            rw [f1, List.map_cons, if_pos hpa]
            congr 1
            exact (filter_map_id_of_gt rest a b _ (fun z hz => by have := hsq.1 z hz; omega) hab).symm
          · rw [if_neg (fun h => hok h.2)]
            simp only [hok]
            rfl
        · rw [if_neg (fun h => hqb h.1), if_neg hqb]
          have : getPart rest b = none := by
            cases hg : getPart rest b with
            | none => rfl
            | some r =>
              exfalso
              obtain ⟨hrm, hrs⟩ := getPart_some rest b r hg
              have hq1 : q.start < r.start := hsq.1 r hrm
              exact hbetween q (by simp) ⟨by omega, by omega⟩
          rw [this]
      · rw [if_neg hpa]
        have hs' : SortedP (q :: rest) := hsp.2
        rw [ih hs' (fun z hz => hbetween z (List.mem_cons_of_mem _ hz))]
        unfold joinDirect
        rw [getPart_cons (p := p), if_neg hpa, getPart_cons (p := p) (x := b)]
        by_cases hpb : p.start = b
        · -- then no part starts at `a` (everything starts at or after `b > a`)
          have hnone : getPart (q :: rest) a = none :=
            getPart_none_of_lt _ _ (fun z hz => by have := hsp.1 z hz; omega)
          simp [hnone]
        · rw [if_neg hpb]
          cases getPart (q :: rest) a with
          | none => rfl
          | some l =>
            cases getPart (q :: rest) b with
            | none => rfl
            | some r =>
              simp only
              by_cases hok : ok l.runes r.runes = true
              · simp only [hok, if_true, Option.map_some]
                congr 1
                have e : (p :: q :: rest).filter (fun z => z.start != b)
                    = p :: (q :: rest).filter (fun z => z.start != b) := by
                  simp [List.filter_cons, hpb]
                rw [e, List.map_cons, if_neg hpa]
              · simp only [hok]
                rfl

theorem Consec.adj {ps : List Part} {x y : Nat} (hc : Consec ps x y) (hs : SortedP ps) : AdjOk ps x y := by
  obtain ⟨pre, p, q, rest, rfl, rfl, rfl⟩ := hc
  obtain ⟨_, h2, h3⟩ := List.pairwise_append.mp hs
  have h2' := List.pairwise_cons.mp h2
  have h2'' := List.pairwise_cons.mp h2'.2
  refine ⟨h2'.1 q (by simp), ?_⟩
  intro z hz
  simp only [List.mem_append, List.mem_cons] at hz
  rcases hz with hz | rfl | rfl | hz
  · have := h3 z hz p (by simp); omega
  · omega
  · omega
  · have := h2''.1 z hz; omega

theorem join_adj (ok : Str → Str → Bool) (ps ps' : List Part) (h : Array Cand) (a b : Nat) (hi : AdjInv ps h)
    (hj : joinAt ok ps a b = some ps') : AdjInv ps' h := by
  obtain ⟨hs, hc⟩ := hi
  have hsl := joinAt_starts_sublist _ _ _ _ _ hj
  refine ⟨joinAt_sorted _ _ _ _ _ hs hj, ?_⟩
  intro c hcm
  obtain ⟨h1, h2⟩ := hc c hcm
  refine ⟨h1, fun z hz hb => ?_⟩
  obtain ⟨w, hw, hws⟩ := List.mem_map.mp (hsl.subset (List.mem_map_of_mem hz))
  exact h2 w hw (by rw [hws]; exact hb)

theorem adjInv_loop (cfg : Cfg) : LoopInv cfg SortedP fun ps c => AdjOk ps c.a c.b where
  join ps ps' h c hi _ hj := join_adj _ ps ps' h c.a c.b hi hj
  cand := fun _ _ _ _ _ _ _ _ hs hc _ _ _ => hc.adj hs

theorem adjInv_init (cfg : Cfg) (rs : Str) :
    AdjInv (initParts rs 0) (initHeap cfg (initParts rs 0) (initParts rs 0) #[]) :=
  (adjInv_loop cfg).init _ [] _ _ rfl ⟨initParts_sorted rs 0, fun c hc => by simp at hc⟩

/-- the loop of the Go code with both ends of the popped candidate indexed directly -/
def mergeLoopDirect (cfg : Cfg) (n : Nat) : Nat → List Part → Array Cand → List Part
  | 0, ps, _ => ps
  | f+1, ps, h =>
    match heapPop cfg.less h with
    | none => ps
    | some (c, h) =>
      match joinDirect (cfg.ok c) ps c.a c.b with
      | some ps' =>
        let h := match prevStart ps' c.a with
          | some p => pushCand cfg ps' h p c.a
          | none => h
        let nx := nextStart ps' c.a n
        let h := if nx < n then pushCand cfg ps' h c.a nx else h
        mergeLoopDirect cfg n f ps' h
      | none => mergeLoopDirect cfg n f ps h

theorem mergeLoop_eq_direct (cfg : Cfg) (n f : Nat) (ps : List Part) (h : Array Cand) (hi : AdjInv ps h) :
    mergeLoopDirect cfg n f ps h = mergeLoop cfg n f ps h := by
  induction f generalizing ps h with
  | zero => rfl
  | succ f ih =>
    unfold mergeLoopDirect mergeLoop
    cases hp : heapPop cfg.less h with
    | none => rfl
    | some ch =>
      obtain ⟨c, h'⟩ := ch
      simp only
      rw [← joinAt_eq_direct _ _ _ _ hi.1 (hi.2 c (heapPop_mem _ _ _ _ hp).1)]
      cases hj : joinAt (cfg.ok c) ps c.a c.b with
      | none => exact ih ps h' (Inv.pop hi hp)
      | some ps' => exact ih _ _ ((adjInv_loop cfg).step n hi hp hj)

def mergeAllDirect (cfg : Cfg) (rs : Str) : List Part :=
  let ps := initParts rs 0
  mergeLoopDirect cfg rs.length (3 * rs.length + 3) ps (initHeap cfg ps ps #[])

/-- **The adjacency test of the model's `joinAt` is redundant** (either family, any queue order, any input): the
    loop that indexes both ends of a popped candidate directly, as the Go code does, computes the same parts. -/
theorem mergeAll_eq_direct (cfg : Cfg) (rs : Str) : mergeAllDirect cfg rs = mergeAll cfg rs :=
  mergeLoop_eq_direct _ _ _ _ _ (adjInv_init cfg rs)

end OllamaVerif.Tok
