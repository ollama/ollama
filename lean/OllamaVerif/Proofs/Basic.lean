/-
  What belongs to no one group (most of it is used by several).  Go's `strings.Index`, which several models spell out at
  their own element type, is defined once over an arbitrary one, with the specification proved once; each group proves
  that its model's function equals the one here and takes the facts from here.  After it, a few small facts that core
  Lean lacks.  Core Lean only; imports nothing of the development.
-/

namespace OllamaVerif.Basic
universe u
variable {α : Type u} [BEq α]

/-! ## strings.Index -/

/-- `strings.Index(s, sub)`: start of the first occurrence.  `Index(s, "") = 0`. -/
def indexOf (sub : List α) : List α → Option Nat
  | [] => if sub.isEmpty then some 0 else none
  | c :: t =>
    if sub.isPrefixOf (c :: t) then some 0
    else match indexOf sub t with
      | some i => some (i + 1)
      | none => none

variable [LawfulBEq α]

/-- the specification of `strings.Index`: an index returned is the start of an occurrence and no occurrence starts
    earlier; nothing is returned only if there is no occurrence -/
theorem indexOf_cases (sub s : List α) :
    (∀ i, indexOf sub s = some i →
      (∃ a b, s = a ++ sub ++ b ∧ a.length = i) ∧ ∀ a' b', s = a' ++ sub ++ b' → i ≤ a'.length) ∧
    (indexOf sub s = none → ¬ ∃ a b, s = a ++ sub ++ b) := by
  fun_induction indexOf sub s with
  | case1 he =>
    refine ⟨fun i h => ?_, nofun⟩
    cases h
    exact ⟨⟨[], [], by simp [List.isEmpty_iff.mp he], rfl⟩, fun _ _ _ => Nat.zero_le _⟩
  | case2 he =>
    refine ⟨nofun, fun _ ⟨a, b, hab⟩ => he ?_⟩
    have := congrArg List.length hab
    simp at this
    simp [List.eq_nil_of_length_eq_zero (show sub.length = 0 by omega)]
  | case3 c t hp =>
    refine ⟨fun i h => ?_, nofun⟩
    cases h
    obtain ⟨b, hb⟩ := List.isPrefixOf_iff_prefix.mp hp
    exact ⟨⟨[], b, by simp [hb], rfl⟩, fun _ _ _ => Nat.zero_le _⟩
  | case4 c t hp j hj ih =>
    refine ⟨fun i h => ?_, nofun⟩
    cases h
    obtain ⟨⟨a, b, hab, hlen⟩, hmin⟩ := ih.1 j hj
    refine ⟨⟨c :: a, b, by simp [hab], by simp [hlen]⟩, fun a' b' h' => ?_⟩
    cases a' with
    | nil => exact absurd (List.isPrefixOf_iff_prefix.mpr ⟨b', by simpa using h'.symm⟩) hp
    | cons c' a'' =>
      simp only [List.cons_append, List.cons.injEq] at h'
      have := hmin a'' b' h'.2
      simp; omega
  | case5 c t hp hn ih =>
    refine ⟨nofun, fun _ ⟨a, b, hab⟩ => ?_⟩
    cases a with
    | nil => exact hp (List.isPrefixOf_iff_prefix.mpr ⟨b, by simpa using hab.symm⟩)
    | cons c' a' =>
      simp only [List.cons_append, List.cons.injEq] at hab
      exact ih.2 hn ⟨a', b, hab.2⟩

theorem indexOf_eq_none_iff {sub s : List α} : indexOf sub s = none ↔ ¬ ∃ a b, s = a ++ sub ++ b :=
  ⟨(indexOf_cases sub s).2, fun h => by
    cases hi : indexOf sub s with
    | none => rfl
    | some i =>
      obtain ⟨⟨a, b, hab, _⟩, _⟩ := (indexOf_cases sub s).1 i hi
      exact absurd ⟨a, b, hab⟩ h⟩

theorem indexOf_add_le {sub s : List α} {i : Nat} (h : indexOf sub s = some i) : i + sub.length ≤ s.length := by
  obtain ⟨⟨a, b, rfl, rfl⟩, _⟩ := (indexOf_cases sub s).1 i h
  simp only [List.length_append]; omega

theorem indexOf_split {sub s : List α} {i : Nat} (h : indexOf sub s = some i) :
    s = s.take i ++ sub ++ s.drop (i + sub.length) := by
  obtain ⟨⟨a, b, rfl, rfl⟩, _⟩ := (indexOf_cases sub s).1 i h
  simp

/-- a non-empty `sub` does not occur before its first occurrence: not in `s.take k`, if no index found is below `k` -/
theorem not_occurs_take {sub s : List α} {k : Nat} (hne : sub ≠ [])
    (hmin : ∀ j, indexOf sub s = some j → k ≤ j) : ¬ ∃ a b, s.take k = a ++ sub ++ b := by
  intro ⟨a, b, hab⟩
  have hs : s = a ++ sub ++ (b ++ s.drop k) := by
    rw [← List.append_assoc, ← hab, List.take_append_drop]
  cases hj : indexOf sub s with
  | none => exact (indexOf_cases sub s).2 hj ⟨a, _, hs⟩
  | some j =>
    have hja := ((indexOf_cases sub s).1 j hj).2 a _ hs
    have hkj := hmin j hj
    have hlen := congrArg List.length hab
    have : sub.length ≠ 0 := fun h0 => hne (List.eq_nil_of_length_eq_zero h0)
    simp only [List.length_take, List.length_append] at hlen
    omega

theorem indexOf_of_prefix {sub s : List α} (h : sub <+: s) : indexOf sub s = some 0 := by
  cases s with
  | nil => simp [indexOf, List.prefix_nil.mp h]
  | cons c t => simp [indexOf, List.isPrefixOf_iff_prefix.mpr h]

/-! ## small facts that core Lean does not have -/

/-- a property of every byte, by enumeration: `apply forall_byte; decide +kernel` -/
theorem forall_byte {P : UInt8 → Prop} (h : ∀ n : Fin 256, P (UInt8.ofNat n.val)) : ∀ c, P c := by
  intro c
  have := h ⟨c.toNat, c.toNat_lt⟩
  rwa [UInt8.ofNat_toNat] at this

theorem bind_ok {ε β γ : Type} {x : Except ε β} {f : β → Except ε γ} {c : γ} (h : x >>= f = .ok c) :
    ∃ b, x = .ok b ∧ f b = .ok c := by
  cases x with
  | error e => cases h
  | ok b => exact ⟨b, rfl, h⟩

theorem swapIfInBounds_perm {β : Type u} (h : Array β) (i j : Nat) : (h.swapIfInBounds i j).Perm h := by
  rw [Array.swapIfInBounds_def]
  split
  · split
    · exact Array.swap_perm _ _
    · exact Array.Perm.refl _
  · exact Array.Perm.refl _

theorem getD_mem {β : Type u} (l : List β) (i : Nat) (d : β) (h : i < l.length) : l.getD i d ∈ l := by
  simp [List.getD_eq_getElem?_getD, List.getElem?_eq_getElem h]

/-- pigeonhole: `n` distinct integers inside an interval of `n` integers fill it -/
theorem pigeon (n : Nat) (lo : Int) (L : List Int) (hnd : L.Nodup) (hin : ∀ x ∈ L, lo ≤ x ∧ x < lo + n)
    (hlen : L.length = n) (p : Int) (hp : lo ≤ p ∧ p < lo + n) : p ∈ L := by
  apply Classical.byContradiction
  intro hnot
  have hmem : ∀ x, lo ≤ x ∧ x < lo + n → x ∈ (List.range n).map (fun k : Nat => lo + k) := fun x hx =>
    have h0 : 0 ≤ x - lo := Int.sub_nonneg.mpr hx.1
    List.mem_map.mpr ⟨(x - lo).toNat, List.mem_range.mpr ((Int.toNat_lt h0).mpr (Int.sub_left_lt_of_lt_add hx.2)),
      by rw [Int.toNat_of_nonneg h0, Int.add_comm, Int.sub_add_cancel]⟩
  exact absurd ((List.nodup_cons.mpr ⟨hnot, hnd⟩).length_le_of_subset
    (List.cons_subset.mpr ⟨hmem p hp, fun x hx => hmem x (hin x hx)⟩)) (by simp [hlen])

end OllamaVerif.Basic
