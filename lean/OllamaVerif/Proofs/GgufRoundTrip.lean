/-
  GGUF round trip (C05): decoding what the writer wrote returns what was written.  `Reads rd bs a`: the reader `rd`
  reads exactly the bytes `bs` as `a`, at any position and whatever follows; one lemma of that form per reader
  (strings, scalars, arrays, key/values, tensor infos), composed with `Reads.bind`.  Every size bound they need
  follows from the length of the file (`sizes_of_written`); written input reaches none of the sites the decoder's
  validations (`Guards`) guard.  `decode_written` is the round trip; `decode_encode_at_sorted`, `decode_encode` are its
  cases "keys given in key order" and "position 0".
-/
import OllamaVerif.Proofs.Gguf
import OllamaVerif.Proofs.GgufSort
namespace OllamaVerif.Gguf
open OllamaVerif

@[simp] theorem u32le_length (n : Nat) : (u32le n).length = 4 := by simp [u32le]
@[simp] theorem u64le_length (n : Nat) : (u64le n).length = 8 := by simp [u64le]

theorem flatMap_u32le_length (l : List Nat) : (l.flatMap u32le).length = 4 * l.length := by
  induction l with
  | nil => simp
  | cons x l ih => simp [List.flatMap_cons, u32le, ih]; omega

theorem flatMap_u64le_length (l : List Nat) : (l.flatMap u64le).length = 8 * l.length := by
  induction l with
  | nil => simp
  | cons x l ih => simp [List.flatMap_cons, ih]; omega

theorem encStr_length (s : Bytes) : (encStr s).length = 8 + s.length := by
  simp [encStr, u64le]

def Reads {α : Type} (rd : Rd → Except Err (α × Rd)) (bs : Bytes) (a : α) : Prop :=
  ∀ rest p, rd ⟨bs ++ rest, p⟩ = .ok (a, ⟨rest, p + bs.length⟩)

theorem Reads.pure {α : Type} (a : α) : Reads (fun r => .ok (a, r)) [] a := fun _ _ => rfl

/-- The continuation `f` is found by unifying the goal with `fun r => x r >>= f`: apply one `bind` per `refine`
    (inside a nested term `f` is not known yet when `hf` is elaborated), and keep `simp`/`dsimp` away from the reader
    in the goal: they turn the tuple patterns of `do` into projections of the bound variable, after which the body
    mentions `r` and no `f` fits.  `unfold`, `rw` and `show` are safe. -/
theorem Reads.bind {α β : Type} {x : Rd → Except Err (α × Rd)} {f : α × Rd → Except Err (β × Rd)} {b1 b2 : Bytes}
    {a : α} {v : β} (hx : Reads x b1 a) (hf : Reads (fun r => f (a, r)) b2 v) :
    Reads (fun r => x r >>= f) (b1 ++ b2) v := by
  intro rest p
  show x _ >>= f = _
  rw [List.append_assoc, hx]
  exact (hf rest _).trans (by rw [List.length_append, Nat.add_assoc])

theorem Reads.map {α β : Type} {x : Rd → Except Err (α × Rd)} {f : α × Rd → Except Err (β × Rd)} {bs : Bytes}
    {a : α} {v : β} (hx : Reads x bs a) (hf : ∀ r, f (a, r) = .ok (v, r)) : Reads (fun r => x r >>= f) bs v := by
  intro rest p
  show x _ >>= f = _
  rw [hx]
  exact hf _

/-- a test (possibly on what is left of the input) that the bytes to be read decide -/
theorem Reads.ite_rest {α : Type} {P : Rd → Prop} [DecidablePred P] {e y : Rd → Except Err (α × Rd)} {bs : Bytes} {a : α}
    (h : ∀ rest p, ¬ P ⟨bs ++ rest, p⟩) (hy : Reads y bs a) : Reads (fun r => if P r then e r else y r) bs a := by
  intro rest p
  show (if P _ then _ else _) = _
  rw [if_neg (h rest p)]
  exact hy rest p

/-- the shape `do` gives a check that is made or skipped; used for an allocation check without budget -/
theorem Reads.ite_unit {α : Type} {P : Prop} [Decidable P] {u : Except Err Unit} {y : Unit → Rd → Except Err (α × Rd)}
    {bs : Bytes} {a : α} (hu : u = .ok ()) (hy : Reads (y ()) bs a) :
    Reads (fun r => if P then u >>= fun x => y x r else y () r) bs a := by
  subst hu
  intro rest p
  show (if P then _ else _) = _
  split <;> exact hy rest p

theorem Reads.seq_unit {α : Type} {u : Except Err Unit} {y : Rd → Except Err (α × Rd)} {bs : Bytes} {a : α}
    (hu : u = .ok ()) (hy : Reads y bs a) : Reads (fun r => u >>= fun _ => y r) bs a := by
  subst hu
  exact hy

theorem readN_append (xs : Bytes) : Reads (readN xs.length) xs xs := by
  intro rest p
  simp [readN]

theorem readNCopy_append (xs : Bytes) : Reads (readNCopy xs.length) xs xs := by
  intro rest p
  simp [readNCopy]

theorem readUint_le (w n : Nat) : Reads (readUint false w) (leBytes w n) (n % 256 ^ w) := by
  intro rest p
  unfold readUint
  have h := readN_append (leBytes w n) rest p
  rw [leBytes_length] at h
  rw [h, leBytes_length]
  simp [leVal_leBytes]

theorem two64_eq : two64 = 256 ^ 8 := by decide

theorem two32_eq : 4294967296 = 256 ^ 4 := by decide

theorem readU64 {n : Nat} (hn : n < two64) : Reads (readUint false 8) (u64le n) n := by
  have h := readUint_le 8 n
  rw [← two64_eq, Nat.mod_eq_of_lt hn] at h
  exact h

theorem readU32 {n : Nat} (hn : n < 4294967296) : Reads (readUint false 4) (u32le n) n := by
  have h := readUint_le 4 n
  rw [← two32_eq, Nat.mod_eq_of_lt hn] at h
  exact h

theorem toI64_small (n : Nat) (h : n < two63) : toI64 n = (n : Int) := by
  unfold toI64; simp [h]

/-- the configuration a written file is decoded under -/
structure V3 (c : Cfg) : Prop where
  v : c.version = 3
  be : c.be = false
  b : c.budget = none

theorem V3.checkAlloc {c : Cfg} (hc : V3 c) (site : String) (n : Nat) : checkAlloc c site n = .ok () := by
  unfold Gguf.checkAlloc; rw [hc.b]

theorem readStr_enc {c : Cfg} (hc : V3 c) {s : Bytes} (hs : s.length < two63) : Reads (readStr c) (encStr s) s := by
  intro rest p
  have h63 : two63 < two64 := by decide
  rw [encStr_length, ← Nat.add_assoc]
  unfold readStr
  simp only [hc.v, show (3 : Nat) ≠ 1 by decide, ↓reduceIte]
  unfold readStrV23 encStr
  rw [List.append_assoc, hc.be, readU64 (by omega), u64le_length]
  simp only [bind, Except.bind, toI64_small _ hs]
  split
  · split
    · rename_i h1 h2
      simp only [List.length_append, Int.toNat_natCast] at h2
      omega
    · simp only [hc.checkAlloc, Int.toNat_natCast]
      exact readNCopy_append s rest (p + 8)
  · split
    · rename_i h1 h2; omega
    · simp only [Int.toNat_natCast]; exact readN_append s rest (p + 8)

def arrVal (maxA : Int) (t : Nat) (es : List Elem) : Val :=
  .arr t (es.length : Int) (if maxA < 0 ∨ (es.length : Int) ≤ maxA then some es else none)

/-- what the decoder returns for a written value -/
def toVal (maxA : Int) : KVal → Val
  | .u32 n => .scalar 4 n
  | .f32 b => .scalar 6 b
  | .bool b => .scalar 7 (if b then 1 else 0)
  | .str s => .str s
  | .ai32 l => arrVal maxA 5 (l.map Elem.scalar)
  | .au32 l => arrVal maxA 4 (l.map Elem.scalar)
  | .af32 l => arrVal maxA 6 (l.map Elem.scalar)
  | .astr l => arrVal maxA 8 (l.map Elem.str)

def WfVal : KVal → Prop
  | .u32 n => n < 4294967296
  | .f32 b => b < 4294967296
  | .bool _ => True
  | .str s => s.length < two63
  | .ai32 l => l.length < two63 ∧ ∀ x ∈ l, x < 4294967296
  | .au32 l => l.length < two63 ∧ ∀ x ∈ l, x < 4294967296
  | .af32 l => l.length < two63 ∧ ∀ x ∈ l, x < 4294967296
  | .astr l => l.length < two63 ∧ ∀ x ∈ l, x.length < two63

theorem readScalar32_enc {c : Cfg} (hc : V3 c) {t n : Nat} (h7 : t ≠ 7) (hn : n < 4294967296) :
    Reads (readScalar c t 4) (u32le n) n := by
  unfold readScalar
  rw [hc.be]
  exact (readU32 hn).map fun _ => by show Except.ok (if t = 7 then _ else _, _) = _; rw [if_neg h7]

theorem discardStr_enc {c : Cfg} (hc : V3 c) {s : Bytes} (hs : s.length < two63) :
    Reads (discardStr c) (encStr s) () := by
  intro rest p
  have h63 : two63 < two64 := by decide
  rw [encStr_length, ← Nat.add_assoc]
  unfold discardStr encStr
  rw [List.append_assoc, hc.be, readU64 (by omega), u64le_length]
  simp only [bind, Except.bind, toI64_small _ hs, pure, Except.pure]
  split
  · rename_i h
    have : s.length = 0 := by omega
    have hnil : s = [] := List.eq_nil_of_length_eq_zero this
    subst hnil; simp
  · simp only [Int.toNat_natCast]
    rw [readNCopy_append s rest (p + 8)]

theorem readElems_enc {c : Cfg} (hc : V3 c) {α : Type} {t : Nat} {collect : Bool} {enc : α → Bytes} {f : α → Elem}
    (l : List α) (hel : ∀ x ∈ l, Reads (readElem c t collect) (enc x) (f x)) :
    Reads (readElems c t collect l.length) (l.flatMap enc) (l.map f) := by
  induction l with
  | nil => exact Reads.pure []
  | cons x l ih =>
    rw [List.flatMap_cons]
    refine (hel x (by simp)).bind ?_
    -- the v1 store into a zero-length slice: not in a v3 file
    refine Reads.ite_rest (fun _ _ h => by rw [hc.v] at h; exact absurd h.2.1 (by decide)) ?_
    exact (ih fun y hy => hel y (by simp [hy])).map fun _ => rfl

theorem readElems_u32 {c : Cfg} (hc : V3 c) {t : Nat} (ht : t = 4 ∨ t = 5 ∨ t = 6) (collect : Bool)
    (l : List Nat) (hl : ∀ x ∈ l, x < 4294967296) :
    Reads (readElems c t collect l.length) (l.flatMap u32le) (l.map Elem.scalar) := by
  have hw : scalarWidth t = some 4 := by rcases ht with h | h | h <;> subst h <;> decide
  have h7 : t ≠ 7 := by rcases ht with h | h | h <;> subst h <;> decide
  refine readElems_enc hc l fun x hx => ?_
  unfold readElem
  rw [hw]
  exact (readScalar32_enc hc h7 (hl x hx)).map fun _ => rfl

def encStrs (l : List Bytes) : Bytes := l.flatMap encStr

/-- a string element: kept when the array is collected, skipped (an empty string stands for it) when not -/
theorem readElems_str {c : Cfg} (hc : V3 c) (collect : Bool) (l : List Bytes) (hl : ∀ x ∈ l, x.length < two63) :
    Reads (readElems c 8 collect l.length) (l.flatMap encStr)
      (l.map fun s => if collect then Elem.str s else Elem.str []) := by
  refine readElems_enc hc l fun x hx => ?_
  unfold readElem
  rw [hc.v]
  cases collect
  · exact (discardStr_enc hc (hl x hx)).map fun _ => rfl
  · have h := readStr_enc hc (hl x hx)
    unfold readStr at h
    rw [hc.v] at h
    exact h.map fun _ => rfl

/-- `es collect`: what the element loop returns, kept or not -/
theorem readArr_enc {c : Cfg} (hc : V3 c) {t : Nat} (ht : t < 4294967296) {n : Nat} (hn : n < two63) {body : Bytes}
    {es : Bool → List Elem} (hlen : (es true).length = n)
    (hel : ∀ collect, Reads (readElems c t collect n) body (es collect)) :
    Reads (readArr c) (u32le t ++ (u64le n ++ body)) (arrVal c.maxArray t (es true)) := by
  have h63 : two63 < two64 := by decide
  unfold readArr
  rw [hc.be, hc.v]
  refine (readU32 ht).bind ?_
  refine (readU64 (by omega)).bind ?_
  refine Reads.ite_rest (fun _ _ h => absurd h.2 (by rw [toI64_small n hn]; omega)) ?_
  -- the up-front `make` of the unrepaired decoder (`arrHuge` off) succeeds without a budget
  refine Reads.ite_unit (hc.checkAlloc _ _) ?_
  refine (hel _).map fun r => ?_
  show Except.ok (Val.arr t (toI64 n) _, r) = _
  rw [toI64_small n hn]
  simp only [arrVal, hlen]
  cases hcol : (decide (c.maxArray < 0) || decide ((n : Int) ≤ c.maxArray))
  · have : ¬ (c.maxArray < 0 ∨ (n : Int) ≤ c.maxArray) := by
      simpa only [Bool.or_eq_false_iff, decide_eq_false_iff_not, ← not_or] using hcol
    simp only [Bool.false_eq_true, ↓reduceIte, this]
  · have : c.maxArray < 0 ∨ (n : Int) ≤ c.maxArray := by
      simpa only [Bool.or_eq_true, decide_eq_true_eq] using hcol
    simp only [↓reduceIte, this]

theorem readValue_enc {c : Cfg} (hc : V3 c) {v : KVal} (hw : WfVal v) :
    ∃ t pl, encVal v = u32le t ++ pl ∧ t < 4294967296 ∧ Reads (readValue c t) pl (toVal c.maxArray v) := by
  have hs32 : ∀ {t n : Nat}, scalarWidth t = some 4 → t ≠ 7 → n < 4294967296 →
      Reads (readValue c t) (u32le n) (.scalar t n) := fun hw h7 hn => by
    unfold readValue
    rw [hw]
    exact (readScalar32_enc hc h7 hn).map fun _ => rfl
  have harr32 : ∀ {t : Nat} (l : List Nat), t = 4 ∨ t = 5 ∨ t = 6 → l.length < two63 ∧ (∀ x ∈ l, x < 4294967296) →
      Reads (readValue c 9) (u32le t ++ (u64le l.length ++ l.flatMap u32le)) (arrVal c.maxArray t (l.map Elem.scalar)) :=
    fun l ht hl => readArr_enc hc (by rcases ht with h | h | h <;> subst h <;> decide) hl.1
      (es := fun _ => l.map Elem.scalar) (List.length_map _) fun collect => readElems_u32 hc ht collect l hl.2
  cases v with
  | u32 n => exact ⟨4, _, rfl, by decide, hs32 (by decide) (by decide) hw⟩
  | f32 n => exact ⟨6, _, rfl, by decide, hs32 (by decide) (by decide) hw⟩
  | bool b =>
    refine ⟨7, _, rfl, by decide, fun rest p => ?_⟩
    unfold readValue readScalar readUint readN
    cases b <;> simp [scalarWidth, bind, Except.bind, pure, Except.pure, toVal, leVal, hc.be]
  | str s =>
    refine ⟨8, _, rfl, by decide, ?_⟩
    unfold readValue
    exact (readStr_enc hc hw).map fun _ => rfl
  | ai32 l => exact ⟨9, _, by simp only [encVal, List.append_assoc], by decide, harr32 l (by decide) hw⟩
  | au32 l => exact ⟨9, _, by simp only [encVal, List.append_assoc], by decide, harr32 l (by decide) hw⟩
  | af32 l => exact ⟨9, _, by simp only [encVal, List.append_assoc], by decide, harr32 l (by decide) hw⟩
  | astr l =>
    exact ⟨9, _, by simp only [encVal, List.append_assoc], by decide,
      readArr_enc hc (by decide) hw.1 (es := fun collect => l.map fun s => if collect then Elem.str s else Elem.str [])
        (List.length_map _) fun collect => readElems_str hc collect l hw.2⟩

def WfKV (kv : Bytes × KVal) : Prop := kv.1.length < two63 ∧ WfVal kv.2

theorem readKVs_enc {c : Cfg} (hc : V3 c) (kvs : List (Bytes × KVal)) (acc : List (Bytes × Val))
    (hw : ∀ kv ∈ kvs, WfKV kv) :
    Reads (readKVs c kvs.length acc) (kvs.flatMap encKV)
      (kvs.foldl (fun a kv => kvInsert a kv.1 (toVal c.maxArray kv.2)) acc) := by
  induction kvs generalizing acc with
  | nil => exact Reads.pure acc
  | cons kv kvs ih =>
    obtain ⟨t, pl, he, ht, hv⟩ := readValue_enc hc (hw kv (by simp)).2
    rw [List.flatMap_cons, encKV, he, List.append_assoc, List.append_assoc]
    refine (readStr_enc hc (hw kv (by simp)).1).bind ?_
    rw [hc.be]
    refine (readU32 ht).bind ?_
    refine hv.bind ?_
    exact ih _ fun kv' h => hw kv' (by simp [h])

theorem kvInsert_fresh (acc : List (Bytes × Val)) (k : Bytes) (v : Val) (h : ∀ p ∈ acc, p.1 ≠ k) :
    kvInsert acc k v = acc ++ [(k, v)] := by
  unfold kvInsert
  congr 1
  exact List.filter_eq_self.mpr (by intro p hp; simpa using h p hp)

theorem foldl_kvInsert_nodup (maxA : Int) (kvs : List (Bytes × KVal)) (acc : List (Bytes × Val))
    (hn : (kvs.map (·.1)).Nodup) (hd : ∀ kv ∈ kvs, ∀ p ∈ acc, p.1 ≠ kv.1) :
    kvs.foldl (fun a kv => kvInsert a kv.1 (toVal maxA kv.2)) acc
      = acc ++ kvs.map (fun kv => (kv.1, toVal maxA kv.2)) := by
  induction kvs generalizing acc with
  | nil => simp
  | cons kv kvs ih =>
    simp only [List.map_cons, List.nodup_cons] at hn
    simp only [List.foldl_cons]
    rw [kvInsert_fresh acc kv.1 _ (hd kv (by simp))]
    rw [ih _ hn.2]
    · simp
    · intro kv' hkv' p hp
      simp only [List.mem_append, List.mem_singleton] at hp
      rcases hp with hp | hp
      · exact hd kv' (by simp [hkv']) p hp
      · subst hp
        intro e
        exact hn.1 (List.mem_map.mpr ⟨kv', hkv', e.symm⟩)

theorem readShape_enc {c : Cfg} (hc : V3 c) (l : List Nat) (hl : ∀ x ∈ l, x < two64) :
    Reads (readShape c l.length) (l.flatMap u64le) l := by
  induction l with
  | nil => exact Reads.pure []
  | cons x l ih =>
    rw [List.flatMap_cons]
    show Reads (fun r => readUint c.be 8 r >>= _) _ _
    rw [hc.be]
    exact (readU64 (hl x (by simp))).bind ((ih fun y hy => hl y (by simp [hy])).map fun _ => rfl)

structure WfTensor (t : TIn) : Prop where
  name : t.name.length < two63
  dims : t.shape.length < 4294967296
  dim : ∀ x ∈ t.shape, x < two64
  kind : t.kind < 4294967296

def infoOf (t : TIn) (off : Nat) : TInfo := ⟨t.name, t.kind, t.shape.reverse, off⟩

theorem readTensor_enc {c : Cfg} (hc : V3 c) {t : TIn} {off : Nat} (hw : WfTensor t) (ho : off < two64) :
    Reads (readTensor c) (encTInfo t off) (infoOf t off) := by
  unfold readTensor
  rw [hc.be, show encTInfo t off = encStr t.name ++ (u32le t.shape.length ++ (t.shape.reverse.flatMap u64le ++
    (u32le t.kind ++ u64le off))) from by simp only [encTInfo, List.append_assoc]]
  refine (readStr_enc hc hw.name).bind ?_
  refine (readU32 hw.dims).bind ?_
  -- the dimensions that are declared are there
  refine Reads.ite_rest (fun rest p => ?_) ?_
  · simp only [List.length_append, flatMap_u64le_length, List.length_reverse]
    omega
  refine Reads.seq_unit (hc.checkAlloc _ _) ?_
  rw [← List.length_reverse]
  refine (readShape_enc hc _ fun x hx => hw.dim x (List.mem_reverse.mp hx)).bind ?_
  refine (readU32 hw.kind).bind ?_
  exact (readU64 ho).map fun _ => rfl

/-- the tensors written with their declared offsets -/
def infosOf : List TIn → List Nat → List TInfo
  | t :: ts, o :: os => infoOf t o :: infosOf ts os
  | _, _ => []

theorem readTensors_enc {c : Cfg} (hc : V3 c) (ts : List TIn) (os : List Nat) (hlen : os.length = ts.length)
    (hw : ∀ t ∈ ts, WfTensor t) (ho : ∀ o ∈ os, o < two64) :
    Reads (readTensors c ts.length) (encTInfos ts os) (infosOf ts os) := by
  induction ts generalizing os with
  | nil => exact Reads.pure []
  | cons t ts ih =>
    obtain _ | ⟨o, os⟩ := os
    · cases hlen
    · exact (readTensor_enc hc (hw t (by simp)) (ho o (by simp))).bind
        ((ih os (by simpa using hlen) (fun t' h => hw t' (by simp [h])) fun o' h => ho o' (by simp [h])).map fun _ => rfl)

def prodL : List Nat → Nat
  | [] => 1
  | x :: l => x * prodL l

theorem prodL_append (l : List Nat) (x : Nat) : prodL (l ++ [x]) = prodL l * x := by
  induction l with
  | nil => simp [prodL]
  | cons y l ih => simp [prodL, ih, Nat.mul_assoc]

theorem prodL_reverse (l : List Nat) : prodL l.reverse = prodL l := by
  induction l with
  | nil => rfl
  | cons x l ih => simp [prodL, prodL_append, ih, Nat.mul_comm]

theorem foldl_mulmod (M : Nat) (l : List Nat) (a : Nat) :
    l.foldl (fun acc n => (acc * n) % M) (a % M) = (a * prodL l) % M := by
  induction l generalizing a with
  | nil => simp [prodL]
  | cons x l ih =>
    simp only [List.foldl_cons, prodL]
    have : (a % M * x) % M = (a * x) % M := Nat.mod_mul_mod a x M
    rw [this, ih (a * x), Nat.mul_assoc]

theorem parameters_eq (l : List Nat) : parameters l = prodL l % two64 := by
  unfold parameters
  have := foldl_mulmod two64 l 1
  have h1 : 1 % two64 = 1 := by decide
  rw [h1] at this
  rw [this, Nat.one_mul]

theorem tensorSize_reverse (kind : Nat) (shape : List Nat) :
    tensorSize kind shape.reverse = tensorSize kind shape := by
  unfold tensorSize
  rw [parameters_eq, parameters_eq, prodL_reverse]

theorem seekTensors_cons_small (g : Guards) (align : Nat) (t : TInfo) (ts : List TInfo) (pos : Nat)
    (h : pos + padding pos align + tensorSize t.kind t.shape < two63) :
    seekTensors g align (t :: ts) pos
      = seekTensors g align ts (pos + padding pos align + tensorSize t.kind t.shape) := by
  have h2 : (two63 : Int) = ((two63 : Nat) : Int) := rfl
  simp only [seekTensors, toI64_small _ (show tensorSize t.kind t.shape < two63 by omega)]
  rw [if_neg (by omega), if_neg (by omega)]
  congr 1

theorem seekTensors_enc_at (g : Guards) (align p : Nat) (hp : p % align = 0) (ts : List TIn) (os : List Nat) (P : Nat)
    (hlen : os.length = ts.length) (hw : ∀ t ∈ ts, WfT t) (hb : p + P + (encData align ts P).length < two63) :
    seekTensors g align (infosOf ts os) (p + P) = .ok (p + P + (encData align ts P).length) := by
  induction ts generalizing os P with
  | nil => cases os <;> simp [infosOf, seekTensors, encData]
  | cons t ts ih =>
    cases os with
    | nil => simp at hlen
    | cons o os =>
      have hsz : t.data.length = tensorSize t.kind t.shape := hw t (by simp)
      have hpad : padding (p + P) align = padding P align := padding_add_base p P align hp
      simp only [encData, List.length_append, List.length_replicate] at hb ⊢
      rw [infosOf, seekTensors_cons_small _ _ _ _ _ (by simp only [infoOf, tensorSize_reverse, hpad]; omega)]
      simp only [infoOf, tensorSize_reverse, hpad, ← hsz]
      rw [show p + P + padding P align + t.data.length = p + (P + padding P align + t.data.length) by omega,
        ih os _ (by simpa using hlen) (fun t' h => hw t' (by simp [h])) (by omega)]
      congr 1
      omega

theorem alignment_agrees (g : Guards) (maxA : Int) (kvs : List (Bytes × KVal)) (a : Nat) (extra : Val)
    (hw : ∀ kv ∈ kvs, WfKV kv) (ha : alignmentIn kvs = .ok a) :
    alignmentOf g (kvs.map (fun kv => (kv.1, toVal maxA kv.2)) ++ [(keyParamCount, extra)]) = .ok a := by
  unfold alignmentOf kvLookup
  rw [List.find?_append, List.find?_map,
    show ((fun p : Bytes × Val => decide (p.1 = keyAlignment)) ∘ fun kv : Bytes × KVal => (kv.1, toVal maxA kv.2))
      = fun p => decide (p.1 = keyAlignment) from rfl]
  rcases alignmentIn_ok ha with ⟨hf, rfl⟩ | ⟨k, n, hf, rfl⟩
  · rw [hf]; rfl
  · rw [hf, Nat.mod_eq_of_lt (hw _ (List.mem_of_find?_eq_some hf)).2]; rfl

theorem decodeFrom_header (numTensor numKV : Nat) (hnt : numTensor < two64) (hnk : numKV < two64) (rest : Bytes) (p : Nat)
    (maxArraySize : Int) (budget : Option Nat) (g : Guards) :
    decodeFrom ⟨u32le magicLE ++ (u32le 3 ++ (u64le numTensor ++ (u64le numKV ++ rest))), p⟩ maxArraySize budget g
      = decodeBody ⟨false, 3, if maxArraySize = 0 then 1024 else maxArraySize, budget, g⟩ numKV numTensor
          ⟨rest, p + 4 + 4 + 8 + 8⟩ := by
  unfold decodeFrom
  simp only []
  rw [readU32 (n := magicLE) (by decide)]
  simp only [bind, Except.bind, show ¬ (magicLE ≠ magicLE ∧ magicLE ≠ magicBE) by decide, ↓reduceIte,
    show (decide (magicLE = magicBE)) = false by decide]
  rw [readU32 (n := 3) (by decide)]
  simp only [show ¬ ((3 : Nat) = 1) by decide, ↓reduceIte]
  -- both counts are there, so the one `binary.Read` of the pair is the read of its first field
  rw [show readUintIn false 8 (2 * 8) ⟨u64le numTensor ++ (u64le numKV ++ rest), p + (u32le magicLE).length + (u32le 3).length⟩
      = readUint false 8 ⟨u64le numTensor ++ (u64le numKV ++ rest), p + (u32le magicLE).length + (u32le 3).length⟩ from by
    unfold readUintIn
    simp only [List.length_append, u64le_length]
    rw [if_pos (by omega)]]
  rw [readU64 hnt]
  simp only []
  rw [readU64 hnk]
  simp only [u32le_length, u64le_length]

/-! ## every size of a written file follows from its length: a part of the file is no longer than the file -/


theorem length_le_flatMap {α : Type} (f : α → Bytes) (l : List α) (x : α) (hx : x ∈ l) :
    (f x).length ≤ (l.flatMap f).length := by
  induction l with
  | nil => cases hx
  | cons y ys ih =>
    simp only [List.flatMap_cons, List.length_append]
    rcases List.mem_cons.mp hx with rfl | h
    · omega
    · have := ih h; omega

theorem count_le_flatMap {α : Type} (f : α → Bytes) (l : List α) (h : ∀ x ∈ l, 1 ≤ (f x).length) :
    l.length ≤ (l.flatMap f).length := by
  induction l with
  | nil => simp
  | cons y ys ih =>
    simp only [List.flatMap_cons, List.length_append, List.length_cons]
    have := ih (fun x hx => h x (by simp [hx]))
    have := h y (by simp)
    omega

theorem encKV_length (kv : Bytes × KVal) : (encKV kv).length = 8 + kv.1.length + (encVal kv.2).length := by
  simp [encKV, encStr_length]

theorem encVal_pos (v : KVal) : 4 ≤ (encVal v).length := by
  cases v <;> simp [encVal, u32le] <;> omega

theorem WfVal_of_length (v : KVal) (ht : TypedVal v) (hl : (encVal v).length < two63) : WfVal v := by
  cases v
  case u32 | f32 => exact ht
  case bool => trivial
  case str s =>
    simp only [encVal, List.length_append, encStr_length] at hl
    show s.length < two63
    omega
  case astr l =>
    simp only [encVal, List.length_append] at hl
    refine ⟨?_, ?_⟩
    · have := count_le_flatMap encStr l (fun x _ => by rw [encStr_length]; omega)
      omega
    · intro x hx
      have := length_le_flatMap encStr l x hx
      rw [encStr_length] at this
      omega
  all_goals
    simp only [encVal, List.length_append, flatMap_u32le_length] at hl
    exact ⟨by omega, ht⟩

theorem WfKV_of_length (kv : Bytes × KVal) (ht : TypedVal kv.2) (hl : (encKV kv).length < two63) : WfKV kv := by
  rw [encKV_length] at hl
  exact ⟨by omega, WfVal_of_length kv.2 ht (by omega)⟩

theorem encTInfo_length (t : TIn) (o : Nat) :
    (encTInfo t o).length = 8 + t.name.length + 4 + 8 * t.shape.length + 4 + 8 := by
  simp only [encTInfo, List.length_append, encStr_length, u32le_length, u64le_length, flatMap_u64le_length,
    List.length_reverse]

theorem encTInfos_bounds (ts : List TIn) (os : List Nat) (hlen : os.length = ts.length) :
    ts.length ≤ (encTInfos ts os).length ∧ ∀ t ∈ ts, t.name.length ≤ (encTInfos ts os).length := by
  induction ts generalizing os with
  | nil => simp [encTInfos]
  | cons t ts ih =>
    cases os with
    | nil => simp at hlen
    | cons o os =>
      obtain ⟨h1, h2⟩ := ih os (by simpa using hlen)
      simp only [encTInfos, List.length_append, encTInfo_length, List.length_cons]
      refine ⟨by omega, ?_⟩
      intro t' ht'
      rcases List.mem_cons.mp ht' with rfl | h
      · omega
      · have := h2 t' h; omega

theorem WfVal.typed {v : KVal} (h : WfVal v) : TypedVal v := by
  cases v <;> first | exact h | exact h.2 | trivial

theorem WfTensor.typed {t : TIn} (h : WfTensor t) : TypedTensor t := ⟨h.dims, h.dim, h.kind⟩

theorem sizes_of_written (kvs : List (Bytes × KVal)) (ts : List TIn) (file : Bytes) (align : Nat)
    (htv : ∀ kv ∈ kvs, TypedVal kv.2) (htt : ∀ t ∈ ts, TypedTensor t ∧ WfT t)
    (halign : alignmentIn kvs = .ok align) (hpos : 0 < align)
    (henc : encode false kvs ts = .ok file) (hlen : file.length < two63) :
    (∀ kv ∈ kvs, WfKV kv) ∧ kvs.length < two64 ∧ ts.length < two64 ∧ (∀ t ∈ ts, WfTensor t ∧ WfT t) ∧
    ∀ o ∈ offsets false align ts 0, o < two64 := by
  obtain ⟨hfile, _, hoff, _⟩ := encode_places kvs ts file align halign hpos henc (fun t ht => (htt t ht).2)
  obtain ⟨head, hheadd⟩ : ∃ head, head = encHead false align kvs ts := ⟨_, rfl⟩
  rw [← hheadd] at hfile hoff
  have hflen : file.length = head.length + (encData align ts head.length).length := by
    rw [hfile, List.length_append]
  have hheadlen : head.length = 24 + ((sortKVs kvs).flatMap encKV).length
      + (encTInfos ts (offsets false align ts 0)).length := by
    rw [hheadd]; simp [encHead, encHeader, u32le, u64le]; omega
  have hperm := sortKVs_perm kvs
  obtain ⟨hti1, hti2⟩ := encTInfos_bounds ts (offsets false align ts 0) (offsets_length _ _ _ _)
  unfold two63 at hlen
  refine ⟨fun kv hkv => ?_, ?_, by unfold two64; omega, fun t ht => ?_, fun o ho => ?_⟩
  · have := length_le_flatMap encKV (sortKVs kvs) kv (hperm.mem_iff.mpr hkv)
    exact WfKV_of_length kv (htv kv hkv) (by unfold two63; omega)
  · have := count_le_flatMap encKV (sortKVs kvs) (fun kv _ => by rw [encKV_length]; omega)
    rw [hperm.length_eq] at this
    unfold two64; omega
  · obtain ⟨h, hsize⟩ := htt t ht
    have := hti2 t ht
    exact ⟨⟨by unfold two63; omega, h.dims, h.dim, h.kind⟩, hsize⟩
  · have := hoff o ho
    unfold two64; omega

/-- **The round trip**: keys in any order (the decoder returns them in key order, plus the parameter count), the reader
    at any file position `p` that is a multiple of the alignment (the decoder pads to ABSOLUTE file offsets, the writer
    to offsets of its own file), anything after the file, every decoder variant `g`.  The only size bound is the end
    position (`sizes_of_written`). -/
theorem decode_written (kvs : List (Bytes × KVal)) (ts : List TIn) (file tail : Bytes) (align p : Nat)
    (maxArraySize : Int) (g : Guards)
    (hnodup : (kvs.map (·.1)).Nodup) (hnoparam : ∀ kv ∈ kvs, kv.1 ≠ keyParamCount)
    (htv : ∀ kv ∈ kvs, TypedVal kv.2) (htt : ∀ t ∈ ts, TypedTensor t ∧ WfT t)
    (halign : alignmentIn kvs = .ok align) (hpos : 0 < align) (hp : p % align = 0)
    (henc : encode false kvs ts = .ok file) (hlen : p + file.length < two63) :
    decodeFrom ⟨file ++ tail, p⟩ maxArraySize none g
      = .ok ⟨3, (sortKVs kvs).map (fun kv => (kv.1, toVal (if maxArraySize = 0 then 1024 else maxArraySize) kv.2)) ++
                [(keyParamCount, .scalar 10 (sumParameters (infosOf ts (offsets false align ts 0))))],
             infosOf ts (offsets false align ts 0),
             p + ((encHead false align kvs ts).length + padding (encHead false align kvs ts).length align),
             p + file.length⟩ := by
  obtain ⟨hwkv, hnk, hnt, hwt, hoff⟩ := sizes_of_written kvs ts file align htv htt halign hpos henc (by omega)
  have hperm := sortKVs_perm kvs
  obtain ⟨maxA, hmaxA⟩ : ∃ maxA : Int, maxA = if maxArraySize = 0 then 1024 else maxArraySize := ⟨_, rfl⟩
  obtain ⟨head, hheadd⟩ : ∃ head, head = encHead false align kvs ts := ⟨_, rfl⟩
  obtain ⟨H, hHd⟩ : ∃ H, H = head.length := ⟨_, rfl⟩
  rw [← hmaxA, ← hheadd, ← hHd]
  have hfile : file = head ++ encData align ts H := by
    rw [hHd, hheadd]; exact encode_eq kvs ts file align halign henc
  have hc : V3 (⟨false, 3, maxA, none, g⟩ : Cfg) := ⟨rfl, rfl, rfl⟩
  have hhead : head = u32le magicLE ++ (u32le 3 ++ (u64le ts.length ++ (u64le (sortKVs kvs).length ++
      ((sortKVs kvs).flatMap encKV ++ (encTInfos ts (offsets false align ts 0)))))) := by
    rw [hheadd, hperm.length_eq]
    simp only [encHead, encHeader, List.append_assoc]
  have hheadlen : p + 4 + 4 + 8 + 8 + ((sortKVs kvs).flatMap encKV).length
      + (encTInfos ts (offsets false align ts 0)).length = p + H := by
    rw [hHd, hhead]
    simp only [List.length_append, u32le_length, u64le_length]
    omega
  have hflen : file.length = H + (encData align ts H).length := by
    rw [hfile, List.length_append, ← hHd]
  -- what holds of the written list holds of its arrangement in key order
  have hmem : ∀ kv, kv ∈ sortKVs kvs ↔ kv ∈ kvs := fun kv => hperm.mem_iff
  have hsalign : alignmentIn (sortKVs kvs) = .ok align := by
    unfold alignmentIn at halign ⊢
    rw [find?_key_perm hperm.symm hnodup]
    exact halign
  rw [hfile, hhead]
  simp only [List.append_assoc]
  rw [decodeFrom_header _ _ hnt (by rw [hperm.length_eq]; exact hnk), ← hmaxA]
  unfold decodeBody
  simp only [bind, Except.bind]
  rw [readKVs_enc hc (sortKVs kvs) [] fun kv h => hwkv kv ((hmem kv).mp h)]
  simp only []
  rw [foldl_kvInsert_nodup maxA (sortKVs kvs) [] ((hperm.map (·.1)).nodup_iff.mpr hnodup) (by intro _ _ q hq; cases hq)]
  rw [readTensors_enc hc ts (offsets false align ts 0) (offsets_length _ _ _ _) (fun t h => (hwt t h).1) hoff]
  simp only [List.nil_append]
  rw [kvInsert_fresh _ keyParamCount _ (by
    intro q hq
    obtain ⟨kv, hkv, rfl⟩ := List.mem_map.mp hq
    exact hnoparam kv ((hmem kv).mp hkv))]
  rw [alignment_agrees g maxA (sortKVs kvs) align _ (fun kv h => hwkv kv ((hmem kv).mp h)) hsalign]
  simp only [show ¬ (align = 0) by omega, ↓reduceIte, hheadlen]
  have hseek := seekTensors_enc_at g align p hp ts (offsets false align ts 0) H (offsets_length _ _ _ _)
    (fun t h => (hwt t h).2) (by omega)
  rw [hseek]
  simp only [pure, Except.pure]
  have hpad : padding (p + H) align = padding H align := padding_add_base p H align hp
  rw [hpad]
  congr 2
  all_goals (try simp only [List.length_append, u32le_length, u64le_length]); omega

/-- the round trip for keys given in key order, under separate bounds on every part -/
theorem decode_encode_at_sorted (kvs : List (Bytes × KVal)) (ts : List TIn) (file tail : Bytes) (align p : Nat)
    (maxArraySize : Int)
    (hsorted : sortKVs kvs = kvs) (hnodup : (kvs.map (·.1)).Nodup)
    (hnoparam : ∀ kv ∈ kvs, kv.1 ≠ keyParamCount)
    (hwkv : ∀ kv ∈ kvs, WfKV kv) (hwt : ∀ t ∈ ts, WfTensor t ∧ WfT t)
    (hnk : kvs.length < two64) (hnt : ts.length < two64)
    (halign : alignmentIn kvs = .ok align) (hpos : 0 < align) (hp : p % align = 0)
    (hoff : ∀ o ∈ offsets false align ts 0, o < two64)
    (henc : encode false kvs ts = .ok file) (hlen : p + file.length < two63) :
    let maxA : Int := if maxArraySize = 0 then 1024 else maxArraySize
    let head := encHead false align kvs ts
    let infos := infosOf ts (offsets false align ts 0)
    decodeFrom ⟨file ++ tail, p⟩ maxArraySize none
      = .ok ⟨3, kvs.map (fun kv => (kv.1, toVal maxA kv.2)) ++ [(keyParamCount, .scalar 10 (sumParameters infos))],
             infos, p + (head.length + padding head.length align), p + file.length⟩ := by
  have h := decode_written kvs ts file tail align p maxArraySize Guards.tree hnodup hnoparam (fun kv h => (hwkv kv h).2.typed)
    (fun t h => ⟨(hwt t h).1.typed, (hwt t h).2⟩) halign hpos hp henc hlen
  rw [hsorted] at h
  exact h

/-- the round trip at position 0 for keys given in key order (`C05.decode_encode` says what it claims) -/
theorem decode_encode (kvs : List (Bytes × KVal)) (ts : List TIn) (file : Bytes) (align : Nat) (maxArraySize : Int)
    (hsorted : sortKVs kvs = kvs) (hnodup : (kvs.map (·.1)).Nodup)
    (hnoparam : ∀ kv ∈ kvs, kv.1 ≠ keyParamCount)
    (hwkv : ∀ kv ∈ kvs, WfKV kv) (hwt : ∀ t ∈ ts, WfTensor t ∧ WfT t)
    (hnk : kvs.length < two64) (hnt : ts.length < two64)
    (halign : alignmentIn kvs = .ok align) (hpos : 0 < align)
    (hoff : ∀ o ∈ offsets false align ts 0, o < two64)
    (henc : encode false kvs ts = .ok file) (hlen : file.length < two63) :
    let maxA : Int := if maxArraySize = 0 then 1024 else maxArraySize
    let head := encHead false align kvs ts
    let infos := infosOf ts (offsets false align ts 0)
    decode file maxArraySize none
      = .ok ⟨3, kvs.map (fun kv => (kv.1, toVal maxA kv.2)) ++ [(keyParamCount, .scalar 10 (sumParameters infos))],
             infos, head.length + padding head.length align, file.length⟩ := by
  intro maxA head infos
  have h := decode_encode_at_sorted kvs ts file [] align 0 maxArraySize hsorted hnodup hnoparam hwkv hwt hnk hnt halign hpos
    (Nat.zero_mod align) hoff henc (by omega)
  simp only [List.append_nil, Nat.zero_add] at h
  exact h

end OllamaVerif.Gguf
