/-
  C12 — lemmas about the crash model of the store (`Model/StoreCrash.lean`): the finite map and what
  is read from it; the store invariant `Inv` and the local condition `EffOK` under which one effect
  keeps it; effect sequences (`Chain`: append, crash prefix, `andThen`); footprints (`WritesIn`,
  `Foot`) and the frame `Untouched`; the start-up sequence; the blocks that add blobs, each
  specified as `Adds` (`NewLayer`, uploads, and the download under the debris hypotheses `PartOK`,
  `PullPre`).
-/
import OllamaVerif.Model.StoreCrash
namespace OllamaVerif.StoreCrash
open OllamaVerif

/-! ## the finite map -/

theorem get_filterKeys (keep : Path → Bool) (st : Store) (p : Path) :
    get (filterKeys keep st) p = if keep p then get st p else none := by
  induction st with
  | nil => simp [filterKeys, get]
  | cons e rest ih =>
    unfold filterKeys at ih ⊢
    by_cases hk : keep e.1 <;> by_cases hq : e.1 = p <;> simp_all [get]

theorem get_del (st : Store) (p q : Path) : get (del st p) q = if q = p then none else get st q := by
  unfold del
  rw [get_filterKeys]
  by_cases h : q = p <;> simp [h]

theorem get_set (st : Store) (p q : Path) (c : Content) :
    get (set st p c) q = if q = p then some c else get st q := by
  unfold set
  simp only [get]
  by_cases h : p = q
  · subst h; simp
  · have h' : ¬ q = p := fun e => h e.symm
    simp [h, h', get_del]

theorem get_some_mem {st : Store} {p : Path} {c : Content} (h : get st p = some c) : (p, c) ∈ st := by
  induction st with
  | nil => simp [get] at h
  | cons e rest ih =>
    by_cases hq : e.1 = p <;> simp_all [get]
    · exact Or.inl (Prod.ext hq.symm h.symm)

theorem get_isSome_of_mem {st : Store} {p : Path} {c : Content} (h : (p, c) ∈ st) : (get st p).isSome := by
  induction st with
  | nil => simp at h
  | cons e rest ih =>
    by_cases hq : e.1 = p <;> simp_all [get]
    · rcases h with rfl | h
      · exact absurd rfl hq
      · exact ih h

/-! ## reading -/

theorem mem_manNames {st : Store} {n : Name} : n ∈ manNames st ↔ ∃ c, (Path.man n, c) ∈ st := by
  unfold manNames
  simp only [List.mem_filterMap]
  constructor
  · rintro ⟨⟨p, c⟩, hmem, h⟩
    cases p <;> simp at h
    subst h; exact ⟨c, hmem⟩
  · rintro ⟨c, h⟩
    exact ⟨(.man n, c), h, rfl⟩

theorem readable_eq_some {st : Store} {n : Name} {m : Man} :
    readable st n = some m ↔ get st (.man n) = some (.man m) := by
  unfold readable; split <;> simp_all

theorem referenced_iff {st : Store} {d : Digest} :
    referenced st d = true ↔ ∃ n m, readable st n = some m ∧ ∃ l ∈ m.all, l.digest = d := by
  unfold referenced
  simp only [List.any_eq_true]
  constructor
  · rintro ⟨n, _, h⟩
    cases hr : readable st n with
    | none => simp [hr] at h
    | some m =>
      simp only [hr, List.any_eq_true, beq_iff_eq] at h
      exact ⟨n, m, hr, h⟩
  · rintro ⟨n, m, hr, l, hl, hd⟩
    refine ⟨n, ?_, ?_⟩
    · exact mem_manNames.mpr ⟨_, get_some_mem (readable_eq_some.mp hr)⟩
    · simp only [hr, List.any_eq_true, beq_iff_eq]; exact ⟨l, hl, hd⟩

theorem referenced_false {st : Store} {d : Digest} (h : referenced st d = false) :
    ∀ n m, readable st n = some m → ∀ l ∈ m.all, l.digest ≠ d := fun n m hr l hl hd => by
  simp [referenced_iff.mpr ⟨n, m, hr, l, hl, hd⟩] at h

theorem allReadable_iff {st : Store} :
    allReadable st = true ↔ ∀ n c, get st (.man n) = some c → ∃ m, c = .man m := by
  unfold allReadable
  simp only [List.all_eq_true]
  constructor
  · intro h n c hg
    have := h n (mem_manNames.mpr ⟨c, get_some_mem hg⟩)
    unfold readable at this
    rw [hg] at this
    cases c <;> simp at this
    exact ⟨_, rfl⟩
  · intro h n hn
    obtain ⟨c, hc⟩ := mem_manNames.mp hn
    have hs := get_isSome_of_mem hc
    cases hg : get st (.man n) with
    | none => simp [hg] at hs
    | some c' =>
      obtain ⟨m, rfl⟩ := h n c' hg
      simp [readable, hg]

/-! ## invariant, local safety condition of an effect -/

def Path.isScratch : Path → Bool
  | .temp _ | .pfile _ | .part _ _ => true
  | _ => false

/-- every blob file holds bytes that hash to its name (unreferenced ones too: cache hits and
"using existing layer" trust them) -/
def BlobInv (hash : Bytes → Digest) (st : Store) : Prop :=
  ∀ d c, get st (.blob d) = some c → ∃ bs, c = .raw bs ∧ hash bs = d

/-- every layer (and the config) of every READABLE manifest is present -/
def RefInv (st : Store) : Prop :=
  ∀ n m, readable st n = some m → ∀ l ∈ m.all, (get st (.blob l.digest)).isSome

/-- the store invariant: a torn manifest is allowed; what is readable is complete and intact -/
def Inv (hash : Bytes → Digest) (st : Store) : Prop := BlobInv hash st ∧ RefInv st

/-- the property's first clause, spelled out -/
def NameInv (hash : Bytes → Digest) (st : Store) : Prop :=
  ∀ n m, readable st n = some m → ∀ l ∈ m.all,
    ∃ bs, get st (.blob l.digest) = some (.raw bs) ∧ hash bs = l.digest

variable {hash : Bytes → Digest} {st : Store}

theorem Inv.blob_of_present (h : Inv hash st) {d : Digest}
    (hp : (get st (.blob d)).isSome = true) : ∃ bs, get st (.blob d) = some (.raw bs) ∧ hash bs = d := by
  cases hg : get st (.blob d) with
  | none => rw [hg] at hp; cases hp
  | some c =>
    obtain ⟨bs, rfl, hh⟩ := h.1 d c hg
    exact ⟨bs, rfl, hh⟩

theorem Inv.nameInv (h : Inv hash st) : NameInv hash st :=
  fun n m hr l hl => h.blob_of_present (h.2 n m hr l hl)

theorem inv_of_mem
    (hB : ∀ d c, (Path.blob d, c) ∈ st → ∃ bs, c = .raw bs ∧ hash bs = d)
    (hR : ∀ n m, (Path.man n, Content.man m) ∈ st → ∀ l ∈ m.all, (get st (.blob l.digest)).isSome) :
    Inv hash st :=
  ⟨fun d c h => hB d c (get_some_mem h), fun n m hr => hR n m (get_some_mem (readable_eq_some.mp hr))⟩

def EffOK (hash : Bytes → Digest) (st : Store) : Effect → Prop
  | .mk p => ∀ d, p ≠ .blob d
  | .touch p => p.isScratch = true
  | .app p _ => p.isScratch = true
  | .pw p _ _ => p.isScratch = true
  | .ftr p _ => p.isScratch = true
  | .put p c => (p.isScratch = true) ∨
      (∃ n m, p = .man n ∧ c = .man m ∧ ∀ l ∈ m.all, (get st (.blob l.digest)).isSome)
  | .cp src dst => (∃ a, src = .man a) ∧ (∃ b, dst = .man b)
  | .mv src dst => src.isScratch = true ∧
      ((∃ d, dst = .blob d ∧ get st (.blob d) = none ∧ ∃ bs, get st src = some (.raw bs) ∧ hash bs = d) ∨
       dst.isScratch = true ∨
       (∃ n, dst = .man n ∧ ∀ m, get st src = some (.man m) → ∀ l ∈ m.all, (get st (.blob l.digest)).isSome))
  | .chmod _ => True
  | .rm p => p.isScratch = true ∨ (∃ n, p = .man n) ∨ (∃ d, p = .blob d ∧ referenced st d = false)

def writes : Effect → List Path
  | .mk p | .touch p | .app p _ | .pw p _ _ | .ftr p _ | .put p _ | .rm p => [p]
  | .cp _ dst => [dst]
  | .mv src dst => [src, dst]
  | .chmod _ => []

theorem get_set_ne {p q : Path} (c : Content) (h : q ≠ p) : get (set st p c) q = get st q := by
  rw [get_set, if_neg h]

theorem get_del_ne {p q : Path} (h : q ≠ p) : get (del st p) q = get st q := by
  rw [get_del, if_neg h]

theorem get_apply_of_not_written {e : Effect} {q : Path} (h : q ∉ writes e) :
    get (apply e st) q = get st q := by
  cases e <;> simp only [writes, List.mem_cons, List.not_mem_nil, or_false, not_or] at h <;>
    simp only [apply]
  case mk | put => exact get_set_ne _ h
  case rm p => exact get_del_ne h
  case mv s d =>
    split
    · rw [get_set_ne _ h.2, get_del_ne h.1]
    · rfl
  all_goals split <;> first | rfl | exact get_set_ne _ h

theorem get_apply_rm (p : Path) (st : Store) : get (apply (.rm p) st) p = none := by
  simp only [apply, get_del, if_true]

theorem get_apply_mk (p : Path) (st : Store) : get (apply (.mk p) st) p = some (.raw []) := by
  simp only [apply, get_set, if_true]

theorem get_apply_put (p : Path) (c : Content) (st : Store) : get (apply (.put p c) st) p = some c := by
  simp only [apply, get_set, if_true]

theorem get_apply_mv_dst {s t : Path} {c : Content} (h : get st s = some c) :
    get (apply (.mv s t) st) t = some c := by
  simp only [apply, h, get_set, if_true]

theorem get_apply_mv_src (src dst : Path) (h : src ≠ dst) (st : Store) : get (apply (.mv src dst) st) src = none := by
  simp only [apply]
  cases hs : get st src with
  | none => exact hs
  | some c => simp [get_set, get_del, h]

theorem not_mem_one {p q : Path} (h : q ≠ p) : q ∉ [p] := fun hm => h (List.mem_singleton.mp hm)

/-- an effect on a scratch path changes no blob and no manifest -/
theorem get_apply_scratch {e : Effect} {st : Store} {q : Path}
    (hw : ∀ p ∈ writes e, p.isScratch = true) (hq : q.isScratch = false) :
    get (apply e st) q = get st q :=
  get_apply_of_not_written fun hmem => Bool.false_ne_true (hq ▸ hw q hmem)

theorem blob_after {e : Effect} (hok : EffOK hash st e) (d : Digest) :
    get (apply e st) (.blob d) = get st (.blob d) ∨
    (get st (.blob d) = none ∧ ∃ bs, get (apply e st) (.blob d) = some (.raw bs) ∧ hash bs = d) ∨
    (get (apply e st) (.blob d) = none ∧ referenced st d = false) := by
  by_cases hw : Path.blob d ∈ writes e
  case neg => exact Or.inl (get_apply_of_not_written hw)
  cases e <;> simp only [writes, List.mem_cons, List.not_mem_nil, or_false] at hw
  case mk p => exact absurd hw.symm (hok d)
  case touch | app | pw | ftr => subst hw; cases hok
  case put p c =>
    subst hw
    rcases hok with h | ⟨n, m, h, _⟩ <;> cases h
  case cp s t => subst hw; obtain ⟨_, b, h⟩ := hok; cases h
  case mv s t =>
    obtain ⟨hs, ht⟩ := hok
    rcases hw with rfl | rfl
    · cases hs
    · rcases ht with ⟨_, ⟨⟩, hnone, bs, hsrc, hh⟩ | h | ⟨n, h, _⟩
      · exact Or.inr (Or.inl ⟨hnone, bs, get_apply_mv_dst hsrc, hh⟩)
      · cases h
      · cases h
  case rm p =>
    subst hw
    rcases hok with h | ⟨n, h⟩ | ⟨_, ⟨⟩, hr⟩
    · cases h
    · cases h
    · exact Or.inr (Or.inr ⟨get_apply_rm _ _, hr⟩)

theorem man_after {e : Effect} (hinv : RefInv st) (hok : EffOK hash st e)
    {n : Name} {m : Man} (h : readable (apply e st) n = some m) :
    readable st n = some m ∨
    ((∀ l ∈ m.all, (get st (.blob l.digest)).isSome) ∧ ∀ d, get (apply e st) (.blob d) = get st (.blob d)) := by
  rw [readable_eq_some] at h
  by_cases hw : Path.man n ∈ writes e
  case neg => rw [get_apply_of_not_written hw] at h; exact Or.inl (readable_eq_some.mpr h)
  cases e <;> simp only [writes, List.mem_cons, List.not_mem_nil, or_false] at hw
  case mk p => subst hw; rw [get_apply_mk] at h; cases h
  case touch | app | pw | ftr => subst hw; cases hok
  case rm p => subst hw; rw [get_apply_rm] at h; cases h
  case put p c =>
    subst hw
    rcases hok with hs | ⟨n', m', hn, rfl, hl⟩
    · cases hs
    · rw [get_apply_put] at h; cases h
      exact Or.inr ⟨hl, fun d => get_set_ne _ (by simp)⟩
  case cp s t =>
    subst hw
    obtain ⟨⟨a, rfl⟩, _⟩ := hok
    simp only [apply] at h ⊢
    split at h
    · rename_i c hs
      simp only [get_set, if_true, Option.some.injEq] at h
      subst h
      exact Or.inr ⟨hinv a m (readable_eq_some.mpr hs), fun d => get_set_ne _ (by simp)⟩
    · exact Or.inl (readable_eq_some.mpr h)
  case mv s t =>
    obtain ⟨hs, ht⟩ := hok
    rcases hw with rfl | rfl
    · cases hs
    · rcases ht with ⟨d', h', _⟩ | h' | ⟨n', h', hl⟩
      · cases h'
      · cases h'
      · simp only [apply] at h ⊢
        split at h
        · rename_i c hsrc
          simp only [get_set, if_true, Option.some.injEq] at h
          subst h
          refine Or.inr ⟨hl m hsrc, fun d => ?_⟩
          rw [get_set_ne _ (by simp), get_del_ne]
          rintro rfl; cases hs
        · exact Or.inl (readable_eq_some.mpr h)

/-! ## one effect keeps the invariant -/

theorem effect_preserves_inv {hash : Bytes → Digest} {st : Store} {e : Effect}
    (hinv : Inv hash st) (hok : EffOK hash st e) : Inv hash (apply e st) := by
  obtain ⟨hb, hr⟩ := hinv
  constructor
  · intro d c hg
    rcases blob_after hok d with h | ⟨_, bs, h, hh⟩ | ⟨h, _⟩ <;> rw [h] at hg
    · exact hb d c hg
    · cases hg; exact ⟨bs, rfl, hh⟩
    · cases hg
  · intro n m hrd l hl
    rcases man_after hr hok hrd with h | ⟨hp, hsame⟩
    · -- readable before: its layers were present, and an OK effect removes no blob that is named
      rcases blob_after hok l.digest with h' | ⟨_, bs, h', _⟩ | ⟨_, hf⟩
      · rw [h']; exact hr n m h l hl
      · rw [h']; rfl
      · exact absurd rfl (referenced_false hf n m h l hl)
    · rw [hsame]; exact hp l hl

/-! ## sequences, crash prefixes -/

def SeqOK (hash : Bytes → Digest) (st : Store) : List Effect → Prop
  | [] => True
  | e :: es => EffOK hash st e ∧ SeqOK hash (apply e st) es

theorem run_append (a b : List Effect) (st : Store) : run (a ++ b) st = run b (run a st) := by
  induction a generalizing st with
  | nil => rfl
  | cons e a ih => simp [run, ih]

def Chain (C : Store → Effect → Prop) (st : Store) : List Effect → Prop
  | [] => True
  | e :: es => C st e ∧ Chain C (apply e st) es

section chain
variable {C : Store → Effect → Prop}

theorem chain_append {a b : List Effect} : Chain C st (a ++ b) ↔ Chain C st a ∧ Chain C (run a st) b := by
  induction a generalizing st with
  | nil => simp [Chain, run]
  | cons e a ih => simp [Chain, run, ih, and_assoc]

theorem chain_preserves {I : Store → Prop} (step : ∀ st e, I st → C st e → I (apply e st)) {es : List Effect}
    (hi : I st) (h : Chain C st es) : I (run es st) := by
  induction es generalizing st with
  | nil => exact hi
  | cons e es ih => exact ih (step _ _ hi h.1) h.2

theorem chain_take {es : List Effect} (k : Nat) (h : Chain C st es) : Chain C st (es.take k) := by
  rw [← List.take_append_drop k es] at h
  exact (chain_append.mp h).1

theorem chain_crashPrefix (hcut : ∀ st e e', C st e → CutOf e e' → C st e') {es p : List Effect}
    (h : Chain C st es) (hp : CrashPrefix es p) : Chain C st p := by
  obtain ⟨k, rfl | ⟨e, e', hk, hc, rfl⟩⟩ := hp
  · exact chain_take k h
  · have h1 := chain_take (k + 1) h
    rw [List.take_add_one, hk, chain_append] at h1
    exact chain_append.mpr ⟨h1.1, hcut _ _ _ h1.2.1 hc, trivial⟩

theorem chain_andThen {a : Res} {f : Store → Res} (ha : Chain C st a.effs)
    (hf : a.ok = true → Chain C (run a.effs st) (f (run a.effs st)).effs) :
    Chain C st (a.andThen st f).effs := by
  unfold Res.andThen; split
  · rename_i h; exact chain_append.mpr ⟨ha, hf h⟩
  · exact ha

end chain

theorem seqOK_iff {es : List Effect} : SeqOK hash st es ↔ Chain (EffOK hash) st es := by
  induction es generalizing st with
  | nil => exact Iff.rfl
  | cons e es ih => exact and_congr Iff.rfl ih

theorem seqOK_append {a b : List Effect} :
    SeqOK hash st (a ++ b) ↔ SeqOK hash st a ∧ SeqOK hash (run a st) b := by
  simp only [seqOK_iff]; exact chain_append

theorem seq_preserves_inv {hash : Bytes → Digest} {st : Store} {es : List Effect}
    (hinv : Inv hash st) (hok : SeqOK hash st es) : Inv hash (run es st) :=
  chain_preserves (fun _ _ hi hc => effect_preserves_inv hi hc) hinv (seqOK_iff.mp hok)

theorem seqOK_crashPrefix {es p : List Effect}
    (h : SeqOK hash st es) (hp : CrashPrefix es p) : SeqOK hash st p :=
  seqOK_iff.mpr (chain_crashPrefix (fun _ _ _ h hc => by cases hc <;> exact h) (seqOK_iff.mp h) hp)

theorem crashPrefix_full (es : List Effect) : CrashPrefix es es := ⟨es.length, Or.inl (by simp)⟩

/-! ## Res plumbing -/

theorem andThen_effs (a : Res) (st : Store) (f : Store → Res) :
    (a.andThen st f).effs = if a.ok then a.effs ++ (f (run a.effs st)).effs else a.effs := by
  unfold Res.andThen; split <;> rfl

theorem andThen_ok (a : Res) (st : Store) (f : Store → Res) :
    (a.andThen st f).ok = (a.ok && (f (run a.effs st)).ok) := by
  unfold Res.andThen; split <;> simp [*]

theorem seqOK_andThen {a : Res} {f : Store → Res}
    (ha : SeqOK hash st a.effs)
    (hf : a.ok = true → SeqOK hash (run a.effs st) (f (run a.effs st)).effs) :
    SeqOK hash st (a.andThen st f).effs :=
  seqOK_iff.mpr (chain_andThen (seqOK_iff.mp ha) fun h => seqOK_iff.mp (hf h))

theorem run_andThen (a : Res) (st : Store) (f : Store → Res) :
    run (a.andThen st f).effs st =
      if a.ok then run (f (run a.effs st)).effs (run a.effs st) else run a.effs st := by
  rw [andThen_effs]; split
  · rw [run_append]
  · rfl

/-! ## footprints -/

theorem get_run_of_not_written {es : List Effect} {q : Path}
    (h : ∀ e ∈ es, q ∉ writes e) : get (run es st) q = get st q := by
  induction es generalizing st with
  | nil => rfl
  | cons e es ih =>
    simp only [run]
    rw [ih (fun e' he' => h e' (by simp [he'])), get_apply_of_not_written (h e (by simp))]

def WritesIn (A : Path → Prop) (es : List Effect) : Prop := ∀ e ∈ es, ∀ q ∈ writes e, A q

theorem writesIn_nil {A : Path → Prop} : WritesIn A [] := fun _ h => nomatch h

theorem writesIn_cons {A : Path → Prop} {e : Effect} {es : List Effect} :
    WritesIn A (e :: es) ↔ (∀ q ∈ writes e, A q) ∧ WritesIn A es := List.forall_mem_cons

theorem writesIn_append_iff {A : Path → Prop} {a b : List Effect} :
    WritesIn A (a ++ b) ↔ WritesIn A a ∧ WritesIn A b := List.forall_mem_append

theorem writesIn_append {A : Path → Prop} {a b : List Effect} (ha : WritesIn A a) (hb : WritesIn A b) :
    WritesIn A (a ++ b) := writesIn_append_iff.mpr ⟨ha, hb⟩

theorem writesIn_mono {A B : Path → Prop} {es : List Effect} (h : WritesIn A es) (hab : ∀ q, A q → B q) :
    WritesIn B es := fun e he q hq => hab q (h e he q hq)

theorem writesIn_andThen {A : Path → Prop} {a : Res} {f : Store → Res}
    (ha : WritesIn A a.effs) (hf : ∀ st', WritesIn A (f st').effs) : WritesIn A (a.andThen st f).effs := by
  rw [andThen_effs]; split
  · exact writesIn_append ha (hf _)
  · exact ha

theorem writesIn_apps {A : Path → Prop} {T : Path} (h : A T) (pieces : List Bytes) :
    WritesIn A (pieces.map (Effect.app T)) :=
  List.forall_mem_map.mpr fun _ _ => List.forall_mem_singleton.mpr h

theorem writesIn_rm_blob {A : Path → Prop} (d : Digest) (h : A (.blob d)) : WritesIn A [.rm (.blob d)] :=
  writesIn_cons.mpr ⟨List.forall_mem_singleton.mpr h, writesIn_nil⟩

theorem get_run_of_writesIn {A : Path → Prop} {es : List Effect} {q : Path}
    (h : WritesIn A es) (hq : ¬ A q) : get (run es st) q = get st q :=
  get_run_of_not_written (fun e he hmem => hq (h e he q hmem))

theorem writes_cut {e e' : Effect} (h : CutOf e e') : writes e' = writes e := by
  cases h <;> rfl

theorem writesIn_crashPrefix {A : Path → Prop} {es p : List Effect} (h : WritesIn A es)
    (hp : CrashPrefix es p) : WritesIn A p := by
  obtain ⟨k, rfl | ⟨e0, e', hk, hc, rfl⟩⟩ := hp
  · exact fun e he => h e (List.mem_of_mem_take he)
  · refine writesIn_append (fun e he => h e (List.mem_of_mem_take he)) (writesIn_cons.mpr ⟨?_, writesIn_nil⟩)
    rw [writes_cut hc]
    exact h e0 (List.mem_of_getElem? hk)

/-! ## frame: names the operation does not write -/

/-- name `n` keeps its manifest file and, if that is readable, every blob it names -/
def Untouched (n : Name) (st st' : Store) : Prop :=
  get st' (.man n) = get st (.man n) ∧
  ∀ m, readable st n = some m → ∀ l ∈ m.all, get st' (.blob l.digest) = get st (.blob l.digest)

theorem Untouched.refl (n : Name) (st : Store) : Untouched n st st := ⟨rfl, fun _ _ _ _ => rfl⟩

theorem Untouched.trans {n : Name} {a b c : Store} (h1 : Untouched n a b) (h2 : Untouched n b c) :
    Untouched n a c := by
  refine ⟨h2.1.trans h1.1, ?_⟩
  intro m hr l hl
  have hrb : readable b n = some m := by
    rw [readable_eq_some] at hr ⊢; rw [h1.1]; exact hr
  exact (h2.2 m hrb l hl).trans (h1.2 m hr l hl)

theorem seq_untouched {es : List Effect} {n : Name}
    (hinv : Inv hash st) (hok : SeqOK hash st es) (hw : WritesIn (· ≠ .man n) es) :
    Untouched n st (run es st) := by
  induction es generalizing st with
  | nil => exact Untouched.refl n st
  | cons e es ih =>
    obtain ⟨he, hes⟩ := writesIn_cons.mp hw
    refine Untouched.trans ⟨get_apply_of_not_written fun hm => he _ hm rfl, fun m hr l hl => ?_⟩
      (ih (effect_preserves_inv hinv hok.1) hok.2 hes)
    rcases blob_after hok.1 l.digest with h | ⟨hn, _⟩ | ⟨_, hf⟩
    · exact h
    · have := hinv.2 n m hr l hl
      simp [hn] at this
    · exact absurd rfl (referenced_false hf n m hr l hl)

/-! ## restart -/

theorem get_prune (st : Store) (p : Path) : get (prune st) p = if keepAtPrune st p then get st p else none :=
  get_filterKeys _ _ _

theorem readable_prune (st : Store) (n : Name) : readable (prune st) n = readable st n := by
  unfold readable; rw [get_prune]; simp [keepAtPrune]

theorem prune_untouched (n : Name) (st : Store) : Untouched n st (prune st) := by
  refine ⟨by rw [get_prune]; simp [keepAtPrune], ?_⟩
  intro m hr l hl
  rw [get_prune]
  have : referenced st l.digest = true := referenced_iff.mpr ⟨n, m, hr, l, hl, rfl⟩
  simp [keepAtPrune, this]

theorem restart_preserves_inv {hash : Bytes → Digest} {st : Store} (h : Inv hash st) : Inv hash (restart st) := by
  unfold restart; split
  · refine ⟨fun d c hg => ?_, fun n m hr l hl => ?_⟩
    · rw [get_prune] at hg
      split at hg
      · exact h.1 d c hg
      · cases hg
    · rw [readable_prune] at hr
      rw [(prune_untouched n st).2 m hr l hl]
      exact h.2 n m hr l hl
  · exact h

/-- the start-up sequence changes no manifest and no blob a readable manifest names -/
theorem restart_untouched (n : Name) (st : Store) : Untouched n st (restart st) := by
  unfold restart; split
  · exact prune_untouched n st
  · exact Untouched.refl n st

theorem restartWith_preserves_inv (env : Env) (h : Inv hash st) :
    Inv hash (restartWith env st) := by
  unfold restartWith; split
  · exact h
  · exact restart_preserves_inv h

theorem restartWith_untouched (env : Env) (n : Name) (st : Store) : Untouched n st (restartWith env st) := by
  unfold restartWith; split
  · exact Untouched.refl n st
  · exact restart_untouched n st

theorem restartWith_eq_prune {env : Env} (hnp : env.noPrune = false) (hall : allReadable st = true) :
    restartWith env st = prune st := by
  unfold restartWith restart; rw [hnp, hall]; rfl

theorem allReadable_restartWith (env : Env) (h : allReadable st = true) :
    allReadable (restartWith env st) = true := by
  rw [allReadable_iff] at h ⊢
  intro n c hg
  rw [(restartWith_untouched env n st).1] at hg
  exact h n c hg

theorem readable_restart (st : Store) (n : Name) : readable (restart st) n = readable st n := by
  unfold restart; split
  · exact readable_prune st n
  · rfl

/-! ## scratch effects, `Ext` -/

/-- effects that only touch scratch files (temp, -partial, -partial-N) -/
def isScratchEff : Effect → Bool
  | .mk p | .touch p | .app p _ | .pw p _ _ | .ftr p _ | .put p _ | .rm p => p.isScratch
  | .chmod _ => true
  | .mv s d => s.isScratch && d.isScratch
  | _ => false

theorem scratchEff_ok {e : Effect} (h : isScratchEff e = true) :
    EffOK hash st e := by
  cases e <;> simp only [isScratchEff, Bool.and_eq_true] at h <;> simp only [EffOK]
  case mk p => rintro d rfl; cases h
  case put | rm => exact Or.inl h
  case mv s d => exact ⟨h.1, Or.inr (Or.inl h.2)⟩
  all_goals first | exact h | cases h

theorem scratchEff_writes {e : Effect} (h : isScratchEff e = true) : ∀ p ∈ writes e, p.isScratch = true := by
  cases e <;> simp only [isScratchEff, Bool.and_eq_true] at h <;>
    simp only [writes, List.forall_mem_cons, List.not_mem_nil, false_implies, implies_true, and_true]
  all_goals first | exact h | cases h

def AllScratch (es : List Effect) : Prop := ∀ e ∈ es, isScratchEff e = true

theorem seqOK_scratch {es : List Effect} (h : AllScratch es) : SeqOK hash st es := by
  induction es generalizing st with
  | nil => trivial
  | cons e es ih => exact ⟨scratchEff_ok (h e (by simp)), ih (fun e' he' => h e' (by simp [he']))⟩

theorem get_run_scratch {es : List Effect} {q : Path} (h : AllScratch es) (hq : q.isScratch = false) :
    get (run es st) q = get st q := by
  apply get_run_of_not_written
  intro e he hmem
  have := scratchEff_writes (h e he) q hmem
  simp [hq] at this

theorem allScratch_nil : AllScratch [] := fun _ h => nomatch h

theorem allScratch_cons {e : Effect} {es : List Effect} (he : isScratchEff e = true) (h : AllScratch es) :
    AllScratch (e :: es) := List.forall_mem_cons.mpr ⟨he, h⟩

theorem allScratch_append_iff {a b : List Effect} : AllScratch (a ++ b) ↔ AllScratch a ∧ AllScratch b :=
  List.forall_mem_append

theorem allScratch_append {a b : List Effect} (ha : AllScratch a) (hb : AllScratch b) : AllScratch (a ++ b) :=
  allScratch_append_iff.mpr ⟨ha, hb⟩

/-- manifests unchanged, blobs only added -/
def Ext (st st' : Store) : Prop :=
  (∀ n, get st' (.man n) = get st (.man n)) ∧ (∀ d c, get st (.blob d) = some c → get st' (.blob d) = some c)

theorem Ext.refl (st : Store) : Ext st st := ⟨fun _ => rfl, fun _ _ h => h⟩

theorem Ext.trans {a b c : Store} (h1 : Ext a b) (h2 : Ext b c) : Ext a c :=
  ⟨fun n => (h2.1 n).trans (h1.1 n), fun d x h => h2.2 d x (h1.2 d x h)⟩

theorem Ext.readable_eq {st st' : Store} (h : Ext st st') (n : Name) :
    StoreCrash.readable st' n = StoreCrash.readable st n := by
  unfold StoreCrash.readable; rw [h.1]

theorem Ext.present_mono {st st' : Store} (h : Ext st st') {d : Digest}
    (hp : StoreCrash.present st (.blob d) = true) : StoreCrash.present st' (.blob d) = true := by
  unfold StoreCrash.present at *
  cases hg : get st (.blob d) with
  | none => simp [hg] at hp
  | some c => rw [h.2 d c hg]; rfl

theorem present_false_get {p : Path} (h : ¬ present st p = true) : get st p = none := by
  unfold present at h; cases hg : get st p <;> simp [hg] at h ⊢

theorem ext_scratch {es : List Effect} (st : Store) (h : AllScratch es) : Ext st (run es st) :=
  ⟨fun _ => get_run_scratch h rfl, fun _ _ hc => (get_run_scratch h rfl).trans hc⟩

theorem referenced_congr {st st' : Store} (h : ∀ n, get st' (.man n) = get st (.man n)) (d : Digest) :
    referenced st' d = referenced st d := by
  rw [Bool.eq_iff_iff, referenced_iff, referenced_iff]
  have hr : ∀ n, readable st' n = readable st n := fun n => by unfold readable; rw [h]
  simp only [hr]

/-! ## steps that cannot fail -/

theorem newLayer_ok (env : Env) (k : Nat) (pieces : List Bytes) (st : Store) :
    (newLayer env k pieces st).ok = true := by
  unfold newLayer; dsimp only; split <;> rfl

theorem upload_ok (env : Env) (k : Nat) (d : Digest) (body : Bytes) (st : Store) :
    (upload env k d body st).ok = true := by
  unfold upload; split
  · rfl
  · exact newLayer_ok env k _ st

theorem uploads_ok (env : Env) (k : Nat) (ups : List (Digest × Bytes)) (st : Store) :
    (uploads env k ups st).ok = true := by
  induction ups generalizing st k with
  | nil => rfl
  | cons u rest ih =>
    obtain ⟨d, body⟩ := u
    simp only [uploads]
    rw [andThen_ok, upload_ok, ih]; rfl

theorem newLayers_ok (env : Env) (k : Nat) (datas : List Bytes) (st : Store) :
    (newLayers env k datas st).ok = true := by
  induction datas generalizing st k with
  | nil => rfl
  | cons x rest ih => simp only [newLayers]; rw [andThen_ok, newLayer_ok, ih]; rfl

theorem layerRemove_ok (d : Digest) (st : Store) : (layerRemove d st).ok = true := by
  unfold layerRemove; split <;> rfl

theorem removeLayers_ok (ds : List Digest) (st : Store) : (removeLayers ds st).ok = true := by
  induction ds generalizing st with
  | nil => rfl
  | cons d rest ih => simp only [removeLayers]; rw [andThen_ok, layerRemove_ok, ih]; rfl

theorem cleanupOld_ok (env : Env) (old : Option Man) (st : Store) : (cleanupOld env old st).ok = true := by
  unfold cleanupOld
  split
  · split
    · rfl
    · exact removeLayers_ok _ _
  · rfl

theorem cleanupPull_ok (env : Env) (cand : List Digest) (st : Store) : (cleanupPull env cand st).ok = true := by
  unfold cleanupPull; split <;> rfl

theorem writeManifest_ok (env : Env) (k : Nat) (n : Name) (m : Man) : (writeManifest env k n m).ok = true := by
  unfold writeManifest; split <;> rfl

theorem createHandler_ok (env : Env) (k : Nat) (n : Name) (file : Digest) (datas : List Bytes) (cfg : Bytes)
    (st : Store) : (createHandler env k n file datas cfg st).ok = present st (.blob file) := by
  unfold createHandler
  dsimp only
  split
  · rename_i h; simpa using h
  · rename_i h
    rw [andThen_ok, andThen_ok, newLayers_ok, writeManifest_ok, cleanupOld_ok]
    simpa using h

/-! ## NewLayer, uploads -/

/-- Run from `st`, `r` only adds blobs: every effect is issued where it keeps the store invariant, no
manifest file changes, no blob changes or goes; and if `r` succeeds the blobs `D` are there. -/
structure Adds (hash : Bytes → Digest) (st : Store) (r : Res) (D : Digest → Prop) : Prop where
  seqOK : SeqOK hash st r.effs
  ext : Ext st (run r.effs st)
  present : r.ok = true → ∀ d, D d → present (run r.effs st) (.blob d) = true

section adds
variable {r a : Res} {f : Store → Res} {D D' : Digest → Prop}

theorem Adds.nil (ok : Bool) : Adds hash st ⟨[], ok⟩ fun _ => False :=
  ⟨trivial, Ext.refl st, fun _ _ h => h.elim⟩

theorem Adds.mono (h : Adds hash st r D) (hD : ∀ d, D' d → D d) : Adds hash st r D' :=
  ⟨h.seqOK, h.ext, fun hok d hd => h.present hok d (hD d hd)⟩

theorem Adds.inv (h : Adds hash st r D) (hinv : Inv hash st) : Inv hash (run r.effs st) :=
  seq_preserves_inv hinv h.seqOK

theorem Adds.andThen (ha : Adds hash st a D)
    (hf : a.ok = true → Adds hash (run a.effs st) (f (run a.effs st)) D') :
    Adds hash st (a.andThen st f) fun d => D d ∨ D' d := by
  refine ⟨seqOK_andThen ha.seqOK fun h => (hf h).seqOK, ?_, ?_⟩
  · rw [run_andThen]; split
    · rename_i h; exact ha.ext.trans (hf h).ext
    · exact ha.ext
  · rw [andThen_ok, run_andThen, Bool.and_eq_true]
    rintro ⟨h1, h2⟩ d hd
    rw [if_pos h1]
    exact hd.elim (fun hd => (hf h1).ext.present_mono (ha.present h1 d hd)) ((hf h1).present h2 d)

end adds

/-- scratch work that leaves `data` in a scratch file, the rename of that file onto the absent blob
`hash data`, more scratch work (the `chmod` of `NewLayer`) -/
theorem install_spec {src : Path} (hsrc : src.isScratch = true) {d : Digest}
    {data : Bytes} (hd : hash data = d) (habs : get st (.blob d) = none)
    {S T : List Effect} (hS : AllScratch S) (hT : AllScratch T) (hP : get (run S st) src = some (.raw data)) :
    Adds hash st ⟨S ++ .mv src (.blob d) :: T, true⟩ (· = d) := by
  have hB : get (run S st) (.blob d) = none := (get_run_scratch hS rfl).trans habs
  have hw : ∀ {q : Path}, q.isScratch = false → q ≠ .blob d → q ∉ writes (.mv src (.blob d)) := by
    intro q hq hne hm
    simp only [writes, List.mem_cons, List.not_mem_nil, or_false] at hm
    rcases hm with rfl | rfl
    · exact Bool.false_ne_true (hq ▸ hsrc)
    · exact hne rfl
  have hrun : run (S ++ .mv src (.blob d) :: T) st = run T (apply (.mv src (.blob d)) (run S st)) := run_append _ _ _
  refine ⟨seqOK_append.mpr ⟨seqOK_scratch hS, ⟨hsrc, Or.inl ⟨d, rfl, hB, data, hP, hd⟩⟩, seqOK_scratch hT⟩, ?_, fun _ _ hx => ?_⟩
  · rw [hrun]
    refine ((ext_scratch st hS).trans ⟨fun n => get_apply_of_not_written (hw rfl (by simp)), fun d' c h => ?_⟩).trans
      (ext_scratch _ hT)
    have hd' : d' ≠ d := by rintro rfl; rw [hB] at h; cases h
    exact (get_apply_of_not_written (hw rfl (by simpa using hd'))).trans h
  · rw [hx, hrun]
    exact (ext_scratch _ hT).present_mono (congrArg Option.isSome (get_apply_mv_dst hP))

theorem run_apps (T : Path) (pieces : List Bytes) (st : Store) (old : Bytes)
    (h : get st T = some (.raw old)) :
    get (run (pieces.map (Effect.app T)) st) T = some (.raw (old ++ pieces.flatten)) := by
  induction pieces generalizing st old with
  | nil => simpa [run] using h
  | cons x rest ih =>
    simp only [List.map_cons, run, List.flatten_cons]
    have : get (apply (.app T x) st) T = some (.raw (old ++ x)) := by simp [apply, h, get_set]
    rw [ih _ _ this, List.append_assoc]

theorem newLayer_spec (env : Env) (henv : env.hash = hash) (k : Nat)
    (pieces : List Bytes) (st : Store) :
    Adds hash st (newLayer env k pieces st) (· = hash pieces.flatten) := by
  subst henv
  have hpre : AllScratch ([Effect.mk (.temp k)] ++ pieces.map (Effect.app (.temp k))) :=
    List.forall_mem_append.mpr ⟨List.forall_mem_singleton.mpr rfl, List.forall_mem_map.mpr fun _ _ => rfl⟩
  unfold newLayer
  dsimp only
  split
  · rename_i hp
    have hall := allScratch_append hpre (List.forall_mem_singleton.mpr (rfl : isScratchEff (.rm (.temp k)) = true))
    exact ⟨seqOK_scratch hall, ext_scratch st hall, fun _ _ hx => hx ▸ (ext_scratch st hall).present_mono hp⟩
  · rename_i hp
    refine install_spec (src := .temp k) rfl rfl (present_false_get hp) hpre
      (List.forall_mem_singleton.mpr (rfl : isScratchEff (.chmod _) = true)) ?_
    rw [run_append]
    exact run_apps (.temp k) pieces _ [] (get_apply_mk _ _)

theorem upload_spec (env : Env) (henv : env.hash = hash) (hchunk : ∀ bs, (env.chunk bs).flatten = bs)
    (k : Nat) (d : Digest) (body : Bytes) (st : Store) :
    Adds hash st (upload env k d body st) fun x => x = d ∧ hash body = d := by
  unfold upload; split
  · rename_i hp; exact ⟨trivial, Ext.refl st, fun _ _ hx => hx.1 ▸ hp⟩
  · exact (hchunk body ▸ newLayer_spec env henv k (env.chunk body) st).mono fun _ hx => hx.1.trans hx.2.symm

theorem uploads_spec (env : Env) (henv : env.hash = hash) (hchunk : ∀ bs, (env.chunk bs).flatten = bs)
    (k : Nat) (ups : List (Digest × Bytes)) (st : Store) :
    Adds hash st (uploads env k ups st) fun x => ∃ u ∈ ups, u.1 = x ∧ hash u.2 = x := by
  induction ups generalizing st k with
  | nil => exact (Adds.nil true).mono fun _ ⟨_, h, _⟩ => nomatch h
  | cons u rest ih =>
    refine ((upload_spec env henv hchunk k u.1 u.2 st).andThen fun _ => ih (k + 1) _).mono ?_
    rintro x ⟨v, hv, rfl, hh⟩
    rcases List.mem_cons.mp hv with rfl | hv
    · exact .inl ⟨rfl, hh⟩
    · exact .inr ⟨v, hv, rfl, hh⟩

theorem newLayers_spec (env : Env) (henv : env.hash = hash) (k : Nat)
    (datas : List Bytes) (st : Store) :
    Adds hash st (newLayers env k datas st) fun x => ∃ y ∈ datas, x = hash y := by
  induction datas generalizing st k with
  | nil => exact (Adds.nil true).mono fun _ ⟨_, h, _⟩ => nomatch h
  | cons y rest ih =>
    refine ((newLayer_spec env henv k [y] st).andThen fun _ => ih (k + 1) _).mono ?_
    rintro x ⟨z, hz, rfl⟩
    rcases List.mem_cons.mp hz with rfl | hz
    · exact .inl (by rw [List.flatten_cons, List.flatten_nil, List.append_nil])
    · exact .inr ⟨z, hz, rfl⟩

/-! ## writing a manifest / a part record (both variants) -/

theorem writeAtomic_prefix_scratch (k : Nat) (c : Content) :
    AllScratch [Effect.mk (.temp k), .put (.temp k) c, .chmod (.temp k)] :=
  allScratch_cons rfl (allScratch_cons rfl (allScratch_cons rfl allScratch_nil))

theorem writeAtomic_writesIn {A : Path → Prop} {k : Nat} {p : Path} (hT : A (.temp k)) (hp : A p) (c : Content) :
    WritesIn A (writeAtomic k p c) := by
  simp [writeAtomic, writesIn_cons, writesIn_nil, writes, hT, hp]

theorem writePart_scratch (env : Env) (k : Nat) (d : Digest) (j : Nat) (r : PartRec) :
    AllScratch (writePart env k (.part d j) r) := by
  unfold writePart; split
  · exact allScratch_cons rfl (allScratch_cons rfl (allScratch_cons rfl (allScratch_cons rfl allScratch_nil)))
  · exact allScratch_cons rfl (allScratch_cons rfl allScratch_nil)

theorem writePart_writesIn {A : Path → Prop} (env : Env) (k : Nat) {R : Path} (r : PartRec)
    (hT : ∀ k, A (.temp k)) (hR : A R) : WritesIn A (writePart env k R r) := by
  unfold writePart; split
  · exact writeAtomic_writesIn (hT k) hR _
  · simp [writesIn_cons, writesIn_nil, writes, hR]

theorem writeAtomic_seqOK (k : Nat) (n : Name) (c : Content) (st : Store)
    (h : ∀ m, c = .man m → ∀ l ∈ m.all, (get st (.blob l.digest)).isSome) :
    SeqOK hash st (writeAtomic k (.man n) c) := by
  have hpre := writeAtomic_prefix_scratch k c
  show SeqOK hash st ([Effect.mk (.temp k), .put (.temp k) c, .chmod (.temp k)] ++ [.mv (.temp k) (.man n)])
  refine seqOK_append.mpr ⟨seqOK_scratch hpre, ⟨rfl, Or.inr (Or.inr ⟨n, rfl, fun m hm l hl => ?_⟩)⟩, trivial⟩
  have hT : get (run [Effect.mk (.temp k), .put (.temp k) c, .chmod (.temp k)] st) (.temp k) = some c :=
    get_apply_put _ _ _
  rw [hT] at hm
  rw [get_run_scratch hpre rfl]
  exact h m (Option.some.inj hm) l hl

/-! ## pull -/

/-- content of a file after a run of sequential pwrites -/
def overlayAll (old : Bytes) (off : Nat) : List Bytes → Bytes
  | [] => old
  | x :: rest => overlayAll (overlay old off x) (off + x.length) rest

theorem run_pwrites (P : Path) (off : Nat) (pieces : List Bytes) (st : Store) (old : Bytes)
    (h : get st P = some (.raw old)) :
    get (run (pwrites P off pieces) st) P = some (.raw (overlayAll old off pieces)) := by
  induction pieces generalizing st old off with
  | nil => simpa [pwrites, run, overlayAll] using h
  | cons x rest ih =>
    simp only [pwrites, run, overlayAll]
    exact ih _ _ _ (by simp [apply, h, get_set])

theorem overlay_eq (old : Bytes) {off : Nat} (x : Bytes) (h : off ≤ old.length) :
    overlay old off x = old.take off ++ x ++ old.drop (off + x.length) := by
  unfold overlay
  rw [Nat.sub_eq_zero_of_le h, List.replicate_zero, List.append_nil]

theorem overlayAll_eq (old : Bytes) (off : Nat) (pieces : List Bytes) (h : off ≤ old.length) :
    overlayAll old off pieces =
      old.take off ++ pieces.flatten ++ old.drop (off + pieces.flatten.length) := by
  induction pieces generalizing old off with
  | nil => simp [overlayAll]
  | cons x rest ih =>
    have hl : (old.take off ++ x).length = off + x.length := by
      rw [List.length_append, List.length_take_of_le h]
    have hle : off + x.length ≤ (overlay old off x).length := by
      rw [overlay_eq old x h, List.length_append, hl]; exact Nat.le_add_right _ _
    rw [overlayAll, ih _ _ hle, overlay_eq old x h, List.take_left' hl, ← List.drop_drop, List.drop_left' hl,
      List.drop_drop, List.flatten_cons, List.length_append, List.append_assoc, List.append_assoc,
      List.append_assoc, Nat.add_assoc, List.append_assoc]

theorem length_resize (bs : Bytes) (n : Nat) : (resize bs n).length = n := by
  unfold resize
  rw [List.length_append, List.length_take, List.length_replicate]
  rcases Nat.le_total n bs.length with h | h
  · rw [Nat.min_eq_left h, Nat.sub_eq_zero_of_le h]; rfl
  · rw [Nat.min_eq_right h]; exact Nat.add_sub_cancel' h

theorem fetch_fills (env : Env) (hchunk : ∀ bs, (env.chunk bs).flatten = bs) {s : Store} {P : Path}
    {f data : Bytes} {c : Nat} (hP : get s P = some (.raw f)) (hfl : f.length = data.length)
    (hc : c ≤ data.length) (hpre : f.take c = data.take c) :
    get (run (pwrites P c (env.chunk (data.drop c))) s) P = some (.raw data) := by
  have hbl : (data.drop c).length = data.length - c := List.length_drop
  rw [run_pwrites _ _ _ _ _ hP, overlayAll_eq _ _ _ (by omega), hchunk, hpre, hbl]
  have : c + (data.length - c) = f.length := by omega
  rw [this, List.drop_length, List.append_nil, List.take_append_drop]

theorem resume_body {data : Bytes} {r : PartRec} (hoff : r.off = 0) (hsize : r.size = data.length) :
    (data.drop (r.off + r.completed)).take (r.size - r.completed) = data.drop r.completed := by
  rw [hoff, Nat.zero_add]
  apply List.take_of_length_le
  rw [List.length_drop, hsize]; exact Nat.le_refl _

/-- the `-partial` file as the code sees it right after `open(O_CREAT)`: empty if absent -/
def pfileBytes (st : Store) (d : Digest) : Option Bytes :=
  match get st (.pfile d) with
  | none => some []
  | some (.raw bs) => some bs
  | some _ => none

/-- The debris an earlier pull of `d` may have left is consistent with what the honest registry
serves: the part record (if readable) describes `data`, and the bytes it declares complete are in
place. An unreadable record, no record, or no `-partial` file are all fine. -/
def PartOK (st : Store) (d : Digest) (data : Bytes) : Prop :=
  ∃ bs, pfileBytes st d = some bs ∧
    match get st (.part d 0) with
    | some (.prec r) => r.off = 0 ∧ r.size = data.length ∧ r.completed ≤ r.size ∧
        (resize bs r.size).take r.completed = data.take r.completed
    | _ => True

/-- no `-partial` file and no part record anywhere: the state of blobs/ after any start-up that pruned -/
def NoPullDebris (st : Store) : Prop :=
  ∀ d, get st (.pfile d) = none ∧ ∀ k, get st (.part d k) = none

theorem NoPullDebris.partOK (h : NoPullDebris st) (d : Digest) (data : Bytes) : PartOK st d data := by
  refine ⟨[], ?_, ?_⟩
  · simp [pfileBytes, (h d).1]
  · simp [(h d).2 0]

theorem noDebris_prune (st : Store) : NoPullDebris (prune st) := by
  intro d
  refine ⟨?_, fun k => ?_⟩ <;> rw [get_prune] <;> simp [keepAtPrune]

/-- no part record is torn (fixed variant) -/
def RecsWhole (st : Store) : Prop :=
  ∀ d c, get st (.part d 0) = some c → ∃ r, c = .prec r

theorem NoPullDebris.recsWhole (h : NoPullDebris st) : RecsWhole st := by
  intro d c hg; rw [(h d).2 0] at hg; cases hg

theorem PartOK.transfer {st st' : Store} {d : Digest} {data : Bytes} (h : PartOK st d data)
    (h1 : get st' (.pfile d) = get st (.pfile d)) (h2 : get st' (.part d 0) = get st (.part d 0)) :
    PartOK st' d data := by
  unfold PartOK pfileBytes at *
  rw [h1, h2]; exact h

theorem pwrites_scratch (d : Digest) (off : Nat) (pieces : List Bytes) :
    AllScratch (pwrites (.pfile d) off pieces) := by
  induction pieces generalizing off with
  | nil => exact allScratch_nil
  | cons x rest ih => exact allScratch_cons rfl (ih _)

theorem pwrites_writes (P : Path) (off : Nat) (pieces : List Bytes) :
    ∀ e ∈ pwrites P off pieces, writes e = [P] := by
  induction pieces generalizing off with
  | nil => simp [pwrites]
  | cons x rest ih => exact List.forall_mem_cons.mpr ⟨rfl, ih _⟩

theorem pwrites_writesIn {A : Path → Prop} {P : Path} (h : A P) (off : Nat) (pieces : List Bytes) :
    WritesIn A (pwrites P off pieces) := fun e he _ hq => by
  rw [pwrites_writes P off pieces e he] at hq
  exact List.mem_singleton.mp hq ▸ h

/-- paths a download of `d` may write -/
def DlFoot (d : Digest) (q : Path) : Prop :=
  q = .pfile d ∨ q = .part d 0 ∨ q = .blob d ∨ ∃ k, q = .temp k

theorem get_touch_ftr (st : Store) (d : Digest) (bs : Bytes) (n : Nat) (h : pfileBytes st d = some bs) :
    get (run [Effect.touch (.pfile d), .ftr (.pfile d) n] st) (.pfile d) = some (.raw (resize bs n)) := by
  unfold pfileBytes at h
  cases hg : get st (.pfile d) with
  | none =>
    simp only [hg, Option.some.injEq] at h; subst h
    simp [run, apply, hg, get_set]
  | some c =>
    cases c with
    | raw b =>
      simp only [hg, Option.some.injEq] at h; subst h
      simp [run, apply, hg, get_set]
    | _ => simp [hg] at h

theorem allScratch_touch_ftr (d : Digest) (n : Nat) : AllScratch [Effect.touch (.pfile d), .ftr (.pfile d) n] :=
  allScratch_cons rfl (allScratch_cons rfl allScratch_nil)

theorem allScratch_rm (d : Digest) : AllScratch [Effect.rm (.part d 0)] := allScratch_cons rfl allScratch_nil

theorem pfile_not_written_by_rec (env : Env) (k : Nat) (d : Digest) (r : PartRec) (st : Store) :
    get (run (writePart env k (.part d 0) r) st) (.pfile d) = get st (.pfile d) :=
  get_run_of_writesIn (A := (· ≠ .pfile d)) (writePart_writesIn env k r (by simp) (by simp)) (fun h => h rfl)

theorem download_spec (env : Env) (henv : env.hash = hash)
    (hchunk : ∀ bs, (env.chunk bs).flatten = bs) (k : Nat) (d : Digest) (data : Bytes) (hd : hash data = d)
    (st : Store) (hpart : PartOK st d data) (habs : get st (.blob d) = none) :
    Adds hash st (download env k d data st) (· = d) := by
  subst henv
  obtain ⟨bs, hbs, hrec⟩ := hpart
  -- every successful branch is `S ++ [rename]`, S scratch effects that leave `data` in the -partial file
  have core : ∀ {S : List Effect}, AllScratch S → get (run S st) (.pfile d) = some (.raw data) →
      Adds env.hash st ⟨S ++ [.mv (.pfile d) (.blob d)], true⟩ (· = d) :=
    fun hS hP => install_spec rfl hd habs hS allScratch_nil hP
  have hrm : ∀ s, get (run [Effect.rm (.part d 0)] s) (.pfile d) = get s (.pfile d) :=
    fun s => get_apply_of_not_written (e := .rm (.part d 0)) (not_mem_one (fun h => nomatch h))
  unfold download
  dsimp only
  cases hR : get st (.part d 0) with
  | none =>
    dsimp only
    by_cases hz : data.length = 0
    · simp only [hz, ↓reduceIte]
      refine core (allScratch_touch_ftr d 0) ?_
      rw [get_touch_ftr st d bs 0 hbs, List.eq_nil_of_length_eq_zero hz]; simp [resize]
    · simp only [hz, ↓reduceIte]
      refine core ?_ ?_
      · simp only [allScratch_append_iff, writePart_scratch, allScratch_touch_ftr, pwrites_scratch, allScratch_rm,
          and_self]
      · have h0 : get (run (writePart env k (.part d 0) ⟨0, 0, data.length, 0⟩ ++
            [Effect.touch (.pfile d), .ftr (.pfile d) data.length]) st) (.pfile d)
            = some (.raw (resize bs data.length)) := by
          rw [run_append]
          apply get_touch_ftr
          unfold pfileBytes at hbs ⊢
          rw [pfile_not_written_by_rec]; exact hbs
        rw [run_append, hrm, run_append, pfile_not_written_by_rec, run_append]
        exact fetch_fills env hchunk h0 (length_resize _ _) (Nat.zero_le _) rfl
  | some c =>
    cases c with
    | prec r =>
      simp only [hR] at hrec ⊢
      obtain ⟨hoff, hsize, hle, hpre⟩ := hrec
      have h0 : get (run [Effect.touch (.pfile d), .ftr (.pfile d) r.size] st) (.pfile d)
          = some (.raw (resize bs r.size)) := get_touch_ftr st d bs r.size hbs
      by_cases hc : r.completed = r.size
      · simp only [hc, ↓reduceIte, List.append_nil]
        refine core ?_ ?_
        · simp only [allScratch_append_iff, allScratch_touch_ftr, allScratch_rm, and_self]
        rw [run_append, hrm, h0]
        have h1 : (resize bs r.size).take r.size = resize bs r.size :=
          List.take_of_length_le (Nat.le_of_eq (length_resize _ _))
        have h2 : data.take r.size = data := List.take_of_length_le (Nat.le_of_eq hsize.symm)
        rw [hc, h1, h2] at hpre
        rw [hpre]
      · simp only [hc, ↓reduceIte]
        rw [resume_body hoff hsize]
        refine core ?_ ?_
        · simp only [allScratch_append_iff, writePart_scratch, allScratch_touch_ftr, pwrites_scratch, allScratch_rm,
            and_self]
        · rw [run_append, hrm, run_append, run_append, pfile_not_written_by_rec, hoff, Nat.zero_add]
          exact fetch_fills env hchunk h0 ((length_resize _ _).trans hsize) (hsize ▸ hle) hpre
    | _ => exact ⟨trivial, Ext.refl st, (fun h => nomatch h)⟩

theorem download_writesIn (env : Env) (k : Nat) (d : Digest) (data : Bytes) (st : Store) :
    WritesIn (DlFoot d) (download env k d data st).effs := by
  have hP : DlFoot d (.pfile d) := .inl rfl
  have hR : DlFoot d (.part d 0) := .inr (.inl rfl)
  have hB : DlFoot d (.blob d) := .inr (.inr (.inl rfl))
  have hW := fun k r => writePart_writesIn (A := DlFoot d) env k r (fun k => .inr (.inr (.inr ⟨k, rfl⟩))) hR
  have one : ∀ {e : Effect} {p : Path}, writes e = [p] → DlFoot d p → WritesIn (DlFoot d) [e] :=
    fun hw hp => writesIn_cons.mpr ⟨hw ▸ List.forall_mem_singleton.mpr hp, writesIn_nil⟩
  have hTF : ∀ n, WritesIn (DlFoot d) [.touch (.pfile d), .ftr (.pfile d) n] :=
    fun n => writesIn_append (one rfl hP) (one rfl hP)
  have hMV : WritesIn (DlFoot d) [.mv (.pfile d) (.blob d)] :=
    writesIn_cons.mpr ⟨List.forall_mem_cons.mpr ⟨hP, List.forall_mem_singleton.mpr hB⟩, writesIn_nil⟩
  unfold download
  dsimp only
  split
  · refine writesIn_append (writesIn_append (writesIn_append (hTF _) ?_) (one rfl hR)) hMV
    split
    · exact writesIn_nil
    · exact writesIn_append (pwrites_writesIn hP _ _) (hW _ _)
  · exact writesIn_nil
  · split
    · exact writesIn_append (hTF 0) hMV
    · exact writesIn_append (writesIn_append (writesIn_append (writesIn_append (writesIn_append (hW _ _) (hTF _))
        (pwrites_writesIn hP _ _)) (hW _ _)) (one rfl hR)) hMV

theorem dlFoot_other {d d' : Digest} (h : d' ≠ d) : ¬ DlFoot d (.pfile d') ∧ ¬ DlFoot d (.part d' 0) := by
  constructor <;> intro hf <;> rcases hf with hf | hf | hf | ⟨k, hf⟩ <;> cases hf <;> exact h rfl

/-- a download fails only on a torn part record; a completed one has removed the record of its digest -/
theorem download_whole (env : Env) (k : Nat) (d : Digest) (data : Bytes) (st : Store) (h : RecsWhole st) :
    (download env k d data st).ok = true ∧ RecsWhole (run (download env k d data st).effs st) := by
  have tail : ∀ S, get (run ((S ++ [Effect.rm (.part d 0)]) ++ [.mv (.pfile d) (.blob d)]) st) (.part d 0) = none :=
    fun S => by
      rw [run_append, get_run_of_not_written (es := [.mv (.pfile d) (.blob d)]) (by simp [writes]), run_append]
      exact get_apply_rm _ _
  have key : (download env k d data st).ok = true ∧
      get (run (download env k d data st).effs st) (.part d 0) = none := by
    unfold download
    dsimp only
    cases hR : get st (.part d 0) with
    | none =>
      dsimp only
      split
      · exact ⟨rfl, (get_run_of_not_written (by simp [writes])).trans hR⟩
      · exact ⟨rfl, tail _⟩
    | some c =>
      obtain ⟨r, rfl⟩ := h d c hR
      exact ⟨rfl, tail _⟩
  refine ⟨key.1, fun d' c hg => ?_⟩
  by_cases hd : d' = d
  · rw [hd, key.2] at hg; cases hg
  · rw [get_run_of_writesIn (download_writesIn env k d data st) (dlFoot_other hd).2] at hg; exact h d' c hg

/-- what the pull loop needs of the debris: consistent for every digest it will actually download -/
def PullPre (reg : Digest → Option Bytes) (st : Store) (ds : List Digest) : Prop :=
  ∀ d ∈ ds, present st (.blob d) = false → ∀ data, reg d = some data → PartOK st d data

theorem verify1_of_blob (env : Env) (d : Digest) (st : Store) (bs : Bytes)
    (hg : get st (.blob d) = some (.raw bs)) (hh : env.hash bs = d) : verify1 env d st = ⟨[], true⟩ := by
  unfold verify1; simp [hg, hh]

/-- Honest registry: the verification right after a download never fires — the pair
"download; verifyBlob" is the download. -/
theorem dl_verify_eq {hash : Bytes → Digest} (env : Env) (henv : env.hash = hash)
    (hchunk : ∀ bs, (env.chunk bs).flatten = bs) (k : Nat) (d : Digest) (data : Bytes) (hd : hash data = d)
    (st : Store) (hinv : Inv hash st) (hpart : PartOK st d data) (habs : get st (.blob d) = none) :
    (download env k d data st).andThen st (verify1 env d) = download env k d data st := by
  have hs := download_spec env henv hchunk k d data hd st hpart habs
  have hinv1 := hs.inv hinv
  generalize download env k d data st = a at hs hinv1 ⊢
  unfold Res.andThen
  cases hok : a.ok with
  | false => simp
  | true =>
    obtain ⟨bs, hg, hh⟩ := hinv1.blob_of_present (hs.present hok d rfl)
    rw [verify1_of_blob env d _ bs hg (henv ▸ hh)]
    cases a
    cases hok
    simp only [↓reduceIte, List.append_nil]

theorem pullPre_after (env : Env) (reg : Digest → Option Bytes) (k : Nat) (d : Digest) (data : Bytes)
    {ds : List Digest} (hpre : PullPre reg st (d :: ds))
    (hd : Adds hash st (download env k d data st) (· = d)) (hok : (download env k d data st).ok = true) :
    PullPre reg (run (download env k d data st).effs st) ds := by
  intro d' hd' hp' data' hr'
  have hne : d' ≠ d := by
    rintro rfl
    have := hd.present hok _ rfl
    simp [hp'] at this
  have hp0 : present st (.blob d') = false := by
    cases h : present st (.blob d') with
    | false => rfl
    | true => have := hd.ext.present_mono h; simp [hp'] at this
  apply (hpre d' (List.mem_cons_of_mem _ hd') hp0 data' hr').transfer
  · exact get_run_of_writesIn (download_writesIn env k d data st) (dlFoot_other hne).1
  · exact get_run_of_writesIn (download_writesIn env k d data st) (dlFoot_other hne).2

theorem downloads_spec (env : Env) (henv : env.hash = hash)
    (hchunk : ∀ bs, (env.chunk bs).flatten = bs) (reg : Digest → Option Bytes)
    (hreg : ∀ d data, reg d = some data → hash data = d) (k : Nat) (ds : List Digest) (st : Store)
    (hinv : Inv hash st) (hpre : PullPre reg st ds) :
    Adds hash st (downloads env reg k ds st) (· ∈ ds) ∧
    (RecsWhole st → (∀ d ∈ ds, (reg d).isSome = true) → (downloads env reg k ds st).ok = true) := by
  induction ds generalizing st k with
  | nil => exact ⟨(Adds.nil true).mono (fun _ h => nomatch h), fun _ _ => rfl⟩
  | cons d rest ih =>
    unfold downloads
    by_cases hp : present st (.blob d) = true
    · simp only [hp, ↓reduceIte]
      have := ih (k + 2) st hinv (fun d' hd' => hpre d' (List.mem_cons_of_mem _ hd'))
      refine ⟨⟨this.1.seqOK, this.1.ext, fun hok x hx => ?_⟩, fun hw htot =>
        this.2 hw fun d' h => htot d' (List.mem_cons_of_mem _ h)⟩
      rcases List.mem_cons.mp hx with rfl | hx
      · exact this.1.ext.present_mono hp
      · exact this.1.present hok x hx
    · simp only [hp, Bool.false_eq_true, ↓reduceIte]
      cases hr : reg d with
      | none =>
        exact ⟨⟨trivial, Ext.refl st, (fun h => nomatch h)⟩,
          fun _ htot => by have := htot d (by simp); simp [hr] at this⟩
      | some data =>
        have hpart := hpre d (by simp) (by simpa using hp) data hr
        have hd := download_spec env henv hchunk k d data (hreg d data hr) st hpart (present_false_get hp)
        dsimp only
        rw [dl_verify_eq env henv hchunk k d data (hreg d data hr) st hinv hpart (present_false_get hp)]
        have hi := fun hok => ih (k + 2) _ (hd.inv hinv) (pullPre_after env reg k d data hpre hd hok)
        refine ⟨(hd.andThen fun hok => (hi hok).1).mono fun x hx => (List.mem_cons.mp hx).imp_left id, ?_⟩
        intro hw htot
        obtain ⟨hok1, hw'⟩ := download_whole env k d data st hw
        rw [andThen_ok, hok1]
        exact (hi hok1).2 hw' fun d' h => htot d' (List.mem_cons_of_mem _ h)

/-! ## which paths the blocks that add blobs write -/

/-- blobs, temp files, the manifests of the names in `N`, and download debris if `deb` -/
def Foot (N : List Name) (deb : Bool) : Path → Prop
  | .man n => n ∈ N
  | .pfile _ | .part _ _ => deb = true
  | .other _ => False
  | _ => True

section foot
variable {N : List Name} {deb : Bool}

theorem newLayer_foot (env : Env) (k : Nat) (pieces : List Bytes) (st : Store) :
    WritesIn (Foot N deb) (newLayer env k pieces st).effs := by
  have hT : ∀ q ∈ [Path.temp k], Foot N deb q := List.forall_mem_singleton.mpr trivial
  have hpre : WritesIn (Foot N deb) ([.mk (.temp k)] ++ pieces.map (Effect.app (.temp k))) :=
    writesIn_append (writesIn_cons.mpr ⟨hT, writesIn_nil⟩) (writesIn_apps trivial pieces)
  unfold newLayer
  dsimp only
  split
  · exact writesIn_append hpre (writesIn_cons.mpr ⟨hT, writesIn_nil⟩)
  · exact writesIn_append hpre (writesIn_cons.mpr ⟨List.forall_mem_cons.mpr ⟨trivial, List.forall_mem_singleton.mpr trivial⟩,
      writesIn_cons.mpr ⟨(fun _ h => nomatch h), writesIn_nil⟩⟩)

theorem upload_foot (env : Env) (k : Nat) (d : Digest) (body : Bytes) (st : Store) :
    WritesIn (Foot N deb) (upload env k d body st).effs := by
  unfold upload; split
  · exact writesIn_nil
  · exact newLayer_foot env k _ st

theorem uploads_foot (env : Env) (k : Nat) (ups : List (Digest × Bytes)) (st : Store) :
    WritesIn (Foot N deb) (uploads env k ups st).effs := by
  induction ups generalizing st k with
  | nil => exact writesIn_nil
  | cons u rest ih => exact writesIn_andThen (upload_foot env k u.1 u.2 st) (fun st' => ih _ st')

theorem newLayers_foot (env : Env) (k : Nat) (datas : List Bytes) (st : Store) :
    WritesIn (Foot N deb) (newLayers env k datas st).effs := by
  induction datas generalizing st k with
  | nil => exact writesIn_nil
  | cons x rest ih => exact writesIn_andThen (newLayer_foot env k _ st) (fun st' => ih _ st')

theorem verify1_foot (env : Env) (d : Digest) (st : Store) : WritesIn (Foot N deb) (verify1 env d st).effs := by
  unfold verify1
  split
  · split
    · exact writesIn_nil
    · exact writesIn_rm_blob d trivial
  · exact writesIn_nil

end foot

theorem DlFoot.foot {d : Digest} {N : List Name} {q : Path} (h : DlFoot d q) : Foot N true q := by
  rcases h with rfl | rfl | rfl | ⟨_, rfl⟩ <;> trivial

theorem downloads_foot {N : List Name} (env : Env) (reg : Digest → Option Bytes) (k : Nat) (ds : List Digest)
    (st : Store) : WritesIn (Foot N true) (downloads env reg k ds st).effs := by
  induction ds generalizing st k with
  | nil => exact writesIn_nil
  | cons d rest ih =>
    unfold downloads
    split
    · exact ih _ st
    · split
      · exact writesIn_nil
      · rename_i data _
        exact writesIn_andThen (writesIn_andThen (writesIn_mono (download_writesIn env k d data st) fun _ => DlFoot.foot)
          (fun st' => verify1_foot env d st')) (fun st' => ih _ st')

end OllamaVerif.StoreCrash
