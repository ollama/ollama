/-
  Group 8 of the scheduler invariants (while the pending loop waits for an unload event, one is queued or on its way:
  `Unl`), good variant;
  `InvAll8` adds it to `InvAll` (`reach_invAll8`).
-/
import OllamaVerif.Proofs.Sched6
namespace OllamaVerif.Sched
variable {s s' : State} {a : Act}

def CPC.isVram : CPC → Bool
  | .vram _ => true
  | _ => false

/-- an unload event is queued, or the runner `r` the pending loop told to expire is on its way to
    being unloaded (an expired event in flight, or still held with a zero session) -/
def Unl (s : State) (r : Rid) : Prop :=
  0 < s.unloadedQ ∨ s.cpc.isVram = true ∨ r ∈ s.expiredQ ∨ s.cpc = .exp r ∨ r ∈ s.requeuers ∨ r ∈ s.timerCbs ∨
  (0 < (s.runners r).refCount ∧ (s.runners r).session = 0)

structure Inv8 (s : State) : Prop where
  u : ∀ q r, s.ppc = .waitUnload q r → Unl s r


attribute [sched_upd] Unl

theorem Inv8.step (i4 : Inv4 s) (i7 : Inv7 s) (h : Inv8 s) (hs : Step Variant.good s a s') : Inv8 s' := by
  cases hs with
  | pExpire =>
    -- the runner told to expire is queued for unload, or still referenced with its session zeroed (`c1`: not wrapped)
    exact { h with
      u := by have := h.u; have := i4.c1; have := i7.bX; sched_simp; grind }
  | cFin q r heq hl =>
    obtain ⟨hh, x1, x3, hpos⟩ := fin_holds i4 heq
    have hw := i4.c1 r x1  -- not wrapped: the count is still positive exactly if holders or the loader remain
    rw [cFin_eq hh hpos]
    simp only []
    repeat' split
    all_goals exact { h with
      u := by have := h.u; sched_simp; grind [CPC.isVram] }
  | cTakeFinished_found | cTakeExpired | cExp_busy | cExp_unload | cVram =>
    exact { h with
      u := by have := h.u; sched_simp; grind [CPC.isVram] }
  | pingDone | pTake_eval | pDrainUnloaded | pLookup_reuse | pLookup_evict | pLookup_load | pLookup_fail | pLookup_delay
  | pNeedsReload_reload | pNeedsReload_parks | pNeedsReload_ok | pUse_recheck | pUse_grant | pWaitUnload | pLoad_fail | pLoad_ok =>
    -- the pending loop is not, or no longer, waiting for an unload
    exact { h with
      u := by have := h.u; grind }
  | loadDone_ok | loadDone_fail | timerFire | setPing | setPingBlock | setPingOpen | requeue | timerCb | unloadRun
  | unloadBind_expire =>
    exact { h with
      u := by have := h.u; sched_simp; grind }
  | _ => exact { h with }


structure InvAll8 (s : State) : Prop where
  all : InvAll s
  i8 : Inv8 s

/-- the invariant is inductive for the repaired variant (groups 3, 4 and 6–8 are proved for it only) -/
theorem InvAll8.step (h : InvAll8 s) (hs : Step Variant.good s a s') : InvAll8 s' :=
  ⟨h.all.step hs, h.i8.step h.all.base.i4 h.all.i7 hs⟩

theorem invAll8_init (maxRunners maxQueue defaultSession : Nat) : InvAll8 (init maxRunners maxQueue defaultSession) := by
  refine ⟨invAll_init _ _ _, ⟨?_⟩⟩
  intro q r h; simp [init] at h

theorem reach_invAll8 {mr mq ds : Nat} {s : State} (h : Reach Variant.good (init mr mq ds) s) : InvAll8 s :=
  Reach.induction (invAll8_init mr mq ds) (fun _ ih hs => ih.step hs) h

end OllamaVerif.Sched
