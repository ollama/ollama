/-
  Writer half of the GGUF model (C05): padding, alignment, what Go's types and the data sources guarantee of the
  writer's input, placement (`encode_places`).
-/
import OllamaVerif.Model.Gguf

namespace OllamaVerif.Gguf
open OllamaVerif

theorem padding_aligned (off align : Nat) (h : 0 < align) : (off + padding off align) % align = 0 := by
  unfold padding
  have h1 : off % align < align := Nat.mod_lt _ h
  by_cases h0 : off % align = 0
  · simp [h0, Nat.mod_self]
  · have h2 : (align - off % align) % align = align - off % align := Nat.mod_eq_of_lt (by omega)
    rw [h2]
    have h3 : off = align * (off / align) + off % align := (Nat.div_add_mod off align).symm
    have h4 : off + (align - off % align) = align * (off / align + 1) := by
      rw [Nat.mul_add]; omega
    rw [h4]; exact Nat.mul_mod_right _ _

theorem padding_of_aligned (off align : Nat) (h : off % align = 0) : padding off align = 0 := by
  unfold padding; rw [h]; simp

theorem padding_lt (off align : Nat) (h : 0 < align) : padding off align < align := by
  unfold padding; exact Nat.mod_lt _ h

theorem padding_add_base (base off align : Nat) (hb : base % align = 0) :
    padding (base + off) align = padding off align := by
  unfold padding
  have : (base + off) % align = off % align := by
    rw [Nat.add_mod, hb, Nat.zero_add, Nat.mod_mod]
  rw [this]

theorem alignmentIn_ok {kvs : List (Bytes × KVal)} {a : Nat} (h : alignmentIn kvs = .ok a) :
    (kvs.find? (fun p => p.1 = keyAlignment) = none ∧ a = 32) ∨
    ∃ k n, kvs.find? (fun p => p.1 = keyAlignment) = some (k, .u32 n) ∧ a = n % 4294967296 := by
  unfold alignmentIn at h
  cases hf : kvs.find? (fun p => p.1 = keyAlignment) with
  | none =>
    rw [hf] at h
    injection h with h
    exact .inl ⟨rfl, h.symm⟩
  | some kv =>
    obtain ⟨k, v⟩ := kv
    rw [hf] at h
    cases v <;> simp only [Option.map_some, reduceCtorEq] at h
    injection h with h
    exact .inr ⟨k, _, rfl, h.symm⟩

theorem writerAlignment_lenient (kvs : List (Bytes × KVal)) (a : Nat) (h : alignmentIn kvs = .ok a) :
    writerAlignment false kvs = .ok a := by
  unfold writerAlignment
  rcases alignmentIn_ok h with ⟨hf, rfl⟩ | ⟨k, n, hf, rfl⟩
  · rw [hf]; rfl
  · rw [hf]; rfl

theorem writerAlignment_strict (kvs : List (Bytes × KVal)) (a : Nat) (h : writerAlignment true kvs = .ok a) :
    alignmentIn kvs = .ok a ∧ 0 < a := by
  unfold writerAlignment at h
  unfold alignmentIn
  cases hf : ((kvs.find? (fun p => p.1 = keyAlignment)).map (·.2) : Option KVal) with
  | none => rw [hf] at h; simp only [] at h ⊢; injection h with h; subst h; exact ⟨rfl, by decide⟩
  | some v =>
    rw [hf] at h
    cases v
    case u32 n =>
      simp only [true_and] at h ⊢
      split at h
      · cases h
      · injection h with h; subst h; exact ⟨rfl, by omega⟩
    all_goals simp at h

/-- what the repaired writer writes is what the lenient one writes, and its input meets the guard -/
theorem encode_strict (kvs : List (Bytes × KVal)) (ts : List TIn) (file : Bytes)
    (h : encode false kvs ts true = .ok file) :
    ∃ align, alignmentIn kvs = .ok align ∧ 0 < align ∧ encode false kvs ts false = .ok file := by
  unfold encode at h
  cases ha : writerAlignment true kvs with
  | error e => rw [ha] at h; simp [bind, Except.bind] at h
  | ok a =>
    obtain ⟨h1, h2⟩ := writerAlignment_strict kvs a ha
    refine ⟨a, h1, h2, ?_⟩
    rw [ha] at h
    unfold encode
    rw [writerAlignment_lenient kvs a h1]
    exact h

theorem encode_eq (kvs : List (Bytes × KVal)) (ts : List TIn) (file : Bytes) (align : Nat)
    (halign : alignmentIn kvs = .ok align) (henc : encode false kvs ts = .ok file) :
    file = encHead false align kvs ts ++ encData align ts (encHead false align kvs ts).length := by
  unfold encode at henc
  simp only [writerAlignment_lenient _ _ halign, bind, Except.bind] at henc
  split at henc
  · cases henc
  · injection henc with h
    exact h.symm

def slice (bs : Bytes) (off len : Nat) : Bytes := (bs.drop off).take len

/-- writer-side well-formedness: the tensor's WriterTo writes exactly `Size()` bytes -/
def WfT (t : TIn) : Prop := t.data.length = tensorSize t.kind t.shape

/-! what the Go types guarantee of the writer's input -/

/-- 32-bit payloads are 32-bit values (Go: `uint32`, `float32`, `[]int32`, `[]uint32`, `[]float32`) -/
def TypedVal : KVal → Prop
  | .u32 n => n < 4294967296
  | .f32 b => b < 4294967296
  | .bool _ => True
  | .str _ => True
  | .ai32 l => ∀ x ∈ l, x < 4294967296
  | .au32 l => ∀ x ∈ l, x < 4294967296
  | .af32 l => ∀ x ∈ l, x < 4294967296
  | .astr _ => True

/-- `Tensor.Shape []uint64`, `Tensor.Kind uint32`, `uint32(len(t.Shape))` does not wrap -/
structure TypedTensor (t : TIn) : Prop where
  dims : t.shape.length < 4294967296
  dim : ∀ x ∈ t.shape, x < two64
  kind : t.kind < 4294967296

theorem offsets_length (p : Bool) (align : Nat) (ts : List TIn) (s : Nat) :
    (offsets p align ts s).length = ts.length := by
  induction ts generalizing s with
  | nil => simp [offsets]
  | cons t ts ih => simp [offsets, ih]

theorem offsets_ge (align : Nat) (ts : List TIn) (s : Nat) :
    ∀ o ∈ offsets false align ts s, s ≤ o := by
  induction ts generalizing s with
  | nil => simp [offsets]
  | cons t ts ih =>
    intro o ho
    simp only [offsets, List.mem_cons] at ho
    rcases ho with rfl | ho
    · omega
    · have := ih _ o ho
      simp at this
      omega

theorem offsets_aligned (align : Nat) (ha : 0 < align) (ts : List TIn) (s : Nat) :
    ∀ o ∈ offsets false align ts s, o % align = 0 := by
  induction ts generalizing s with
  | nil => simp [offsets]
  | cons t ts ih =>
    intro o ho
    simp only [offsets, List.mem_cons] at ho
    rcases ho with rfl | ho
    · exact padding_aligned s align ha
    · exact ih _ o ho

theorem slice_append_right (a b : Bytes) (off len : Nat) (h : a.length ≤ off) :
    slice (a ++ b) off len = slice b (off - a.length) len := by
  unfold slice
  rw [List.drop_append, List.drop_eq_nil_of_le h, List.nil_append]

theorem slice_prefix (a b : Bytes) : slice (a ++ b) 0 a.length = a := by
  unfold slice; simp

/-- Core placement lemma: with absolute write position `P` and logical accumulator `s` related
    by `P + padding P = base + (s + padding s)` (true at the start of the data section and
    re-established after every tensor), each declared offset and each tensor's bytes (at `base + declared offset`)
    lie inside the written data section. -/
theorem encData_slice (align base : Nat) (hb : base % align = 0) (ts : List TIn) (P s : Nat)
    (hP : P + padding P align = base + (s + padding s align)) (hwf : ∀ t ∈ ts, WfT t) :
    (∀ o ∈ offsets false align ts s, base + o ≤ P + (encData align ts P).length) ∧
    ∀ t o, (t, o) ∈ ts.zip (offsets false align ts s) →
      P ≤ base + o ∧ base + o + t.data.length ≤ P + (encData align ts P).length ∧
      slice (encData align ts P) (base + o - P) t.data.length = t.data := by
  induction ts generalizing P s with
  | nil => exact ⟨fun o ho => (nomatch ho), fun t o h => (nomatch h)⟩
  | cons t0 ts ih =>
    have hsz : t0.data.length = tensorSize t0.kind t0.shape := hwf t0 (by simp)
    have hinv : P + padding P align + t0.data.length + padding (P + padding P align + t0.data.length) align
        = base + ((s + padding s align + tensorSize t0.kind t0.shape)
            + padding (s + padding s align + tensorSize t0.kind t0.shape) align) := by
      rw [show P + padding P align + t0.data.length = base + (s + padding s align + tensorSize t0.kind t0.shape) by omega,
        padding_add_base base _ align hb]
      omega
    obtain ⟨ih1, ih2⟩ := ih (P + padding P align + t0.data.length) _ hinv (fun t ht => hwf t (by simp [ht]))
    simp only [offsets, encData, List.zip_cons_cons, List.mem_cons, List.length_append, List.length_replicate,
      Bool.false_eq_true, ↓reduceIte]
    refine ⟨?_, ?_⟩
    · intro o ho
      rcases ho with rfl | ho
      · omega
      · have := ih1 o ho
        omega
    · intro t o hmem
      rcases hmem with heq | hmem
      · obtain ⟨rfl, rfl⟩ := Prod.mk.inj heq
        refine ⟨by omega, by omega, ?_⟩
        rw [show base + (s + padding s align) - P = padding P align by omega, List.append_assoc,
          slice_append_right _ _ _ _ (by simp)]
        simp only [List.length_replicate, Nat.sub_self]
        exact slice_prefix _ _
      · have hge := offsets_ge align ts _ o (List.of_mem_zip hmem).2
        obtain ⟨hle, hin, hsl⟩ := ih2 t o hmem
        refine ⟨by omega, by omega, ?_⟩
        rw [slice_append_right _ _ _ _ (by simp only [List.length_append, List.length_replicate]; omega)]
        simp only [List.length_append, List.length_replicate]
        rw [show base + o - P - (padding P align + t0.data.length) = base + o - (P + padding P align + t0.data.length) by omega]
        exact hsl

/-- **Where the writer puts things** (`base`: the start of the data section, as the decoder computes it) -/
theorem encode_places (kvs : List (Bytes × KVal)) (ts : List TIn) (file : Bytes) (align : Nat)
    (halign : alignmentIn kvs = .ok align) (hpos : 0 < align) (henc : encode false kvs ts = .ok file)
    (hwf : ∀ t ∈ ts, WfT t) :
    let head := encHead false align kvs ts
    let base := head.length + padding head.length align
    file = head ++ encData align ts head.length ∧ base % align = 0 ∧
    (∀ o ∈ offsets false align ts 0, base + o ≤ file.length) ∧
    ∀ t o, (t, o) ∈ ts.zip (offsets false align ts 0) →
      o % align = 0 ∧ base + o + t.data.length ≤ file.length ∧ slice file (base + o) t.data.length = t.data := by
  intro head base
  have hbase : base % align = 0 := padding_aligned _ _ hpos
  have hfile : file = head ++ encData align ts head.length := encode_eq kvs ts file align halign henc
  have hinv : head.length + padding head.length align = base + (0 + padding 0 align) := by
    simp [base, padding]
  obtain ⟨h1, h2⟩ := encData_slice align base hbase ts head.length 0 hinv hwf
  have hflen : file.length = head.length + (encData align ts head.length).length := by
    rw [hfile, List.length_append]
  refine ⟨hfile, hbase, fun o ho => by have := h1 o ho; omega, fun t o hm => ?_⟩
  obtain ⟨hle, hin, hsl⟩ := h2 t o hm
  refine ⟨offsets_aligned align hpos ts 0 o (List.of_mem_zip hm).2, by omega, ?_⟩
  rw [hfile, slice_append_right _ _ _ _ (by omega)]
  exact hsl

end OllamaVerif.Gguf
