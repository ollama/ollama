/-
  C05 — the round trip at full strength: the only size bound is the length of the written file (`decode_written`,
  Proofs/GgufRoundTrip.lean).  What remains as a hypothesis is what Go's types say about the input (`TypedVal`,
  `TypedTensor`), the data source contract (`WfT`: the tensor's `WriterTo` writes `Size()` bytes), distinct keys (a Go
  map), no written `general.parameter_count` (the decoder overwrites that key) and a non-zero alignment.

  The conclusion is one record (`RoundTrip`) with every clause of the property statement: keys and values
  (as the list in key order AND as look-ups), tensor names / kinds / reversed shapes, for every tensor the
  written bytes at its decoded location, that location a multiple of the alignment, end offset = file length
  (`write_decode_full`); `write_decode_caller_list` has the tensor clauses for the tensor list the caller passed, which
  the writer sorts before writing.
-/
import OllamaVerif.Proofs.GgufRoundTrip

namespace OllamaVerif.Gguf
open OllamaVerif

theorem infosOf_eq_zipWith : ∀ (ts : List TIn) (os : List Nat), infosOf ts os = List.zipWith infoOf ts os
  | [], _ => by simp [infosOf]
  | _ :: _, [] => by simp [infosOf]
  | t :: ts, o :: os => by simp [infosOf, infosOf_eq_zipWith ts os]

theorem kvLookup_written (maxA : Int) (l : List (Bytes × KVal)) (hnd : (l.map (·.1)).Nodup)
    (tail : List (Bytes × Val)) (kv : Bytes × KVal) (hkv : kv ∈ l) :
    kvLookup (l.map (fun kv => (kv.1, toVal maxA kv.2)) ++ tail) kv.1 = some (toVal maxA kv.2) := by
  induction l with
  | nil => cases hkv
  | cons x xs ih =>
    simp only [List.map_cons, List.nodup_cons, List.mem_map, not_exists, not_and] at hnd
    unfold kvLookup
    simp only [List.map_cons, List.cons_append, List.find?_cons]
    rcases List.mem_cons.mp hkv with rfl | h
    · simp
    · have hne : ¬ (x.1 = kv.1) := fun he => hnd.1 kv h he.symm
      simp only [hne, decide_false]
      exact ih hnd.2 h

theorem kvLookup_only_written (maxA : Int) (l : List (Bytes × KVal)) (k : Bytes) (extra : Val) (key : Bytes)
    (h : (kvLookup (l.map (fun kv => (kv.1, toVal maxA kv.2)) ++ [(k, extra)]) key).isSome) :
    key = k ∨ key ∈ l.map (·.1) := by
  unfold kvLookup at h
  rw [Option.isSome_map, List.find?_isSome] at h
  obtain ⟨p, hp, hk⟩ := h
  rw [decide_eq_true_eq] at hk
  rcases List.mem_append.mp hp with hp | hp
  · obtain ⟨kv, hkv, rfl⟩ := List.mem_map.mp hp
    exact .inr (List.mem_map.mpr ⟨kv, hkv, hk⟩)
  · rw [List.mem_singleton.mp hp] at hk
    exact .inl hk.symm

/-- everything the property says about decoding `file`, the file written from `kvs` and `ts` -/
structure RoundTrip (kvs : List (Bytes × KVal)) (ts : List TIn) (file : Bytes) (align : Nat) (maxA : Int)
    (d : Decoded) : Prop where
  version : d.version = 3
  endOffset : d.endOffset = file.length
  /-- the decoded key/values: the written ones in key order, then the parameter count -/
  kvs_eq : ∃ params, d.kvs = (sortKVs kvs).map (fun kv => (kv.1, toVal maxA kv.2)) ++ [(keyParamCount, .scalar 10 params)]
  /-- as a map: every written key is found with its written value … -/
  lookup : ∀ kv ∈ kvs, kvLookup d.kvs kv.1 = some (toVal maxA kv.2)
  /-- … and nothing else is found but the parameter count -/
  only : ∀ key, (kvLookup d.kvs key).isSome → key = keyParamCount ∨ key ∈ kvs.map (·.1)
  count : d.tensors.length = ts.length
  base_aligned : d.tensorOffset % align = 0
  /-- tensor by tensor: name, kind, reversed shape; the location is aligned, lies in the file and holds the written bytes -/
  tensor : ∀ (i : Nat) (hi : i < ts.length) (hd : i < d.tensors.length),
    d.tensors[i].name = ts[i].name ∧ d.tensors[i].kind = ts[i].kind ∧ d.tensors[i].shape = ts[i].shape.reverse ∧
    d.tensors[i].offset % align = 0 ∧
    d.tensorOffset + d.tensors[i].offset + ts[i].data.length ≤ file.length ∧
    slice file (d.tensorOffset + d.tensors[i].offset) ts[i].data.length = ts[i].data

theorem write_decode_full (kvs : List (Bytes × KVal)) (ts : List TIn) (file : Bytes) (align : Nat) (maxArraySize : Int)
    (hnodup : (kvs.map (·.1)).Nodup)
    (hnoparam : ∀ kv ∈ kvs, kv.1 ≠ keyParamCount)
    (htv : ∀ kv ∈ kvs, TypedVal kv.2) (htt : ∀ t ∈ ts, TypedTensor t ∧ WfT t)
    (halign : alignmentIn kvs = .ok align) (hpos : 0 < align)
    (henc : encode false kvs ts = .ok file) (hlen : file.length < two63) :
    ∃ d, decode file maxArraySize none = .ok d ∧
      RoundTrip kvs ts file align (if maxArraySize = 0 then 1024 else maxArraySize) d := by
  obtain ⟨_, hbase, _, hplace⟩ := encode_places kvs ts file align halign hpos henc (fun t ht => (htt t ht).2)
  have hperm := sortKVs_perm kvs
  have holen : (offsets false align ts 0).length = ts.length := offsets_length _ _ _ _
  have hdec := decode_written kvs ts file [] align 0 maxArraySize Guards.tree hnodup hnoparam htv htt halign hpos (Nat.zero_mod _)
    henc (by omega)
  simp only [List.append_nil, Nat.zero_add] at hdec
  refine ⟨_, hdec, ?_⟩
  have hsnd : ((sortKVs kvs).map (·.1)).Nodup := (hperm.map (·.1)).nodup_iff.mpr hnodup
  refine ⟨rfl, rfl, ⟨_, rfl⟩, ?_, ?_, ?_, hbase, ?_⟩
  · intro kv hkv
    exact kvLookup_written _ (sortKVs kvs) hsnd _ kv (hperm.mem_iff.mpr hkv)
  · intro key hkey
    rcases kvLookup_only_written _ (sortKVs kvs) _ _ key hkey with h | h
    · exact Or.inl h
    · exact Or.inr (((hperm.map (·.1)).mem_iff).mp h)
  · rw [infosOf_eq_zipWith, List.length_zipWith, holen, Nat.min_self]
  · intro i hi hd
    simp only [] at hd ⊢
    simp only [infosOf_eq_zipWith, List.getElem_zipWith]
    have hio : i < (offsets false align ts 0).length := by omega
    have hmem : (ts[i], (offsets false align ts 0)[i]) ∈ ts.zip (offsets false align ts 0) := by
      have : (ts.zip (offsets false align ts 0))[i]'(by simp [List.length_zip]; omega)
          = (ts[i], (offsets false align ts 0)[i]) := by simp
      rw [← this]; exact List.getElem_mem _
    exact ⟨rfl, rfl, rfl, hplace _ _ hmem⟩

/-- **The property for the list the CALLER passed.**  `WriteGGUF` sorts the tensor list before writing it (stable sort by
    block index, `slices.SortStableFunc`); the model takes the written order `written` as a parameter.  Whatever order the
    sort produced — any permutation of the caller's list `ts` (the driver checks on every run that every tensor's data
    source is asked for its bytes exactly once, i.e. that the written order IS a permutation) — every tensor of the caller's
    list is found in the decoded file with its name, kind, dimension-reversed shape, at an aligned location inside the file
    that holds exactly its bytes; and nothing else is found (same count). -/
theorem write_decode_caller_list (kvs : List (Bytes × KVal)) (ts written : List TIn) (file : Bytes) (align : Nat)
    (maxArraySize : Int) (hperm : written.Perm ts)
    (hnodup : (kvs.map (·.1)).Nodup)
    (hnoparam : ∀ kv ∈ kvs, kv.1 ≠ keyParamCount)
    (htv : ∀ kv ∈ kvs, TypedVal kv.2) (htt : ∀ t ∈ ts, TypedTensor t ∧ WfT t)
    (halign : alignmentIn kvs = .ok align) (hpos : 0 < align)
    (henc : encode false kvs written = .ok file) (hlen : file.length < two63) :
    ∃ d, decode file maxArraySize none = .ok d ∧ d.endOffset = file.length ∧ d.tensors.length = ts.length ∧
      ∀ t ∈ ts, ∃ (i : Nat) (hi : i < d.tensors.length),
        d.tensors[i].name = t.name ∧ d.tensors[i].kind = t.kind ∧ d.tensors[i].shape = t.shape.reverse ∧
        d.tensors[i].offset % align = 0 ∧
        d.tensorOffset + d.tensors[i].offset + t.data.length ≤ file.length ∧
        slice file (d.tensorOffset + d.tensors[i].offset) t.data.length = t.data := by
  obtain ⟨d, hd, hr⟩ := write_decode_full kvs written file align maxArraySize hnodup hnoparam htv
    (fun t ht => htt t (hperm.mem_iff.mp ht)) halign hpos henc hlen
  refine ⟨d, hd, hr.endOffset, by rw [hr.count, hperm.length_eq], ?_⟩
  intro t ht
  have htw : t ∈ written := hperm.mem_iff.mpr ht
  obtain ⟨i, hi, hti⟩ := List.getElem_of_mem htw
  have hdi : i < d.tensors.length := by rw [hr.count]; exact hi
  have := hr.tensor i hi hdi
  rw [hti] at this
  exact ⟨i, hdi, this⟩

end OllamaVerif.Gguf
