/-
  The argued half of C04 (model store).  Everything that touches blob files is a `BlobStep` ("blobs change only
  where no readable manifest points, and what appears is correctly named"; `Grow` where blobs are only added);
  `createModel` is followed step by step with the working-list invariant `WL`; every handler is then `Good` for the
  names it may write (invariants kept, every other model untouched), by composing `BlobStep`s with manifest writes.
  Separately: `getExistingName` and letter case, and the event stream of a create.  Core Lean only.
-/
import OllamaVerif.Model.Store
namespace OllamaVerif.Store

theorem aget_filter_key {α β} [DecidableEq α] (l : List (α × β)) (f : α → Bool) (k : α) :
    aget (l.filter (fun p => f p.1)) k = if f k then aget l k else none := by
  induction l with
  | nil => simp [aget]
  | cons p t ih =>
    obtain ⟨a, b⟩ := p
    by_cases hf : f a = true
    · simp only [List.filter, hf, aget]
      by_cases h : a = k
      · subst h; simp [hf]
      · simp [h, ih]
    · simp only [List.filter, hf, aget]
      by_cases h : a = k
      · subst h; simp [hf, ih]
      · simp [h, ih]

theorem aget_adel {α β} [DecidableEq α] (l : List (α × β)) (k k' : α) :
    aget (adel l k) k' = if k' = k then none else aget l k' := by
  unfold adel
  rw [aget_filter_key l (fun a => decide (a ≠ k))]
  by_cases h : k' = k <;> simp [h]

theorem aget_aset {α β} [DecidableEq α] (l : List (α × β)) (k k' : α) (v : β) :
    aget (aset l k v) k' = if k' = k then some v else aget l k' := by
  unfold aset
  simp only [aget]
  by_cases h : k = k'
  · subst h; simp
  · have : ¬ k' = k := fun e => h e.symm
    simp [h, this, aget_adel]

theorem aget_isSome_iff_mem {α β} [DecidableEq α] (l : List (α × β)) (k : α) :
    (aget l k).isSome = true ↔ k ∈ l.map (·.1) := by
  induction l with
  | nil => simp [aget]
  | cons p t ih =>
    obtain ⟨a, b⟩ := p
    by_cases h : a = k
    · subst h; simp [aget]
    · have : ¬ k = a := fun e => h e.symm
      simp [aget, h, ih, this]

theorem mem_of_mem_aset {α β} [DecidableEq α] {l : List (α × β)} {k : α} {v : β} {p : α × β}
    (h : p ∈ aset l k v) : p = (k, v) ∨ p ∈ l :=
  (List.mem_cons.mp h).imp id (fun h => (List.mem_filter.mp h).1)

theorem readableAt_eq_some {st : Store} {n : Name} {m : Manifest} :
    st.readableAt n = some m ↔ st.man n = some (.readable m) := by
  unfold Store.readableAt
  split
  · rename_i m' h; rw [h]; simp
  · rename_i h
    constructor
    · intro h'; cases h'
    · intro h'; exact absurd h' (h m)

theorem mem_names_iff {st : Store} {n : Name} : n ∈ st.names ↔ (st.man n).isSome = true := by
  unfold Store.names Store.man
  exact (aget_isSome_iff_mem st.mans n).symm

theorem anyLayer_iff {st : Store} {p : Layer → Bool} :
    st.names.any (fun n => match st.readableAt n with
      | some m => m.all.any p
      | none => false) = true ↔ ∃ n m, st.man n = some (.readable m) ∧ ∃ l ∈ m.all, p l = true := by
  rw [List.any_eq_true]
  constructor
  · rintro ⟨n, _, h⟩
    split at h
    · rename_i m hm
      exact ⟨n, m, readableAt_eq_some.mp hm, List.any_eq_true.mp h⟩
    · cases h
  · rintro ⟨n, m, hm, h⟩
    refine ⟨n, mem_names_iff.mpr (by rw [hm]; rfl), ?_⟩
    rw [readableAt_eq_some.mpr hm]
    exact List.any_eq_true.mpr h

theorem referenced_iff {st : Store} {d : Digest} :
    st.referenced d = true ↔ ∃ n m, st.man n = some (.readable m) ∧ ∃ l ∈ m.all, l.digest = d :=
  anyLayer_iff.trans (by simp only [beq_iff_eq])

theorem keyReferenced_iff {st : Store} {k : String} :
    st.keyReferenced k = true ↔ ∃ n m, st.man n = some (.readable m) ∧ ∃ l ∈ m.all, l.digest.key = k :=
  anyLayer_iff.trans (by simp only [beq_iff_eq])

def Complete (env : Env) (st : Store) (l : Layer) : Prop :=
  ∃ c, st.blob l.digest.key = some c ∧ c.length = l.size ∧ env.hash c = l.digest.hex

def NameInv (env : Env) (st : Store) : Prop :=
  ∀ n m, st.man n = some (.readable m) → ∀ l ∈ m.all, Complete env st l

def BlobsOk (env : Env) (st : Store) : Prop := ∀ k c, st.blob k = some c → env.hash c = k

def CanonM (m : Manifest) : Prop := ∀ l ∈ m.all, l.digest.form = .colon

def Canonical (st : Store) : Prop := ∀ n m, st.man n = some (.readable m) → CanonM m

theorem Canonical.referenced_of_key {st : Store} (hc : Canonical st) {d : Digest} (hd : d.form = .colon)
    (h : st.keyReferenced d.key = true) : st.referenced d = true := by
  obtain ⟨n, m, hm, l, hl, he⟩ := keyReferenced_iff.mp h
  refine referenced_iff.mpr ⟨n, m, hm, l, hl, ?_⟩
  have hf := hc n m hm l hl
  cases hld : l.digest with
  | mk f x =>
    cases d with
    | mk f' x' =>
      simp only [Digest.key, hld] at he
      simp only [hld] at hf
      simp_all

theorem keyReferenced_of_referenced {st : Store} {d : Digest} (h : st.referenced d = true) :
    st.keyReferenced d.key = true := by
  obtain ⟨n, m, hm, l, hl, he⟩ := referenced_iff.mp h
  exact keyReferenced_iff.mpr ⟨n, m, hm, l, hl, by rw [he]⟩

/-- digest `d` may meet `Layer.Remove`: any digest once F16a is repaired, only `sha256:` before -/
def GD (env : Env) (d : Digest) : Prop := env.v.fixAlias = true ∨ d.form = .colon

/-- the guard of the invariant theorems: none once F16a is repaired, `Canonical st` on the pinned tree -/
def Guard (env : Env) (st : Store) : Prop := env.v.fixAlias = true ∨ Canonical st

theorem Guard.gd {env : Env} {st : Store} (hg : Guard env st) {n : Name} {m : Manifest}
    (hm : st.man n = some (.readable m)) {l : Layer} (hl : l ∈ m.all) : GD env l.digest := by
  rcases hg with h | h
  · exact Or.inl h
  · exact Or.inr (h n m hm l hl)

theorem key_of_inUse {env : Env} {st : Store} {d : Digest} (h : env.inUse st d = true) :
    st.keyReferenced d.key = true := by
  unfold Env.inUse at h
  split at h
  · exact h
  · exact keyReferenced_of_referenced h

theorem inUse_of_referenced {env : Env} {st : Store} {d : Digest} (h : st.referenced d = true) :
    env.inUse st d = true := by
  unfold Env.inUse
  split
  · exact keyReferenced_of_referenced h
  · exact h

theorem inUse_of_key {env : Env} {st : Store} (hg : Guard env st) {d : Digest} (hd : GD env d)
    (h : st.keyReferenced d.key = true) : env.inUse st d = true := by
  unfold Env.inUse
  split
  · exact h
  · rename_i hf
    rcases hg with hg | hg
    · exact absurd hg hf
    · rcases hd with hd | hd
      · exact absurd hd hf
      · exact hg.referenced_of_key hd h

theorem recorded_key (env : Env) (d : Digest) : (env.recorded d).key = d.key := by
  unfold Env.recorded; split <;> rfl

theorem recorded_hex (env : Env) (d : Digest) : (env.recorded d).hex = d.hex := by
  unfold Env.recorded; split <;> rfl

theorem GD_recorded {env : Env} {d : Digest} (h : GD env d) : GD env (env.recorded d) := by
  unfold Env.recorded
  split
  · rename_i hf; exact Or.inl hf
  · exact h

theorem inUse_recorded {env : Env} {st : Store} {d : Digest} (h : st.referenced d = true) :
    env.inUse st (env.recorded d) = true := by
  unfold Env.inUse Env.recorded
  split
  · exact (keyReferenced_of_referenced h : st.keyReferenced d.key = true)
  · exact h

theorem complete_recorded {env : Env} {st : Store} (hb : BlobsOk env st) {d : Digest} {c : Bytes}
    (hc : st.blob d.key = some c) (μ : Media) : Complete env st ⟨μ, env.recorded d, c.length⟩ :=
  ⟨c, by simpa [recorded_key] using hc, rfl, by rw [recorded_hex]; exact hb _ _ hc⟩

/-- blobs change only where no readable manifest points (or where nothing was), and what appears is
    correctly named; manifests do not change -/
structure BlobStep (env : Env) (st st' : Store) : Prop where
  mans : st'.mans = st.mans
  /-- other files of the blobs directory: none appears except under a `plain` (non-blob, non-legacy) name -/
  junk : ∀ p ∈ st'.junk, p ∈ st.junk ∨ ∃ s, p.1 = .plain s
  blobs : ∀ k, st'.blob k = st.blob k ∨
    ((st.keyReferenced k = false ∨ st.blob k = none) ∧ ∀ c, st'.blob k = some c → env.hash c = k)

/-- a file named `sha256:<64 hex>` (legacy spelling, renamed by `fixBlobs` at startup) holds that content -/
def LegacyOk (env : Env) (st : Store) : Prop :=
  ∀ p ∈ st.junk, ∀ r, p.1 = .colon r → isHex64 r = true → env.hash p.2 = r

theorem BlobStep.of_eq (env : Env) {st st' : Store} (hm : st'.mans = st.mans) (hj : st'.junk = st.junk)
    (hb : st'.blobs = st.blobs) : BlobStep env st st' :=
  ⟨hm, fun _ h => Or.inl (hj ▸ h), fun k => Or.inl (by unfold Store.blob; rw [hb])⟩

theorem BlobStep.refl (env : Env) (st : Store) : BlobStep env st st := .of_eq env rfl rfl rfl

theorem keyReferenced_congr {st st' : Store} (h : st'.mans = st.mans) (k : String) :
    st'.keyReferenced k = st.keyReferenced k := by
  unfold Store.keyReferenced Store.names Store.readableAt Store.man
  rw [h]

theorem referenced_congr {st st' : Store} (h : st'.mans = st.mans) (d : Digest) :
    st'.referenced d = st.referenced d := by
  unfold Store.referenced Store.names Store.readableAt Store.man
  rw [h]

theorem man_congr {st st' : Store} (h : st'.mans = st.mans) (n : Name) : st'.man n = st.man n := by
  unfold Store.man; rw [h]

theorem BlobStep.trans {env : Env} {a b c : Store} (h1 : BlobStep env a b) (h2 : BlobStep env b c) :
    BlobStep env a c := by
  refine ⟨h2.mans.trans h1.mans, fun p hp => (h2.junk p hp).elim (fun h => h1.junk p h) Or.inr, fun k => ?_⟩
  rcases h1.blobs k with e1 | ⟨p1, v1⟩
  · rcases h2.blobs k with e2 | ⟨p2, v2⟩
    · exact Or.inl (e2.trans e1)
    · refine Or.inr ⟨?_, v2⟩
      rw [keyReferenced_congr h1.mans, e1] at p2
      exact p2
  · rcases h2.blobs k with e2 | ⟨_, v2⟩
    · exact Or.inr ⟨p1, fun c hc => v1 c (e2 ▸ hc)⟩
    · exact Or.inr ⟨p1, v2⟩

theorem BlobStep.legacy {env : Env} {st st' : Store} (h : BlobStep env st st') (hl : LegacyOk env st) :
    LegacyOk env st' := by
  intro p hp r hr hx
  rcases h.junk p hp with h' | ⟨s, h'⟩
  · exact hl p h' r hr hx
  · rw [h'] at hr; cases hr

theorem BlobStep.blobsOk {env : Env} {st st' : Store} (h : BlobStep env st st') (hb : BlobsOk env st) :
    BlobsOk env st' := by
  intro k c hc
  rcases h.blobs k with e | ⟨_, v⟩
  · exact hb k c (e ▸ hc)
  · exact v c hc

/-- the frame half: a blob some readable manifest points to is untouched -/
theorem BlobStep.keep {env : Env} {st st' : Store} (h : BlobStep env st st') {n : Name} {m : Manifest}
    (hm : st.man n = some (.readable m)) {l : Layer} (hl : l ∈ m.all) {c : Bytes}
    (hc : st.blob l.digest.key = some c) : st'.blob l.digest.key = some c := by
  rcases h.blobs l.digest.key with e | ⟨p, _⟩
  · rw [e, hc]
  · rcases p with p | p
    · have : st.keyReferenced l.digest.key = true := keyReferenced_iff.mpr ⟨n, m, hm, l, hl, rfl⟩
      rw [this] at p; cases p
    · rw [hc] at p; cases p

theorem BlobStep.nameInv {env : Env} {st st' : Store} (h : BlobStep env st st') (hi : NameInv env st) :
    NameInv env st' := by
  intro n m hm l hl
  rw [man_congr h.mans] at hm
  obtain ⟨c, hc, hlen, hh⟩ := hi n m hm l hl
  exact ⟨c, h.keep hm hl hc, hlen, hh⟩

theorem BlobStep.canonical {env : Env} {st st' : Store} (h : BlobStep env st st') (hc : Canonical st) :
    Canonical st' := by
  intro n m hm
  rw [man_congr h.mans] at hm
  exact hc n m hm

theorem BlobStep.guard {env : Env} {st st' : Store} (h : BlobStep env st st') (hg : Guard env st) :
    Guard env st' := hg.imp id h.canonical

theorem inUse_congr {env : Env} {st st' : Store} (h : st'.mans = st.mans) (d : Digest) :
    env.inUse st' d = env.inUse st d := by
  unfold Env.inUse; rw [keyReferenced_congr h, referenced_congr h]

/-- the stores differ only by blob files that were not there before and are correctly named: what `NewLayer` and
    the download loop of a pull do.  Needs no guard, unlike a `BlobStep` that removes. -/
structure Grow (env : Env) (st st' : Store) : Prop where
  mans : st'.mans = st.mans
  junk : st'.junk = st.junk
  blobs : ∀ k, st'.blob k = st.blob k ∨ (st.blob k = none ∧ ∀ c, st'.blob k = some c → env.hash c = k)

theorem Grow.refl (env : Env) (st : Store) : Grow env st st := ⟨rfl, rfl, fun _ => Or.inl rfl⟩

theorem Grow.keep {env : Env} {st st' : Store} (h : Grow env st st') {k : String} {c : Bytes}
    (hc : st.blob k = some c) : st'.blob k = some c := by
  rcases h.blobs k with e | ⟨hn, _⟩
  · rw [e, hc]
  · rw [hc] at hn; cases hn

theorem Grow.trans {env : Env} {a b c : Store} (h1 : Grow env a b) (h2 : Grow env b c) : Grow env a c := by
  refine ⟨h2.mans.trans h1.mans, h2.junk.trans h1.junk, fun k => ?_⟩
  rcases h1.blobs k with e1 | ⟨n1, v1⟩
  · rw [← e1]; exact h2.blobs k
  · rcases h2.blobs k with e2 | ⟨_, v2⟩
    · exact Or.inr ⟨n1, fun c hc => v1 c (e2 ▸ hc)⟩
    · exact Or.inr ⟨n1, v2⟩

theorem Grow.step {env : Env} {st st' : Store} (h : Grow env st st') : BlobStep env st st' :=
  ⟨h.mans, fun _ hp => Or.inl (h.junk ▸ hp), fun k => (h.blobs k).imp id (fun ⟨n, v⟩ => ⟨Or.inr n, v⟩)⟩

theorem Complete.mono_blob {env : Env} {st st' : Store} {l : Layer} (h : Complete env st l)
    (hb : ∀ c, st.blob l.digest.key = some c → st'.blob l.digest.key = some c) : Complete env st' l := by
  obtain ⟨c, hc, h1, h2⟩ := h
  exact ⟨c, hb c hc, h1, h2⟩

theorem Grow.complete {env : Env} {st st' : Store} (h : Grow env st st') {l : Layer} (hl : Complete env st l) :
    Complete env st' l :=
  hl.mono_blob (fun _ hc => h.keep hc)

/-! ## primitive effects -/
theorem blob_adel (st : Store) (k k' : String) :
    (Store.blob { st with blobs := adel st.blobs k } k') = if k' = k then none else st.blob k' := by
  unfold Store.blob; exact aget_adel _ _ _

theorem layerRemove_step (env : Env) {st : Store} (hg : Guard env st) {d : Digest} (hd : GD env d) :
    BlobStep env st (layerRemove env st d) := by
  unfold layerRemove
  by_cases hr : env.inUse st d = true
  · simp only [hr, if_true]; exact BlobStep.refl env st
  · have hr' : env.inUse st d = false := by cases h : env.inUse st d <;> simp_all
    simp only [hr', Bool.false_eq_true, if_false]
    refine ⟨rfl, fun _ h => Or.inl h, fun k => ?_⟩
    rw [blob_adel]
    by_cases hk : k = d.key
    · subst hk
      refine Or.inr ⟨Or.inl ?_, by simp⟩
      cases hkr : st.keyReferenced d.key with
      | false => rfl
      | true => exact absurd (inUse_of_key hg hd hkr) hr
    · simp [hk]

theorem removeLayers_step (env : Env) (ls : List Layer) {st : Store} (hg : Guard env st)
    (hd : ∀ l ∈ ls, GD env l.digest) :
    BlobStep env st (removeLayers env st ls) := by
  induction ls generalizing st with
  | nil => exact BlobStep.refl env st
  | cons l t ih =>
    unfold removeLayers
    simp only [List.foldl]
    have h1 := layerRemove_step env hg (hd l (by simp))
    have := ih (st := layerRemove env st l.digest) (h1.guard hg) (fun x hx => hd x (by simp [hx]))
    exact h1.trans this

theorem layerRemove_noop {env : Env} {st : Store} {d : Digest} (h : env.inUse st d = true) :
    layerRemove env st d = st := by
  unfold layerRemove; simp [h]

theorem removeLayers_noop {env : Env} (ls : List Layer) {st : Store} (h : ∀ l ∈ ls, env.inUse st l.digest = true) :
    removeLayers env st ls = st := by
  induction ls with
  | nil => rfl
  | cons l t ih =>
    unfold removeLayers
    simp only [List.foldl]
    rw [layerRemove_noop (h l (by simp))]
    exact ih (fun x hx => h x (by simp [hx]))

theorem blob_aset (st : Store) (k k' : String) (c : Bytes) :
    (Store.blob { st with blobs := aset st.blobs k c } k') = if k' = k then some c else st.blob k' := by
  unfold Store.blob; exact aget_aset _ _ _ _

theorem putBlob_blob (env : Env) (st : Store) (c : Bytes) (k : String) :
    (putBlob env st c).blob k = if k = env.hash c ∧ st.blob (env.hash c) = none then some c else st.blob k := by
  unfold putBlob
  split
  · rename_i x hx; simp [hx]
  · rename_i hx
    rw [blob_aset]
    by_cases hk : k = env.hash c
    · simp [hk, hx]
    · simp [hk]

theorem putBlob_mans (env : Env) (st : Store) (c : Bytes) : (putBlob env st c).mans = st.mans := by
  unfold putBlob; split <;> rfl

theorem putBlob_grow (env : Env) (st : Store) (c : Bytes) : Grow env st (putBlob env st c) := by
  refine ⟨putBlob_mans env st c, by unfold putBlob; split <;> rfl, fun k => ?_⟩
  rw [putBlob_blob]
  by_cases h : k = env.hash c ∧ st.blob (env.hash c) = none
  · obtain ⟨rfl, h2⟩ := h
    exact Or.inr ⟨h2, fun c' hc' => by simp only [h2, and_self, if_true] at hc'; cases hc'; rfl⟩
  · exact Or.inl (if_neg h)

theorem putBlob_present (env : Env) (st : Store) (c : Bytes) :
    (putBlob env st c).blob (env.hash c) = some ((st.blob (env.hash c)).getD c) := by
  rw [putBlob_blob]
  cases st.blob (env.hash c) <;> simp

theorem setManifest_man (st : Store) (n n' : Name) (f : MFile) :
    (setManifest st n f).man n' = if n' = n then some f else st.man n' := by
  unfold setManifest Store.man; exact aget_aset _ _ _ _

theorem delManifest_man (st : Store) (n n' : Name) :
    (delManifest st n).man n' = if n' = n then none else st.man n' := by
  unfold delManifest Store.man; exact aget_adel _ _ _

theorem setManifest_blob (st : Store) (n : Name) (f : MFile) (k : String) :
    (setManifest st n f).blob k = st.blob k := rfl

theorem delManifest_blob (st : Store) (n : Name) (k : String) : (delManifest st n).blob k = st.blob k := rfl

theorem setManifest_forall {st : Store} {P : Manifest → Prop} (h : ∀ n m, st.man n = some (.readable m) → P m)
    (n : Name) (f : MFile) (hf : ∀ m, f = .readable m → P m) :
    ∀ n' m, (setManifest st n f).man n' = some (.readable m) → P m := by
  intro n' m hm
  rw [setManifest_man] at hm
  split at hm
  · exact hf m (Option.some.inj hm)
  · exact h n' m hm

theorem delManifest_forall {st : Store} {P : Manifest → Prop} (h : ∀ n m, st.man n = some (.readable m) → P m)
    (n : Name) : ∀ n' m, (delManifest st n).man n' = some (.readable m) → P m := by
  intro n' m hm
  rw [delManifest_man] at hm
  split at hm
  · cases hm
  · exact h n' m hm

theorem Guard.setManifest {env : Env} {st : Store} (hg : Guard env st) (n : Name) (f : MFile)
    (hf : ∀ m, f = .readable m → ∀ l ∈ m.all, GD env l.digest) : Guard env (setManifest st n f) := by
  rcases hg with h | h
  · exact Or.inl h
  · by_cases hv : env.v.fixAlias = true
    · exact Or.inl hv
    · refine Or.inr (setManifest_forall h n f (fun m e l hl => ?_))
      rcases hf m e l hl with h' | h'
      · exact absurd h' hv
      · exact h'

theorem Guard.delManifest {env : Env} {st : Store} (hg : Guard env st) (n : Name) :
    Guard env (delManifest st n) := hg.imp id (fun h => delManifest_forall h n)

/-- `hash` has no collisions: a file found under a blob name holds the content that was to be stored there (`NewLayer`
    finding the file present — the SIZE clause of completeness —, `fixBlobs` renaming over a blob, an injected blob
    file, `show` of a listed model) -/
def HashInj (env : Env) : Prop := ∀ a b, env.hash a = env.hash b → a = b

theorem newLayer_complete {env : Env} (hinj : HashInj env) {st : Store} (hb : BlobsOk env st) (c : Bytes)
    (media : Media) : Complete env (putBlob env st c) ⟨media, ⟨.colon, env.hash c⟩, c.length⟩ := by
  refine ⟨c, (putBlob_present env st c).trans ?_, rfl, rfl⟩
  cases hx : st.blob (env.hash c) with
  | none => rfl
  | some x => rw [hinj _ _ (hb _ _ hx)]; rfl

theorem layerRemove_mans (env : Env) (st : Store) (d : Digest) : (layerRemove env st d).mans = st.mans := by
  unfold layerRemove; split <;> rfl

theorem removeLayers_mans (env : Env) (ls : List Layer) (st : Store) : (removeLayers env st ls).mans = st.mans := by
  induction ls generalizing st with
  | nil => rfl
  | cons l t ih =>
    unfold removeLayers
    simp only [List.foldl]
    exact (ih (layerRemove env st l.digest)).trans (layerRemove_mans env st l.digest)

theorem gcOld_mans (env : Env) (ls : List Layer) (st : Store) : (gcOld env st ls).mans = st.mans := by
  unfold gcOld
  split
  · rfl
  · exact removeLayers_mans env ls st

/-- `if !envconfig.NoPrune() && old != nil { old.RemoveLayers() }`, the common end of a create and of a pull:
    `st` is the store the request started from, `X` the store with the new manifest written -/
def gcAt (env : Env) (st : Store) (name : Name) (X : Store) : Store :=
  match st.readableAt name with
  | some mo => gcOld env X mo.all
  | none => X

theorem gcAt_mans (env : Env) (st : Store) (name : Name) (X : Store) : (gcAt env st name X).mans = X.mans := by
  unfold gcAt; split
  · exact gcOld_mans ..
  · rfl

theorem gcAt_step (env : Env) {st : Store} (hg : Guard env st) (name : Name) {X : Store} (hX : Guard env X) :
    BlobStep env X (gcAt env st name X) := by
  unfold gcAt gcOld; split
  · rename_i mo hold
    split
    · exact BlobStep.refl env X
    · exact removeLayers_step env mo.all hX (fun l hl => hg.gd (readableAt_eq_some.mp hold) hl)
  · exact BlobStep.refl env X

theorem layerRemove_blob_keep {env : Env} {st : Store} {d : Digest} {k : String}
    (h : env.inUse st d = true ∨ d.key ≠ k) : (layerRemove env st d).blob k = st.blob k := by
  unfold layerRemove
  split
  · rfl
  · rename_i hu
    rw [blob_adel]
    rcases h with h | h
    · exact absurd h hu
    · have : ¬ k = d.key := fun e => h e.symm
      simp [this]

theorem removeLayers_blob_keep {env : Env} (R : List Layer) {st : Store} {k : String}
    (h : ∀ a ∈ R, env.inUse st a.digest = true ∨ a.digest.key ≠ k) :
    (removeLayers env st R).blob k = st.blob k := by
  induction R generalizing st with
  | nil => rfl
  | cons a t ih =>
    unfold removeLayers
    simp only [List.foldl]
    have h1 := layerRemove_blob_keep (h a (by simp))
    have := ih (st := layerRemove env st a.digest) (fun x hx => by
      rw [inUse_congr (layerRemove_mans env st a.digest)]
      exact h x (by simp [hx]))
    unfold removeLayers at this
    rw [this, h1]

/-! ## createModel -/

theorem mem_removable {env : Env} {ls : List Layer} {μ : Media} {a : Layer} (h : a ∈ removable env ls μ) :
    a ∈ ls ∧ a.media = μ ∧
    (env.v.fixKeep = true → ∀ x ∈ ls, x.media ≠ μ → x.digest.key ≠ a.digest.key) := by
  unfold removable at h
  simp only [List.mem_filter, Bool.and_eq_true, decide_eq_true_eq, Bool.or_eq_true, Bool.not_eq_true'] at h
  obtain ⟨h1, h2, h3⟩ := h
  refine ⟨h1, h2, fun hk x hx hm hkey => ?_⟩
  rcases h3 with h3 | h3
  · rw [hk] at h3; cases h3
  · have : (ls.any fun x => decide (x.media ≠ μ) && x.digest.key == a.digest.key) = true := by
      rw [List.any_eq_true]
      exact ⟨x, hx, by simp [hm, hkey]⟩
    rw [this] at h3; cases h3

/-- working-list invariant of `createModel`.  `base0` is the list `createModel` started from and `μs` the
    media types whose layers may still be dropped.
    `safe`: a layer that may still be dropped is in use by a stored manifest, or no layer of another media type
    in the list is backed by the same blob — or N2 is repaired and `removable` itself takes care of it.
    `orig`: such a layer is one of `base0`, the list on which the request's guard `Apart` is stated. -/
structure WL (env : Env) (st : Store) (base0 ls : List Layer) (μs : Media → Prop) : Prop where
  complete : ∀ l ∈ ls, Complete env st l
  gd : ∀ l ∈ ls, GD env l.digest
  safe : ∀ a ∈ ls, μs a.media → env.v.fixKeep = true ∨ env.inUse st a.digest = true ∨
    ∀ x ∈ ls, x.media ≠ a.media → x.digest.key ≠ a.digest.key
  orig : ∀ a ∈ ls, μs a.media → a ∈ base0

/-- what has to be known about a content `c` that is about to be stored while layers of the media types
    `μs'` may still be dropped later -/
def Fresh (env : Env) (st : Store) (ls : List Layer) (μs' : Media → Prop) (c : Bytes) : Prop :=
  ∀ a ∈ ls, μs' a.media → env.v.fixKeep = true ∨ env.inUse st a.digest = true ∨ env.hash c ≠ a.digest.key

theorem replaceLayer_snd (env : Env) (st : Store) (ls : List Layer) (media : Media) (c : Bytes) :
    (replaceLayer env st ls media c).2 =
      ls.filter (fun l => l.media ≠ media) ++ [⟨media, ⟨.colon, env.hash c⟩, c.length⟩] := by
  unfold replaceLayer newLayer
  rfl

theorem replaceLayer_fst (env : Env) (st : Store) (ls : List Layer) (media : Media) (c : Bytes) :
    (replaceLayer env st ls media c).1 = putBlob env (removeLayers env st (removable env ls media)) c := by
  unfold replaceLayer newLayer
  rfl

theorem dropLayers_spec {env : Env} {st : Store} {base0 ls : List Layer} {μs : Media → Prop}
    (hg : Guard env st) (w : WL env st base0 ls μs) (media : Media) (hμ : μs media) :
    BlobStep env st (removeLayers env st (removable env ls media)) ∧
    ∀ x ∈ ls, x.media ≠ media → Complete env (removeLayers env st (removable env ls media)) x := by
  refine ⟨removeLayers_step env _ hg (fun l hl => w.gd l (mem_removable hl).1), ?_⟩
  intro x hx hm
  refine (w.complete x hx).mono_blob (fun c hc => ?_)
  rw [removeLayers_blob_keep]
  · exact hc
  · intro a ha
    obtain ⟨ha1, ha2, ha3⟩ := mem_removable ha
    rcases w.safe a ha1 (ha2 ▸ hμ) with hk | hu | hap
    · exact Or.inr (fun e => ha3 hk x hx hm e.symm)
    · exact Or.inl hu
    · exact Or.inr (fun e => hap x hx (ha2 ▸ hm) e.symm)

theorem WL.putNew {env : Env} (hinj : HashInj env) {st0 st : Store} {base0 ls ls' : List Layer}
    {μs μs' : Media → Prop} (hb : BlobsOk env st) (hm : st.mans = st0.mans) (w : WL env st0 base0 ls μs)
    (hsub : ∀ x, μs' x → μs x) (hls : ∀ x ∈ ls', x ∈ ls) (hcomp : ∀ x ∈ ls', Complete env st x)
    (media : Media) (hmed : ¬ μs' media) (c : Bytes) (hc : Fresh env st0 ls μs' c) :
    WL env (putBlob env st c) base0 (ls' ++ [⟨media, ⟨.colon, env.hash c⟩, c.length⟩]) μs' := by
  refine ⟨?_, ?_, ?_, ?_⟩
  · intro l hl
    rcases List.mem_append.mp hl with hl | hl
    · exact (putBlob_grow env st c).complete (hcomp l hl)
    · rw [List.mem_singleton.mp hl]; exact newLayer_complete hinj hb c media
  · intro l hl
    rcases List.mem_append.mp hl with hl | hl
    · exact w.gd l (hls l hl)
    · rw [List.mem_singleton.mp hl]; exact Or.inr rfl
  · intro a ha hma
    rcases List.mem_append.mp ha with ha | ha
    · rw [inUse_congr ((putBlob_mans env st c).trans hm)]
      rcases w.safe a (hls a ha) (hsub _ hma) with hk | hu | hap
      · exact Or.inl hk
      · exact Or.inr (Or.inl hu)
      · rcases hc a (hls a ha) hma with hk | hu | hne
        · exact Or.inl hk
        · exact Or.inr (Or.inl hu)
        · refine Or.inr (Or.inr (fun x hx hxm => ?_))
          rcases List.mem_append.mp hx with hx | hx
          · exact hap x (hls x hx) hxm
          · rw [List.mem_singleton.mp hx]; exact hne
    · rw [List.mem_singleton.mp ha] at hma; exact absurd hma hmed
  · intro a ha hma
    rcases List.mem_append.mp ha with ha | ha
    · exact w.orig a (hls a ha) (hsub _ hma)
    · rw [List.mem_singleton.mp ha] at hma; exact absurd hma hmed

theorem WL.weaken {env : Env} {st : Store} {base0 ls : List Layer} {μs μs' : Media → Prop}
    (w : WL env st base0 ls μs) (h : ∀ x, μs' x → μs x) : WL env st base0 ls μs' :=
  ⟨w.complete, w.gd, fun a ha hm => w.safe a ha (h _ hm), fun a ha hm => w.orig a ha (h _ hm)⟩

/-- the shapes of an override step of `createModel`; `C`: what is known of a stored content -/
inductive Override (env : Env) (st : Store) (ls : List Layer) (media : Media) (C : Bytes → Prop) :
    Store × Option (List Layer) → Prop
  | skip : Override env st ls media C (st, some ls)
  | put (c : Bytes) (hc : C c) :
      Override env st ls media C ((replaceLayer env st ls media c).1, some (replaceLayer env st ls media c).2)
  | drop : Override env st ls media C (removeLayers env st (removable env ls media), none)
  | fail : Override env st ls media C (st, none)

theorem Override.mans {env : Env} {st : Store} {ls : List Layer} {media : Media} {C : Bytes → Prop}
    {res : Store × Option (List Layer)} (h : Override env st ls media C res) : res.1.mans = st.mans := by
  cases h with
  | skip => rfl
  | put c _ => rw [replaceLayer_fst, putBlob_mans, removeLayers_mans]
  | drop => exact removeLayers_mans ..
  | fail => rfl

theorem Override.spec {env : Env} (hinj : HashInj env) {st : Store} {base0 ls : List Layer}
    {μs μs' : Media → Prop} (hb : BlobsOk env st) (hg : Guard env st) (w : WL env st base0 ls μs)
    {media : Media} (hμ : μs media) (hsub : ∀ x, μs' x → μs x ∧ x ≠ media) {C : Bytes → Prop}
    (hc : ∀ c, C c → Fresh env st ls μs' c) {res : Store × Option (List Layer)}
    (h : Override env st ls media C res) :
    BlobStep env st res.1 ∧ ∀ ls', res.2 = some ls' → WL env res.1 base0 ls' μs' := by
  cases h with
  | skip => exact ⟨BlobStep.refl env st, fun ls' e => by cases e; exact w.weaken (fun x h => (hsub x h).1)⟩
  | put c hcc =>
    obtain ⟨s1, k1⟩ := dropLayers_spec hg w media hμ
    simp only [replaceLayer_fst, replaceLayer_snd]
    refine ⟨s1.trans (putBlob_grow env _ c).step, fun ls' e => ?_⟩
    cases e
    exact w.putNew hinj (s1.blobsOk hb) s1.mans (fun x h => (hsub x h).1) (fun x hx => (List.mem_filter.mp hx).1)
      (fun x hx => k1 x (List.mem_filter.mp hx).1 (by simpa using (List.mem_filter.mp hx).2))
      media (fun h => (hsub _ h).2 rfl) c (hc c hcc)
  | drop => exact ⟨(dropLayers_spec hg w media hμ).1, nofun⟩
  | fail => exact ⟨BlobStep.refl env st, nofun⟩

theorem stepTemplate_shape (env : Env) (st : Store) (ls : List Layer) (t : Option (Bytes × Bool)) :
    Override env st ls .template (fun c => ∃ ok, t = some (c, ok)) (stepTemplate env st ls t) := by
  cases t with
  | none => exact .skip
  | some tb =>
    obtain ⟨c, ok⟩ := tb
    cases ok with
    | false => exact .drop
    | true => exact .put c ⟨true, rfl⟩

theorem stepSystem_shape (env : Env) (st : Store) (ls : List Layer) (s : Option Bytes) :
    Override env st ls .system (s = some ·) ((stepSystem env st ls s).1, some (stepSystem env st ls s).2) := by
  cases s with
  | none => exact .skip
  | some c => exact .put c rfl

theorem stepParams_shape (env : Env) (st : Store) (ls : List Layer) (p : List (String × String)) :
    Override env st ls .params (fun c => ∃ q, c = encodeParams q) (stepParams env st ls p) := by
  unfold stepParams
  split
  · exact .fail
  · exact .skip
  · exact .put _ ⟨_, rfl⟩

theorem stepMessages_shape (env : Env) (st : Store) (ls : List Layer) (ms : List (String × String)) :
    Override env st ls .messages (fun _ => True)
      ((stepMessages env st ls ms).1, some (stepMessages env st ls ms).2) := by
  cases ms with
  | nil => exact .skip
  | cons m t => exact .put _ trivial

theorem stepLicense_grow (env : Env) (lics : List Bytes) (st : Store) (ls : List Layer) :
    Grow env st (stepLicense env st ls lics).1 := by
  induction lics generalizing st ls with
  | nil => exact .refl env st
  | cons c t ih => exact (putBlob_grow env st c).trans (ih ..)

/-- `setLicense`: only appends -/
theorem stepLicense_spec {env : Env} (hinj : HashInj env) (lics : List Bytes) {st : Store}
    {base0 ls : List Layer} {μs : Media → Prop} (hb : BlobsOk env st) (w : WL env st base0 ls μs)
    (hl : ¬ μs .license) (hc : ∀ c ∈ lics, Fresh env st ls μs c) :
    BlobStep env st (stepLicense env st ls lics).1 ∧
      WL env (stepLicense env st ls lics).1 base0 (stepLicense env st ls lics).2 μs := by
  refine ⟨(stepLicense_grow env lics st ls).step, ?_⟩
  induction lics generalizing st ls with
  | nil => exact w
  | cons c t ih =>
    simp only [stepLicense, newLayer]
    have g1 := putBlob_grow env st c
    have w1 : WL env (putBlob env st c) base0 (ls ++ [⟨.license, ⟨.colon, env.hash c⟩, c.length⟩]) μs :=
      w.putNew hinj hb rfl (fun _ h => h) (fun _ h => h) w.complete .license hl c (hc c (by simp))
    refine ih (g1.step.blobsOk hb) w1 (fun c' hc' a ha hm => ?_)
    simp only [List.mem_append, List.mem_singleton] at ha
    rcases ha with ha | ha
    · rw [inUse_congr g1.mans]; exact hc c' (by simp [hc']) a ha hm
    · subst ha; exact absurd hm hl

/-- the contents `createModel` stores BEFORE it drops the layers of a media type -/
def earlier (r : CreateReq) : Media → List Bytes
  | .system => (r.template.map (·.1)).toList
  | .params => (r.template.map (·.1)).toList ++ r.system.toList ++ r.licenses
  | .messages => (r.template.map (·.1)).toList ++ r.system.toList ++ r.licenses
  | _ => []

/-- the media types whose layers `createModel` may drop (`removeLayer`): template, system, params, messages -/
def μ3 : Media → Prop := fun x => x = .template ∨ x = .system ∨ x = .params ∨ x = .messages

/-- **The guard on a create request (pinned `removeLayer`, N2).**  Every layer of the starting list that
    `createModel` may drop (template / system / params / messages) is in use by a stored manifest, or — not
    for messages layers, which are dropped after the merged parameters were stored — its blob backs no
    layer of another media type in the list and is not the blob of a text the request stores before the
    drop.  Holds trivially when N2 is repaired, for every `from` create, and for files without a recognised
    chat template. -/
def Apart (env : Env) (st : Store) (ls : List Layer) (r : CreateReq) : Prop :=
  ∀ a ∈ ls, μ3 a.media → env.v.fixKeep = true ∨ env.inUse st a.digest = true ∨
    (a.media ≠ .messages ∧ (∀ x ∈ ls, x.media ≠ a.media → x.digest.key ≠ a.digest.key) ∧
     ∀ c ∈ earlier r a.media, env.hash c ≠ a.digest.key)

/-- on the steps' projections, so that their lemmas apply as they are -/
theorem createModel_cases (env : Env) (st : Store) (name : Name) (base : List (Layer × Option Meta))
    (r : CreateReq) :
    let T := stepTemplate env st (base.map (·.1)) r.template
    (T.2 = none ∧ createModel env st name base r = (T.1, some "e400")) ∨
    ∃ l1, T.2 = some l1 ∧
      let S := stepSystem env T.1 l1 r.system
      let L := stepLicense env S.1 S.2 r.licenses
      let P := stepParams env L.1 L.2 r.params
      (P.2 = none ∧ createModel env st name base r = (P.1, some "e500")) ∨
      ∃ l3a, P.2 = some l3a ∧
        let M := stepMessages env P.1 l3a r.messages
        let cb := configJSON (base.filterMap (·.2)) (M.2.map (·.digest))
        createModel env st name base r =
          (setManifest (putBlob env M.1 cb) name (.readable ⟨⟨.config, ⟨.colon, env.hash cb⟩, cb.length⟩, M.2⟩),
            none) := by
  unfold createModel
  simp only
  cases stepTemplate env st (base.map (·.1)) r.template with
  | mk st1 o1 =>
    cases o1 with
    | none => exact Or.inl ⟨rfl, rfl⟩
    | some l1 =>
      refine Or.inr ⟨l1, rfl, ?_⟩
      simp only
      cases stepParams env _ _ r.params with
      | mk st3 o3 =>
        cases o3 with
        | none => exact Or.inl ⟨rfl, rfl⟩
        | some l3a => exact Or.inr ⟨l3a, rfl, rfl⟩

theorem createModel_spec {env : Env} (hinj : HashInj env) {st : Store} (name : Name)
    (base : List (Layer × Option Meta)) (r : CreateReq) (hb : BlobsOk env st) (hg : Guard env st)
    (hcomp : ∀ l ∈ base.map (·.1), Complete env st l) (hgd : ∀ l ∈ base.map (·.1), GD env l.digest)
    (ha : Apart env st (base.map (·.1)) r) :
    (∀ err, (createModel env st name base r).2 = some err → BlobStep env st (createModel env st name base r).1) ∧
    ((createModel env st name base r).2 = none → ∃ X m, BlobStep env st X ∧
      (createModel env st name base r).1 = setManifest X name (.readable m) ∧
      (∀ l ∈ m.all, GD env l.digest) ∧ ∀ l ∈ m.all, Complete env X l) := by
  have w : WL env st (base.map (·.1)) (base.map (·.1)) μ3 :=
    ⟨hcomp, hgd, fun a h hm => (ha a h hm).imp id (fun h' => h'.imp id (fun h'' => h''.2.1)), fun a h _ => h⟩
  -- the static part of the guard, for any later state with the same manifests; a messages layer meets it only by
  -- being in use
  have fresh : ∀ (st' : Store) (ls : List Layer) (μs' : Media → Prop) (c : Bytes), st'.mans = st.mans →
      (∀ a ∈ ls, μs' a.media → a ∈ base.map (·.1)) →
      (∀ x, μs' x → μ3 x ∧ (x ≠ .messages → c ∈ earlier r x)) → Fresh env st' ls μs' c := by
    intro st' ls μs' c hm horig hμ a hal hma
    rw [inUse_congr hm]
    rcases ha a (horig a hal hma) (hμ _ hma).1 with hk | hu | hap
    · exact Or.inl hk
    · exact Or.inr (Or.inl hu)
    · exact Or.inr (Or.inr (hap.2.2 c ((hμ _ hma).2 hap.1)))
  -- `μs'` is inferred at each step: `fun x => μs x ∧ x ≠ media`, hence the nested pairs
  obtain ⟨s1, w1⟩ := (stepTemplate_shape env st _ r.template).spec hinj hb hg w (Or.inl rfl) (fun _ h => h)
    (fun c ⟨ok, hc⟩ => fresh st _ _ c rfl (fun a h hm => w.orig a h hm.1)
      (fun x hx => by cases x <;> simp [μ3, earlier, hc] at hx ⊢))
  rcases createModel_cases env st name base r with ⟨_, e⟩ | ⟨l1, hT, rest⟩
  · rw [e]; exact ⟨fun _ _ => s1, nofun⟩
  have w1 := w1 l1 hT
  have hb1 := s1.blobsOk hb
  have hg1 := s1.guard hg
  obtain ⟨s2, w2⟩ := (stepSystem_shape env _ l1 r.system).spec hinj hb1 hg1 w1 (by simp [μ3]) (fun _ h => h)
    (fun c hc => fresh _ _ _ c s1.mans (fun a h hm => w1.orig a h hm.1)
      (fun x hx => by cases x <;> simp [μ3, earlier, hc] at hx ⊢))
  have w2 := w2 _ rfl
  have hb2a := s2.blobsOk hb1
  obtain ⟨s2l, w2l⟩ := stepLicense_spec hinj r.licenses hb2a w2 (by simp [μ3])
    (fun c hc => fresh _ _ _ c (s2.mans.trans s1.mans) (fun a h hm => w2.orig a h hm)
      (fun x hx => by cases x <;> simp [μ3, earlier, hc] at hx ⊢))
  have hb2 := s2l.blobsOk hb2a
  have hg2 := s2l.guard (s2.guard hg1)
  obtain ⟨s3, w3⟩ := (stepParams_shape env _ _ r.params).spec hinj hb2 hg2 w2l (by simp [μ3]) (fun _ h => h)
    (fun c _ => fresh _ _ _ c ((s2l.mans.trans s2.mans).trans s1.mans) (fun a h hm => w2l.orig a h hm.1)
      (fun x hx => by cases x <;> simp [μ3] at hx ⊢))
  have s03a := ((s1.trans s2).trans s2l).trans s3
  rcases rest with ⟨_, e⟩ | ⟨l3a, hP, e⟩
  · rw [e]; exact ⟨fun _ _ => s03a, nofun⟩
  have hb3a := s3.blobsOk hb2
  obtain ⟨s3m, w3⟩ := (stepMessages_shape env _ l3a r.messages).spec (μs' := fun _ => False) hinj hb3a
    (s3.guard hg2) (w3 l3a hP) (by simp [μ3]) (fun _ h => h.elim) (fun _ _ _ _ h => h.elim)
  have w3 := w3 _ rfl
  have hb3 := s3m.blobsOk hb3a
  rw [e]
  refine ⟨nofun, fun _ => ⟨_, _, (s03a.trans s3m).trans (putBlob_grow env _ _).step, rfl, ?_, ?_⟩⟩
  · intro l hl
    rcases List.mem_append.mp hl with hl | hl
    · exact w3.gd l hl
    · rw [List.mem_singleton.mp hl]; exact Or.inr rfl
  · intro l hl
    rcases List.mem_append.mp hl with hl | hl
    · exact (putBlob_grow ..).complete (w3.complete l hl)
    · rw [List.mem_singleton.mp hl]; exact newLayer_complete hinj hb3 _ .config

/-! ## base layers of a create request -/
theorem fromLayers_cons_some {env : Env} {st : Store} {l : Layer} {t : List Layer} {b : List (Layer × Option Meta)}
    (h : fromLayers env st (l :: t) = some b) :
    ∃ c mt r, st.blob l.digest.key = some c ∧ fromLayers env st t = some r ∧
      b = (⟨l.media, env.recorded l.digest, c.length⟩, mt) :: r := by
  simp only [fromLayers] at h
  split at h
  · cases h
  · rename_i c hc
    split at h
    · split at h
      · cases h
      · obtain ⟨r, hr, rfl⟩ := Option.map_eq_some_iff.mp h
        exact ⟨c, _, r, hc, hr, rfl⟩
    · obtain ⟨r, hr, rfl⟩ := Option.map_eq_some_iff.mp h
      exact ⟨c, _, r, hc, hr, rfl⟩

theorem fromLayers_some {env : Env} {st : Store} (ls : List Layer) (b : List (Layer × Option Meta))
    (h : fromLayers env st ls = some b) :
    (∀ x ∈ b.map (·.1), ∃ l ∈ ls, ∃ c, st.blob l.digest.key = some c ∧
      x = ⟨l.media, env.recorded l.digest, c.length⟩) ∧
    ∀ l ∈ ls, ∃ c, st.blob l.digest.key = some c ∧
      (⟨l.media, env.recorded l.digest, c.length⟩ : Layer) ∈ b.map (·.1) := by
  induction ls generalizing b with
  | nil => cases h; simp
  | cons l t ih =>
    obtain ⟨c, mt, r, hc, hr, rfl⟩ := fromLayers_cons_some h
    obtain ⟨i1, i2⟩ := ih r hr
    refine ⟨fun x hx => ?_, fun l' hl' => ?_⟩
    · rcases List.mem_cons.mp hx with rfl | hx
      · exact ⟨l, List.mem_cons_self, c, hc, rfl⟩
      · obtain ⟨l', hl', h'⟩ := i1 x hx
        exact ⟨l', List.mem_cons_of_mem _ hl', h'⟩
    · rcases List.mem_cons.mp hl' with rfl | hl'
      · exact ⟨c, hc, List.mem_cons_self⟩
      · obtain ⟨c', h1, h2⟩ := i2 l' hl'
        exact ⟨c', h1, List.mem_cons_of_mem _ h2⟩

theorem autoLayers_grow (env : Env) (st : Store) (mt : Meta) : Grow env st (autoLayers env st mt).1 := by
  unfold autoLayers
  cases mt.auto with
  | none => exact .refl env st
  | some tp =>
    obtain ⟨t, p⟩ := tp
    cases p with
    | none => exact putBlob_grow env st t
    | some q => exact (putBlob_grow env st t).trans (putBlob_grow env _ q)

theorem autoLayers_spec {env : Env} (hinj : HashInj env) {st : Store} (hb : BlobsOk env st) (mt : Meta) :
    ∀ x ∈ (autoLayers env st mt).2.map (·.1), Complete env (autoLayers env st mt).1 x ∧ GD env x.digest := by
  unfold autoLayers
  cases mt.auto with
  | none => simp
  | some tp =>
    obtain ⟨t, p⟩ := tp
    cases p with
    | none =>
      simp only [newLayer, List.map_cons, List.map_nil, List.mem_singleton, forall_eq]
      exact ⟨newLayer_complete hinj hb t .template, Or.inr rfl⟩
    | some q =>
      simp only [newLayer, List.map_cons, List.map_nil, List.mem_cons, List.not_mem_nil, or_false, forall_eq_or_imp,
        forall_eq]
      exact ⟨⟨(putBlob_grow ..).complete (newLayer_complete hinj hb t .template), Or.inr rfl⟩,
        newLayer_complete hinj ((putBlob_grow env st t).step.blobsOk hb) q .params, Or.inr rfl⟩

theorem fileLayers_grow (env : Env) (ds : List Digest) (st : Store) : Grow env st (fileLayers env st ds).1 := by
  fun_induction fileLayers env st ds with
  | case1 | case2 | case3 => exact .refl env _
  | case4 st d ds c _ mt _ st1 auto ha st2 e hr ih | case5 st d ds c _ mt _ st1 auto ha st2 r hr ih =>
    have ga := autoLayers_grow env st mt
    rw [ha] at ga; rw [hr] at ih
    exact ga.trans ih

theorem fileLayers_spec {env : Env} (hinj : HashInj env) (ds : List Digest) {st : Store} (hb : BlobsOk env st)
    (hcol : ∀ d ∈ ds, GD env d) :
    ∀ b, (fileLayers env st ds).2 = .ok b →
      ∀ x ∈ b.map (·.1), Complete env (fileLayers env st ds).1 x ∧ GD env x.digest := by
  fun_induction fileLayers env st ds with
  | case1 => intro b h; cases h; simp
  | case2 | case3 | case4 => intro b h; cases h
  | case5 st d ds c hc mt _ st1 auto ha st2 r hr ih =>
    have ga := autoLayers_grow env st mt
    have ca := autoLayers_spec hinj hb mt
    have gr := fileLayers_grow env ds st1
    rw [ha] at ga ca
    have cr := ih (ga.step.blobsOk hb) (fun x hx => hcol x (List.mem_cons_of_mem _ hx))
    rw [hr] at gr cr
    intro b h x hx
    cases h
    simp only [List.map_append, List.map_cons, List.mem_append, List.mem_cons] at hx
    rcases hx with (rfl | hx) | hx
    · exact ⟨(ga.trans gr).complete (complete_recorded hb hc mt.kind),
        GD_recorded (hcol d List.mem_cons_self)⟩
    · exact ⟨gr.complete (ca x hx).1, (ca x hx).2⟩
    · exact cr r rfl x hx

theorem baseLayers_grow (env : Env) (st : Store) (r : CreateReq) (frev : Bool) :
    Grow env st (baseLayers env st r frev).1 := by
  have hf := fileLayers_grow env (if frev = true then r.files.reverse else r.files) st
  fun_cases baseLayers env st r frev
  case case5 h => rw [h] at hf; exact hf
  case case6 h => rw [h] at hf; exact hf
  all_goals exact .refl env st

theorem baseLayers_spec {env : Env} (hinj : HashInj env) {st : Store} (hg : Guard env st) (hb : BlobsOk env st)
    (r : CreateReq) (hf : ∀ d ∈ r.files, GD env d) (frev : Bool) :
    ∀ b, (baseLayers env st r frev).2.1 = some b →
      (∀ x ∈ b.map (·.1), Complete env (baseLayers env st r frev).1 x ∧ GD env x.digest) ∧
      (r.src.isSome = true → ∀ x ∈ b.map (·.1), env.inUse (baseLayers env st r frev).1 x.digest = true) := by
  have onErr : ∀ b, (if env.v.fixReturn = true then (none : Option (List (Layer × Option Meta))) else some []) = some b →
      b = [] := by
    intro b h
    split at h
    · cases h
    · exact (Option.some.inj h).symm
  have c1 := fileLayers_spec hinj (if frev = true then r.files.reverse else r.files) hb
    (fun d hd => hf d (by cases frev <;> simpa using hd))
  fun_cases baseLayers env st r frev <;> intro b h
  case case1 f hs m hm b' hfl =>
    cases h
    have hm' := readableAt_eq_some.mp hm
    have key : ∀ x ∈ b'.map (·.1), Complete env st x ∧ GD env x.digest ∧ env.inUse st x.digest = true := by
      intro x hx
      obtain ⟨l, hl, c, hg', rfl⟩ := (fromLayers_some m.layers b' hfl).1 x hx
      have hl' : l ∈ m.all := by simp [Manifest.all, hl]
      exact ⟨complete_recorded hb hg' l.media,
        GD_recorded (hg.gd hm' hl'), inUse_recorded (referenced_iff.mpr ⟨f, m, hm', l, hl', rfl⟩)⟩
    exact ⟨fun x hx => ⟨(key x hx).1, (key x hx).2.1⟩, fun _ x hx => (key x hx).2.2⟩
  case case2 => cases onErr b h; simp
  case case3 => cases onErr b h; simp
  case case4 => cases h
  case case5 hs _ st' b' hfl =>
    rw [hfl] at c1
    cases h
    exact ⟨c1 b' rfl, fun h => by rw [hs] at h; cases h⟩
  case case6 => cases h

/-! ## `Good`: invariant preservation + frame, per operation -/

/-- what every operation is shown to be, relative to the set `T` of names it may write -/
structure Good (env : Env) (st st' : Store) (T : List Name) : Prop where
  blobsOk : BlobsOk env st'
  nameInv : NameInv env st → NameInv env st'
  canon : Guard env st'
  legacy : LegacyOk env st → LegacyOk env st'
  frameMan : ∀ n, n ∉ T → st'.man n = st.man n
  frameBlob : ∀ n m, n ∉ T → st.man n = some (.readable m) → ∀ l ∈ m.all, ∀ c,
    st.blob l.digest.key = some c → st'.blob l.digest.key = some c

theorem Good.refl {env : Env} {st : Store} (hb : BlobsOk env st) (hg : Guard env st) (T : List Name) :
    Good env st st T :=
  ⟨hb, id, hg, id, fun _ _ => rfl, fun _ _ _ _ _ _ _ h => h⟩

theorem Good.ofBlobStep {env : Env} {st st' : Store} (h : BlobStep env st st') (hb : BlobsOk env st)
    (hg : Guard env st) (T : List Name) : Good env st st' T :=
  ⟨h.blobsOk hb, h.nameInv, h.guard hg, h.legacy, fun n _ => man_congr h.mans n,
   fun _ _ _ hm _ hl _ hg' => h.keep hm hl hg'⟩

theorem Good.trans {env : Env} {a b c : Store} {T : List Name} (h1 : Good env a b T) (h2 : Good env b c T) :
    Good env a c T :=
  ⟨h2.blobsOk, fun h => h2.nameInv (h1.nameInv h), h2.canon, fun h => h2.legacy (h1.legacy h),
   fun n hn => (h2.frameMan n hn).trans (h1.frameMan n hn),
   fun n m hn hm l hl c hc =>
     h2.frameBlob n m hn ((h1.frameMan n hn).trans hm) l hl c (h1.frameBlob n m hn hm l hl c hc)⟩

theorem Good.mono {env : Env} {st st' : Store} {T T' : List Name} (h : Good env st st' T)
    (hT : ∀ n, n ∈ T → n ∈ T') : Good env st st' T' :=
  ⟨h.blobsOk, h.nameInv, h.canon, h.legacy, fun n hn => h.frameMan n (fun h' => hn (hT n h')),
   fun n m hn => h.frameBlob n m (fun h' => hn (hT n h'))⟩

theorem Good.setManifest {env : Env} {st : Store} (hb : BlobsOk env st) (hg : Guard env st) (n : Name)
    (f : MFile) (hf : ∀ m, f = .readable m → (∀ l ∈ m.all, GD env l.digest) ∧ ∀ l ∈ m.all, Complete env st l) :
    Good env st (setManifest st n f) [n] := by
  refine ⟨hb, fun hi => setManifest_forall hi n f (fun m e => (hf m e).2),
    hg.setManifest n f (fun m e => (hf m e).1), id, ?_, ?_⟩
  · intro n' hn'
    rw [setManifest_man]
    simp only [List.mem_singleton] at hn'
    simp [hn']
  · intro _ _ _ _ _ _ c h; exact h

theorem Good.delManifest {env : Env} {st : Store} (hb : BlobsOk env st) (hg : Guard env st) (n : Name) :
    Good env st (delManifest st n) [n] := by
  refine ⟨hb, fun hi => delManifest_forall hi n, hg.delManifest n, id, ?_, ?_⟩
  · intro n' hn'
    rw [delManifest_man]
    simp only [List.mem_singleton] at hn'
    simp [hn']
  · intro _ _ _ _ _ _ c h; exact h

theorem install_good {env : Env} {st X : Store} (hb : BlobsOk env st) (hg : Guard env st) (s : BlobStep env st X)
    (name : Name) (m : Manifest) (hgd : ∀ l ∈ m.all, GD env l.digest) (hcomp : ∀ l ∈ m.all, Complete env X l) :
    Good env st (gcAt env st name (setManifest X name (.readable m))) [name] := by
  have g0 : Good env st X [name] := Good.ofBlobStep s hb hg _
  have g1 := g0.trans (Good.setManifest g0.blobsOk g0.canon name (.readable m) (fun m' e => by
    cases e; exact ⟨hgd, hcomp⟩))
  exact g1.trans (Good.ofBlobStep (gcAt_step env hg name g1.canon) g1.blobsOk g1.canon _)

/-- the manifest names an operation may write, after `getExistingName` -/
def targets (env : Env) (st : Store) (op : Op) (ch : Choice) : List Name :=
  match op with
  | .create r => [resolveName env st ch.ord1 r.name]
  | .copy _ d => [resolveName env st ch.ord2 d]
  | .delete n => [resolveName env st ch.ord1 n]
  | .pull n _ _ => [pullTarget env (resolveName env st ch.ord1 n)]
  | .plant _ d => [d]
  | .corrupt n => [n]
  | .dashify n => [n]
  | _ => []

/-! ## the operations -/

theorem pruneDirs_step (env : Env) (st : Store) : BlobStep env st (pruneDirs st) := .of_eq env rfl rfl rfl
theorem mkdirs_step (env : Env) (st : Store) (p : List String) : BlobStep env st (mkdirs st p) := .of_eq env rfl rfl rfl

theorem deleteAt_good {env : Env} {st : Store} (hb : BlobsOk env st) (hg : Guard env st) (t : Name) :
    Good env st (deleteAt env st t).1 [t] := by
  unfold deleteAt
  cases hm : st.man t with
  | none => exact Good.refl hb hg _
  | some f =>
    cases f with
    | corrupt => exact Good.refl hb hg _
    | readable m =>
      simp only
      have g1 := Good.delManifest hb hg t
      have hcm : ∀ l ∈ m.all, GD env l.digest := fun l hl => hg.gd hm hl
      have g2 := g1.trans (Good.ofBlobStep (pruneDirs_step env (delManifest st t)) g1.blobsOk g1.canon _)
      exact g2.trans (Good.ofBlobStep (removeLayers_step env m.all g2.canon hcm) g2.blobsOk g2.canon _)

theorem copyAt_good {env : Env} {st : Store} (hb : BlobsOk env st) (hg : Guard env st) (hi : NameInv env st)
    (s d : Name) : Good env st (copyAt st s d).1 [d] := by
  unfold copyAt
  split
  · exact Good.refl hb hg _
  · cases hm : st.man s with
    | none => exact Good.ofBlobStep (mkdirs_step env st d.path) hb hg _
    | some f =>
      simp only
      exact Good.setManifest hb hg d f (fun m e => ⟨fun l hl => hg.gd (e ▸ hm) hl, hi s m (e ▸ hm)⟩)

theorem upload_good {env : Env} {st : Store} (hb : BlobsOk env st) (hg : Guard env st) (d : Digest) (c : Bytes) :
    Good env st (upload env st d c).1 [] := by
  unfold upload
  split
  · exact Good.refl hb hg _
  · split <;> exact Good.ofBlobStep (putBlob_grow env st c).step hb hg _

theorem pruneLayers_blob (env : Env) (st : Store) (k : String) :
    (pruneLayers env st).blob k = if env.inUse st ⟨.colon, k⟩ then st.blob k else none := by
  unfold pruneLayers Store.blob
  exact aget_filter_key st.blobs (fun k => env.inUse st ⟨.colon, k⟩) k

theorem pruneLayers_step (env : Env) {st : Store} (hg : Guard env st) : BlobStep env st (pruneLayers env st) := by
  refine ⟨rfl, fun p hp => Or.inl (List.mem_filter.mp hp).1, fun k => ?_⟩
  rw [pruneLayers_blob]
  cases hr : env.inUse st ⟨.colon, k⟩ with
  | true => exact Or.inl rfl
  | false =>
    refine Or.inr ⟨Or.inl ?_, by simp⟩
    cases hk : st.keyReferenced k with
    | false => rfl
    | true =>
      have := inUse_of_key hg (d := ⟨.colon, k⟩) (Or.inr rfl) hk
      rw [hr] at this; cases this

/-! ### fixBlobs and the non-blob files -/

def colonFiles (st : Store) : List (String × Bytes) :=
  st.junk.filterMap (fun p => match p.1 with
    | .colon r => some (r, p.2)
    | .plain _ => none)

theorem mem_colonFiles {st : Store} {rc : String × Bytes} (h : rc ∈ colonFiles st) :
    ∃ p ∈ st.junk, p.1 = .colon rc.1 ∧ p.2 = rc.2 := by
  unfold colonFiles at h
  rw [List.mem_filterMap] at h
  obtain ⟨p, hp, he⟩ := h
  cases hn : p.1 with
  | colon r => rw [hn] at he; injection he with e; subst e; exact ⟨p, hp, hn, rfl⟩
  | plain s => rw [hn] at he; cases he

theorem fixBlobs_fold_blob (cols : List (String × Bytes)) (b : List (String × Bytes)) (k : String) :
    aget (cols.foldl (fun b rc => if isHex64 rc.1 then aset b rc.1 rc.2 else b) b) k = aget b k ∨
    ∃ rc ∈ cols, isHex64 rc.1 = true ∧ rc.1 = k ∧
      aget (cols.foldl (fun b rc => if isHex64 rc.1 then aset b rc.1 rc.2 else b) b) k = some rc.2 := by
  induction cols generalizing b with
  | nil => exact Or.inl rfl
  | cons rc t ih =>
    simp only [List.foldl]
    rcases ih (if isHex64 rc.1 then aset b rc.1 rc.2 else b) with h | ⟨x, hx, h1, h2, h3⟩
    · by_cases hh : isHex64 rc.1 = true
      · simp only [hh, if_true] at h ⊢
        rw [aget_aset] at h
        by_cases hk : k = rc.1
        · simp only [hk, if_true] at h
          exact Or.inr ⟨rc, by simp, hh, hk.symm, by rw [hk]; exact h⟩
        · simp only [hk, if_false] at h
          exact Or.inl h
      · simp only [hh] at h ⊢
        exact Or.inl h
    · exact Or.inr ⟨x, by simp [hx], h1, h2, h3⟩

theorem fixBlobs_blob (st : Store) (k : String) :
    (fixBlobs st).blob k = st.blob k ∨
    ∃ rc ∈ colonFiles st, isHex64 rc.1 = true ∧ rc.1 = k ∧ (fixBlobs st).blob k = some rc.2 :=
  fixBlobs_fold_blob (colonFiles st) st.blobs k

theorem fixBlobs_fold_junk (cols : List (String × Bytes)) (j : List (JName × Bytes))
    (hj : ∀ p ∈ j, ∃ s, p.1 = .plain s) :
    ∀ p ∈ cols.foldl (fun j rc => if isHex64 rc.1 then j else aset j (.plain ("sha256-" ++ rc.1)) rc.2) j,
      ∃ s, p.1 = .plain s := by
  induction cols generalizing j with
  | nil => exact hj
  | cons rc t ih =>
    simp only [List.foldl]
    apply ih
    split
    · exact hj
    · intro p hp
      rcases mem_of_mem_aset hp with rfl | hp
      · exact ⟨_, rfl⟩
      · exact hj p hp

theorem fixBlobs_junk_plain (st : Store) : ∀ p ∈ (fixBlobs st).junk, ∃ s, p.1 = .plain s := by
  unfold fixBlobs
  simp only
  apply fixBlobs_fold_junk
  intro p hp
  have := (List.mem_filter.mp hp).2
  cases hn : p.1 with
  | colon r => rw [hn] at this; cases this
  | plain s => exact ⟨s, rfl⟩

theorem fixBlobs_step {env : Env} (hinj : HashInj env) {st : Store} (hb : BlobsOk env st)
    (hl : LegacyOk env st) : BlobStep env st (fixBlobs st) := by
  refine ⟨rfl, fun p hp => Or.inr (fixBlobs_junk_plain st p hp), fun k => ?_⟩
  rcases fixBlobs_blob st k with h | ⟨rc, hrc, hx, hk, h⟩
  · exact Or.inl h
  · obtain ⟨p, hp, hn, hc⟩ := mem_colonFiles hrc
    have hh : env.hash rc.2 = k := by rw [← hc, ← hk]; exact hl p hp rc.1 hn hx
    cases ho : st.blob k with
    | none =>
      refine Or.inr ⟨Or.inr rfl, fun c hc' => ?_⟩
      rw [h] at hc'; injection hc' with e; rw [← e]; exact hh
    | some c0 =>
      have : c0 = rc.2 := hinj _ _ ((hb k c0 ho).trans hh.symm)
      exact Or.inl (by rw [h, this])

/-- `PruneLayers` removes every file whose name is not a digest; once `fixBlobs` has run that is every file
    that is not `sha256-<64 hex>` -/
theorem pruneLayers_junk_nil (env : Env) {st : Store} (h : ∀ p ∈ st.junk, ∃ s, p.1 = .plain s) :
    (pruneLayers env st).junk = [] := by
  unfold pruneLayers
  simp only
  rw [List.filter_eq_nil_iff]
  intro p hp
  obtain ⟨s, hs⟩ := h p hp
  rw [hs]; simp

theorem pruneStartup_good {env : Env} (hinj : HashInj env) {st : Store} (hb : BlobsOk env st)
    (hg : Guard env st) (hl : LegacyOk env st) :
    Good env st (pruneStartup env st).1 [] := by
  have s1 := fixBlobs_step hinj hb hl
  unfold pruneStartup
  split
  · exact Good.ofBlobStep s1 hb hg _
  split
  · exact Good.ofBlobStep s1 hb hg _
  · exact Good.ofBlobStep ((s1.trans (pruneLayers_step env (s1.guard hg))).trans (pruneDirs_step env _)) hb hg _

/-! ### create -/

/-- a `from` create meets the guard `Apart` by itself: every base layer is in use by the source manifest -/
theorem apart_of_inUse {env : Env} {st : Store} {ls : List Layer} (r : CreateReq)
    (h : ∀ x ∈ ls, env.inUse st x.digest = true) : Apart env st ls r :=
  fun a ha _ => Or.inr (Or.inl (h a ha))

theorem apart_of_fixKeep {env : Env} (hv : env.v.fixKeep = true) (st : Store) (ls : List Layer) (r : CreateReq) :
    Apart env st ls r := fun _ _ _ => Or.inl hv

/-- the guard of a create request, stated on what `baseLayers` returns -/
def ApartReq (env : Env) (st : Store) (r : CreateReq) (frev : Bool) : Prop :=
  ∀ b, (baseLayers env st r frev).2.1 = some b → Apart env (baseLayers env st r frev).1 (b.map (·.1)) r

theorem createAt_cases (env : Env) (st : Store) (r : CreateReq) (name : Name) (frev : Bool) :
    let B := baseLayers env st r frev
    (B.2.1 = none ∧ createAt env st r name frev = (B.1, B.2.2)) ∨
    ∃ base, B.2.1 = some base ∧
      let C := createModel env B.1 name base r
      (∃ err, C.2 = some err ∧ createAt env st r name frev = (C.1, B.2.2 ++ [err])) ∨
      (C.2 = none ∧ createAt env st r name frev = (gcAt env st name C.1, B.2.2 ++ ["s"])) := by
  unfold createAt gcAt
  simp only
  cases baseLayers env st r frev with
  | mk stb rest =>
    obtain ⟨ob, ev⟩ := rest
    cases ob with
    | none => exact Or.inl ⟨rfl, rfl⟩
    | some base =>
      refine Or.inr ⟨base, rfl, ?_⟩
      simp only
      cases createModel env stb name base r with
      | mk st1 o =>
        cases o with
        | some err => exact Or.inl ⟨err, rfl, rfl⟩
        | none =>
          refine Or.inr ⟨rfl, ?_⟩
          cases st.readableAt name <;> rfl

theorem createAt_good {env : Env} (hinj : HashInj env) {st : Store} (hb : BlobsOk env st) (hg : Guard env st)
    (r : CreateReq) (hf : ∀ d ∈ r.files, GD env d) (name : Name) (frev : Bool)
    (hap : ApartReq env st r frev) :
    Good env st (createAt env st r name frev).1 [name] ∧
    ("s" ∉ (createAt env st r name frev).2 → BlobStep env st (createAt env st r name frev).1) := by
  have sb := (baseLayers_grow env st r frev).step
  have cb := baseLayers_spec hinj hg hb r hf frev
  rcases createAt_cases env st r name frev with ⟨_, e⟩ | ⟨base, hB, rest⟩
  · rw [e]; exact ⟨Good.ofBlobStep sb hb hg _, fun _ => sb⟩
  obtain ⟨hE, hS⟩ := createModel_spec hinj name base r (sb.blobsOk hb) (sb.guard hg)
    (fun l hl => ((cb base hB).1 l hl).1) (fun l hl => ((cb base hB).1 l hl).2) (hap base hB)
  rcases rest with ⟨err, hC, e⟩ | ⟨hC, e⟩
  · rw [e]
    have s := sb.trans (hE err hC)
    exact ⟨Good.ofBlobStep s hb hg _, fun _ => s⟩
  · obtain ⟨X, m, s, e', hcm, hcomp⟩ := hS hC
    rw [e, e']
    exact ⟨install_good hb hg (sb.trans s) name m hcm hcomp, fun h => absurd (by simp) h⟩

/-! ### pull -/

/-- what a registry manifest must satisfy for the invariant to survive a pull of it: digests spelled
    `sha256:`, and sizes that are the sizes of the contents the digests name (nothing in `PullModel` compares
    the manifest's sizes with what was downloaded) -/
def PullOk (env : Env) (m : Manifest) : Prop :=
  (∀ l ∈ m.all, l.digest.form = .colon) ∧ ∀ l ∈ m.all, ∀ c, env.hash c = l.digest.hex → c.length = l.size

theorem setBlob_grow (env : Env) {st : Store} {k : String} {c : Bytes}
    (hn : ∀ c0, st.blob k = some c0 → c0 = c) (hh : env.hash c = k) :
    Grow env st { st with blobs := aset st.blobs k c } := by
  refine ⟨rfl, rfl, fun k' => ?_⟩
  rw [blob_aset]
  by_cases h : k' = k
  · subst h
    rw [if_pos rfl]
    cases ho : st.blob k' with
    | none => exact Or.inr ⟨rfl, fun c' hc' => by cases hc'; exact hh⟩
    | some c0 => exact Or.inl (by rw [hn c0 ho])
  · exact Or.inl (if_neg h)

theorem pullLayers_grow (env : Env) (served : List (String × Bytes)) (ls : List Layer) (st : Store) :
    Grow env st (pullLayers env st served ls).1 := by
  fun_induction pullLayers env st served ls with
  | case1 | case3 | case5 => exact .refl env _
  | case2 _ _ _ _ _ ih => exact ih
  | case4 st l ls hc c _ hh ih =>
    exact (setBlob_grow env (k := l.digest.key) (fun c0 h => by rw [hc] at h; cases h) hh).trans ih

theorem pullLayers_spec {env : Env} (served : List (String × Bytes)) (ls : List Layer) {st : Store}
    (hb : BlobsOk env st) (hsz : ∀ l ∈ ls, ∀ c, env.hash c = l.digest.hex → c.length = l.size)
    (hok : (pullLayers env st served ls).2 = true) : ∀ l ∈ ls, Complete env (pullLayers env st served ls).1 l := by
  fun_induction pullLayers env st served ls with
  | case1 => intro _ h; cases h
  | case3 | case5 => cases hok
  | case2 st l ls c0 hc ih =>
    intro x hx
    rcases List.mem_cons.mp hx with rfl | hx
    · exact (pullLayers_grow ..).complete ⟨c0, hc, hsz x List.mem_cons_self c0 (hb _ _ hc), hb _ _ hc⟩
    · exact ih hb (fun x hx => hsz x (List.mem_cons_of_mem _ hx)) hok x hx
  | case4 st l ls hc c _ hh ih =>
    have g0 := setBlob_grow env (k := l.digest.key) (fun c0 h => by rw [hc] at h; cases h) hh
    intro x hx
    rcases List.mem_cons.mp hx with rfl | hx
    · exact (pullLayers_grow ..).complete ⟨c, by rw [blob_aset, if_pos rfl], hsz x List.mem_cons_self c hh, hh⟩
    · exact ih (g0.step.blobsOk hb) (fun x hx => hsz x (List.mem_cons_of_mem _ hx)) hok x hx

theorem pullAt_some (env : Env) (st : Store) (name : Name) (m : Manifest) (served : List (String × Bytes)) :
    pullAt env st name (some m) served =
      if (pullLayers env st served m.all).2 = true then
        (gcAt env st name (setManifest (pullLayers env st served m.all).1 name (.readable m)), ["s"])
      else ((pullLayers env st served m.all).1, ["e500"]) := by
  unfold pullAt gcAt
  simp only
  cases pullLayers env st served m.all with
  | mk st1 ok =>
    cases ok with
    | false => rfl
    | true => cases st.readableAt name <;> rfl

theorem pullAt_good {env : Env} {st : Store} (hb : BlobsOk env st) (hg : Guard env st) (name : Name)
    (reg : Option Manifest) (served : List (String × Bytes)) (hp : ∀ m, reg = some m → PullOk env m) :
    Good env st (pullAt env st name reg served).1 [name] := by
  cases reg with
  | none => exact Good.refl hb hg _
  | some m =>
    obtain ⟨hcol, hsz⟩ := hp m rfl
    have s1 := (pullLayers_grow env served m.all st).step
    rw [pullAt_some]
    split
    · rename_i hok
      exact install_good hb hg s1 name m (fun l hl => Or.inr (hcol l hl)) (pullLayers_spec served m.all hb hsz hok)
    · exact Good.ofBlobStep s1 hb hg _

theorem pullAt_mans (env : Env) (st : Store) (name : Name) (reg : Option Manifest)
    (served : List (String × Bytes)) :
    (pullAt env st name reg served).1.mans = st.mans ∨
    ∃ m, reg = some m ∧ (pullAt env st name reg served).1.mans = aset st.mans name (.readable m) := by
  cases reg with
  | none => exact Or.inl rfl
  | some m =>
    rw [pullAt_some]
    split
    · exact Or.inr ⟨m, rfl, (gcAt_mans ..).trans (congrArg (aset · name _) (pullLayers_grow ..).mans)⟩
    · exact Or.inl (pullLayers_grow ..).mans

/-- **`create … from` with the pull inside `parseFromModel`** is `Good` for the two names it may write: the
    invariant is preserved, and every other model keeps its manifest file and its blobs — for ANY target `nm` and
    lookup name `sn` (resolved or not), any registry answer whose manifest is truthful (`PullOk`). -/
theorem createFromPull_good {env : Env} (hinj : HashInj env) {st : Store} (hb : BlobsOk env st)
    (hc : Guard env st) (hk : env.v.fixKeep = true) (r : CreateReq) (hf : ∀ d ∈ r.files, GD env d)
    (nm sn : Name) (reg : Manifest) (served : List (String × Bytes)) (hp : PullOk env reg) :
    Good env st (createFromPull env st r nm sn reg served).1 [nm, sn] := by
  unfold createFromPull
  simp only
  have hap : ∀ (s : Store), ApartReq env s { r with src := some sn } false :=
    fun s b _ => apart_of_fixKeep hk _ _ _
  cases hm : st.man sn with
  | some f =>
    simp only
    exact (createAt_good hinj hb hc { r with src := some sn } hf nm false (hap st)).1.mono (T' := [nm, sn])
      (by intro n hn; simp at hn ⊢; exact Or.inl hn)
  | none =>
    simp only
    have g1 : Good env st (pullAt env st sn (some reg) served).1 [nm, sn] :=
      (pullAt_good hb hc sn (some reg) served (fun m e => by injection e with e; subst e; exact hp)).mono
        (T' := [nm, sn]) (by intro n hn; simp at hn ⊢; exact Or.inr hn)
    split
    · simp only
      have g2 := (createAt_good hinj g1.blobsOk g1.canon { r with src := some sn } hf nm false (hap _)).1.mono
        (T' := [nm, sn]) (by intro n hn; simp at hn ⊢; exact Or.inl hn)
      exact g1.trans g2
    · exact g1

/-! ## getExistingName and letter case -/
theorem foldEq_iff (a b : String) : foldEq a b = true ↔ lower a = lower b := by
  unfold foldEq; exact beq_iff_eq

/-- one part of the fold of `getExistingName` -/
def resolvePart (f : Name → String) (ord : List Name) (x : String) : String :=
  ord.foldl (fun cur e => if foldEq (f e) cur then f e else cur) x

theorem getExistingName_parts (ord : List Name) (n : Name) :
    (getExistingName ord n).host = resolvePart (·.host) ord n.host ∧
    (getExistingName ord n).ns = resolvePart (·.ns) ord n.ns ∧
    (getExistingName ord n).model = resolvePart (·.model) ord n.model ∧
    (getExistingName ord n).tag = resolvePart (·.tag) ord n.tag := by
  induction ord generalizing n with
  | nil => exact ⟨rfl, rfl, rfl, rfl⟩
  | cons e t ih =>
    -- `rw`, not `exact`: unifying the two folds unfolds `foldEq` on variables, deep into `String`
    simp only [getExistingName, resolvePart, List.foldl_cons] at ih ⊢
    obtain ⟨h1, h2, h3, h4⟩ := ih (resolve1 n e)
    rw [h1, h2, h3, h4]
    simp only [resolve1, and_self]

theorem resolvePart_spec (f : Name → String) (ord : List Name) (x : String) :
    lower (resolvePart f ord x) = lower x ∧
    ((∃ e ∈ ord, resolvePart f ord x = f e) ∨
     (resolvePart f ord x = x ∧ ∀ e ∈ ord, lower (f e) ≠ lower x)) := by
  induction ord generalizing x with
  | nil => exact ⟨rfl, Or.inr ⟨rfl, by simp⟩⟩
  | cons e t ih =>
    simp only [resolvePart, List.foldl]
    by_cases h : foldEq (f e) x = true
    · simp only [h, if_true]
      have hl := (foldEq_iff _ _).mp h
      obtain ⟨h1, h2⟩ := ih (f e)
      simp only [resolvePart] at h1 h2
      refine ⟨h1.trans hl, Or.inl ?_⟩
      rcases h2 with ⟨e', he', h2⟩ | ⟨h2, _⟩
      · exact ⟨e', by simp [he'], h2⟩
      · exact ⟨e, by simp, h2⟩
    · simp only [h]
      have hl : lower (f e) ≠ lower x := fun he => h ((foldEq_iff _ _).mpr he)
      obtain ⟨h1, h2⟩ := ih x
      simp only [resolvePart] at h1 h2
      refine ⟨h1, ?_⟩
      rcases h2 with ⟨e', he', h2⟩ | ⟨h2, h3⟩
      · exact Or.inl ⟨e', by simp [he'], h2⟩
      · refine Or.inr ⟨h2, ?_⟩
        intro e' he'
        simp only [List.mem_cons] at he'
        rcases he' with rfl | he'
        · exact hl
        · exact h3 e' he'

/-- a set of names spells part `f` consistently -/
def PartOk (f : Name → String) (S : Name → Prop) : Prop :=
  ∀ a b, S a → S b → lower (f a) = lower (f b) → f a = f b

/-- under consistent spelling the resolved part is THE existing spelling (whatever the order) -/
theorem resolvePart_canonical (f : Name → String) (S : Name → Prop) (hS : PartOk f S) (ord : List Name)
    (hord : ∀ e, e ∈ ord ↔ S e) (x : String) (e : Name) (he : S e)
    (hl : lower (f e) = lower (resolvePart f ord x)) : f e = resolvePart f ord x := by
  obtain ⟨h1, h2⟩ := resolvePart_spec f ord x
  rcases h2 with ⟨e', he', h2⟩ | ⟨_, h3⟩
  · rw [h2] at hl ⊢
    exact hS e e' he ((hord e').mp he') hl
  · exact absurd (hl.trans h1) (h3 e ((hord e).mpr he))

def MixOk (S : Name → Prop) : Prop :=
  PartOk (·.host) S ∧ PartOk (·.ns) S ∧ PartOk (·.model) S ∧ PartOk (·.tag) S

theorem MixOk.insert_resolved {S : Name → Prop} (h : MixOk S) (ord : List Name) (hord : ∀ e, e ∈ ord ↔ S e)
    (n : Name) : MixOk (fun a => S a ∨ a = getExistingName ord n) := by
  obtain ⟨p1, p2, p3, p4⟩ := getExistingName_parts ord n
  have key : ∀ (f : Name → String), PartOk f S → f (getExistingName ord n) = resolvePart f ord (f n) →
      PartOk f (fun a => S a ∨ a = getExistingName ord n) := by
    intro f hf hp a b ha hb hl
    rcases ha with ha | rfl <;> rcases hb with hb | rfl
    · exact hf a b ha hb hl
    · rw [hp] at hl ⊢
      exact resolvePart_canonical f S hf ord hord _ a ha hl
    · rw [hp] at hl ⊢
      exact (resolvePart_canonical f S hf ord hord _ b hb hl.symm).symm
    · rfl
  exact ⟨key _ h.1 p1, key _ h.2.1 p2, key _ h.2.2.1 p3, key _ h.2.2.2 p4⟩

theorem MixOk.mono {S S' : Name → Prop} (h : MixOk S) (hs : ∀ a, S' a → S a) : MixOk S' :=
  ⟨fun a b ha hb => h.1 a b (hs a ha) (hs b hb), fun a b ha hb => h.2.1 a b (hs a ha) (hs b hb),
   fun a b ha hb => h.2.2.1 a b (hs a ha) (hs b hb), fun a b ha hb => h.2.2.2 a b (hs a ha) (hs b hb)⟩

/-- the names `Manifests(true)` returns -/
def Readable (st : Store) (a : Name) : Prop := ∃ m, st.man a = some (.readable m)

theorem mem_readableNames {st : Store} {a : Name} : a ∈ st.readableNames ↔ Readable st a := by
  unfold Store.readableNames Readable
  simp only [List.mem_filter]
  constructor
  · rintro ⟨_, h⟩
    cases hr : st.readableAt a with
    | none => rw [hr] at h; cases h
    | some m => exact ⟨m, readableAt_eq_some.mp hr⟩
  · rintro ⟨m, hm⟩
    exact ⟨mem_names_iff.mpr (by rw [hm]; rfl), by rw [readableAt_eq_some.mpr hm]; rfl⟩

/-- no two readable manifests spell a fold-equal part differently -/
def NoMixed (st : Store) : Prop := MixOk (Readable st)

/-- no two readable (hence no two listed) models differ only by letter case -/
def NoTwins (st : Store) : Prop := ∀ a b, Readable st a → Readable st b → a.equalFold b = true → a = b

theorem NoMixed.noTwins {st : Store} (h : NoMixed st) : NoTwins st := by
  intro a b ha hb he
  simp only [Name.equalFold, Bool.and_eq_true, foldEq_iff] at he
  obtain ⟨⟨⟨e1, e2⟩, e3⟩, e4⟩ := he
  have h1 := h.1 a b ha hb e1
  have h2 := h.2.1 a b ha hb e2
  have h3 := h.2.2.1 a b ha hb e3
  have h4 := h.2.2.2 a b ha hb e4
  cases a; cases b; simp_all

/-- every operation but the injected `plant`, the only one that writes a manifest under a name that did not go
    through `getExistingName` (the other injected faults satisfy it too) -/
def ApiOp : Op → Prop
  | .plant _ _ => False
  | _ => True

/-- the iteration orders are orders of the map `Manifests(true)` returned -/
def Covers (st : Store) (ch : Choice) : Prop :=
  (∀ e, e ∈ ch.ord1 ↔ Readable st e) ∧ (∀ e, e ∈ ch.ord2 ↔ Readable st e)

/-! ## the repaired getExistingName (F16b) -/
theorem equalFold_iff (a b : Name) : a.equalFold b = true ↔
    lower a.host = lower b.host ∧ lower a.ns = lower b.ns ∧ lower a.model = lower b.model ∧
    lower a.tag = lower b.tag := by
  simp only [Name.equalFold, Bool.and_eq_true, foldEq_iff]
  constructor
  · rintro ⟨⟨⟨h1, h2⟩, h3⟩, h4⟩; exact ⟨h1, h2, h3, h4⟩
  · rintro ⟨h1, h2, h3, h4⟩; exact ⟨⟨⟨h1, h2⟩, h3⟩, h4⟩

theorem equalFold_symm {a b : Name} (h : a.equalFold b = true) : b.equalFold a = true := by
  rw [equalFold_iff] at h ⊢
  exact ⟨h.1.symm, h.2.1.symm, h.2.2.1.symm, h.2.2.2.symm⟩

theorem equalFold_trans {a b c : Name} (h1 : a.equalFold b = true) (h2 : b.equalFold c = true) :
    a.equalFold c = true := by
  rw [equalFold_iff] at h1 h2 ⊢
  exact ⟨h1.1.trans h2.1, h1.2.1.trans h2.2.1, h1.2.2.1.trans h2.2.2.1, h1.2.2.2.trans h2.2.2.2⟩

theorem mem_insertName (x y : Name) (l : List Name) : x ∈ insertName y l ↔ x = y ∨ x ∈ l := by
  induction l with
  | nil => simp [insertName]
  | cons z t ih =>
    simp only [insertName]
    split
    · simp
    · simp only [List.mem_cons, ih, or_left_comm]

theorem mem_sortNames (x : Name) (l : List Name) : x ∈ sortNames l ↔ x ∈ l := by
  induction l with
  | nil => simp [sortNames]
  | cons y t ih =>
    simp only [sortNames, List.foldr_cons, List.mem_cons] at ih ⊢
    rw [mem_insertName, ih]

theorem firstPart_lower (f : Name → String) (es : List Name) (x : String) :
    lower (firstPart f es x) = lower x := by
  unfold firstPart
  split
  · rename_i e he
    have := List.find?_some he
    exact (foldEq_iff _ _).mp this
  · rfl

theorem getExistingNameFixed_spec (es : List Name) (n : Name) :
    getExistingNameFixed es n ∈ es ∨ ∀ e ∈ es, e.equalFold n = false := by
  unfold getExistingNameFixed
  split
  · rename_i h
    exact Or.inl (by simpa using h)
  · simp only
    split
    · rename_i e he
      exact Or.inl ((mem_sortNames e es).mp (List.mem_of_find?_eq_some he))
    · rename_i hnone
      refine Or.inr (fun e he => ?_)
      have := List.find?_eq_none.mp hnone e ((mem_sortNames e es).mpr he)
      simpa using this

theorem equalFold_refl (n : Name) : n.equalFold n = true := by
  rw [equalFold_iff]; exact ⟨rfl, rfl, rfl, rfl⟩

theorem getExistingNameFixed_equalFold (es : List Name) (n : Name) :
    (getExistingNameFixed es n).equalFold n = true := by
  unfold getExistingNameFixed
  split
  · exact equalFold_refl n
  · simp only
    split
    · rename_i e he
      have := List.find?_some he
      exact this
    · rw [equalFold_iff]
      exact ⟨firstPart_lower _ _ _, firstPart_lower _ _ _, firstPart_lower _ _ _, firstPart_lower _ _ _⟩

theorem getExistingName_equalFold (ord : List Name) (n : Name) : (getExistingName ord n).equalFold n = true := by
  obtain ⟨h1, h2, h3, h4⟩ := getExistingName_parts ord n
  rw [equalFold_iff, h1, h2, h3, h4]
  exact ⟨(resolvePart_spec _ ord _).1, (resolvePart_spec _ ord _).1, (resolvePart_spec _ ord _).1,
    (resolvePart_spec _ ord _).1⟩

theorem displayReparse_equalFold (n : Name) : (displayReparse n).equalFold n = true := by
  unfold displayReparse
  split
  · rename_i h
    rw [equalFold_iff]
    refine ⟨((foldEq_iff _ _).mp h).symm, ?_, rfl, rfl⟩
    simp only
    split
    · rename_i h2; exact ((foldEq_iff _ _).mp h2).symm
    · rfl
  · exact equalFold_refl n

/-! ## events of a create request with N1 repaired -/
theorem fileLayers_err {env : Env} (ds : List Digest) {st : Store} (e : String)
    (h : (fileLayers env st ds).2 = .error e) : e ≠ "s" := by
  fun_induction fileLayers env st ds with
  | case1 => cases h
  | case2 => injection h with h; subst h; decide
  | case3 => injection h with h; subst h; decide
  | case4 st d ds c _ mt _ st1 auto ha st2 e' hr ih => exact ih (by rw [hr]; exact h)
  | case5 => cases h

theorem baseLayers_events {env : Env} (hv : env.v.fixReturn = true) (st : Store) (r : CreateReq) (frev : Bool) :
    ((baseLayers env st r frev).2.1.isSome = true → (baseLayers env st r frev).2.2 = []) ∧
    ((baseLayers env st r frev).2.1 = none → "s" ∉ (baseLayers env st r frev).2.2) := by
  fun_cases baseLayers env st r frev
  case case6 e h => exact ⟨nofun, fun _ hs => fileLayers_err _ e (by rw [h]) (List.mem_singleton.mp hs).symm⟩
  all_goals simp +zetaDelta [hv]

theorem createModel_err {env : Env} {st : Store} {name : Name} {base : List (Layer × Option Meta)}
    {r : CreateReq} {e : String} (h : (createModel env st name base r).2 = some e) : e ≠ "s" := by
  rcases createModel_cases env st name base r with ⟨_, h'⟩ | ⟨l1, _, ⟨_, h'⟩ | ⟨l3a, _, h'⟩⟩
  · rw [h'] at h; injection h with h; subst h; decide
  · rw [h'] at h; injection h with h; subst h; decide
  · rw [h'] at h; cases h

/-- **N1 repaired**: a create either reports exactly the success event, or no success event at all -/
theorem createAt_events_fixed {env : Env} (hv : env.v.fixReturn = true) (st : Store) (r : CreateReq)
    (name : Name) (frev : Bool) :
    (createAt env st r name frev).2 = ["s"] ∨ "s" ∉ (createAt env st r name frev).2 := by
  obtain ⟨h1, h2⟩ := baseLayers_events hv st r frev
  rcases createAt_cases env st r name frev with ⟨hB, e⟩ | ⟨base, hB, ⟨err, hC, e⟩ | ⟨_, e⟩⟩
  · rw [e]; exact Or.inr (h2 hB)
  · rw [e, h1 (by rw [hB]; rfl)]
    exact Or.inr (fun h => createModel_err hC (List.mem_singleton.mp h).symm)
  · rw [e, h1 (by rw [hB]; rfl)]; exact Or.inl rfl

end OllamaVerif.Store
