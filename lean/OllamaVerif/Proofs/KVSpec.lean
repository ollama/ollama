/-
  C06 — the theory of the location-free specification (Spec/KV.lean) on its own: no cache, no cell, no row.

  What a query sees and why window eviction is invisible to it; the per-entry operations as owner maps, and what
  every owner map keeps; the counting argument behind `CanResume`; a removal followed by the clear of the sequence;
  the specification state of the EncoderCache.
  (Of the model only `batchSeqs`, the sequences of a batch, and the encoder's operations `EOp` are used.)
-/
import OllamaVerif.Model.Causal
import OllamaVerif.Proofs.Basic

namespace OllamaVerif.KV


theorem filterMap_congr {α β} {f g : α → Option β} {l : List α} (h : ∀ x ∈ l, f x = g x) :
    l.filterMap f = l.filterMap g := by
  induction l with
  | nil => rfl
  | cons a as ih =>
    simp only [List.filterMap_cons, h a (by simp)]
    rw [ih (fun x hx => h x (by simp [hx]))]

theorem mem_filter_ne {seq : Nat} {l : List Nat} : seq ∉ l.filter (· ≠ seq) := by
  simp

theorem mem_cpSeqs_iff (src dst q : Nat) (len pos : Int) (seqs : List Nat) :
    q ∈ cpSeqs src dst len pos seqs ↔ (q ≠ dst ∧ q ∈ seqs) ∨ (q = dst ∧ src ≠ dst ∧ src ∈ seqs ∧ pos < len) := by
  have hf : ∀ r, r ∈ seqs.filter (· ≠ dst) ↔ r ≠ dst ∧ r ∈ seqs := fun r => by
    rw [List.mem_filter, decide_eq_true_eq, and_comm]
  simp only [cpSeqs, hf]
  split
  · rename_i hc
    rw [List.mem_append, hf, List.mem_singleton]
    exact or_congr_right (and_iff_left_of_imp fun _ => ⟨hc.1.1, hc.1.2, hc.2⟩).symm
  · rename_i hc
    rw [hf]
    exact (or_iff_left fun h => hc ⟨⟨h.2.1, h.2.2.1⟩, h.2.2.2⟩).symm

theorem mem_cpSeqs {src dst s : Nat} {len pos : Int} {seqs : List Nat} (h : s ∈ cpSeqs src dst len pos seqs) :
    s = dst ∨ s ∈ seqs :=
  ((mem_cpSeqs_iff ..).mp h).elim (fun h => Or.inr h.2) fun h => Or.inl h.1

end OllamaVerif.KV

namespace OllamaVerif.C06
open OllamaVerif OllamaVerif.KV OllamaVerif.Causal


/-- what an excepted token sees: its causal history plus the entries of its sequence at later
    positions (the lower window bound still applies) -/
theorem visE_false (W : Option Int) (q : Nat) (p : Int) (e : Entry) :
    visE false W q p e = (vis W q p e || (decide (q ∈ e.seqs) && decide (e.pos > p) && inWindow W e.pos p)) := by
  unfold visE vis
  cases decide (q ∈ e.seqs) <;> cases decide (e.pos > p) <;> cases inWindow W e.pos p <;> rfl

/-- what attention consumes of an entry: position, data identity, applied shift -/
def key (e : Entry) : Int × Nat × Int := (e.pos, e.id, e.shift)

theorem pos_of_key {x y : Entry} (h : key y = key x) : y.pos = x.pos :=
  congrArg (·.1) h

/-! ### window eviction and what a query sees -/

/-- the spec's version of `updateSlidingWindow` for a whole batch -/
def specSlide (s : Spec) (w : Int) (b : List Tok) : Spec :=
  (batchSeqs b).foldl (fun s seq => match lowest b seq with
    | some low => evict s seq (low - w)
    | none => s) s

theorem specSlide_ind {P : Spec → Prop} (w : Int) (b : List Tok)
    (hs : ∀ s seq low, lowest b seq = some low → P s → P (evict s seq (low - w))) (s : Spec) (h : P s) :
    P (specSlide s w b) := by
  refine List.foldlRecOn _ _ h fun s' h' seq _ => ?_
  cases hl : lowest b seq with
  | none => exact h'
  | some low => exact hs s' seq low hl h'

theorem evicted_ind {P : Spec → Prop} (hs : ∀ s seq thr, P s → P (evict s seq thr)) (W : Option Int) (s : Spec)
    (b : List Tok) (h : P s) : P (match W with | none => s | some w => specSlide s w b) := by
  cases W with
  | none => exact h
  | some w => exact specSlide_ind w b (fun s seq low _ => hs s seq _) s h

theorem evicted_perm (W : Option Int) (b : List Tok) (s s' : Spec) (hp : s.Perm s') :
    (match W with | none => s | some w => specSlide s w b).Perm (match W with | none => s' | some w => specSlide s' w b) := by
  cases W with
  | none => exact hp
  | some w =>
    refine List.foldl_rel hp fun seq _ a a' h => ?_
    cases lowest b seq with
    | none => exact h
    | some low => exact h.filterMap _

/-- **Eviction is invisible** to every query whose window starts at or after the eviction threshold
    (other sequences are never affected). -/
theorem evict_invisible (s : Spec) (seq : Nat) (thr w : Int) (q : Nat) (p : Int)
    (hq : q = seq → thr ≤ p - w) :
    (visible (some w) (evict s seq thr) q p).map key = (visible (some w) s q p).map key := by
  -- an entry below the threshold is outside `seq`'s window, and keeps its other owners
  have hv : ∀ e : Entry, e.pos < thr →
      vis (some w) q p { e with seqs := e.seqs.filter (· ≠ seq) } = vis (some w) q p e := by
    intro e he
    by_cases hqs : q = seq
    · have : e.pos < p - w := Int.lt_of_lt_of_le he (hq hqs)
      simp [vis, inWindow, this]
    · simp [vis, hqs]
  rw [visible, visible, evict, List.filter_filterMap, List.map_filterMap, ← List.filterMap_eq_filter, List.map_filterMap]
  refine filterMap_congr fun e _ => ?_
  simp only [evictEntry]
  split
  · next hc =>
    have := hv e hc.2
    split
    · next hd =>
      rw [hd] at this
      simp only [Option.guard, ← this]
      rfl
    · simp only [Option.filter_some, Option.guard, this]
      split <;> rfl
  · rfl

theorem lowest_le (b : List Tok) (seq : Nat) (low : Int) (h : lowest b seq = some low) :
    ∀ t ∈ b, t.seq = seq → low ≤ t.pos := by
  unfold lowest at h
  generalize none = acc at h
  suffices (∀ a, acc = some a → low ≤ a) ∧ ∀ t ∈ b, t.seq = seq → low ≤ t.pos from this.2
  induction b generalizing acc with
  | nil => exact ⟨fun a ha => Option.some.inj (h.symm.trans ha) ▸ Int.le_refl low, nofun⟩
  | cons u us ih =>
    obtain ⟨h1, h2⟩ := ih _ h
    suffices (∀ a, acc = some a → low ≤ a) ∧ (u.seq = seq → low ≤ u.pos) from
      ⟨this.1, List.forall_mem_cons.mpr ⟨this.2, h2⟩⟩
    by_cases hs : u.seq = seq
    · simp only [if_pos hs] at h1
      cases acc with
      | none => exact ⟨nofun, fun _ => h1 _ rfl⟩
      | some a =>
        have := h1 _ rfl
        have : low ≤ a ∧ low ≤ u.pos := by split at this <;> omega
        exact ⟨fun _ ha => Option.some.inj ha ▸ this.1, fun _ => this.2⟩
    · simp only [if_neg hs] at h1
      exact ⟨h1, fun hs' => absurd hs' hs⟩

/-- the eviction of a pass is invisible to every query that is not below the batch's lowest position of
    its own sequence -/
theorem specSlide_invisible_of_le (s : Spec) (w : Int) (b : List Tok) (q : Nat) (p : Int)
    (hq : ∀ low, lowest b q = some low → low ≤ p) :
    (visible (some w) (specSlide s w b) q p).map key = (visible (some w) s q p).map key :=
  specSlide_ind (P := fun s' => (visible (some w) s' q p).map key = (visible (some w) s q p).map key) w b
    (fun s' seq low hl h =>
      (evict_invisible s' seq _ w q p fun hqs => Int.sub_le_sub_right (hq low (hqs ▸ hl)) w).trans h) s rfl

/-- the whole `updateSlidingWindow` of a batch is invisible to every token of that batch -/
theorem specSlide_invisible (s : Spec) (w : Int) (b : List Tok) (t : Tok) (ht : t ∈ b) :
    (visible (some w) (specSlide s w b) t.seq t.pos).map key = (visible (some w) s t.seq t.pos).map key :=
  specSlide_invisible_of_le s w b t.seq t.pos (fun low hl => lowest_le b t.seq low hl t ht rfl)

theorem visible_store (W : Option Int) (s : Spec) (batch : List (Tok × Nat)) (q : Nat) (p : Int) :
    visible W (KV.store s batch) q p = visible W s q p ++ visible W (KV.store [] batch) q p := by
  simp [visible, KV.store, List.filter_append]

/-! ### forward-only histories: the state with evictions and the ideal state without -/

/-- a forward-only history: batches with their data and the cache's answer (accepted or rejected) -/
abbrev Pass := List Tok × List Nat × Bool

/-- the specification's state: every pass evicts, an accepted one stores its batch -/
def runS (w : Int) : Spec → List Pass → Spec
  | s, [] => s
  | s, (b, ids, acc) :: rest =>
    runS w (if acc then KV.store (specSlide s w b) (b.zip ids) else specSlide s w b) rest

/-- the ideal state: nothing is ever evicted -/
def runI : Spec → List Pass → Spec
  | s, [] => s
  | s, (b, ids, acc) :: rest => runI (if acc then KV.store s (b.zip ids) else s) rest

/-- the query is not below the lowest position any of the passes had for its sequence -/
def NotBelow (ps : List Pass) (q : Nat) (p : Int) : Prop :=
  ∀ pass ∈ ps, ∀ low, lowest pass.1 q = some low → low ≤ p

/-- **Append-only use of a sliding-window cache exposes the ideal windowed history**: if two states agree on
    everything a query can see, they still do after any sequence of passes whose lowest positions (per
    sequence) are not above the query — whatever the passes evicted was already outside the query's window. -/
theorem runS_visible_eq_runI (w : Int) (ps : List Pass) (s i : Spec) (q : Nat) (p : Int)
    (h0 : (visible (some w) s q p).map key = (visible (some w) i q p).map key)
    (hnb : NotBelow ps q p) :
    (visible (some w) (runS w s ps) q p).map key = (visible (some w) (runI i ps) q p).map key := by
  induction ps generalizing s i with
  | nil => exact h0
  | cons pass rest ih =>
    obtain ⟨b, ids, acc⟩ := pass
    have hsl := (specSlide_invisible_of_le s w b q p (hnb _ List.mem_cons_self)).trans h0
    refine ih _ _ ?_ fun x hx => hnb x (List.mem_cons_of_mem _ hx)
    cases acc
    · exact hsl
    · rw [if_pos rfl, if_pos rfl, visible_store, visible_store (some w) i, List.map_append, List.map_append, hsl]

/-! ### the counting argument behind `CanResume` -/

theorem pigeon (n : Nat) (lo : Int) (L : List Int) (hnd : L.Nodup) (hin : ∀ x ∈ L, lo ≤ x ∧ x < lo + n)
    (hlen : L.length = n) (p : Int) (hp : lo ≤ p ∧ p < lo + n) : p ∈ L :=
  Basic.pigeon n lo L hnd hin hlen p hp

def seqPositions (s : Spec) (seq : Nat) : List Int := (s.filter (fun e => decide (seq ∈ e.seqs))).map (·.pos)

def specCount (s : Spec) (seq : Nat) (lo hi : Int) : Nat :=
  ((seqPositions s seq).filter (fun p => decide (lo ≤ p ∧ p < hi))).length

/-- if a sequence holds no position twice and as many positions in `[lo, hi)` as the interval is long,
    it holds every position of the interval -/
theorem window_present (s : Spec) (seq : Nat) (lo hi : Int) (hnd : (seqPositions s seq).Nodup)
    (hc : (specCount s seq lo hi : Int) = hi - lo) (p : Int) (h1 : lo ≤ p) (h2 : p < hi) :
    ∃ e ∈ s, seq ∈ e.seqs ∧ e.pos = p := by
  obtain ⟨n, rfl⟩ := Int.le.dest (Int.le_of_lt (Int.lt_of_le_of_lt h1 h2))
  have hmem := pigeon n lo _ (hnd.sublist List.filter_sublist) (fun x hx => of_decide_eq_true (List.mem_filter.mp hx).2)
    (Int.ofNat_inj.mp (hc.trans (Int.sub_eq_iff_eq_add'.mpr rfl))) p ⟨h1, h2⟩
  obtain ⟨e, he, hpe⟩ := List.mem_map.mp (List.mem_filter.mp hmem).1
  obtain ⟨hes, hq⟩ := List.mem_filter.mp he
  exact ⟨e, hes, of_decide_eq_true hq, hpe⟩

theorem specCount_eq_countP (s : Spec) (seq : Nat) (lo hi : Int) :
    specCount s seq lo hi = s.countP (fun e => decide (lo ≤ e.pos ∧ e.pos < hi) && decide (seq ∈ e.seqs)) := by
  unfold specCount seqPositions
  rw [List.filter_map, List.length_map, List.filter_filter, List.countP_eq_length_filter]
  rfl

/-! ### what the specification's operations do to one entry -/

theorem rmOffset_eq (b e : Int) : rmOffset b e = 0 ∨ rmOffset b e = b - e := by
  unfold rmOffset
  split
  · exact Or.inl rfl
  · exact Or.inr rfl

theorem rmEntry_of_not_mem {seq : Nat} (b e : Int) {x : Entry} (hs : seq ∉ x.seqs) : rmEntry seq b e x = some x := by
  rw [rmEntry, if_neg hs]

theorem rmEntry_inside {seq : Nat} {b e : Int} {x : Entry} (hs : seq ∈ x.seqs) (hin : b ≤ x.pos ∧ x.pos < e) :
    rmEntry seq b e x =
      if x.seqs.filter (· ≠ seq) = [] then none else some { x with seqs := x.seqs.filter (· ≠ seq) } := by
  rw [rmEntry, if_pos hs, if_pos hin]

/-- a per-entry operation of the specification that changes owners only: position, data and shift are kept, and
    `q` owns the result iff `r q` owned the entry and `c q pos` holds (`r` is the identity except for `CopyPrefix`,
    whose destination inherits from the source) -/
structure OwnerMap (f : Entry → Option Entry) (r : Nat → Nat) (c : Nat → Int → Prop) : Prop where
  keeps : ∀ {x y}, f x = some y → key y = key x ∧ ∀ q, q ∈ y.seqs ↔ r q ∈ x.seqs ∧ c q x.pos
  defined : ∀ {x q}, r q ∈ x.seqs → c q x.pos → ∃ y, f x = some y

/-- `seq` gives up the entries whose position `sel` selects; an entry left without owner disappears
    (`evictEntry seq thr` is `dropOwner seq (· < thr)` by unfolding) -/
def dropOwner (seq : Nat) (sel : Int → Prop) [DecidablePred sel] (x : Entry) : Option Entry :=
  if seq ∈ x.seqs ∧ sel x.pos then
    if x.seqs.filter (· ≠ seq) = [] then none else some { x with seqs := x.seqs.filter (· ≠ seq) }
  else some x

theorem ownerMap_dropOwner (seq : Nat) (sel : Int → Prop) [DecidablePred sel] :
    OwnerMap (dropOwner seq sel) id (fun q p => ¬(q = seq ∧ sel p)) := by
  have hf : ∀ (l : List Nat) q, q ∈ l.filter (· ≠ seq) ↔ q ∈ l ∧ q ≠ seq := fun l q => by
    rw [List.mem_filter, decide_eq_true_eq]
  refine ⟨fun {x y} h => ?_, fun {x q} hq hc => ?_⟩
  · by_cases hx : seq ∈ x.seqs ∧ sel x.pos
    · rw [dropOwner, if_pos hx] at h
      split at h <;> cases h
      exact ⟨rfl, fun q => (hf _ q).trans (and_congr_right fun _ => ⟨fun hne hc => hne hc.1, fun hc hq => hc ⟨hq, hx.2⟩⟩)⟩
    · cases (if_neg hx).symm.trans h
      exact ⟨rfl, fun q => ⟨fun hq => ⟨hq, fun hc => hx ⟨hc.1 ▸ hq, hc.2⟩⟩, fun hq => hq.1⟩⟩
  · by_cases hx : seq ∈ x.seqs ∧ sel x.pos
    · exact ⟨_, (if_pos hx).trans (if_neg (List.ne_nil_of_mem ((hf _ q).mpr ⟨hq, fun h => hc ⟨h, hx.2⟩⟩)))⟩
    · exact ⟨_, if_neg hx⟩

theorem ownerMap_evict (seq : Nat) (thr : Int) :
    OwnerMap (evictEntry seq thr) id (fun q p => ¬(q = seq ∧ p < thr)) :=
  ownerMap_dropOwner seq (· < thr)

/-- a removal to the end shifts nothing (`rmOffset = 0`), also for an entry at or beyond the sentinel: it is the
    eviction of `seq` from `[b, MaxInt32)` -/
theorem rmEntry_inf_eq (seq : Nat) (b : Int) :
    rmEntry seq b maxInt32 = dropOwner seq (fun p => b ≤ p ∧ p < maxInt32) := by
  funext x
  by_cases hs : seq ∈ x.seqs
  · by_cases hin : b ≤ x.pos ∧ x.pos < maxInt32
    · exact (rmEntry_inside hs hin).trans (if_pos ⟨hs, hin⟩).symm
    · rw [rmEntry, if_pos hs, if_neg hin, show rmOffset b maxInt32 = 0 from if_pos rfl, Int.add_zero, Int.add_zero,
        ite_self]
      exact (if_neg fun h => hin h.2).symm
  · exact (rmEntry_of_not_mem b maxInt32 hs).trans (if_neg fun h => hs h.1).symm

theorem ownerMap_rmInf (seq : Nat) (b : Int) :
    OwnerMap (rmEntry seq b maxInt32) id (fun q p => ¬(q = seq ∧ b ≤ p ∧ p < maxInt32)) :=
  rmEntry_inf_eq seq b ▸ ownerMap_dropOwner seq _

theorem ownerMap_cp (src dst : Nat) (len : Int) :
    OwnerMap (cpEntry src dst len) (fun q => if q = dst then src else q)
      (fun q p => q ≠ dst ∨ (src ≠ dst ∧ p < len)) := by
  have hiff : ∀ (x : Entry) q, q ∈ cpSeqs src dst len x.pos x.seqs ↔
      (if q = dst then src else q) ∈ x.seqs ∧ (q ≠ dst ∨ (src ≠ dst ∧ x.pos < len)) := fun x q => by
    rw [mem_cpSeqs_iff]
    by_cases hq : q = dst
    · rw [if_pos hq]
      exact ⟨fun h => h.elim (fun h => absurd hq h.1) fun h => ⟨h.2.2.1, Or.inr ⟨h.2.1, h.2.2.2⟩⟩,
        fun h => Or.inr ⟨hq, (h.2.resolve_left (· hq)).1, h.1, (h.2.resolve_left (· hq)).2⟩⟩
    · rw [if_neg hq]
      exact ⟨fun h => h.elim (fun h => ⟨h.2, Or.inl hq⟩) fun h => absurd h.1 hq, fun h => Or.inl ⟨hq, h.1⟩⟩
  refine ⟨fun {x y} h => ?_, fun {x q} hq hc => ⟨_, if_neg (List.ne_nil_of_mem ((hiff x q).mpr ⟨hq, hc⟩))⟩⟩
  unfold cpEntry at h
  simp only at h
  split at h <;> cases h
  exact ⟨rfl, hiff x⟩

/-- a middle removal is no owner map: it moves a position by its offset, or not at all -/
theorem rmEntry_pos (seq : Nat) (b e : Int) (x y : Entry) (h : rmEntry seq b e x = some y) :
    y.pos = x.pos ∨ y.pos = x.pos + rmOffset b e := by
  by_cases hs : seq ∈ x.seqs
  · by_cases hin : b ≤ x.pos ∧ x.pos < e
    · rw [rmEntry_inside hs hin] at h
      split at h <;> cases h
      exact Or.inl rfl
    · rw [rmEntry, if_pos hs, if_neg hin] at h
      split at h <;> cases h
      · exact Or.inr rfl
      · exact Or.inl rfl
  · cases (rmEntry_of_not_mem b e hs).symm.trans h
    exact Or.inl rfl

/-! ### what every owner map keeps -/

def PosBoundS (s : Spec) : Prop := ∀ e ∈ s, e.pos < maxInt32

def NodupPos (s : Spec) : Prop := ∀ q, (seqPositions s q).Nodup

/-- what sequence `q` holds in `S` it also holds in `I`, with the same position, data and shift -/
def SubQ (S I : Spec) : Prop := ∀ q e, e ∈ S → q ∈ e.seqs → ∃ e' ∈ I, q ∈ e'.seqs ∧ key e' = key e

def NonNegS (s : Spec) : Prop := ∀ e ∈ s, 0 ≤ e.pos

namespace OwnerMap

theorem pos {f r c} (hf : OwnerMap f r c) {Q : Int → Prop} {s : Spec} (h : ∀ e ∈ s, Q e.pos) :
    ∀ e ∈ s.filterMap f, Q e.pos := fun y hy => by
  obtain ⟨x, hx, hxy⟩ := List.mem_filterMap.mp hy
  exact pos_of_key (hf.keeps hxy).1 ▸ h x hx

theorem sublist {f r c} (hf : OwnerMap f r c) (s : Spec) (q : Nat) :
    (seqPositions (s.filterMap f) q).Sublist (seqPositions s (r q)) := by
  induction s with
  | nil => exact List.Sublist.refl _
  | cons x xs ih =>
    unfold seqPositions at ih ⊢
    have hdrop := ih.trans (((List.sublist_cons_self x xs).filter _).map _)
    rw [List.filterMap_cons]
    cases hfx : f x with
    | none => exact hdrop
    | some y =>
      obtain ⟨hk, hm⟩ := hf.keeps hfx
      simp only
      by_cases hq : q ∈ y.seqs
      · rw [List.filter_cons, List.filter_cons, if_pos (decide_eq_true hq), if_pos (decide_eq_true ((hm q).mp hq).1),
          List.map_cons, List.map_cons, pos_of_key hk]
        exact ih.cons_cons _
      · rw [List.filter_cons, if_neg (mt of_decide_eq_true hq)]
        exact hdrop

theorem subQ {f r c} (hf : OwnerMap f r c) {S I : Spec} (h : SubQ S I) :
    SubQ (S.filterMap f) (I.filterMap f) := by
  intro q e he hq
  obtain ⟨x, hx, hxe⟩ := List.mem_filterMap.mp he
  obtain ⟨hk, hm⟩ := hf.keeps hxe
  obtain ⟨hrx, hc⟩ := (hm q).mp hq
  -- the owner `r q` of `x` explains `q`; `I` holds an entry of `r q` with the same key, to which `f` does the same
  obtain ⟨x', hx', hr', hk'⟩ := h (r q) x hx hrx
  have hc' : c q x'.pos := pos_of_key hk' ▸ hc
  obtain ⟨y', hy'⟩ := hf.defined hr' hc'
  obtain ⟨hk2, hm2⟩ := hf.keeps hy'
  exact ⟨y', List.mem_filterMap.mpr ⟨x', hx', hy'⟩, (hm2 q).mpr ⟨hr', hc'⟩, hk2.trans (hk'.trans hk.symm)⟩

theorem subQ_left {f c} (hf : OwnerMap f id c) {S I : Spec} (h : SubQ S I) : SubQ (S.filterMap f) I := by
  intro q e he hq
  obtain ⟨x, hx, hxe⟩ := List.mem_filterMap.mp he
  obtain ⟨hk, hm⟩ := hf.keeps hxe
  obtain ⟨e', he', hq', hk'⟩ := h q x hx ((hm q).mp hq).1
  exact ⟨e', he', hq', hk'.trans hk.symm⟩

end OwnerMap

theorem subQ_specSlide (w : Int) (b : List Tok) (S I : Spec) (h : SubQ S I) : SubQ (specSlide S w b) I :=
  specSlide_ind (P := fun S' => SubQ S' I) w b (fun _ seq _ _ hs => (ownerMap_evict seq _).subQ_left hs) S h

theorem subQ_store (S I : Spec) (batch : List (Tok × Nat)) (h : SubQ S I) : SubQ (KV.store S batch) (KV.store I batch) := by
  intro q e he hq
  simp only [KV.store, List.mem_append] at he ⊢
  rcases he with he | he
  · obtain ⟨e', he', hq', hk⟩ := h q e he hq
    exact ⟨e', Or.inl he', hq', hk⟩
  · exact ⟨e, Or.inr he, hq, rfl⟩

theorem seqPositions_store (s : Spec) (batch : List (Tok × Nat)) (q : Nat) :
    seqPositions (KV.store s batch) q = seqPositions s q ++ ((batch.map (·.1)).filter (fun t => decide (t.seq = q))).map (·.pos) := by
  unfold seqPositions KV.store
  rw [List.filter_append, List.map_append, List.filter_map, List.filter_map, List.map_map, List.map_map]
  congr 2
  exact List.filter_congr fun t _ => by simp [eq_comm]

/-- the batch brings, for every sequence of it, positions new to the sequence and pairwise distinct -/
def FreshPositionsB (s : Spec) (b : List Tok) : Prop :=
  ∀ t0 ∈ b, ((b.filter (fun t => decide (t.seq = t0.seq))).map (·.pos)).Nodup ∧
    ∀ t ∈ b, t.seq = t0.seq → ∀ p ∈ seqPositions s t0.seq, p ≠ t.pos

instance (s : Spec) (b : List Tok) : Decidable (FreshPositionsB s b) := by unfold FreshPositionsB; infer_instance

theorem nodupPos_store (s s' : Spec) (b : List Tok) (ids : List Nat) (hids : ids.length = b.length) (h : NodupPos s)
    (hsub : ∀ q, (seqPositions s' q).Sublist (seqPositions s q)) (hf : FreshPositionsB s b) :
    NodupPos (KV.store s' (b.zip ids)) := by
  intro q
  rw [seqPositions_store, List.map_fst_zip (Nat.le_of_eq hids.symm), List.nodup_append]
  refine ⟨(h q).sublist (hsub q), ?_, ?_⟩
  · cases hF : b.filter (fun t => decide (t.seq = q)) with
    | nil => exact List.nodup_nil
    | cons t0 l =>
      obtain ⟨h0, hq⟩ := List.mem_filter.mp (hF ▸ List.mem_cons_self : t0 ∈ b.filter _)
      cases of_decide_eq_true hq
      rw [← hF]
      exact (hf t0 h0).1
  · intro a ha p hp
    obtain ⟨t, ht, rfl⟩ := List.mem_map.mp hp
    obtain ⟨htb, hq⟩ := List.mem_filter.mp ht
    cases of_decide_eq_true hq
    exact (hf t htb).2 t htb rfl a ((hsub _).subset ha)

/-! ### a removal followed by the clear of the sequence is the clear -/

theorem specRemove_inf_some (s : Spec) (seq : Nat) (b : Int) (h : ∀ x ∈ s, seq ∈ x.seqs → x.pos < maxInt32) :
    KV.remove s seq b maxInt32 = some (s.filterMap (rmEntry seq b maxInt32)) := by
  unfold KV.remove
  rw [if_neg]
  intro hany
  obtain ⟨x, hx, hr⟩ := List.any_eq_true.mp hany
  simp only [mustRefuse, Bool.and_eq_true, decide_eq_true_eq] at hr
  exact Int.not_le.mpr (h x hx hr.1.1.1) hr.1.2

/-- the second conjunct is what keeps the clear from being refused -/
theorem rmEntry_then_clear (seq : Nat) (b e : Int) (hb : 0 ≤ b) (x : Entry) (hnr : mustRefuse seq b e x = false)
    (hpos : seq ∈ x.seqs → 0 ≤ x.pos ∧ x.pos < maxInt32) (hshift : seq ∈ x.seqs → x.pos + (b - e) < maxInt32) :
    (rmEntry seq b e x).bind (rmEntry seq 0 maxInt32) = rmEntry seq 0 maxInt32 x ∧
      ∀ y, rmEntry seq b e x = some y → seq ∈ y.seqs → y.pos < maxInt32 := by
  by_cases hs : seq ∈ x.seqs
  · have hp := hpos hs
    rw [rmEntry_inside hs hp]
    by_cases hin : b ≤ x.pos ∧ x.pos < e
    · rw [rmEntry_inside hs hin]
      split
      · exact ⟨rfl, nofun⟩
      · refine ⟨rmEntry_of_not_mem 0 maxInt32 mem_filter_ne, fun y h hy => ?_⟩
        cases h
        exact absurd hy mem_filter_ne
    · by_cases hge : x.pos ≥ e
      · -- the entry shifts, so (not refused) `seq` is its only owner: the clear drops it wherever it has moved to
        have hso : sharedOther seq x.seqs = false := by
          rw [mustRefuse, decide_eq_true hs, decide_eq_false hin, decide_eq_true hge] at hnr
          exact hnr
        have hsole := List.filter_eq_nil_iff.mpr (List.any_eq_false.mp hso)
        have hp' : 0 ≤ x.pos + rmOffset b e ∧ x.pos + rmOffset b e < maxInt32 := by
          rcases rmOffset_eq b e with h0 | h0
          · rw [h0, Int.add_zero]; exact hp
          · rw [h0]; exact ⟨by omega, hshift hs⟩
        rw [rmEntry, if_pos hs, if_neg hin, if_pos hge, Option.bind_some, rmEntry, if_pos hs, if_pos hp', if_pos hsole,
          if_pos hsole]
        exact ⟨rfl, fun y h _ => Option.some.inj h ▸ hp'.2⟩
      · rw [rmEntry, if_pos hs, if_neg hin, if_neg hge, Option.bind_some, rmEntry_inside hs hp]
        exact ⟨rfl, fun y h _ => Option.some.inj h ▸ hp.2⟩
  · rw [rmEntry_of_not_mem b e hs]
    exact ⟨rfl, fun y h hy => absurd (Option.some.inj h ▸ hy) hs⟩

theorem specRemove_then_clear (s s1 : Spec) (seq : Nat) (b e : Int) (hb : 0 ≤ b)
    (hpos : ∀ x ∈ s, seq ∈ x.seqs → 0 ≤ x.pos ∧ x.pos < maxInt32)
    (hshift : ∀ x ∈ s, seq ∈ x.seqs → x.pos + (b - e) < maxInt32)
    (h1 : KV.remove s seq b e = some s1) :
    KV.remove s1 seq 0 maxInt32 = KV.remove s seq 0 maxInt32 := by
  unfold KV.remove at h1
  split at h1
  · cases h1
  · rename_i hany
    cases h1
    have hx := fun x hx => rmEntry_then_clear seq b e hb x
      (eq_false_of_ne_true (List.any_eq_false.mp (eq_false_of_ne_true hany) x hx)) (hpos x hx) (hshift x hx)
    rw [specRemove_inf_some _ seq 0 fun y hy => (List.mem_filterMap.mp hy).elim fun x hxy => (hx x hxy.1).2 y hxy.2,
      specRemove_inf_some s seq 0 fun x hx hs => (hpos x hx hs).2, List.filterMap_filterMap]
    exact congrArg some (filterMap_congr fun x hxs => (hx x hxs).1)

/-! ### one query against the state with evictions and against the ideal state -/

theorem vis_seq {W : Option Int} {q : Nat} {p : Int} {e : Entry} (h : vis W q p e = true) : q ∈ e.seqs :=
  of_decide_eq_true (Bool.and_eq_true_iff.mp (Bool.and_eq_true_iff.mp h).1).1

theorem vis_of_key {W : Option Int} {q : Nat} {p : Int} {e e' : Entry} (hv : vis W q p e = true) (hk : key e' = key e)
    (hq' : q ∈ e'.seqs) : vis W q p e' = true := by
  have hq := vis_seq hv
  unfold vis at hv ⊢
  rw [decide_eq_true hq] at hv
  rwa [pos_of_key hk, decide_eq_true hq']

theorem eq_of_pos_eq {s : Spec} {q : Nat} (h : (seqPositions s q).Nodup) {e e' : Entry} (he : e ∈ s) (he' : e' ∈ s)
    (hq : q ∈ e.seqs) (hq' : q ∈ e'.seqs) (hp : e.pos = e'.pos) : e = e' :=
  have hne := List.pairwise_map.mp h
  List.Pairwise.forall_of_forall_of_flip (R := fun a b : Entry => a.pos = b.pos → a = b) (fun _ _ _ => rfl)
    (hne.imp fun hab hp => absurd hp hab) (hne.imp fun hab hp => absurd hp.symm hab)
    (List.mem_filter.mpr ⟨he, decide_eq_true hq⟩) (List.mem_filter.mpr ⟨he', decide_eq_true hq'⟩) hp

theorem visible_keys_nodup (W : Option Int) (s : Spec) (q : Nat) (p : Int) (h : (seqPositions s q).Nodup) :
    ((visible W s q p).map key).Nodup :=
  List.pairwise_map.mpr (List.pairwise_filter.mpr ((List.pairwise_filter.mp (List.pairwise_map.mp h)).imp
    fun hab ha hb hk => hab (decide_eq_true (vis_seq ha)) (decide_eq_true (vis_seq hb)) (pos_of_key hk)))

/-- **One query.**  If everything `q` holds in `S` it holds in `I` as well, positions of `q` are distinct and
    non-negative in `I`, `I` holds nothing of `q` at or after `p`, and `S` holds the complete window below `p`,
    then a query at `(q, p)` sees the same entries in `S` and in `I`. -/
theorem visible_complete_eq (w : Int) (S I : Spec) (q : Nat) (p : Int) (hsub : SubQ S I)
    (hndI : (seqPositions I q).Nodup) (hndS : (seqPositions S q).Nodup)
    (hnonneg : ∀ e ∈ I, q ∈ e.seqs → 0 ≤ e.pos) (hbelow : ∀ e ∈ I, q ∈ e.seqs → e.pos < p)
    (hcomplete : ∀ p', max 0 (p - w) ≤ p' → p' < p → ∃ e ∈ S, q ∈ e.seqs ∧ e.pos = p') :
    ((visible (some w) S q p).map key).Perm ((visible (some w) I q p).map key) := by
  rw [List.perm_ext_iff_of_nodup (visible_keys_nodup _ S q p hndS) (visible_keys_nodup _ I q p hndI)]
  simp only [List.mem_map, visible, List.mem_filter]
  intro k
  constructor
  · rintro ⟨e, ⟨heS, hv⟩, rfl⟩
    obtain ⟨e', he'I, hq', hkey⟩ := hsub q e heS (vis_seq hv)
    exact ⟨e', ⟨he'I, vis_of_key hv hkey hq'⟩, hkey⟩
  · rintro ⟨e', ⟨he'I, hv⟩, rfl⟩
    have hq' := vis_seq hv
    have hwin := Int.not_lt.mp (of_decide_eq_false ((Bool.not_eq_true' _).mp (Bool.and_eq_true_iff.mp hv).2))
    obtain ⟨e, heS, hq, hpos⟩ := hcomplete e'.pos (Int.max_le.mpr ⟨hnonneg e' he'I hq', hwin⟩) (hbelow e' he'I hq')
    obtain ⟨e'', he''I, hq'', hkey⟩ := hsub q e heS hq
    -- `e''` and `e'` are entries of `q` in `I` at the same position: the same entry
    obtain rfl := eq_of_pos_eq hndI he''I he'I hq'' hq' ((pos_of_key hkey).trans hpos)
    exact ⟨e, ⟨heS, vis_of_key hv hkey.symm hq⟩, hkey.symm⟩

/-! ### EncoderCache: its specification -/

/-- specification state of the encoder cache: the position of the encoder output that was stored by a
    real (non-reserve) pass and has not been removed since -/
structure EncSpec where
  curPos : Int := 0
  reserve : Bool := false
  stored : Option Int := none

def encSpecStep (g : EncSpec) : EOp → EncSpec
  | .start p r => { g with curPos := p.getD g.curPos, reserve := r }
  | .put _ _ => if g.reserve then g else { g with stored := some g.curPos }
  | .remove b e =>
    match g.stored with
    | some p => if b ≤ p ∧ p < e then { g with stored := none } else g
    | none => g

end OllamaVerif.C06
