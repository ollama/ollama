/-
  C18 — the order laws RELATIVISED to the NaN-free part of the carrier.

  `OrdLaws o` (a strict weak order on the whole carrier) cannot hold on a carrier that has a NaN:
  `0 < 1` but neither `0 < NaN` nor `NaN < 1`, so `cotrans` fails (`Properties/C18.lean`,
  `X_not_OrdLaws`).  IEEE `<` is a strict weak order on the values that are not NaN: `OrdLawsOn`.

  Transfer: `totalize o` is `o` with a comparison that puts every NaN below everything else (all
  NaN equivalent).  It satisfies the total `OrdLaws` as soon as `o` satisfies `OrdLawsOn`
  (`totalize_laws`), it agrees with `o` on non-NaN values (`totalize_lt`), and the order-only
  algorithms of the sampler — `greedy`, the stable sort, every function of the `container/heap`
  mirror, `topK` — only ever compare values of their input, so on a NaN-free input they compute
  the same result for `o` and for `totalize o` (`*_totalize`).  What is proved of these stages
  for a total order holds for `o` on NaN-free inputs.
  The second half does the same for the stages after `topK` under the run guard `runGood` (no NaN is
  ever compared; with `massFinite` evaluated by the oracle on every run): the run is the same run for
  `o` and `totalize o` (`runGood_stages`, `afterTopK_totalize`; `totalize_addZero` completes the laws
  of `totalize o`), so a total-order theorem about these stages (`minP_is_threshold_filter`,
  `pick_first_index`, `afterTopK_spec`) can be read for an IEEE carrier.  No theorem here goes that
  way: the admissibility clause uses the order laws only at the pick, where `OrdLawsOn` suffices once
  the cumulative sums and the target are not NaN (`PickOrd.of_runGood`, `afterTopK_spec_fix_on`).
-/
import OllamaVerif.Proofs.Sampler
namespace OllamaVerif.Sampler
variable {α : Type}

/-- `<` is a strict weak order on the values that are not NaN; `0` and `-Inf` are not NaN -/
structure OrdLawsOn (o : Ops α) : Prop where
  irrefl : ∀ a, o.isNaN a = false → o.lt a a = false
  trans : ∀ a b c, o.isNaN a = false → o.isNaN b = false → o.isNaN c = false →
    o.lt a b = true → o.lt b c = true → o.lt a c = true
  cotrans : ∀ a b c, o.isNaN a = false → o.isNaN b = false → o.isNaN c = false →
    o.lt a c = true → o.lt a b = true ∨ o.lt b c = true
  zero : o.isNaN o.zero = false
  negInf : o.isNaN o.negInf = false

/-- `a == b` only holds between non-NaN values, and then `b` is not below `a` -/
structure BeqLawOn (o : Ops α) : Prop where
  good : ∀ a b, o.beq a b = true → o.isNaN a = false ∧ o.isNaN b = false
  nlt : ∀ a b, o.beq a b = true → o.lt b a = false

/-- the same operations with a comparison that puts every NaN below everything else -/
def totalize (o : Ops α) : Ops α :=
  { o with lt := fun a b => !o.isNaN b && (o.isNaN a || o.lt a b) }

theorem totalize_lt (o : Ops α) {a b : α} (ha : o.isNaN a = false) (hb : o.isNaN b = false) :
    (totalize o).lt a b = o.lt a b := by
  simp [totalize, ha, hb]

theorem totalize_laws {o : Ops α} (h : OrdLawsOn o) : OrdLaws (totalize o) where
  irrefl := by
    intro a
    cases ha : o.isNaN a with
    | true => simp [totalize, ha]
    | false => simp [totalize, ha, h.irrefl a ha]
  trans := by
    intro a b c hab hbc
    simp only [totalize, Bool.and_eq_true, Bool.not_eq_true', Bool.or_eq_true] at hab hbc ⊢
    refine ⟨hbc.1, ?_⟩
    cases ha : o.isNaN a with
    | true => exact Or.inl rfl
    | false =>
      right
      rcases hab.2 with h1 | h1
      · rw [ha] at h1; cases h1
      · rcases hbc.2 with h2 | h2
        · rw [hab.1] at h2; cases h2
        · exact h.trans a b c ha hab.1 hbc.1 h1 h2
  cotrans := by
    intro a b c hac
    simp only [totalize, Bool.and_eq_true, Bool.not_eq_true', Bool.or_eq_true] at hac ⊢
    cases hb : o.isNaN b with
    | true => exact Or.inr ⟨hac.1, Or.inl rfl⟩
    | false =>
      cases ha : o.isNaN a with
      | true => exact Or.inl ⟨rfl, Or.inl rfl⟩
      | false =>
        rcases hac.2 with h1 | h1
        · rw [ha] at h1; cases h1
        · rcases h.cotrans a b c ha hb hac.1 h1 with h2 | h2
          · exact Or.inl ⟨rfl, Or.inr h2⟩
          · exact Or.inr ⟨hac.1, Or.inr h2⟩

theorem totalize_beqLaw {o : Ops α} (h : BeqLawOn o) : BeqLaw (totalize o) := by
  intro a b hab
  have hg := h.good a b hab
  have : (totalize o).lt b a = o.lt b a := totalize_lt o hg.2 hg.1
  rw [this]; exact h.nlt a b hab

def GoodL (o : Ops α) (ts : List (Tok α)) : Prop := ∀ t ∈ ts, o.isNaN t.val = false

/-! ### the order-only algorithms do not see the difference on NaN-free inputs -/

theorem greedy_totalize (o : Ops α) (ts : List (Tok α)) (hg : GoodL o ts) :
    greedy (totalize o) ts = greedy o ts := by
  cases ts with
  | nil => rfl
  | cons t rest =>
    simp only [greedy]
    congr 1
    refine (foldl_congr_inv (fun m : Tok α => o.isNaN m.val = false) _ _ rest t (hg t List.mem_cons_self)
      fun m x hm hx => ?_).1
    have hx := hg x (List.mem_cons_of_mem _ hx)
    simp only [totalize_lt o hm hx, true_and]
    split <;> assumption

theorem sortDesc_totalize (o : Ops α) (ts : List (Tok α)) (hg : GoodL o ts) :
    sortDesc (totalize o) ts = sortDesc o ts := by
  have := List.map_mergeSort (r := descLE (totalize o)) (s := descLE o) (f := id) (l := ts)
    (by
      intro a ha b hb
      simp only [descLE, id, totalize_lt o (hg a ha) (hg b hb)])
  simpa [sortDesc] using this

def GoodA (o : Ops α) (h : Array (Tok α)) : Prop := ∀ y ∈ h, o.isNaN y.val = false

theorem hget_good {o : Ops α} (hz : o.isNaN o.zero = false) (h : Array (Tok α)) (hg : GoodA o h) (i : Nat) :
    o.isNaN (hget o h i).val = false := by
  simp only [hget]
  cases hi : h[i]? with
  | none => simpa using hz
  | some y =>
    simp only [Option.getD_some]
    exact hg y (Array.mem_of_getElem? hi)

theorem hless_totalize {o : Ops α} (hz : o.isNaN o.zero = false) (h : Array (Tok α)) (hg : GoodA o h)
    (i j : Nat) : hless (totalize o) h i j = hless o h i j := by
  simp only [hless]
  exact totalize_lt o (hget_good hz h hg i) (hget_good hz h hg j)

theorem GoodA.of_perm {o : Ops α} {h h' : Array (Tok α)} (hg : GoodA o h) (hp : h'.Perm h) : GoodA o h' :=
  fun y hy => hg y (hp.mem_iff.1 hy)

theorem hdown_totalize {o : Ops α} (hz : o.isNaN o.zero = false) (n fuel : Nat) (h : Array (Tok α)) (i : Nat)
    (hg : GoodA o h) : hdown (totalize o) n fuel h i = hdown o n fuel h i := by
  induction fuel generalizing h i with
  | zero => rfl
  | succ fuel ih => simp only [hdown, hless_totalize hz h hg, ih _ _ (hg.of_perm (Basic.swapIfInBounds_perm h _ _))]

theorem hup_totalize {o : Ops α} (hz : o.isNaN o.zero = false) (fuel : Nat) (h : Array (Tok α)) (j : Nat)
    (hg : GoodA o h) : hup (totalize o) fuel h j = hup o fuel h j := by
  induction fuel generalizing h j with
  | zero => rfl
  | succ fuel ih => simp only [hup, hless_totalize hz h hg, ih _ _ (hg.of_perm (Basic.swapIfInBounds_perm h _ _))]

theorem hinit_totalize {o : Ops α} (hz : o.isNaN o.zero = false) (h : Array (Tok α)) (hg : GoodA o h) :
    hinit (totalize o) h = hinit o h := by
  unfold hinit
  simp only
  exact (foldl_congr_inv (GoodA o) _ _ _ h hg fun h i hg _ =>
    ⟨hdown_totalize hz _ _ h i hg, hg.of_perm (hdown_perm o _ _ h i)⟩).1

theorem hpop_totalize {o : Ops α} (hz : o.isNaN o.zero = false) (h : Array (Tok α)) (hg : GoodA o h) :
    hpop (totalize o) h = hpop o h := by
  unfold hpop
  simp only
  rw [hdown_totalize hz _ _ _ _ (hg.of_perm (Basic.swapIfInBounds_perm h _ _))]
  rfl

theorem goodA_hpop {o : Ops α} (h : Array (Tok α)) (hs : 0 < h.size) (hg : GoodA o h) :
    GoodA o (hpop o h).2 := by
  intro y hy
  exact hg y (Array.mem_def.2 ((hpop_both o h hs).2.2.1.subset (List.mem_cons_of_mem _ (Array.mem_def.1 hy))))

theorem goodA_push {o : Ops α} (h : Array (Tok α)) (x : Tok α) (hg : GoodA o h)
    (hx : o.isNaN x.val = false) : GoodA o (h.push x) := by
  intro y hy
  rcases Array.mem_push.1 hy with hy | rfl
  · exact hg y hy
  · exact hx

theorem hpush_totalize {o : Ops α} (hz : o.isNaN o.zero = false) (h : Array (Tok α)) (x : Tok α)
    (hg : GoodA o h) (hx : o.isNaN x.val = false) : hpush (totalize o) h x = hpush o h x := by
  unfold hpush
  simp only
  exact hup_totalize hz _ _ _ (goodA_push h x hg hx)

theorem hpopAll_totalize {o : Ops α} (hz : o.isNaN o.zero = false) :
    ∀ (n : Nat) (h : Array (Tok α)), h.size = n → GoodA o h →
    hpopAll (totalize o) n h = hpopAll o n h := by
  intro n
  induction n with
  | zero => intro h _ _; rfl
  | succ n ih =>
    intro h hs hg
    simp only [hpopAll, hpop_totalize hz h hg]
    congr 1
    exact ih _ (by rw [(hpop_both o h (by omega)).2.1]; omega) (goodA_hpop h (by omega) hg)

theorem goodA_hoffer {o : Ops α} (h : Array (Tok α)) (t : Tok α) (hs : 0 < h.size) (hg : GoodA o h)
    (ht : o.isNaN t.val = false) : GoodA o (hoffer o h t) := by
  obtain ⟨_, d, dp, _⟩ := hoffer_both o h t hs
  intro y hy
  rcases List.mem_cons.1 (dp.subset (List.mem_cons_of_mem _ (Array.mem_def.1 hy))) with rfl | hy
  · exact ht
  · exact hg y (Array.mem_def.2 hy)

theorem hoffer_totalize {o : Ops α} (hz : o.isNaN o.zero = false) (h : Array (Tok α)) (t : Tok α)
    (hs : 0 < h.size) (hg : GoodA o h) (ht : o.isNaN t.val = false) :
    hoffer (totalize o) h t = hoffer o h t := by
  have e1 : (totalize o).lt (hget (totalize o) h 0).val t.val = o.lt (hget o h 0).val t.val :=
    totalize_lt o (hget_good hz h hg 0) ht
  simp only [hoffer, e1, hpop_totalize hz h hg, hpush_totalize hz _ t (goodA_hpop h hs hg) ht]

theorem topKHeap_totalize {o : Ops α} (hz : o.isNaN o.zero = false) (k : Nat) (ts : List (Tok α))
    (hk0 : 0 < k) (hk : k ≤ ts.length) (hg : GoodL o ts) :
    topKHeap (totalize o) k ts = topKHeap o k ts := by
  have g0 : GoodA o (ts.take k).toArray := fun y hy => hg y (List.mem_of_mem_take (by simpa using hy))
  have s0 : (hinit o (ts.take k).toArray).size = k := by
    rw [(hinit_perm o (ts.take k).toArray).size_eq]; simp; omega
  obtain ⟨e, fs, fg⟩ := foldl_congr_inv (fun h : Array (Tok α) => h.size = k ∧ GoodA o h)
    (hoffer (totalize o)) (hoffer o) (ts.drop k) _ ⟨s0, g0.of_perm (hinit_perm o _)⟩ fun h t ⟨hs, hgd⟩ ht' =>
      have ht := hg t (List.mem_of_mem_drop ht')
      ⟨hoffer_totalize hz h t (by omega) hgd ht,
        by rw [(hoffer_both o h t (by omega)).1]; exact hs, goodA_hoffer h t (by omega) hgd ht⟩
  rw [topKHeap_eq, topKHeap_eq, hinit_totalize hz _ g0, e, hpopAll_totalize hz k _ fs fg]

theorem topK_totalize {o : Ops α} (hz : o.isNaN o.zero = false) (k : Int) (ts : List (Tok α))
    (hg : GoodL o ts) : topK (totalize o) k ts = topK o k ts := by
  unfold topK
  split
  · exact sortDesc_totalize o ts hg
  · rename_i hk
    exact topKHeap_totalize hz k.toNat ts (by omega) (by omega) hg

theorem IsTopK.of_totalize {o : Ops α} {k : Int} {ts out : List (Tok α)} (hg : GoodL o ts)
    (h : IsTopK (totalize o) k ts out) : IsTopK o k ts out := by
  obtain ⟨rest, hp, hdom⟩ := h.sub
  have hout : ∀ x ∈ out, o.isNaN x.val = false := fun x hx =>
    hg x (hp.mem_iff.1 (List.mem_append_left _ hx))
  have hrest : ∀ x ∈ rest, o.isNaN x.val = false := fun x hx =>
    hg x (hp.mem_iff.1 (List.mem_append_right _ hx))
  refine ⟨h.len, ?_, rest, hp, ?_⟩
  · refine List.Pairwise.imp_of_mem ?_ h.desc
    intro a b ha hb hab
    rw [← totalize_lt o (hout a ha) (hout b hb)]; exact hab
  · intro x hx y hy
    rw [← totalize_lt o (hout y hy) (hrest x hx)]; exact hdom x hx y hy

/-- **`topK` is a correct top-k on both branches for IEEE-like carriers**: relativised laws, NaN-free
    input (the property's quantifier: finite logits and infinities) -/
theorem topK_isTopK_on {o : Ops α} (h : OrdLawsOn o) (k : Int) (ts : List (Tok α)) (hg : GoodL o ts) :
    IsTopK o k ts (topK o k ts) := by
  have := topK_isTopK_all (totalize_laws h) k ts
  rw [topK_totalize h.zero k ts hg] at this
  exact this.of_totalize hg

/-! ### the arithmetic part of the pipeline: same run for `o` and `totalize o` when no NaN is compared -/

/-- arithmetic on non-NaN values: the admissibility clause uses `addZero` alone, `totalize_addZero` also `addNaN` -/
structure ArithLawsOn (o : Ops α) : Prop where
  posInf : o.isNaN o.posInf = false
  /-- adding a zero does not make a non-NaN sum larger -/
  addZero : ∀ s z, o.beq z o.zero = true → o.isNaN s = false → o.lt s (o.add s z) = false
  /-- NaN is absorbing for `+` on the left -/
  addNaN : ∀ s z, o.isNaN s = true → o.isNaN (o.add s z) = true

theorem fmax_totalize (o : Ops α) (a b : α) : fmax (totalize o) a b = fmax o a b := by
  unfold fmax
  cases ha : o.isNaN a with
  | true => simp [totalize, ha]
  | false =>
    cases hb : o.isNaN b with
    | true => simp [totalize, ha, hb]
    | false =>
      have : (totalize o).lt a b = o.lt a b := totalize_lt o ha hb
      have e1 : (totalize o).isNaN a = false := ha
      have e2 : (totalize o).isNaN b = false := hb
      simp only [e1, e2, this, Bool.false_eq_true, if_false]

theorem scaleVals_totalize (o : Ops α) (t : α) (vs : List α) :
    scaleVals (totalize o) t vs = scaleVals o t vs := by
  unfold scaleVals
  simp only
  have : fmax (totalize o) t (totalize o).tempFloor = fmax o t o.tempFloor := fmax_totalize o t o.tempFloor
  rw [this]
  rfl

theorem temperature_totalize (o : Ops α) (t : α) (L : List (Tok α)) :
    temperature (totalize o) t L = temperature o t L := by
  unfold temperature
  rw [scaleVals_totalize]

theorem softmaxVals_totalize {o : Ops α} (hneg : o.isNaN o.negInf = false) (vs : List α)
    (hv : ∀ v ∈ vs, o.isNaN v = false) : softmaxVals (totalize o) vs = softmaxVals o vs := by
  unfold softmaxVals
  have := (foldl_congr_inv (fun m : α => o.isNaN m = false)
    (fun m v => if (totalize o).lt m v then v else m) (fun m v => if o.lt m v then v else m) vs o.negInf hneg
    fun m x hm hx => by
      simp only [totalize_lt o hm (hv x hx), true_and]
      split
      · exact hv x hx
      · exact hm).1
  simp only
  have e : (totalize o).negInf = o.negInf := rfl
  rw [e, this]
  rfl

theorem softmax_totalize {o : Ops α} (hneg : o.isNaN o.negInf = false) (L : List (Tok α))
    (hv : ∀ t ∈ L, o.isNaN t.val = false) : softmax (totalize o) L = softmax o L := by
  unfold softmax
  rw [softmaxVals_totalize hneg]
  intro v hv'
  obtain ⟨t, ht, rfl⟩ := List.mem_map.1 hv'
  exact hv t ht

/-- every running sum of the `topP` scan is not NaN -/
def sumsGood (o : Ops α) : α → List (Tok α) → Bool
  | _, [] => true
  | s, t :: rest => !o.isNaN (o.add s t.val) && sumsGood o (o.add s t.val) rest

theorem topPCut_totalize (o : Ops α) (p : α) (hp : o.isNaN p = false) : ∀ (L : List (Tok α)) (s : α),
    sumsGood o s L = true → topPCut (totalize o) p s L = topPCut o p s L := by
  intro L
  induction L with
  | nil => intro s _; rfl
  | cons t rest ih =>
    intro s hs
    simp only [sumsGood, Bool.and_eq_true, Bool.not_eq_true'] at hs
    simp only [topPCut]
    have e : (totalize o).add s t.val = o.add s t.val := rfl
    rw [e, totalize_lt o hp hs.1, ih _ hs.2]

theorem topP_totalize (o : Ops α) (p : α) (hp : o.isNaN p = false) (L : List (Tok α))
    (hs : sumsGood o o.zero L = true) : topP (totalize o) p L = topP o p L := by
  unfold topP
  have e1 : (totalize o).beq p (totalize o).one = o.beq p o.one := rfl
  have e2 : (totalize o).zero = o.zero := rfl
  rw [e1, e2, topPCut_totalize o p hp L o.zero hs]

theorem minP_totalize (o : Ops α) (p : α) (L : List (Tok α))
    (hv : ∀ t ∈ L, o.isNaN t.val = false)
    (hth : ∀ t0 rest, L = t0 :: rest → o.isNaN (o.mul t0.val p) = false) :
    minP (totalize o) p L = minP o p L := by
  cases L with
  | nil => rfl
  | cons t0 rest =>
    simp only [minP]
    have hth' := hth t0 rest rfl
    have e : (totalize o).mul t0.val p = o.mul t0.val p := rfl
    rw [e]
    congr 1
    have : ∀ (l : List (Tok α)), (∀ t ∈ l, o.isNaN t.val = false) →
        l.takeWhile (fun t => !(totalize o).lt t.val (o.mul t0.val p)) =
        l.takeWhile (fun t => !o.lt t.val (o.mul t0.val p)) := by
      intro l
      induction l with
      | nil => intro _; rfl
      | cons x xs ih =>
        intro hl
        simp only [List.takeWhile_cons, totalize_lt o (hl x List.mem_cons_self) hth']
        rw [ih (fun t ht => hl t (List.mem_cons_of_mem _ ht))]
    exact this _ hv

theorem cumsum_totalize (o : Ops α) (s : α) (L : List (Tok α)) : cumsum (totalize o) s L = cumsum o s L := by
  induction L generalizing s with
  | nil => rfl
  | cons t rest ih => simp only [cumsum]; exact congrArg _ (ih _)

theorem pick_totalize (o : Ops α) (r : α) (L : List (Tok α))
    (hc : ∀ t ∈ cumsum o o.zero L, o.isNaN t.val = false)
    (hr : ∀ last, (cumsum o o.zero L).getLast? = some last → o.isNaN (o.mul r last.val) = false) :
    pick (totalize o) r L = pick o r L := by
  unfold pick
  have e0 : (totalize o).zero = o.zero := rfl
  simp only [e0, cumsum_totalize]
  cases hl : (cumsum o o.zero L).getLast? with
  | none => rfl
  | some last =>
    simp only
    have hr' := hr last hl
    have e : (totalize o).mul r last.val = o.mul r last.val := rfl
    have hb : belowAt (totalize o) (cumsum o o.zero L) (o.mul r last.val) =
        belowAt o (cumsum o o.zero L) (o.mul r last.val) := by
      funext h
      unfold belowAt
      cases hg : (cumsum o o.zero L)[h]? with
      | none => rfl
      | some t => exact totalize_lt o (hc t (List.mem_of_getElem? hg)) hr'
    rw [e, hb]
    rfl


/-- **the run guard**: no NaN is ever compared in the run on the (shifted) list `L1` — none among the
    scaled values, the probabilities, the running sums of the `topP` scan, the `minP` threshold, the
    cumulative sums and the target `r·total`, and `top_p` itself is not NaN.  Decidable; evaluated on
    every sampled run by the oracle and, independently, by the Go driver (flag `nan` of `c=`). -/
def runGood (o : Ops α) (P : Params α) (r : α) (L1 : List (Tok α)) : Bool :=
  (temperature o P.temp L1).all (fun t => !o.isNaN t.val) &&
  (probsOf o P L1).all (fun t => !o.isNaN t.val) &&
  !o.isNaN P.topP && sumsGood o o.zero (probsOf o P L1) &&
  (match topP o P.topP (probsOf o P L1) with
   | [] => true
   | t0 :: _ => !o.isNaN (o.mul t0.val P.minP)) &&
  (match minP o P.minP (topP o P.topP (probsOf o P L1)) with
   | .ok f => (cumsum o o.zero f).all (fun t => !o.isNaN t.val) &&
       (match (cumsum o o.zero f).getLast? with
        | some last => !o.isNaN (o.mul r last.val)
        | none => true)
   | .error _ => true)

theorem PickOrd.of_runGood {o : Ops α} (h : OrdLawsOn o)
    (haz : ∀ s z, o.beq z o.zero = true → o.isNaN s = false → o.lt s (o.add s z) = false)
    {P : Params α} {r : α} {L1 : List (Tok α)} (hg : runGood o P r L1 = true)
    (f : List (Tok α)) (last : Tok α) (hf : minP o P.minP (topP o P.topP (probsOf o P L1)) = .ok f)
    (hl : (cumsum o o.zero f).getLast? = some last) : PickOrd o (cumsum o o.zero f) (o.mul r last.val) := by
  unfold runGood at hg
  rw [hf] at hg
  simp only [hl, Bool.and_eq_true, List.all_eq_true, Bool.not_eq_true'] at hg
  exact ⟨fun q t hq ht => h.cotrans _ _ _ (hg.2.1 q hq) (hg.2.1 t ht) hg.2.2,
    fun q z hq hz => haz q.val z hz (hg.2.1 q hq)⟩

theorem runGood_stages {o : Ops α} (hneg : o.isNaN o.negInf = false) (P : Params α) (r : α)
    (L1 : List (Tok α)) (hg : runGood o P r L1 = true) :
    (∀ v ∈ scaledOf o P L1, o.isNaN v = false) ∧
    (∀ t ∈ probsOf o P L1, o.isNaN t.val = false) ∧
    probsOf (totalize o) P L1 = probsOf o P L1 ∧
    topP (totalize o) P.topP (probsOf o P L1) = topP o P.topP (probsOf o P L1) ∧
    minP (totalize o) P.minP (topP o P.topP (probsOf o P L1)) = minP o P.minP (topP o P.topP (probsOf o P L1)) ∧
    (∀ f, minP o P.minP (topP o P.topP (probsOf o P L1)) = .ok f → pick (totalize o) r f = pick o r f) := by
  unfold runGood at hg
  simp only [Bool.and_eq_true, List.all_eq_true, Bool.not_eq_true'] at hg
  obtain ⟨⟨⟨⟨⟨hS, hP⟩, hp⟩, hsum⟩, hth⟩, hpk⟩ := hg
  have hS' : ∀ v ∈ scaledOf o P L1, o.isNaN v = false := by
    intro v hv
    rw [← temperature_vals] at hv
    obtain ⟨t, ht, rfl⟩ := List.mem_map.1 hv
    exact hS t ht
  have e1 : probsOf (totalize o) P L1 = probsOf o P L1 := by
    unfold probsOf
    rw [temperature_totalize, softmax_totalize hneg _ hS]
  have hfp : ∀ t ∈ topP o P.topP (probsOf o P L1), o.isNaN t.val = false := fun t ht =>
    hP t ((topP_prefix o P.topP _).subset ht)
  refine ⟨hS', hP, e1, topP_totalize o P.topP hp _ hsum, ?_, ?_⟩
  · apply minP_totalize o P.minP _ hfp
    intro t0 rest he
    rw [he] at hth
    simpa using hth
  · intro f hf
    rw [hf] at hpk
    simp only [Bool.and_eq_true, List.all_eq_true, Bool.not_eq_true'] at hpk
    apply pick_totalize o r f hpk.1
    intro last hl
    have := hpk.2
    rw [hl] at this
    simpa using this

theorem afterTopK_totalize {o : Ops α} (hneg : o.isNaN o.negInf = false) (P : Params α) (r : α)
    (L1 : List (Tok α)) (hg : runGood o P r L1 = true) :
    afterTopK (totalize o) false P r L1 = afterTopK o false P r L1 := by
  obtain ⟨_, _, e1, e2, e3, e4⟩ := runGood_stages hneg P r L1 hg
  rw [afterTopK_false, afterTopK_false, e1, e2, e3]
  cases hm : minP o P.minP (topP o P.topP (probsOf o P L1)) with
  | error e => rfl
  | ok f => exact e4 f hm

theorem totalize_addZero {o : Ops α} (ha : ArithLawsOn o) : AddZeroLaw (totalize o) := by
  intro s z hz
  show (!o.isNaN (o.add s z) && (o.isNaN s || o.lt s (o.add s z))) = false
  cases hs : o.isNaN s with
  | true => simp [ha.addNaN s z hs]
  | false =>
    cases hn : o.isNaN (o.add s z) with
    | true => simp
    | false => simp [ha.addZero s z hz hs]

/-- **everything after topK, repaired variant, for IEEE-like carriers**: relativised laws; the run
    guard `runGood` (no NaN is ever compared) joins the contracts -/
theorem afterTopK_spec_fix_on {o : Ops α} (h : OrdLawsOn o) (ha : ArithLawsOn o) (hb : BeqLawOn o)
    (P : Params α) (r : α) (L : List (Tok α)) (t : Tok α)
    (hres : afterTopK o true P r L = .ok t) :
    ∃ L1, shiftMax o L = .ok L1 ∧
    (runGood o P r L1 = true →
     guardOK o (scaledOf o P L1) = true →
     scaleOK o (L.map (·.val)) (L1.map (·.val)) = true →
     scaleOK o (L1.map (·.val)) (scaledOf o P L1) = true →
     softmaxOK o (scaledOf o P L1) (softmaxVals o (scaledOf o P L1)) = true →
     ∃ (idx : Nat) (y : Tok α) (f : List (Tok α)) (x : Tok α),
      L[idx]? = some y ∧ y.id = t.id ∧ o.beq y.val o.negInf = false ∧
      minP o P.minP (topP o P.topP (probsOf o P L1)) = .ok f ∧ f <+: probsOf o P L1 ∧
      f[idx]? = some x ∧ x.id = t.id) := by
  obtain ⟨L1, hs, hrest⟩ := afterTopK_spec_fix_of (fun v => hb.nlt v _) P r L t hres
  exact ⟨L1, hs, fun hrg => hrest (.of_runGood h ha.addZero hrg)⟩

/-- the residual per-run guard (flag `mass` of `c=`): the normaliser, the probabilities and the kept mass are FINITE (a
    quantitative fact — a sum of at most 2³¹ numbers of `[0, 1]` — that no order law gives) -/
def massFinite (o : Ops α) (P : Params α) (L1 : List (Tok α)) : Bool :=
  let vs := scaledOf o P L1
  let m := vs.foldl (fun m v => if o.lt m v then v else m) o.negInf
  let s := (vs.map (fun v => o.exp (o.sub v m))).foldl o.add o.zero
  o.lt o.zero s && o.lt s o.posInf &&
  (probsOf o P L1).all (fun t => o.lt t.val o.posInf) &&
  (match minP o P.minP (topP o P.topP (probsOf o P L1)) with
   | .ok f => (cumsum o o.zero f).all (fun t => o.lt t.val o.posInf)
   | .error _ => true)

end OllamaVerif.Sampler
