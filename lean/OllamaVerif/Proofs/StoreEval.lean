/-
  C04: `create` once more, only for the kernel to evaluate.  `configJSON` is ~20 left-nested `String.append`s under
  `strBytes`; in the kernel each `++` is `ByteArray.copySlice` (`Array.extract` loops of `push`, whose elements stay
  look-ups into the previous array, one level deeper per `++`) and `strBytes` ends in the well-founded
  `ByteArray.toList`: forcing one config's ~210 bytes is nearly all the work on a trace with a create in it.
  `configJSONB` renders the same literal pieces with `List` append; `createModelB` … `stepB` are the model's text with
  that one call replaced, each proved equal to its original.  Only the closed witnesses of Properties/C04.lean go
  through them; nothing argued does.  Core Lean only.
-/
import OllamaVerif.Model.Store

namespace OllamaVerif.Store
open OllamaVerif

theorem toList_loop_eq (bs : ByteArray) (i : Nat) (r : List UInt8) :
    ByteArray.toList.loop bs i r = r.reverse ++ bs.data.toList.drop i := by
  fun_induction ByteArray.toList.loop bs i r with
  | case1 i r h ih =>
    have h' : i < bs.data.toList.length := h
    have : bs.get! i = bs.data.toList[i] := by
      cases bs with | mk a => exact (getElem!_pos a i h).trans (Array.getElem_toList h').symm
    rw [ih, List.reverse_cons, List.append_assoc, List.drop_eq_getElem_cons h', this]
    rfl
  | case2 i r h =>
    have : bs.data.toList.length ≤ i := Nat.le_of_not_lt h
    simp [List.drop_of_length_le this]

/-- the bytes of a string, read off the array -/
def sb (s : String) : Bytes := s.toUTF8.data.toList

theorem strBytes_eq (s : String) : strBytes s = sb s :=
  (toList_loop_eq s.toUTF8 0 []).trans (by rfl)

theorem sb_append (a b : String) : sb (a ++ b) = sb a ++ sb b := ByteArray.toList_data_append

def jstrB (s : String) : Bytes := sb "\"" ++ sb s ++ sb "\""

def jlistB (l : List Bytes) : Bytes := sb "[" ++ (l.intersperse (sb ",")).flatten ++ sb "]"

theorem sb_jstr (s : String) : sb (jstr s) = jstrB s := by
  simp only [jstr, sb_append, jstrB]

theorem sb_intercalate (l : List String) :
    sb (",".intercalate l) = ((l.map sb).intersperse (sb ",")).flatten := by
  induction l with
  | nil => rfl
  | cons a t ih =>
    cases t with
    | nil => simp
    | cons b t =>
      rw [String.intercalate_cons_cons, sb_append, sb_append, ih]
      simp only [List.map_cons, List.intersperse_cons_cons, List.flatten_cons, List.append_assoc]

theorem sb_jlist (l : List String) : sb (jlist l) = jlistB (l.map sb) := by
  simp only [jlist, sb_append, sb_intercalate, jlistB]

def configJSONB (metas : List Meta) (digs : List Digest) : Bytes :=
  let first (f : Meta → String) : String := ((metas.map f).find? (· ≠ "")).getD ""
  let fmt := if metas.isEmpty then "" else "gguf"
  let fams := if metas.isEmpty then sb "null" else jlistB (metas.map (fun m => jstrB m.arch))
  sb "{\"model_format\":" ++ jstrB fmt ++ sb ",\"model_family\":" ++ jstrB (first (·.arch))
    ++ sb ",\"model_families\":" ++ fams ++ sb ",\"model_type\":" ++ jstrB (first (·.mtype))
    ++ sb ",\"file_type\":" ++ jstrB (first (·.ftype))
    ++ sb ",\"architecture\":\"amd64\",\"os\":\"linux\",\"rootfs\":{\"type\":\"layers\",\"diff_ids\":"
    ++ jlistB (digs.map (fun d => jstrB d.str)) ++ sb "}}\n"

theorem configJSON_eq : @configJSON = @configJSONB := by
  funext metas digs
  simp only [configJSON, configJSONB, strBytes_eq, sb_append, sb_jstr, sb_jlist, List.map_map]
  split <;> simp only [sb_jlist, List.map_map, Function.comp_def, sb_jstr]

def createModelB (env : Env) (st : Store) (name : Name) (base : List (Layer × Option Meta)) (r : CreateReq) :
    Store × Option String :=
  let layers := base.map (·.1)
  let metas := base.filterMap (·.2)
  match stepTemplate env st layers r.template with
  | (st1, none) => (st1, some "e400")
  | (st1, some l1) =>
    match stepSystem env st1 l1 r.system with
    | (st2a, l2a) =>
     match stepLicense env st2a l2a r.licenses with
     | (st2, l2) =>
      match stepParams env st2 l2 r.params with
      | (st3, none) => (st3, some "e500")
      | (st3a, some l3a) =>
       match stepMessages env st3a l3a r.messages with
       | (st3, l3) =>
        match newLayer env st3 (configJSONB metas (l3.map (·.digest))) .config with
        | (st4, cfg) => (setManifest st4 name (.readable ⟨cfg, l3⟩), none)

theorem createModel_eq : @createModel = @createModelB := by
  funext env st name base r
  unfold createModel createModelB
  rw [configJSON_eq]
  rfl  -- the same text, but each definition has matchers of its own

def createAtB (env : Env) (st : Store) (r : CreateReq) (name : Name) (frev : Bool) : Store × List String :=
  let old := st.readableAt name
  match baseLayers env st r frev with
  | (st0, none, ev) => (st0, ev)
  | (st0, some base, ev) =>
    match createModelB env st0 name base r with
    | (st1, some err) => (st1, ev ++ [err])
    | (st1, none) =>
      match old with
      | some m => (gcOld env st1 m.all, ev ++ ["s"])
      | none => (st1, ev ++ ["s"])

theorem createAt_eq : @createAt = @createAtB := by
  funext env st r name frev
  unfold createAt createAtB
  rw [createModel_eq]
  rfl

/-- a copy, not `unfold createFromPull` in the witness: on a closed goal `unfold` and `delta` make the ELABORATOR
    compare the two sides, and it evaluates the store to do so -/
def createFromPullB (env : Env) (st : Store) (r : CreateReq) (nm sn : Name) (reg : Manifest)
    (served : List (String × Bytes)) : Store × List String :=
  let r' := { r with src := some sn }
  match st.man sn with
  | some _ => createAtB env st r' nm false
  | none =>
    let p := pullAt env st sn (some reg) served
    if p.2 = ["s"] then
      let c := createAtB env p.1 r' nm false
      (c.1, "s" :: c.2)
    else (p.1, ["e500"])

theorem createFromPull_eq : @createFromPull = @createFromPullB := by
  funext env st r nm sn reg served
  unfold createFromPull createFromPullB
  rw [createAt_eq]
  rfl

def stepB (env : Env) (st : Store) (op : Op) (ch : Choice) : Store × List String :=
  match op with
  | .create r => createAtB env st r (resolveName env st ch.ord1 r.name) ch.frev
  | op => step env st op ch

theorem step_eq : @step = @stepB := by
  funext env st op ch
  cases op <;> simp only [step, stepB, createAt_eq]

end OllamaVerif.Store
