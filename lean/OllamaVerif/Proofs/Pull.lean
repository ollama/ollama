/-
  Lemmas about the pull model (`Model/Pull.lean`): one specification per level of `PullModel` (download loop: `Step`,
  `Along`; verify loop: `verifyLoop_spec`; a pull: `pull_ok`, `pull_fail`, `pull_effect`), then one chain each for no
  panic, the Glob order of resumed records, a joining pull, and honest registry ⇒ success (`runPartsIdx_honest`).
-/
import OllamaVerif.Model.Pull

namespace OllamaVerif.Pull

variable {cfg : Cfg} {hash : Bytes → Digest} {reg : Registry} {sc : Scripts}

theorem upd_same {β : Type} (f : Digest → β) (k : Digest) (v : β) : upd f k v k = v := by
  simp [upd]

theorem upd_other {β : Type} (f : Digest → β) (k d : Digest) (v : β) (h : d ≠ k) :
    upd f k v d = f d := by
  simp [upd, h]

theorem upd_blobInv {b : Digest → Option Bytes} {d : Digest} {o : Option Bytes}
    (hinv : ∀ x c, b x = some c → hash c = x) (ho : ∀ c, o = some c → hash c = d) :
    ∀ x c, upd b d o x = some c → hash c = x := by
  intro x c hx
  by_cases e : x = d
  · rw [e, upd_same] at hx; exact e ▸ ho c hx
  · rw [upd_other _ _ _ _ e] at hx; exact hinv x c hx

theorem getSkip_setSkip (d k : Digest) (v : Bool) (sk : List (Digest × Bool)) :
    getSkip d (setSkip k v sk) = if d = k then v else getSkip d sk := by
  fun_induction setSkip k v sk <;> grind [getSkip]

theorem lookupM_insertM (n : Name) (v : MFile) (l : List (Name × MFile)) :
    lookupM n (insertM n v l) = some v := by
  fun_induction insertM n v l <;> grind [lookupM]

theorem lookupM_insertM_other (n name : Name) (v : MFile) (l : List (Name × MFile)) (h : n ≠ name) :
    lookupM n (insertM name v l) = lookupM n l := by
  fun_induction insertM name v l <;> grind [lookupM]

theorem usedRefs_mem (n : Name) (m : Manifest) (mans : List (Name × MFile))
    (h : lookupM n mans = some (.readable m)) : ∀ r ∈ layerRefs m, r ∈ usedRefs mans := by
  fun_induction usedRefs mans <;> grind [lookupM]

theorem all_digest_mem_layerRefs (m : Manifest) (l : Layer) (hl : l ∈ m.all) : l.digest ∈ layerRefs m := by
  unfold Manifest.all at hl
  unfold layerRefs
  grind

theorem removeBlobs_apply (used ks : List DRef) (x : Digest) (b : Digest → Option Bytes) :
    removeBlobs used ks b x = if DRef.ok x ∈ ks ∧ DRef.ok x ∉ used then none else b x := by
  fun_induction removeBlobs used ks b <;> grind [upd]

theorem markSkip_pinned (hdup : cfg.fixedDup = false) (d : Digest) (v : Bool)
    (sk : List (Digest × Bool)) : markSkip cfg d v sk = setSkip d v sk := by
  simp [markSkip, hdup]

theorem getSkip_markSkip_other (cfg : Cfg) (x d : Digest) (v : Bool) (sk : List (Digest × Bool))
    (hx : x ≠ d) : getSkip x (markSkip cfg d v sk) = getSkip x sk := by
  unfold markSkip
  split
  · rfl
  · simp [getSkip_setSkip, hx]

theorem getSkip_markSkip_true (cfg : Cfg) (x d : Digest) (sk : List (Digest × Bool))
    (h : getSkip x sk = true) : getSkip x (markSkip cfg d true sk) = true := by
  unfold markSkip
  split
  · exact h
  · rw [getSkip_setSkip]; split <;> simp [h]

/-- `Step cfg hash s s1 d`: `s1` is the state after the loop body handled a layer with digest `d`
    successfully (a cache hit, or a completed download that — in the repaired variant — passed its
    inline verification) -/
def Step (cfg : Cfg) (hash : Bytes → Digest) (s s1 : DlState) (d : Digest) : Prop :=
  (∃ c0, s.st.blobs d = some c0 ∧ s1 = { s with skip := markSkip cfg d true s.skip }) ∨
  (s.st.blobs d = none ∧ s.canceled = false ∧ ∃ c pa net' cf, (cfg.verifyEarly = true → hash c = d) ∧ s1 =
    { st := { s.st with blobs := upd s.st.blobs d (some c), partials := upd s.st.partials d pa },
      net := net', skip := markSkip cfg d false s.skip, renamed := s.renamed ++ [d], canceled := cf })

theorem Step.manifests {cfg : Cfg} {hash : Bytes → Digest} {s s1 : DlState} {d : Digest}
    (h : Step cfg hash s s1 d) : s1.st.manifests = s.st.manifests := by
  rcases h with ⟨_, _, rfl⟩ | ⟨_, _, _, _, _, _, _, rfl⟩ <;> rfl

theorem Step.present {cfg : Cfg} {hash : Bytes → Digest} {s s1 : DlState} {d : Digest}
    (h : Step cfg hash s s1 d) : ∃ c, s1.st.blobs d = some c := by
  rcases h with ⟨c0, hc, rfl⟩ | ⟨_, _, c, _, _, _, _, rfl⟩
  · exact ⟨c0, hc⟩
  · exact ⟨c, by simp [upd_same]⟩

section
variable {s s1 : DlState} {d : Digest}

theorem Step.skip (hdup : cfg.fixedDup = false) (h : Step cfg hash s s1 d) :
    (getSkip d s1.skip = true ∧ s1.st.blobs d = s.st.blobs d) ∨ (getSkip d s1.skip = false ∧ s.st.blobs d = none) := by
  rcases h with ⟨_, _, rfl⟩ | ⟨hn, _, _, _, _, _, _, rfl⟩
  · exact Or.inl ⟨by simp [markSkip_pinned hdup, getSkip_setSkip], rfl⟩
  · exact Or.inr ⟨by simp [markSkip_pinned hdup, getSkip_setSkip], hn⟩

end

/-- what the download loop over `ls` can have done between `s` and `s'`, whatever its outcome -/
structure Along (cfg : Cfg) (hash : Bytes → Digest) (ls : List Layer) (s s' : DlState) : Prop where
  manifests : s'.st.manifests = s.st.manifests
  renamed : ∀ x ∈ s.renamed, x ∈ s'.renamed
  /-- a blob changes only from absent to renamed by this attempt (and verified, in the repaired variant) -/
  blobs : ∀ x, s'.st.blobs x = s.st.blobs x ∨ (s.st.blobs x = none ∧ x ∈ s'.renamed ∧
    (cfg.verifyEarly = true → ∀ c, s'.st.blobs x = some c → hash c = x))
  /-- a digest that no layer of `ls` names keeps its blob and its `skipVerify` mark -/
  frame : ∀ x, (∀ l ∈ ls, l.digest ≠ .ok x) →
    s'.st.blobs x = s.st.blobs x ∧ getSkip x s'.skip = getSkip x s.skip
  /-- a stored digest that is marked `skip` stays marked: every later visit is a cache hit (any variant) -/
  hit : ∀ x c, s.st.blobs x = some c → getSkip x s.skip = true → getSkip x s'.skip = true

section
variable {ls l1 l2 : List Layer} {s s1 s2 s' : DlState}

/-- a loop that stops, or has not started: only the resume state and the counters differ -/
theorem Along.stop (pa : Digest → Partial) (net' : Net) :
    Along cfg hash ls s { s with st := { s.st with partials := pa }, net := net' } :=
  ⟨rfl, fun _ h => h, fun _ => .inl rfl, fun _ _ => ⟨rfl, rfl⟩, fun _ _ _ h => h⟩

theorem Along.keeps (a : Along cfg hash ls s s') {x : Digest} {c : Bytes} (hc : s.st.blobs x = some c) :
    s'.st.blobs x = some c := by
  rcases a.blobs x with e | ⟨hn, _⟩
  · rw [e]; exact hc
  · rw [hn] at hc; cases hc

theorem Along.blobInv (a : Along cfg hash ls s s') (hearly : cfg.verifyEarly = true)
    (hinv : ∀ x c, s.st.blobs x = some c → hash c = x) : ∀ x c, s'.st.blobs x = some c → hash c = x := by
  intro x c hx
  rcases a.blobs x with e | ⟨_, _, hv⟩
  · exact hinv x c (e ▸ hx)
  · exact hv hearly c hx

theorem Along.trans (a : Along cfg hash l1 s s1) (b : Along cfg hash l2 s1 s2) :
    Along cfg hash (l1 ++ l2) s s2 := by
  refine ⟨b.manifests.trans a.manifests, fun x hx => b.renamed x (a.renamed x hx), fun x => ?_, fun x hx => ?_,
    fun x c hc ht => b.hit x c (a.keeps hc) (a.hit x c hc ht)⟩
  · rcases a.blobs x, b.blobs x with ⟨e1 | ⟨hn, hr, hv⟩, e2 | ⟨hn2, hr2, hv2⟩⟩
    · exact .inl (e2.trans e1)
    · exact .inr ⟨e1 ▸ hn2, hr2, hv2⟩
    · exact .inr ⟨hn, b.renamed x hr, fun he c hc => hv he c (e2 ▸ hc)⟩
    · exact .inr ⟨hn, hr2, hv2⟩
  · obtain ⟨e1, k1⟩ := a.frame x fun l hl => hx l (List.mem_append_left _ hl)
    obtain ⟨e2, k2⟩ := b.frame x fun l hl => hx l (List.mem_append_right _ hl)
    exact ⟨e2.trans e1, k2.trans k1⟩

theorem Step.along {l : Layer} {d : Digest} (h : Step cfg hash s s1 d) (hd : l.digest = .ok d) :
    Along cfg hash [l] s s1 := by
  have hne : ∀ x, (∀ l' ∈ [l], l'.digest ≠ .ok x) → x ≠ d :=
    fun x hx e => hx l (List.mem_singleton_self l) (e ▸ hd)
  rcases h with ⟨c0, hc0, rfl⟩ | ⟨hn, _, c, pa, net', cf, hh, rfl⟩
  · exact ⟨rfl, fun _ h => h, fun _ => .inl rfl,
      fun x hx => ⟨rfl, getSkip_markSkip_other cfg x d true s.skip (hne x hx)⟩,
      fun x _ _ ht => getSkip_markSkip_true cfg x d s.skip ht⟩
  · refine ⟨rfl, fun x hx => List.mem_append_left _ hx, fun x => ?_,
      fun x hx => ⟨upd_other _ _ _ _ (hne x hx), getSkip_markSkip_other cfg x d false s.skip (hne x hx)⟩,
      fun x c' hc ht => ?_⟩
    · by_cases e : x = d
      · subst e
        exact .inr ⟨hn, List.mem_append_right _ (List.mem_singleton_self x),
          fun he c' hc' => by simp only [upd_same] at hc'; cases hc'; exact hh he⟩
      · exact .inl (upd_other _ _ _ _ e)
    · have e : x ≠ d := fun e => by rw [e, hn] at hc; cases hc
      exact (getSkip_markSkip_other cfg x d false s.skip e).trans ht

end

theorem dlLoop_cons {l : Layer}
    {ls : List Layer} {s s' : DlState} {o : Outcome} (h : dlLoop cfg hash reg sc (l :: ls) s = (o, s')) :
    (o ≠ .ok () ∧ Along cfg hash (l :: ls) s s') ∨
    (∃ d s1, l.digest = .ok d ∧ Step cfg hash s s1 d ∧ dlLoop cfg hash reg sc ls s1 = (o, s')) := by
  unfold dlLoop at h
  split at h
  · cases h; exact Or.inl ⟨nofun, .stop _ _⟩
  · split at h
    · cases h; exact Or.inl ⟨nofun, .stop _ _⟩
    · cases h; exact Or.inl ⟨nofun, .stop _ _⟩
  · rename_i d hd
    split at h
    · rename_i c0 hc0
      right; exact ⟨d, _, hd, Or.inl ⟨c0, hc0, rfl⟩, h⟩
    · rename_i hnone
      split at h
      · cases h; exact Or.inl ⟨nofun, .stop _ _⟩
      · rename_i hcan
        split at h
        · rename_i c pa net' _
          split at h
          · cases h; exact Or.inl ⟨nofun, .stop _ _⟩
          · rename_i hcond
            right
            refine ⟨d, _, hd, Or.inr ⟨hnone, by simpa using hcan, c, pa, net', _, ?_, rfl⟩, h⟩
            intro hv
            simpa [hv] using hcond
        · cases h; exact Or.inl ⟨nofun, .stop _ _⟩
        · cases h; exact Or.inl ⟨nofun, .stop _ _⟩

theorem dlLoop_along {ls : List Layer} {s s' : DlState} {o : Outcome}
    (h : dlLoop cfg hash reg sc ls s = (o, s')) : Along cfg hash ls s s' := by
  induction ls generalizing s with
  | nil => simp only [dlLoop] at h; cases h; exact .stop _ _
  | cons l ls ih =>
    rcases dlLoop_cons h with ⟨_, a⟩ | ⟨d, s1, hd, hstep, hrest⟩
    · exact a
    · exact (hstep.along hd).trans (ih hrest)

theorem dlLoop_visit {ls : List Layer} {s s' : DlState} (h : dlLoop cfg hash reg sc ls s = (.ok (), s'))
    {l : Layer} (hl : l ∈ ls) :
    ∃ pre post si sj d, ls = pre ++ l :: post ∧ l.digest = .ok d ∧ Along cfg hash pre s si ∧
      Step cfg hash si sj d ∧ Along cfg hash post sj s' := by
  induction ls generalizing s with
  | nil => cases hl
  | cons l0 ls ih =>
    rcases dlLoop_cons h with ⟨hne, _⟩ | ⟨d, s1, hd, hstep, hrest⟩
    · exact absurd rfl hne
    · rcases List.mem_cons.1 hl with rfl | hin
      · exact ⟨[], ls, s, s1, d, rfl, hd, .stop _ _, hstep, dlLoop_along hrest⟩
      · obtain ⟨pre, post, si, sj, d', rfl, hd', a1, hs, a2⟩ := ih hrest hin
        exact ⟨l0 :: pre, post, si, sj, d', rfl, hd', (hstep.along hd).trans a1, hs, a2⟩

theorem dlLoop_ok_present {ls : List Layer} {s s' : DlState} (h : dlLoop cfg hash reg sc ls s = (.ok (), s')) :
    ∀ l ∈ ls, ∃ d c, l.digest = .ok d ∧ s'.st.blobs d = some c := by
  intro l hl
  obtain ⟨_, _, _, _, d, _, hd, _, hs, a2⟩ := dlLoop_visit h hl
  obtain ⟨c, hc⟩ := hs.present
  exact ⟨d, c, hd, a2.keeps hc⟩

theorem dlLoop_skip_true (hdup : cfg.fixedDup = false) {ls : List Layer} {s s' : DlState} {x : Digest} {c : Bytes}
    (h : dlLoop cfg hash reg sc ls s = (.ok (), s')) (hc : s.st.blobs x = some c)
    {l : Layer} (hl : l ∈ ls) (hd : l.digest = .ok x) : getSkip x s'.skip = true := by
  obtain ⟨_, _, _, _, d, _, hd', a1, hs, a2⟩ := dlLoop_visit h hl
  rw [hd] at hd'; cases hd'
  rcases hs.skip hdup with ⟨ht, e⟩ | ⟨_, hn⟩
  · exact a2.hit x c (e.trans (a1.keeps hc)) ht
  · rw [a1.keeps hc] at hn; cases hn

theorem dlLoop_skip_unchanged (hdup : cfg.fixedDup = false) {ls : List Layer} {s s' : DlState}
    (h : dlLoop cfg hash reg sc ls s = (.ok (), s')) (hnd : (ls.map (·.digest)).Nodup) :
    ∀ l ∈ ls, ∀ d, l.digest = .ok d → getSkip d s'.skip = true → s'.st.blobs d = s.st.blobs d := by
  intro l hl d hd ht
  obtain ⟨pre, post, si, sj, d', rfl, hd', a1, hs, a2⟩ := dlLoop_visit h hl
  rw [hd] at hd'; cases hd'
  -- `d` is listed once: neither the loop before `l` nor the loop after it touches it
  rw [List.map_append, List.map_cons, List.nodup_append] at hnd
  obtain ⟨_, hnd2, hdis⟩ := hnd
  have h1 := a1.frame d fun l' hl' e => hdis _ (List.mem_map_of_mem hl') _ List.mem_cons_self (e.trans hd.symm)
  have h2 := a2.frame d fun l' hl' e => (List.nodup_cons.1 hnd2).1 (hd ▸ e ▸ List.mem_map_of_mem hl')
  rcases hs.skip hdup with ⟨_, e⟩ | ⟨hf, _⟩
  · exact h2.1.trans (e.trans h1.1)
  · rw [← h2.2, ht] at hf; cases hf

theorem verifyLoop_spec {skip : List (Digest × Bool)} {ls : List Layer} {st st2 : Store} {o : Outcome}
    (h : verifyLoop hash skip ls st = (o, st2)) :
    (o = .ok () ∧ st2 = st ∧
      ∀ l ∈ ls, ∀ d, l.digest = .ok d → getSkip d skip = false → ∃ c, st.blobs d = some c ∧ hash c = d) ∨
    ∃ l ∈ ls, ∃ d, l.digest = .ok d ∧ getSkip d skip = false ∧ ∃ e, o = .err e ∧
      ((st.blobs d = none ∧ e = .notfound ∧ st2 = st) ∨
       ∃ c, st.blobs d = some c ∧ hash c ≠ d ∧ e = .digestMismatch ∧
         st2 = { st with blobs := upd st.blobs d none }) := by
  revert h
  fun_induction verifyLoop hash skip ls st
  case case1 => intro h; cases h; exact .inl ⟨rfl, rfl, nofun⟩
  case case3 l _ st d hd hsk hn =>
    intro h; cases h
    exact .inr ⟨l, List.mem_cons_self, d, hd, by simpa using hsk, _, rfl, .inl ⟨hn, rfl, rfl⟩⟩
  case case5 l _ st d hd hsk c hc hh =>
    intro h; cases h
    exact .inr ⟨l, List.mem_cons_self, d, hd, by simpa using hsk, _, rfl, .inr ⟨c, hc, hh, rfl, rfl⟩⟩
  -- the loop goes on: the head is marked `skip`, is verified, or has no digest to verify
  case case2 l _ _ d hd hsk ih =>
    intro h
    refine (ih h).imp (fun ⟨ho, hst, hall⟩ => ⟨ho, hst, List.forall_mem_cons.2 ⟨fun d' hd' hf => ?_, hall⟩⟩)
      fun ⟨l', hl', r⟩ => ⟨l', List.mem_cons_of_mem _ hl', r⟩
    rw [hd] at hd'; cases hd'; rw [hsk] at hf; cases hf
  case case4 l _ _ c hd _ hc ih =>
    intro h
    refine (ih h).imp (fun ⟨ho, hst, hall⟩ => ⟨ho, hst, List.forall_mem_cons.2 ⟨fun d' hd' _ => ?_, hall⟩⟩)
      fun ⟨l', hl', r⟩ => ⟨l', List.mem_cons_of_mem _ hl', r⟩
    rw [hd] at hd'; cases hd'; exact ⟨c, hc, rfl⟩
  case case6 l _ _ hnot ih =>
    intro h
    exact (ih h).imp
      (fun ⟨ho, hst, hall⟩ => ⟨ho, hst, List.forall_mem_cons.2 ⟨fun d' hd' _ => absurd hd' (hnot d'), hall⟩⟩)
      fun ⟨l', hl', r⟩ => ⟨l', List.mem_cons_of_mem _ hl', r⟩

theorem verifyLoop_ok_of_intact (hash : Bytes → Digest) (skip : List (Digest × Bool)) (ls : List Layer) (st : Store)
    (hb : ∀ d c, st.blobs d = some c → hash c = d)
    (hpresent : ∀ l ∈ ls, ∃ d c, l.digest = .ok d ∧ st.blobs d = some c) :
    verifyLoop hash skip ls st = (.ok (), st) := by
  generalize hv : verifyLoop hash skip ls st = r
  obtain ⟨o, st2⟩ := r
  obtain ⟨rfl, rfl, _⟩ | ⟨l, hl, d, hd, _, _, _, ⟨hn, _⟩ | ⟨c, hc, hh, _⟩⟩ := verifyLoop_spec hv
  · rfl
  · obtain ⟨d', c, hd', hc⟩ := hpresent l hl
    rw [hd] at hd'; cases hd'
    rw [hn] at hc; cases hc
  · exact absurd (hb d c hc) hh

section
variable {name : Name} {st st' : Store} {o : Outcome} {log : Log}

/-- in order: the download loop and its final state `s`, the log, what the pinned variant verified, the manifest
    written, what pruning did to a blob, and that it took no served layer -/
theorem pull_ok (h : pull cfg hash name reg sc st = (.ok (), st', log)) :
    ∃ net0 s, dlLoop cfg hash reg sc reg.manifest.all ⟨st, net0, [], [], false⟩ = (.ok (), s) ∧
      log.renamed = s.renamed ∧
      (cfg.verifyEarly = false → ∀ l ∈ reg.manifest.all, ∀ d, l.digest = .ok d → getSkip d s.skip = false →
        ∃ c, s.st.blobs d = some c ∧ hash c = d) ∧
      st'.manifests = insertM name (.readable reg.manifest) st.manifests ∧
      (∀ x, st'.blobs x = s.st.blobs x ∨ st'.blobs x = none ∧ DRef.ok x ∉ usedRefs st'.manifests) ∧
      ∀ l ∈ reg.manifest.all, ∃ d c, l.digest = .ok d ∧ s.st.blobs d = some c ∧ st'.blobs d = some c := by
  revert h
  fun_cases pull cfg hash name reg sc st
  case case9 s hdl st2 hv mans _ blobs' =>
    intro h
    cases h
    have key : st2 = s.st ∧ (cfg.verifyEarly = false → ∀ l ∈ reg.manifest.all, ∀ d, l.digest = .ok d →
        getSkip d s.skip = false → ∃ c, s.st.blobs d = some c ∧ hash c = d) := by
      split at hv
      · -- repaired variant: every fresh layer was verified inline, there is no verify loop
        rename_i he
        cases hv
        exact ⟨rfl, fun hf => by rw [he] at hf; cases hf⟩
      · obtain ⟨_, e, hver⟩ | ⟨_, _, _, _, _, _, ho, _⟩ := verifyLoop_spec hv
        · exact ⟨e, fun _ => hver⟩
        · cases ho
    have hpr : ∀ x, blobs' x = st2.blobs x ∨ blobs' x = none ∧ DRef.ok x ∉ usedRefs mans := by
      intro x
      simp only [blobs']
      split
      · exact .inl rfl
      · rw [removeBlobs_apply]
        split
        · rename_i h; exact .inr ⟨rfl, h.2⟩
        · exact .inl rfl
    obtain ⟨rfl, hver⟩ := key
    refine ⟨_, s, hdl, rfl, hver, by rw [← (dlLoop_along hdl).manifests], hpr, fun l hl => ?_⟩
    obtain ⟨d, c, hd, hc⟩ := dlLoop_ok_present hdl l hl
    exact ⟨d, c, hd, hc, ((hpr d).resolve_right fun h => h.2 (hd ▸ usedRefs_mem name _ _ (lookupM_insertM _ _ _) _
      (all_digest_mem_layerRefs _ l hl))).trans hc⟩
  all_goals nofun

theorem pull_fail (hne : o ≠ .ok ()) (h : pull cfg hash name reg sc st = (o, st', log)) :
    (st' = st ∧ (o = .err .manifest ∨
      ∃ p net0, o = .panic p ∧ (mrr cfg reg.realm (.pass MBody.served) Policy.dflt 2 sc.manifest net0).1 = .panic p)) ∨
    ∃ net0 o1 s, dlLoop cfg hash reg sc reg.manifest.all ⟨st, net0, [], [], false⟩ = (o1, s) ∧
      log.renamed = s.renamed ∧
      (o1 = o ∧ st' = s.st ∨
       o1 = .ok () ∧ cfg.verifyEarly = false ∧ verifyLoop hash s.skip reg.manifest.all s.st = (o, st')) := by
  revert h
  fun_cases pull cfg hash name reg sc st
  case case3 hm => intro h; cases h; exact .inl ⟨rfl, .inr ⟨_, _, rfl, congrArg Prod.fst hm⟩⟩
  case case5 s hdl | case6 s hdl => intro h; cases h; exact .inr ⟨_, _, s, hdl, rfl, .inl ⟨rfl, rfl⟩⟩
  case case7 s hdl _ st2 hv | case8 s hdl _ st2 hv =>
    intro h; cases h
    split at hv
    · cases hv
    · exact .inr ⟨_, _, s, hdl, rfl, .inr ⟨rfl, by simpa using ‹¬cfg.verifyEarly = true›, hv⟩⟩
  case case9 => intro h; cases h; exact absurd rfl hne
  all_goals (intro h; cases h; exact .inl ⟨rfl, .inl rfl⟩)

/-- what a pull does to the store, whatever its outcome.  The variant matters in one place: when the verify loop of
    the pinned code removes a blob, that blob was not there before the pull because `skipVerify` marks every cache hit. -/
theorem pull_effect (h : pull cfg hash name reg sc st = (o, st', log)) :
    st'.manifests = (if o = .ok () then insertM name (.readable reg.manifest) st.manifests else st.manifests) ∧
    (cfg.fixedDup = false ∨ cfg.verifyEarly = true → ∀ x,
      (o = .ok () ∧ st'.blobs x = none ∧ DRef.ok x ∉ usedRefs st'.manifests) ∨ st'.blobs x = st.blobs x ∨
      (st.blobs x = none ∧ x ∈ log.renamed ∧ (cfg.verifyEarly = true → ∀ c, st'.blobs x = some c → hash c = x))) := by
  by_cases ho : o = .ok ()
  · subst ho
    obtain ⟨_, s, hdl, hlog, _, hman, hpr, _⟩ := pull_ok h
    refine ⟨by rw [if_pos rfl]; exact hman, fun _ x => ?_⟩
    rw [hlog]
    rcases hpr x with e | hn
    · rw [e]; exact .inr ((dlLoop_along hdl).blobs x)
    · exact .inl ⟨rfl, hn⟩
  rw [if_neg ho]
  rcases pull_fail ho h with ⟨rfl, _⟩ | ⟨_, _, s, hdl, hlog, hend⟩
  · exact ⟨rfl, fun _ _ => .inr (.inl rfl)⟩
  have a := dlLoop_along hdl
  rw [hlog]
  obtain ⟨_, rfl⟩ | ⟨rfl, hpin, hv⟩ := hend
  · exact ⟨a.manifests, fun _ x => .inr (a.blobs x)⟩
  obtain ⟨ho', _⟩ | ⟨l, hl, d, hd, hsk, _, _, ⟨_, _, rfl⟩ | ⟨c, hc, _, _, rfl⟩⟩ := verifyLoop_spec hv
  · exact absurd ho' ho
  · exact ⟨a.manifests, fun _ x => .inr (a.blobs x)⟩
  · refine ⟨a.manifests, fun hvar x => .inr ?_⟩
    by_cases e : x = d
    · -- the verify loop removed `d`: not marked `skip`, so it was not there before the pull
      subst e
      cases hx : st.blobs x with
      | none => exact .inl (upd_same _ _ _)
      | some c0 =>
        have := dlLoop_skip_true (hvar.resolve_right (by simp [hpin])) hdl hx hl hd
        rw [this] at hsk; cases hsk
    · exact (a.blobs x).imp (fun e1 => (upd_other _ _ _ _ e).trans e1) fun ⟨hn, hr, _⟩ =>
        ⟨hn, hr, fun he => by rw [hpin] at he; cases he⟩

end

/-! ## no panic once `getValue` checks its bounds and `""` is rejected -/

theorem getValue_fixed_some (s key : Bytes) : ∃ v, getValue true s key = some v := by
  fun_cases getValue true s key <;> simp_all

theorem parseChallenge_fixed_some (hdr : Bytes) : ∃ ch, parseChallenge true hdr = some ch := by
  unfold parseChallenge
  simp only
  obtain ⟨r, hr⟩ := getValue_fixed_some (trimPrefix bearer hdr) kRealm
  obtain ⟨sv, hs⟩ := getValue_fixed_some (trimPrefix bearer hdr) kService
  obtain ⟨sc, hc⟩ := getValue_fixed_some (trimPrefix bearer hdr) kScope
  rw [hr, hs, hc]
  exact ⟨_, rfl⟩

theorem authStep_no_panic (hfix : cfg.fixedChallenge = true) (realm hdr : Bytes) (net : Net)
    (p : PanicSite) : (authStep cfg realm hdr net).1 ≠ .panic p := by
  obtain ⟨ch, hch⟩ := parseChallenge_fixed_some hdr
  unfold authStep
  rw [hfix, hch]
  simp only
  split
  · cases net.tok with
    | nil => simp [pop]
    | cons t ts => cases t <;> simp [pop]
  · simp

theorem mrr_no_panic {α : Type} (hfix : cfg.fixedChallenge = true) (realm : Bytes)
    (dflt : Reply α) (pol : Policy α) (p : PanicSite) (k : Nat) (s : List (Reply α)) (net : Net) :
    (mrr cfg realm dflt pol k s net).1 ≠ .panic p := by
  fun_induction mrr cfg realm dflt pol k s net
  case case9 ha => exact absurd (congrArg Prod.fst ha) (authStep_no_panic hfix realm _ _ _)
  all_goals simp_all

theorem directLoop_no_panic (hfix : cfg.fixedChallenge = true) (realm : Bytes)
    (dflt : Reply DirRep) (p : PanicSite) (f : Nat) (s : List (Reply DirRep)) (net : Net) :
    (directLoop cfg realm dflt f s net).1 ≠ .panic p := by
  fun_induction directLoop cfg realm dflt f s net
  case case9 hm => exact absurd (congrArg Prod.fst hm) (mrr_no_panic hfix _ _ _ _ _ _ _)
  all_goals simp_all

theorem downloadLayer_no_panic (hfix : cfg.fixedChallenge = true) (reg : Registry) (d : Digest)
    (ls : LScript) (pa : Partial) (net : Net) (p : PanicSite) :
    (downloadLayer cfg reg d ls pa net).1 ≠ .panic p := by
  fun_cases downloadLayer cfg reg d ls pa net
  case case2 prep _ _ hp =>
    -- the only source of a panic in Prepare is the HEAD request
    simp only [prep] at hp
    split at hp
    · split at hp
      · cases hp
      · cases hp
      · rename_i hm
        exact absurd (congrArg Prod.fst hm) (mrr_no_panic hfix _ _ _ _ _ _ _)
    · cases hp
  case case4 h => exact absurd (congrArg Prod.fst h) (directLoop_no_panic hfix _ _ _ _ _ _)
  all_goals nofun

theorem dlLoop_no_panic (hfix : cfg.fixedChallenge = true) (hempty : cfg.fixedEmpty = true) (p : PanicSite)
    (ls : List Layer) (s : DlState) : (dlLoop cfg hash reg sc ls s).1 ≠ .panic p := by
  fun_induction dlLoop cfg hash reg sc ls s
  case case10 hd => exact absurd (congrArg Prod.fst hd) (downloadLayer_no_panic hfix _ _ _ _ _ _)
  all_goals simp_all

/-! ## resumed records: the plan does not depend on the order `filepath.Glob` returns them in -/

theorem globInsert_perm (x : Nat × Part) (l : List (Nat × Part)) : (globInsert x l).Perm (x :: l) := by
  fun_induction globInsert x l
  case case3 y ys _ ih => exact (ih.cons y).trans (List.Perm.swap x y ys)
  all_goals exact List.Perm.refl _

theorem globSort_perm (l : List (Nat × Part)) : (globSort l).Perm l := by
  fun_induction globSort l
  case case1 => exact List.Perm.refl _
  case case2 x xs ih => exact (globInsert_perm x _).trans (ih.cons x)

theorem indexFrom_map_snd (i : Nat) (ps : List Part) : (indexFrom i ps).map (·.2) = ps := by
  fun_induction indexFrom i ps <;> simp_all

/-- the records `Prepare` resumes from are the stored records, in some order … -/
theorem globParts_perm (ps : List Part) : ((globParts ps).map (·.2)).Perm ps := by
  have h := (globSort_perm (indexFrom 0 ps)).map (·.2)
  rw [indexFrom_map_snd] at h
  exact h

/-- … so `b.Total` (the length the `-partial` file is truncated to) is the sum of the record sizes
    whatever that order is -/
theorem resume_total_order_independent (ps : List Part) :
    ((globParts ps).map (·.2.size)).sum = (ps.map (·.size)).sum := by
  have h := ((globParts_perm ps).map (·.size)).sum_nat
  rw [List.map_map] at h
  exact h

/-! ## a pull that joins a transfer in flight -/

/-- under `o = .ok ()`, the clause that stored digests stay stored only strengthens the induction -/
theorem dlLoopJ_spec {x : Digest} {jr : JoinRes} {ls : List Layer} {s s' : DlState} {o : Outcome}
    (h : dlLoopJ cfg hash reg sc x jr ls s = (o, s')) :
      (cfg.verifyEarly = true → (∀ d c, s.st.blobs d = some c → hash c = d) →
        ∀ d c, s'.st.blobs d = some c → hash c = d) ∧
      (o = .ok () → (∀ d, (∃ c, s.st.blobs d = some c) → ∃ c, s'.st.blobs d = some c) ∧
        ∀ l ∈ ls, ∃ d c, l.digest = .ok d ∧ s'.st.blobs d = some c) := by
  revert h
  fun_induction dlLoopJ cfg hash reg sc x jr ls s
  case case1 => intro h; cases h; exact ⟨fun _ h => h, fun _ => ⟨fun _ h => h, nofun⟩⟩
  case case2 => intro h; cases h; exact ⟨fun _ h => h, nofun⟩
  case case3 =>
    intro h; cases h
    exact ⟨fun _ hinv => upd_blobInv hinv nofun, nofun⟩
  case case4 l ls s hx c hjr hcond ih =>
    subst hjr
    intro h
    obtain ⟨hI, hO⟩ := ih h
    refine ⟨fun hearly hinv => hI hearly (upd_blobInv hinv fun _ e => ?_), fun ho => ?_⟩
    · cases e; simpa [hearly] using hcond
    · obtain ⟨hk, hp⟩ := hO ho
      obtain ⟨c', hc'⟩ := hk x ⟨c, by simp [upd_same]⟩
      refine ⟨fun d ⟨c', hd⟩ => hk d ?_, List.forall_mem_cons.2 ⟨⟨x, c', hx, hc'⟩, hp⟩⟩
      by_cases e : d = x
      · subst e; exact ⟨c, by simp [upd_same]⟩
      · exact ⟨c', by simp only [upd_other _ _ _ _ e]; exact hd⟩
  case case5 l ls s _ s1 hdl ih =>
    intro h
    obtain ⟨hI, hO⟩ := ih h
    refine ⟨fun hearly hinv => hI hearly ((dlLoop_along hdl).blobInv hearly hinv), fun ho => ?_⟩
    obtain ⟨hk, hp⟩ := hO ho
    obtain ⟨d, c', hd, hc'⟩ := dlLoop_ok_present hdl l List.mem_cons_self
    obtain ⟨c'', hc''⟩ := hk d ⟨c', hc'⟩
    exact ⟨fun d ⟨c', hd⟩ => hk d ⟨c', (dlLoop_along hdl).keeps hd⟩, List.forall_mem_cons.2 ⟨⟨d, c'', hd, hc''⟩, hp⟩⟩
  case case6 l ls s _ hne =>
    intro h
    exact ⟨fun hearly hinv => (dlLoop_along h).blobInv hearly hinv, fun ho => absurd (ho ▸ h) (hne s')⟩

/-! ## the honest path: no faults, and the registry has what its manifest names -/

/-- budget `b + 2`: with a budget of 1 `popFollow` refuses a `pass` that the policy counts as a redirect -/
theorem mrr_pass {α : Type} (cfg : Cfg) (realm : Bytes) (a : α) (redir : α → Bool) (b k : Nat) (net : Net) :
    mrr cfg realm (.pass a) ⟨b + 2, redir⟩ (k + 1) [] net = (.ok a, [], net, 1) := by
  simp [mrr, popFollow, pop]

theorem zeros_length (n : Nat) : (zeros n).length = n := by simp [zeros]

theorem resize_self (f : Bytes) : resize f f.length = f := by
  simp [resize, zeros]

theorem writeAt_eq (f d : Bytes) (off : Nat) (hd : d ≠ []) (h : off + d.length ≤ f.length) :
    writeAt f off d = f.take off ++ (d ++ f.drop (off + d.length)) := by
  have he : d.isEmpty = false := List.isEmpty_eq_false_iff.2 hd
  have hz : off - f.length = 0 := by omega
  simp only [writeAt, he, hz, zeros, List.replicate_zero, List.append_nil, Bool.false_eq_true, if_false,
    List.append_assoc]

theorem writeAt_length (f d : Bytes) (off : Nat) (hd : d ≠ []) (h : off + d.length ≤ f.length) :
    (writeAt f off d).length = f.length := by
  rw [writeAt_eq f d off hd h]
  simp only [List.length_append, List.length_take, List.length_drop]
  omega

theorem writeAt_getElem? (f d : Bytes) (off i : Nat) (hd : d ≠ []) (h : off + d.length ≤ f.length) :
    (writeAt f off d)[i]? = if off ≤ i ∧ i < off + d.length then d[i - off]? else f[i]? := by
  have hlt : (f.take off).length = off := by rw [List.length_take]; omega
  rw [writeAt_eq f d off hd h, List.getElem?_append, List.getElem?_append, hlt]
  by_cases h1 : i < off
  · rw [if_pos h1, if_neg (by omega), List.getElem?_take, if_pos h1]
  · by_cases h2 : i < off + d.length
    · rw [if_neg h1, if_pos (by omega), if_pos ⟨by omega, h2⟩]
    · rw [if_neg h1, if_neg (by omega), if_neg (by omega), List.getElem?_drop]
      congr 1; omega

theorem length_take_drop (c : Bytes) (a n : Nat) (h : a + n ≤ c.length) : ((c.drop a).take n).length = n := by
  rw [List.length_take, List.length_drop]; omega

theorem chunkStep_honest (c file : Bytes) (p : Part) (w : Bool) (hlt : p.done < p.size)
    (hin : p.off + p.size ≤ c.length) (hl : file.length = c.length) :
    ∃ file', chunkStep c honestReply ⟨file, p, w⟩ = (.done, ⟨file', { p with done := p.size }, true⟩) ∧
      file'.length = c.length ∧
      ∀ i, file'[i]? = if p.off + p.done ≤ i ∧ i < p.off + p.size then c[i]? else file[i]? := by
  have hlen := length_take_drop c (p.off + p.done) (p.size - p.done) (by omega)
  have hne : (c.drop (p.off + p.done)).take (p.size - p.done) ≠ [] := List.ne_nil_of_length_pos (by omega)
  have hfit : p.off + p.done + ((c.drop (p.off + p.done)).take (p.size - p.done)).length ≤ file.length := by omega
  have hsub : p.off + p.size - (p.off + p.done) = p.size - p.done := by omega
  have hadd : p.done + (p.size - p.done) = p.size := by omega
  refine ⟨writeAt file (p.off + p.done) ((c.drop (p.off + p.done)).take (p.size - p.done)), ?_,
    (writeAt_length file _ _ hne hfit).trans hl, fun i => ?_⟩
  · unfold chunkStep honestReply
    simp only [bodyOf, hsub, List.take_take, Nat.min_self, hlen, List.isEmpty_eq_false_iff.2 hne, Bool.not_false,
      Bool.or_true, hadd]
    exact (if_neg fun h => nomatch h.1).trans (if_pos trivial)
  · rw [writeAt_getElem? file _ _ i hne hfit, hlen, show p.off + p.done + (p.size - p.done) = p.off + p.size by omega]
    split
    · simp only [List.getElem?_take, List.getElem?_drop,
        show i - (p.off + p.done) < p.size - p.done by omega, if_true]
      congr 1; omega
    · rfl

theorem planLoop_spec (total f off size : Nat) (hs : 0 < size) (hf : total - off ≤ f) :
    (∀ p ∈ planLoop total f off size, p.done = 0 ∧ p.off + p.size ≤ total) ∧
    (∀ i, off ≤ i → i < total → ∃ p ∈ planLoop total f off size, p.off ≤ i ∧ i < p.off + p.size) := by
  induction f generalizing off size with
  | zero => exact ⟨fun _ hp => (nomatch hp), fun i h1 h2 => by omega⟩
  | succ f ih =>
    unfold planLoop
    split
    · rename_i hlt
      extract_lets sz
      have hsz : 0 < sz ∧ off + sz ≤ total := by
        simp only [sz]; split <;> omega
      obtain ⟨hin, hcov⟩ := ih (off + sz) sz hsz.1 (by omega)
      refine ⟨fun p hp => ?_, fun i h1 h2 => ?_⟩
      · rcases List.mem_cons.1 hp with rfl | hp
        · exact ⟨rfl, hsz.2⟩
        · exact hin p hp
      · by_cases hi : i < off + sz
        · exact ⟨_, List.mem_cons_self, h1, hi⟩
        · obtain ⟨p, hp, h⟩ := hcov i (by omega) h2
          exact ⟨p, List.mem_cons_of_mem _ hp, h⟩
    · exact ⟨fun _ hp => (nomatch hp), fun i h1 h2 => by omega⟩

theorem planSize_pos (cfg : Cfg) (total : Nat) (hmin : 0 < cfg.minSize) (hmax : 0 < cfg.maxSize) :
    0 < planSize cfg total := by
  simp only [planSize]
  split
  · exact hmin
  · split <;> omega

/-- byte `i` is still to be fetched for one of the records -/
def Pending (ps : List (Nat × Part)) (i : Nat) : Prop :=
  ∃ kp ∈ ps, kp.2.off + kp.2.done ≤ i ∧ i < kp.2.off + kp.2.size

theorem Pending.of_cons {k : Nat} {p : Part} {ps : List (Nat × Part)} {i : Nat} (h : Pending ((k, p) :: ps) i) :
    (p.off + p.done ≤ i ∧ i < p.off + p.size) ∨ Pending ps i := by
  obtain ⟨kq, hm, h1, h2⟩ := h
  rcases List.mem_cons.1 hm with rfl | hm'
  · exact Or.inl ⟨h1, h2⟩
  · exact Or.inr ⟨kq, hm', h1, h2⟩

/-- honest CDN, records inside the blob, in ANY order: if every byte of the file is the blob's already or is still
    to be fetched for one of the records, every part completes and the file becomes the blob -/
theorem runPartsIdx_honest (cfg : Cfg) (c : Bytes) (hret : 0 < cfg.retries) (ps : List (Nat × Part))
    (file : Bytes) (n : Nat) (hl : file.length = c.length)
    (hall : ∀ kp ∈ ps, kp.2.done ≤ kp.2.size ∧ kp.2.off + kp.2.size ≤ c.length)
    (hinv : ∀ i, i < c.length → file[i]? = c[i]? ∨ Pending ps i) :
    ∃ res n', runPartsIdx cfg c [] ps file n = (true, c, res, n') := by
  induction ps generalizing file n with
  | nil =>
    have : file = c := List.ext_getElem? fun i => by
      by_cases hi : i < c.length
      · exact (hinv i hi).resolve_right fun ⟨_, hm, _⟩ => nomatch hm
      · rw [List.getElem?_eq_none (by omega), List.getElem?_eq_none (by omega)]
    subst this
    exact ⟨[], n, rfl⟩
  | cons kp ps ih =>
    obtain ⟨k, p⟩ := kp
    have hp : p.done ≤ p.size ∧ p.off + p.size ≤ c.length := hall (k, p) List.mem_cons_self
    have hrest : ∀ kp ∈ ps, kp.2.done ≤ kp.2.size ∧ kp.2.off + kp.2.size ≤ c.length :=
      fun kp h => hall kp (List.mem_cons_of_mem _ h)
    by_cases hdone : p.done = p.size
    · obtain ⟨res, n', hrun⟩ := ih file n hl hrest fun i hi =>
        (hinv i hi).imp_right fun h => h.of_cons.resolve_left (by omega)
      exact ⟨(k, p) :: res, n', by simp [runPartsIdx, hdone, hrun]⟩
    · obtain ⟨t, ht⟩ : ∃ t, cfg.retries = t + 1 := ⟨cfg.retries - 1, (Nat.sub_add_cancel hret).symm⟩
      -- the first try writes the blob's bytes over the pending range of `p`
      obtain ⟨file', hstep, hl', hget⟩ := chunkStep_honest c file p false (by omega) hp.2 hl
      obtain ⟨res, n', hrun⟩ := ih file' (n + 1) hl' hrest fun i hi => by
        rw [hget i]
        split
        · exact Or.inl rfl
        · rename_i hout
          exact (hinv i hi).imp_right fun h => h.of_cons.resolve_left hout
      refine ⟨(k, { p with done := p.size }) :: res, n', ?_⟩
      simp only [runPartsIdx, hdone, if_false, List.getD_eq_getElem?_getD, List.getElem?_nil, Option.getD_none,
        ht, runPart, runTail, hstep, hrun]
      simp

/-- without chunk scripts the index of a part is not looked at -/
theorem runParts_nil (cfg : Cfg) (c : Bytes) (ps : List Part) (file : Bytes) (n : Nat) :
    runParts cfg c ps [] file n =
      let r := runPartsIdx cfg c [] (ps.map (Prod.mk 0)) file n
      (r.1, r.2.1, r.2.2.1.map (·.2), r.2.2.2) := by
  induction ps generalizing file n with
  | nil => rfl
  | cons p ps ih =>
    simp only [runParts, runPartsIdx, List.map_cons, pop, ih, List.getD_eq_getElem?_getD, List.getElem?_nil,
      Option.getD_none]
    split <;> rfl

/-- what an interrupted or failed SINGLE-PART download of blob `c` leaves behind when the HEAD answer told the true
    length: the data file has the blob's length and agrees with it on the `done` bytes the record says are complete -/
def Resume1Ok (c : Bytes) (pa : Partial) : Prop :=
  ∃ data done, pa = ⟨some data, [⟨0, c.length, done⟩]⟩ ∧ done ≤ c.length ∧ data.length = c.length ∧
    data.take done = c.take done

/-- a resume state (data file + any number of part records) that FITS blob `c`: the data file has the blob's length, the
    record sizes add up to it (what `Prepare` takes as `b.Total`), every record lies inside the blob and counts at most
    its size as complete, the data file agrees with the blob on every byte a record counts as complete, and the
    records cover the blob.  This is what interrupted / failed attempts leave under truthful HEAD answers and honest
    bytes; it does not ask for any order of the records, nor for disjointness. -/
def ResumeFits (c : Bytes) (pa : Partial) : Prop :=
  ∃ data, pa.data = some data ∧ pa.parts ≠ [] ∧ data.length = c.length ∧
    (pa.parts.map (·.size)).sum = c.length ∧
    (∀ p ∈ pa.parts, p.done ≤ p.size ∧ p.off + p.size ≤ c.length ∧
      ∀ i, p.off ≤ i → i < p.off + p.done → data[i]? = c[i]?) ∧
    (∀ i, i < c.length → ∃ p ∈ pa.parts, p.off ≤ i ∧ i < p.off + p.size)

theorem Resume1Ok.fits {c : Bytes} {pa : Partial} (h : Resume1Ok c pa) : ResumeFits c pa := by
  obtain ⟨data, done, rfl, hle, hlen, htake⟩ := h
  refine ⟨data, rfl, by simp, hlen, by simp, ?_, ?_⟩
  · intro p hp
    cases List.mem_singleton.1 hp
    refine ⟨hle, Nat.le_of_eq (Nat.zero_add _), ?_⟩
    intro i _ hi
    have hi' : i < done := by simpa using hi
    have := congrArg (·[i]?) htake
    simpa [List.getElem?_take, hi'] using this
  · intro i hi
    exact ⟨_, List.mem_singleton_self _, Nat.zero_le _, by simpa using hi⟩

theorem mem_globParts {ps : List Part} {kp : Nat × Part} (h : kp ∈ globParts ps) : kp.2 ∈ ps :=
  (globParts_perm ps).mem_iff.1 (List.mem_map_of_mem h)

theorem mem_globParts_of_mem {ps : List Part} {p : Part} (h : p ∈ ps) : ∃ kp ∈ globParts ps, kp.2 = p := by
  have := (globParts_perm ps).mem_iff.2 h
  obtain ⟨kp, hk, e⟩ := List.mem_map.1 this
  exact ⟨kp, hk, e⟩

theorem downloadLayer_honest (cfg : Cfg) (reg : Registry) (d : Digest) (c : Bytes) (net : Net)
    (hret : 0 < cfg.retries) (hmin : 0 < cfg.minSize) (hmax : 0 < cfg.maxSize)
    (hc : lookupC d reg.content = some c) :
    ∃ net', downloadLayer cfg reg d LScript.empty Partial.none net = (.ok c, Partial.none, net') := by
  obtain ⟨hin, hcov⟩ := planLoop_spec c.length c.length 0 (planSize cfg c.length) (planSize_pos cfg _ hmin hmax)
    (by omega)
  obtain ⟨res, n', hrun⟩ := runPartsIdx_honest cfg c hret ((plan cfg c.length).map (Prod.mk 0)) (zeros c.length)
    net.nc (zeros_length _)
    (fun kp hk => by
      obtain ⟨p, hp, rfl⟩ := List.mem_map.1 hk
      exact ⟨by rw [(hin p hp).1]; exact Nat.zero_le _, (hin p hp).2⟩)
    fun i hi => by
      obtain ⟨p, hp, h1, h2⟩ := hcov i (Nat.zero_le _) hi
      exact Or.inr ⟨(0, p), List.mem_map_of_mem hp, by rw [(hin p hp).1]; exact h1, h2⟩
  simp only [downloadLayer, hc, Partial.none, LScript.empty, List.isEmpty_nil, if_true, Policy.dflt, mrr_pass,
    Option.getD_some, Option.getD_none, resize, List.take_nil, List.nil_append, List.length_nil,
    Nat.sub_zero, directLoop, replyFails, Bool.and_false, Bool.false_eq_true,
    if_false, runParts_nil, hrun]
  exact ⟨_, rfl⟩

theorem downloadLayer_honest_resume (cfg : Cfg) (reg : Registry) (d : Digest) (c : Bytes) (net : Net) (pa : Partial)
    (hret : 0 < cfg.retries) (hc : lookupC d reg.content = some c) (hpa : ResumeFits c pa) :
    ∃ net', downloadLayer cfg reg d LScript.empty pa net = (.ok c, Partial.none, net') := by
  obtain ⟨data, hdat, hne, hlen, hsum, hall, hcover⟩ := hpa
  have hemp : pa.parts.isEmpty = false := List.isEmpty_eq_false_iff.2 hne
  have htot : ((globParts pa.parts).map (·.2.size)).sum = c.length :=
    (resume_total_order_independent pa.parts).trans hsum
  have hres : resize data c.length = data := by rw [← hlen]; exact resize_self data
  obtain ⟨res, n', hrun⟩ := runPartsIdx_honest cfg c hret (globParts pa.parts) data net.nc hlen
    (fun kp hk => ⟨(hall kp.2 (mem_globParts hk)).1, (hall kp.2 (mem_globParts hk)).2.1⟩) fun i hi => by
      -- a record covers `i`: the byte is counted complete, so it is the blob's, or it is pending
      obtain ⟨p, hpm, h1, h2⟩ := hcover i hi
      obtain ⟨kp, hk, rfl⟩ := mem_globParts_of_mem hpm
      by_cases hlt : i < kp.2.off + kp.2.done
      · exact Or.inl ((hall kp.2 hpm).2.2 i h1 hlt)
      · exact Or.inr ⟨kp, hk, by omega, h2⟩
  simp only [downloadLayer, hc, LScript.empty, mrr_pass, directLoop, replyFails, hemp, hdat, htot, hres, hrun,
    Option.getD_some, List.isEmpty_nil, Bool.and_false, Bool.false_eq_true, if_false, if_true]
  exact ⟨_, rfl⟩

theorem dlLoop_honest (cfg : Cfg) (hash : Bytes → Digest) (reg : Registry)
    (hret : 0 < cfg.retries) (hmin : 0 < cfg.minSize) (hmax : 0 < cfg.maxSize) (ls : List Layer) (s : DlState)
    (hreg : ∀ l ∈ ls, ∃ d c, l.digest = .ok d ∧ lookupC d reg.content = some c ∧ hash c = d)
    (hpa : ∀ l ∈ ls, ∀ d, l.digest = .ok d → s.st.blobs d = none → ∀ c, lookupC d reg.content = some c →
      s.st.partials d = Partial.none ∨ ResumeFits c (s.st.partials d))
    (hb : ∀ d c, s.st.blobs d = some c → hash c = d) (hcan : s.canceled = false) :
    ∃ s', dlLoop cfg hash reg Scripts.honest ls s = (.ok (), s') ∧
      (∀ d c, s'.st.blobs d = some c → hash c = d) := by
  induction ls generalizing s with
  | nil => exact ⟨s, rfl, hb⟩
  | cons l ls ih =>
    obtain ⟨d, c, hd, hc, hh⟩ := hreg l List.mem_cons_self
    have hreg' := fun l' hl' => hreg l' (List.mem_cons_of_mem _ hl')
    cases hbl : s.st.blobs d with
    | some c0 =>
      obtain ⟨s', hs', hb'⟩ := ih { s with skip := markSkip cfg d true s.skip } hreg'
        (fun l' hl' => hpa l' (List.mem_cons_of_mem _ hl')) hb hcan
      exact ⟨s', by simp only [dlLoop, hd, hbl]; exact hs', hb'⟩
    | none =>
      obtain ⟨net', hdl⟩ : ∃ net', downloadLayer cfg reg d LScript.empty (s.st.partials d) s.net =
          (.ok c, Partial.none, net') := by
        rcases hpa l List.mem_cons_self d hd hbl c hc with hpa | hn
        · rw [hpa]; exact downloadLayer_honest cfg reg d c s.net hret hmin hmax hc
        · exact downloadLayer_honest_resume cfg reg d c s.net _ hret hc hn
      -- the state after this layer: `d` is stored with the registry's bytes, every other digest is as before
      obtain ⟨s', hs', hb'⟩ := ih
        { st := { s.st with blobs := upd s.st.blobs d (some c), partials := upd s.st.partials d Partial.none }
          net := net', skip := markSkip cfg d false s.skip, renamed := s.renamed ++ [d], canceled := false }
        hreg'
        (fun l' hl' d' hd' hn => by
          by_cases e : d' = d
          · subst e; simp only [upd_same] at hn; cases hn
          · simp only [upd_other _ _ _ _ e] at hn ⊢
            exact hpa l' (List.mem_cons_of_mem _ hl') d' hd' hn)
        (upd_blobInv hb fun _ e => Option.some.inj e ▸ hh)
        rfl
      refine ⟨s', ?_, hb'⟩
      simp only [dlLoop, hd, hbl, Scripts.honest, lookupS, hdl, hh, hcan, bne_self_eq_false, Bool.and_false,
        Bool.false_eq_true, if_false, Bool.false_or, Option.none_beq_some]
      exact hs'

end OllamaVerif.Pull
