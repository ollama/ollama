/-
  `server/create.go ggufLayers` on top of the decoder model (C10 / C05):

  * a successful `Decode` that started at file position p ends at a position > p once backward seeks are rejected
    (`decodeFrom_progress`, Proofs/GgufSafe.lean);
  * therefore the multi-model loop of `ggufLayers` terminates for every byte string
    (`ggufLayers_terminates`: the model's explicit "does not terminate" outcome is unreachable);
  * it is safe (no panic, no over-budget allocation) for every byte string (`ggufLayers_safe`);
  * its layers lie inside the file and do not overlap (`ggufLayers_within`, `ggufLayers_disjoint`); a file that
    is one model becomes one layer (`ggufLayers_single`); with the tree's accessors `createUpload` is `ggufLayers`.
-/
import OllamaVerif.Proofs.GgufSafe

namespace OllamaVerif.Gguf
open OllamaVerif

/-! ### typed accessors never fail once mismatches are treated as missing keys -/

theorem kvString_all (kvs : List (Bytes × Val)) (key dflt : Bytes) : ∃ v, kvString Guards.all kvs key dflt = .ok v := by
  unfold kvString
  split
  · exact ⟨_, rfl⟩
  · exact ⟨_, rfl⟩
  · exact ⟨dflt, by simp [Guards.all]⟩

theorem kvUint_all (kvs : List (Bytes × Val)) (key : Bytes) (dflt : Nat) : ∃ v, kvUint Guards.all kvs key dflt = .ok v := by
  unfold kvUint
  split
  · exact ⟨_, rfl⟩
  · exact ⟨_, rfl⟩
  · exact ⟨dflt, by simp [Guards.all]⟩

theorem mediaType_all (kvs : List (Bytes × Val)) : ∃ m, mediaType Guards.all kvs = .ok m := by
  unfold mediaType kvKind kvArchitecture
  obtain ⟨k, hk⟩ := kvString_all kvs (bytesOf "general.type") (bytesOf "unknown")
  obtain ⟨a, ha⟩ := kvString_all kvs (bytesOf "general.architecture") (bytesOf "unknown")
  simp only [hk, ha, bind, Except.bind, pure, Except.pure]
  split
  · exact ⟨_, rfl⟩
  · split <;> exact ⟨_, rfl⟩

theorem createAccessors_all (kvs : List (Bytes × Val)) : createAccessors Guards.all kvs = .ok () := by
  unfold createAccessors kvArchitecture
  obtain ⟨t, ht⟩ := kvString_all kvs (bytesOf "tokenizer.chat_template") []
  obtain ⟨a, ha⟩ := kvString_all kvs (bytesOf "general.architecture") (bytesOf "unknown")
  obtain ⟨f, hf⟩ := kvUint_all kvs (bytesOf "general.file_type") 0
  simp only [ht, ha, hf, bind, Except.bind, pure, Except.pure]

def layerAt (bs : Bytes) (offset media : Nat) (d : Decoded) : GLayer :=
  let whole : Bool := d.endOffset = bs.length ∧ offset = 0
  ⟨offset, if whole then bs.length else min (d.endOffset - offset) (bs.length - offset), whole, media, d⟩

theorem ggufLayersLoop_succ_ok {bs : Bytes} {budget : Option Nat} {g : Guards} {maxSeek offset m : Nat} {d : Decoded}
    (fuel : Nat) (acc : List GLayer) (hlt : offset < bs.length)
    (hd : decodeFrom ⟨bs.drop offset, offset⟩ 0 budget g = .ok d) (hseek : d.endOffset ≤ maxSeek)
    (hm : mediaType g d.kvs = .ok m) :
    ggufLayersLoop bs budget g maxSeek (fuel + 1) offset acc
      = ggufLayersLoop bs budget g maxSeek fuel d.endOffset (acc ++ [layerAt bs offset m d]) := by
  rw [ggufLayersLoop, if_pos hlt, hd]
  simp only []
  rw [if_neg (by omega), hm]
  rfl

theorem layerAt_cut {bs : Bytes} {offset n : Nat} (m : Nat) {d : Decoded} (hend : d.endOffset = offset + n)
    (hn : offset + n ≤ bs.length) (h : ¬ (offset + n = bs.length ∧ offset = 0)) :
    layerAt bs offset m d = ⟨offset, n, false, m, d⟩ := by
  unfold layerAt
  simp only [hend, decide_eq_false h, Bool.false_eq_true, ↓reduceIte]
  congr 1
  omega

theorem layerAt_within {bs : Bytes} {offset : Nat} (m : Nat) (d : Decoded) (h : offset < bs.length) :
    (layerAt bs offset m d).start + (layerAt bs offset m d).size ≤ bs.length := by
  unfold layerAt
  simp only []
  split
  · rename_i hw
    simp only [decide_eq_true_eq] at hw
    omega
  · omega

theorem layerAt_ends {bs : Bytes} {offset : Nat} (m : Nat) (d : Decoded) (h : offset ≤ d.endOffset) :
    (layerAt bs offset m d).start + (layerAt bs offset m d).size ≤ d.endOffset := by
  unfold layerAt
  simp only []
  split
  · rename_i hw
    simp only [decide_eq_true_eq] at hw
    omega
  · omega

/-- what holds of `offset` and the layers so far at every turn holds of what the loop returns -/
theorem ggufLayersLoop_invariant {bs : Bytes} {budget : Option Nat} {g : Guards} {maxSeek : Nat}
    (I : Nat → List GLayer → Prop)
    (step : ∀ offset acc d m, I offset acc → offset < bs.length →
      decodeFrom ⟨bs.drop offset, offset⟩ 0 budget g = .ok d → mediaType g d.kvs = .ok m →
      I d.endOffset (acc ++ [layerAt bs offset m d]))
    (fuel offset : Nat) (acc out : List GLayer) (hI : I offset acc)
    (h : ggufLayersLoop bs budget g maxSeek fuel offset acc = some (.ok out)) : ∃ o, I o out := by
  -- the cases of `ggufLayersLoop.induct`: 1, 2 the fuel is out (bytes left / none left); 3 the decode ends in io.EOF;
  -- 4 in another error; 5 it ends above the seek limit; 6 an accessor fails; 7 a layer is added and the loop goes on;
  -- 8 no bytes left
  fun_induction ggufLayersLoop bs budget g maxSeek fuel offset acc with
  | case7 fuel offset acc hlt d hd n hseek m hm whole size ih => exact ih (step offset acc d m hI hlt hd hm) h
  | case3 => split at h <;> cases h; exact ⟨_, hI⟩
  | case2 | case8 => cases h; exact ⟨_, hI⟩
  | _ => cases h

/-- **Termination of `ggufLayers`' loop**: whenever the fuel covers the bytes still ahead, the
    loop ends by itself (each iteration moves the offset forward by at least 4 bytes). -/
theorem ggufLayersLoop_terminates (bs : Bytes) (budget : Option Nat) (g : Guards) (hg : g.negSeek = true) (maxSeek : Nat)
    (fuel offset : Nat) (acc : List GLayer) (h : bs.length ≤ fuel + offset) :
    (ggufLayersLoop bs budget g maxSeek fuel offset acc).isSome = true := by
  fun_induction ggufLayersLoop bs budget g maxSeek fuel offset acc with
  | case1 => omega
  | case7 fuel offset acc hlt d hd n hseek m hm whole size ih =>
    have hp := decodeFrom_progress ⟨bs.drop offset, offset⟩ 0 budget g hg d hd
    simp only [] at hp
    exact ih (by omega)
  | _ => rfl

/-- why termination asks for `negSeek`: a decode that ends where it started keeps the loop where it is, and no fuel is
    ever enough -/
theorem ggufLayersLoop_stuck {bs : Bytes} {budget : Option Nat} {g : Guards} {maxSeek offset m : Nat} {d : Decoded}
    (hlt : offset < bs.length) (hd : decodeFrom ⟨bs.drop offset, offset⟩ 0 budget g = .ok d) (hend : d.endOffset = offset)
    (hseek : offset ≤ maxSeek) (hm : mediaType g d.kvs = .ok m) (fuel : Nat) (acc : List GLayer) :
    ggufLayersLoop bs budget g maxSeek fuel offset acc = none := by
  induction fuel generalizing acc with
  | zero => rw [ggufLayersLoop, if_pos hlt]
  | succ fuel ih => rw [ggufLayersLoop_succ_ok fuel acc hlt hd (by omega) hm, hend]; exact ih _

/-- **`ggufLayers` terminates on every byte string** (for the working tree's decoder and every
    variant that rejects backward seeks). -/
theorem ggufLayers_terminates (bs : Bytes) (budget : Option Nat) (g : Guards) (hg : g.negSeek = true) (maxSeek : Nat) :
    (ggufLayers bs budget g maxSeek).isSome = true := by
  unfold ggufLayers
  simp only []
  split
  · rfl
  · exact ggufLayersLoop_terminates bs budget g hg maxSeek bs.length 0 [] (by omega)

/-- `none` (the loop never answers) counts as safe: termination is a theorem of its own -/
def SafeL (x : Option (Except Err (List GLayer))) : Prop :=
  match x with
  | some y => Safe y
  | none => True

theorem ggufLayersLoop_safe (bs : Bytes) (B : Nat) (hB : bs.length ≤ B) (maxSeek : Nat) (fuel offset : Nat) (acc : List GLayer) :
    SafeL (ggufLayersLoop bs (some B) Guards.all maxSeek fuel offset acc) := by
  fun_induction ggufLayersLoop bs (some B) Guards.all maxSeek fuel offset acc with
  | case4 fuel offset acc hlt e he hd =>
    have hs := decodeFrom_safe_all ⟨bs.drop offset, offset⟩ 0 B (by simp only [List.length_drop]; omega)
    rw [hd] at hs
    exact hs
  | case6 fuel offset acc hlt d hd n hseek e hm => obtain ⟨m, hm'⟩ := mediaType_all d.kvs; rw [hm'] at hm; cases hm
  | case7 fuel offset acc hlt d hd n hseek m hm whole size ih => exact ih
  | case3 => split <;> trivial
  | _ => trivial

/-- **`ggufLayers` is safe on every byte string**: no panic, no allocation above a budget of one byte per
    input byte, whatever the upload contains and however many models it holds. -/
theorem ggufLayers_safe (bs : Bytes) (B : Nat) (hB : bs.length ≤ B) (maxSeek : Nat) :
    SafeL (ggufLayers bs (some B) Guards.all maxSeek) := by
  unfold ggufLayers
  simp only []
  split
  · rfl
  · exact ggufLayersLoop_safe bs B hB maxSeek _ _ _

/-- every layer ends by `n` (the length of the upload, or where the loop stands) -/
def Within (n : Nat) (ls : List GLayer) : Prop := ∀ l ∈ ls, l.start + l.size ≤ n

theorem ggufLayers_within (bs : Bytes) (budget : Option Nat) (g : Guards) (maxSeek : Nat) (out : List GLayer)
    (h : ggufLayers bs budget g maxSeek = some (.ok out)) : Within bs.length out := by
  unfold ggufLayers at h
  simp only [] at h
  split at h
  · cases h
  · refine (ggufLayersLoop_invariant (fun _ acc => Within bs.length acc) ?_ _ _ _ _
      (by intro l hl; cases hl) h).elim fun _ hout => hout
    intro offset acc d m hacc hlt _ _ l hl
    rcases List.mem_append.mp hl with hl | hl
    · exact hacc l hl
    · rw [List.mem_singleton.mp hl]
      exact layerAt_within m d hlt

/-- layers do not overlap: each one ends where or before the next one starts, in upload order
    (`List.Pairwise`: every layer ends by the start of every LATER layer) -/
def Disjoint (ls : List GLayer) : Prop := ls.Pairwise (fun a b => a.start + a.size ≤ b.start)

/-- **Layers cut out of an upload do not overlap** (each is its model's own extent): for every byte string -/
theorem ggufLayers_disjoint (bs : Bytes) (budget : Option Nat) (g : Guards) (hg : g.negSeek = true) (maxSeek : Nat)
    (out : List GLayer) (h : ggufLayers bs budget g maxSeek = some (.ok out)) : Disjoint out := by
  unfold ggufLayers at h
  simp only [] at h
  split at h
  · cases h
  · refine (ggufLayersLoop_invariant (fun offset acc => Disjoint acc ∧ Within offset acc) ?_ _ _ _ _
      ⟨List.Pairwise.nil, by intro l hl; cases hl⟩ h).elim fun _ hout => hout.1
    intro offset acc d m ⟨hd, he⟩ hlt hdec _
    have hp := decodeFrom_progress ⟨bs.drop offset, offset⟩ 0 budget g hg d hdec
    simp only [] at hp
    refine ⟨?_, ?_⟩
    · -- the new layer starts at `offset`, where every earlier layer has ended
      unfold Disjoint
      rw [List.pairwise_append]
      refine ⟨hd, List.pairwise_singleton _ _, ?_⟩
      intro a ha b hb
      rw [List.mem_singleton.mp hb]
      exact he a ha
    · -- … and ends by the next decode start
      intro l hl
      rcases List.mem_append.mp hl with hl | hl
      · exact Nat.le_trans (he l hl) (by omega)
      · rw [List.mem_singleton.mp hl]
        exact layerAt_ends m d (by omega)

theorem ggufLayersLoop_done (bs : Bytes) (budget : Option Nat) (g : Guards) (maxSeek fuel offset : Nat) (acc : List GLayer)
    (h : bs.length ≤ offset) : ggufLayersLoop bs budget g maxSeek fuel offset acc = some (.ok acc) := by
  cases fuel with
  | zero => unfold ggufLayersLoop; rw [if_neg (by omega)]
  | succ f => unfold ggufLayersLoop; rw [if_neg (by omega)]

theorem magic_of_decode (bs : Bytes) (m : Int) (budget : Option Nat) (g : Guards) (d : Decoded)
    (hd : decodeFrom ⟨bs, 0⟩ m budget g = .ok d) :
    4 ≤ bs.length ∧ ¬ (leVal (bs.take 4) ≠ magicLE ∧ leVal (bs.take 4) ≠ magicBE) := by
  by_cases h4 : 4 ≤ bs.length
  · refine ⟨h4, ?_⟩
    intro hm
    have hr : readUint false 4 ⟨bs, 0⟩ = .ok (leVal (bs.take 4), ⟨bs.drop 4, 0 + 4⟩) := by
      simp [readUint, readN, h4]
    unfold decodeFrom at hd
    rw [hr] at hd
    simp only [bind, Except.bind] at hd
    rw [if_pos hm] at hd
    cases hd
  · exfalso
    have hr : ∃ e, readUint false 4 ⟨bs, 0⟩ = .error e := by
      unfold readUint readN
      simp only []
      rw [if_neg h4]
      by_cases h0 : bs.length = 0
      · rw [if_pos h0]; exact ⟨_, rfl⟩
      · rw [if_neg h0]; exact ⟨_, rfl⟩
    obtain ⟨e, hr⟩ := hr
    unfold decodeFrom at hd
    rw [hr] at hd
    simp [bind, Except.bind] at hd

/-- content sniffing passes on a file whose decode succeeds -/
theorem ggufLayers_of_decode (bs : Bytes) (budget : Option Nat) (g : Guards) (maxSeek : Nat) {m : Int}
    {budget' : Option Nat} {g' : Guards} {d : Decoded} (hd : decodeFrom ⟨bs, 0⟩ m budget' g' = .ok d) :
    ggufLayers bs budget g maxSeek = ggufLayersLoop bs budget g maxSeek bs.length 0 [] := by
  obtain ⟨h4, hm⟩ := magic_of_decode bs m budget' g' d hd
  unfold ggufLayers
  simp only []
  have ht : (bs.take 4).length = 4 := by rw [List.length_take]; omega
  rw [ht]
  simp only [Nat.sub_self, List.replicate_zero, List.append_nil]
  rw [if_neg hm]

/-- **A file that decodes as exactly one model is taken as it is**: when the decode of the whole
    upload ends at the file length, create produces one layer that reuses the uploaded blob
    (C05: this is what the end offset is used for). -/
theorem ggufLayers_single (bs : Bytes) (budget : Option Nat) (g : Guards) (maxSeek : Nat) (d : Decoded) (m : Nat)
    (hd : decode bs 0 budget g = .ok d) (hend : d.endOffset = bs.length) (hfs : bs.length ≤ maxSeek)
    (hmed : mediaType g d.kvs = .ok m) :
    ggufLayers bs budget g maxSeek = some (.ok [⟨0, bs.length, true, m, d⟩]) := by
  unfold decode at hd
  have h4 := (magic_of_decode bs 0 budget g d hd).1
  rw [ggufLayers_of_decode bs budget g maxSeek hd]
  obtain ⟨f, hf⟩ : ∃ f, bs.length = f + 1 := ⟨bs.length - 1, by omega⟩
  rw [hf, ggufLayersLoop_succ_ok f [] (by omega) (by rw [List.drop_zero]; exact hd) (by omega) hmed,
    ggufLayersLoop_done _ _ _ _ _ _ _ (by omega)]
  simp [layerAt, hend, hf]

theorem mapM_createAccessors_all (ls : List GLayer) :
    ∃ us, ls.mapM (fun l => createAccessors Guards.all l.d.kvs) = .ok us := by
  induction ls with
  | nil => exact ⟨[], rfl⟩
  | cons l ls ih =>
    obtain ⟨us, hus⟩ := ih
    refine ⟨() :: us, ?_⟩
    rw [List.mapM_cons, createAccessors_all, hus]
    rfl

theorem createUpload_eq_ggufLayers (bs : Bytes) (budget : Option Nat) (maxSeek : Nat) :
    createUpload bs budget Guards.all maxSeek = ggufLayers bs budget Guards.all maxSeek := by
  unfold createUpload
  cases h : ggufLayers bs budget Guards.all maxSeek with
  | none => rfl
  | some r =>
    cases r with
    | error e => rfl
    | ok ls =>
      obtain ⟨us, hus⟩ := mapM_createAccessors_all ls
      simp only [hus]

end OllamaVerif.Gguf
