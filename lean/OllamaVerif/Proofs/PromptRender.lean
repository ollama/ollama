/-
  C19: the template layer of Model/Prompt.lean — collate, the legacy loop, the three harness trees.

  What the property reads off a prompt — the contents in the order of the conversation, every content somewhere, the
  image tags as the runner's regexp finds them — is in each case a `Reading`: a relation between a list of items and a
  byte string that is compositional and blind to text which cannot start an image tag.  collate, the legacy loop and
  the trees are transparent for every reading (`collate_reads`, `legacy_reads`, `inplace_reads`, `header_reads`,
  `tLegacy_reads`); order, "nothing lost" and the tags are instances.  `legacy_join_in_order` / `_nothing_lost` are about
  any legacy template that is `RendersOrdered` / `Renders`; `tLegacy`, the template they are applied to, is shown to be.
  Apart from the readings: lengths (`bodiesLen_remove`), `join_step_conservative`, `legacy_exact` (the prompt of
  `tLegacy` is the rendering of the same loop run on pieces).  The trees are in namespace `C19`.  Core Lean only.
-/
import OllamaVerif.Proofs.Prompt

namespace OllamaVerif.Prompt

/-! ### contents occurring in a byte string -/

theorem inf_left {c x : Bytes} (y : Bytes) (h : c <:+: x) : c <:+: y ++ x :=
  h.trans (List.suffix_append y x).isInfix

/-- the byte strings `cs` occur in `b` one after the other, without overlap, in this order -/
def InOrder : List Bytes → Bytes → Prop
  | [], _ => True
  | c :: cs, b => ∃ x y, b = x ++ c ++ y ∧ InOrder cs y

theorem InOrder.left {cs : List Bytes} {b : Bytes} (x : Bytes) (h : InOrder cs b) : InOrder cs (x ++ b) := by
  cases cs with
  | nil => trivial
  | cons c cs =>
    obtain ⟨x', y, hb, hy⟩ := h
    exact ⟨x ++ x', y, by simp [hb], hy⟩

theorem InOrder.right : ∀ {cs : List Bytes} {b : Bytes} (y : Bytes), InOrder cs b → InOrder cs (b ++ y) := by
  intro cs
  induction cs with
  | nil => intro b y _; trivial
  | cons c cs ih =>
    intro b y h
    obtain ⟨x', y', hb, hy⟩ := h
    exact ⟨x', y' ++ y, by simp [hb], ih y hy⟩

theorem InOrder.append : ∀ {as bs : List Bytes} {a b : Bytes}, InOrder as a → InOrder bs b →
    InOrder (as ++ bs) (a ++ b) := by
  intro as
  induction as with
  | nil => intro bs a b _ hb; exact hb.left a
  | cons c as ih =>
    intro bs a b ha hb
    obtain ⟨x, y, he, hy⟩ := ha
    exact ⟨x, y ++ b, by simp [he], ih hy hb⟩

theorem InOrder.self (c : Bytes) : InOrder [c] c := ⟨[], [], by simp, trivial⟩

theorem InOrder.infix_of_mem : ∀ {cs : List Bytes} {b : Bytes}, InOrder cs b → ∀ c ∈ cs, c <:+: b := by
  intro cs
  induction cs with
  | nil => intro b _ c hc; simp at hc
  | cons a cs ih =>
    intro b h c hc
    obtain ⟨x, y, he, hy⟩ := h
    rcases List.mem_cons.mp hc with h1 | h1
    · subst h1; subst he; exact ⟨x, y, rfl⟩
    · subst he; exact inf_left _ (ih hy c h1)

/-- the occurrences do not overlap: together they are not longer than the string -/
theorem InOrder.length_le : ∀ {cs : List Bytes} {b : Bytes}, InOrder cs b → (cs.map List.length).sum ≤ b.length := by
  intro cs
  induction cs with
  | nil => intro b _; simp
  | cons c cs ih =>
    intro b h
    obtain ⟨x, y, he, hy⟩ := h
    have := ih hy
    subst he
    simp only [List.map_cons, List.sum_cons, List.length_append]
    omega

/-- replace one of the strings by strings that occur in it, in order -/
theorem InOrder.refine : ∀ {as : List Bytes} {c : Bytes} {cs ds : List Bytes} {b : Bytes},
    InOrder (as ++ c :: cs) b → InOrder ds c → InOrder (as ++ ds ++ cs) b := by
  intro as
  induction as with
  | nil =>
    intro c cs ds b h hd
    obtain ⟨x, y, he, hy⟩ := h
    subst he
    have := (InOrder.append hd hy).left x
    simpa using this
  | cons a as ih =>
    intro c cs ds b h hd
    obtain ⟨x, y, he, hy⟩ := h
    exact ⟨x, y, he, by simpa using ih hy hd⟩

def Refines (ds cs : List Bytes) : Prop := ∀ b, InOrder cs b → InOrder ds b

theorem Refines.prefix {ds cs : List Bytes} (p : List Bytes) (h : Refines ds cs) : Refines (p ++ ds) (p ++ cs) := by
  induction p with
  | nil => exact h
  | cons a p ih =>
    intro b hb
    obtain ⟨x, y, he, hy⟩ := hb
    exact ⟨x, y, he, ih y hy⟩

/-- a content as a list: empty contents are not tracked (they occur anywhere) -/
def one (c : Bytes) : List Bytes := if c.isEmpty then [] else [c]

theorem InOrder.one (c : Bytes) : InOrder (one c) c := by
  unfold Prompt.one; split
  · trivial
  · exact InOrder.self c

/-- the contents of the messages whose role the template path looks at, in order -/
def contentsOf (keep : Role → Bool) : List RMsg → List Bytes
  | [] => []
  | (r, c) :: l => (if keep r then one c else []) ++ contentsOf keep l

theorem mem_contentsOf (keep : Role → Bool) {m : RMsg} : ∀ {l : List RMsg}, m ∈ l → keep m.1 = true →
    m.2 = [] ∨ m.2 ∈ contentsOf keep l
  | (r, c) :: l, hm, hk => by
    rcases List.mem_cons.mp hm with h | h
    · subst h
      cases c with
      | nil => exact Or.inl rfl
      | cons a c => exact Or.inr (by simp [contentsOf, hk, one])
    · exact (mem_contentsOf keep h hk).imp_right (fun h' => List.mem_append_right _ h')

theorem InOrder.drop_nil {cs : List Bytes} {b : Bytes} (h : InOrder ([] :: cs) b) : InOrder cs b := by
  obtain ⟨x, y, he, hy⟩ := h
  subst he
  simpa using hy.left x

/-- a block that is printed only when its field `s` is non-empty and then shows it: `{{if .F}}…{{.F}}…{{end}}` -/
theorem InOrder.guarded {cs : List Bytes} {s b : Bytes} (h : InOrder cs s) (hb : s <:+: b) :
    InOrder cs (if s.isEmpty then [] else b) := by
  obtain ⟨pre, post, rfl⟩ := hb
  cases s with
  | nil => exact h
  | cons a s => exact (h.left pre).right post

def Scattered (cs : List Bytes) (b : Bytes) : Prop := ∀ c ∈ cs, c <:+: b

theorem Scattered.infix_of_contents {keep : Role → Bool} {l : List RMsg} {b : Bytes}
    (h : Scattered (contentsOf keep l) b) {m : RMsg} (hm : m ∈ l) (hk : keep m.1 = true) : m.2 <:+: b := by
  rcases mem_contentsOf keep hm hk with h0 | h1
  · rw [h0]; exact List.nil_infix
  · exact h _ h1

theorem Scattered.one (c : Bytes) : Scattered (one c) c := fun x hx => by
  unfold Prompt.one at hx
  split at hx
  · nomatch hx
  · rw [List.mem_singleton.mp hx]; exact List.infix_refl _

theorem Scattered.append {as bs : List Bytes} {a b : Bytes} (ha : Scattered as a) (hb : Scattered bs b) :
    Scattered (as ++ bs) (a ++ b) := fun c hc =>
  (List.mem_append.mp hc).elim (fun h => (ha c h).trans (List.prefix_append _ _).isInfix) (fun h => inf_left _ (hb c h))

def isSys : Role → Bool
  | .system => true | _ => false

/-! ### readings -/

/-- blind to text that cannot start an image tag: all that templates, collate and the legacy loop write themselves -/
structure Reading {β : Type} (R : List β → Bytes → Prop) : Prop where
  append : ∀ {as bs a b}, R as a → R bs b → R (as ++ bs) (a ++ b)
  text : ∀ y, safeText y = true → R [] y

theorem InOrder.reading : Reading InOrder := ⟨InOrder.append, fun _ _ => trivial⟩

theorem Scattered.reading : Reading Scattered := ⟨Scattered.append, fun _ _ _ h => nomatch h⟩

theorem Tagged.reading : Reading Tagged := ⟨Tagged.append, Tagged.text⟩

/-- nothing is read off an empty content: templates and the legacy loop test a content for emptiness -/
structure Reads {β : Type} (R : List β → Bytes → Prop) (xs : List β) (c : Bytes) : Prop where
  rel : R xs c
  nil_of_empty : c = [] → xs = []

/-- a message together with what is read off its content -/
structure Rd (β : Type) where
  msg : RMsg
  items : List β

def Valid {β : Type} (R : List β → Bytes → Prop) (l : List (Rd β)) : Prop := ∀ p ∈ l, Reads R p.items p.msg.2

def itemsOf {β : Type} (keep : Role → Bool) (l : List (Rd β)) : List β :=
  l.flatMap (fun p => if keep p.msg.1 then p.items else [])

theorem itemsOf_cons {β : Type} (keep : Role → Bool) (p : Rd β) (l : List (Rd β)) :
    itemsOf keep (p :: l) = (if keep p.msg.1 then p.items else []) ++ itemsOf keep l := List.flatMap_cons

theorem itemsOf_congr {β : Type} {keep keep' : Role → Bool} : ∀ {l : List (Rd β)}, (∀ p ∈ l, keep p.msg.1 = keep' p.msg.1) →
    itemsOf keep l = itemsOf keep' l
  | [], _ => rfl
  | p :: l, h => by
    rw [itemsOf_cons, itemsOf_cons, h p List.mem_cons_self, itemsOf_congr fun q hq => h q (List.mem_cons_of_mem _ hq)]

theorem itemsOf_filter {β : Type} (keep : Role → Bool) : ∀ l : List (Rd β),
    itemsOf (fun _ => true) (l.filter (fun p => keep p.msg.1)) = itemsOf keep l
  | [] => rfl
  | p :: l => by
    rw [List.filter_cons, itemsOf_cons, ← itemsOf_filter keep l]
    cases keep p.msg.1 <;> rfl

theorem itemsOf_count_split {β : Type} [BEq β] (keep : Role → Bool) (k : β) : ∀ l : List (Rd β),
    (itemsOf keep l ++ itemsOf (fun r => !keep r) l).count k = (itemsOf (fun _ => true) l).count k
  | [] => rfl
  | p :: l => by
    have := itemsOf_count_split keep k l
    simp only [itemsOf_cons, List.count_append] at this ⊢
    cases keep p.msg.1 <;> simp only [Bool.not_true, Bool.not_false, Bool.false_eq_true, if_true, if_false, List.count_nil] <;> omega

def rdBytes (m : RMsg) : Rd Bytes := ⟨m, one m.2⟩

theorem rdBytes_valid {R : List Bytes → Bytes → Prop} (h1 : ∀ c, R (one c) c) (msgs : List RMsg) :
    Valid R (msgs.map rdBytes) := fun p hp => by
  obtain ⟨m, _, rfl⟩ := List.mem_map.mp hp
  exact ⟨h1 m.2, fun h => by show one m.2 = []; rw [show m.2 = [] from h]; rfl⟩

theorem map_rdBytes (msgs : List RMsg) : (msgs.map rdBytes).map (·.msg) = msgs := by
  rw [List.map_map, show (fun p : Rd Bytes => p.msg) ∘ rdBytes = id from rfl, List.map_id]

theorem itemsOf_rdBytes (keep : Role → Bool) : ∀ msgs : List RMsg, itemsOf keep (msgs.map rdBytes) = contentsOf keep msgs
  | [] => rfl
  | (r, c) :: l => by
    rw [List.map_cons, itemsOf_cons, itemsOf_rdBytes keep l]; rfl

def rdTags (m : Msg) : Rd Nat := ⟨toRMsg m, tagsOf m.content⟩

theorem rdTags_valid (l : List Msg) (hclean : ∀ m ∈ l, cleanPieces m.content = true) : Valid Tagged (l.map rdTags) :=
  fun p hp => by
    obtain ⟨m, hm, rfl⟩ := List.mem_map.mp hp
    have := Tagged.pieces m.content (hclean m hm)
    exact ⟨this, fun h => ((show Tagged (tagsOf m.content) [] from h ▸ this).scan).symm⟩

theorem itemsOf_rdTags (l : List Msg) :
    itemsOf (fun _ => true) (l.map rdTags) = l.flatMap (fun m => tagsOf m.content) := by
  simp only [itemsOf, List.flatMap_map, if_true]; rfl

section
variable {β : Type} {R : List β → Bytes → Prop} (hR : Reading R)
include hR

theorem Reading.nil : R [] [] := hR.text [] rfl

theorem Reads.nil : Reads R [] [] := ⟨hR.nil, fun _ => rfl⟩

/-- `{{if .F}}pre{{.F}}post{{end}}` -/
theorem Reads.guarded {xs : List β} {s : Bytes} (pre post : Bytes) (hpre : safeText pre = true)
    (hpost : safeText post = true) (h : Reads R xs s) : R xs (if s.isEmpty then [] else pre ++ (s ++ post)) := by
  cases s with
  | nil => rw [h.nil_of_empty rfl]; exact hR.nil
  | cons a s =>
    have := hR.append (hR.text pre hpre) (hR.append h.rel (hR.text post hpost))
    simpa using this

/-- joined by a blank line, as collate, `strings.Join` and the join-repaired loop do -/
theorem Reads.sep {ps xs : List β} {a c : Bytes} (h : Reads R ps a) (hc : Reads R xs c) :
    Reads R (ps ++ xs) (a ++ sep2 ++ c) :=
  ⟨hR.append (by simpa using hR.append h.rel (hR.text sep2 (by decide))) hc.rel, fun h0 => by simp [sep2] at h0⟩

theorem joinSlot_reads {ps xs : List β} {a c : Bytes} (h : Reads R ps a) (hc : Reads R xs c) :
    Reads R (ps ++ xs) (joinSlot a c) := by
  unfold joinSlot
  split
  · rename_i he
    rw [h.nil_of_empty (List.isEmpty_iff.mp he)]
    exact hc
  · exact Reads.sep hR h hc

/-! ### collate -/

/-- the merged messages can be read, and yield the same items -/
theorem collate_reads : ∀ (l : List (Rd β)), Valid R l →
    ∃ l' : List (Rd β), l'.map (·.msg) = collateMsgs (l.map (·.msg)) ∧ Valid R l' ∧
      ∀ keep, itemsOf keep l' = itemsOf keep l
  | [], _ => ⟨[], rfl, (fun _ h => nomatch h), fun _ => rfl⟩
  | ⟨(r, c), xs⟩ :: rest, hv => by
    obtain ⟨l', h1, h2, h3⟩ := collate_reads rest (fun p hp => hv p (List.mem_cons_of_mem _ hp))
    have hx := hv _ List.mem_cons_self
    simp only [List.map_cons, collateMsgs, ← h1]
    cases l' with
    | nil => exact ⟨[⟨(r, c), xs⟩], rfl, fun p hp => by rw [List.mem_singleton.mp hp]; exact hx,
        fun keep => by rw [itemsOf_cons, itemsOf_cons, ← h3 keep]⟩
    | cons q tl =>
      obtain ⟨⟨r', c'⟩, xs'⟩ := q
      have hq := h2 _ List.mem_cons_self
      by_cases hr : r = r'
      · subst hr
        refine ⟨⟨(r, c ++ sep2 ++ c'), xs ++ xs'⟩ :: tl, by simp, fun p hp => ?_, fun keep => ?_⟩
        · rcases List.mem_cons.mp hp with rfl | hp
          · exact Reads.sep hR hx hq
          · exact h2 p (List.mem_cons_of_mem _ hp)
        · rw [itemsOf_cons, itemsOf_cons, ← h3 keep, itemsOf_cons]
          split <;> simp
      · refine ⟨⟨(r, c), xs⟩ :: ⟨(r', c'), xs'⟩ :: tl, by simp [hr], fun p hp => ?_, fun keep => ?_⟩
        · rcases List.mem_cons.mp hp with rfl | hp
          · exact hx
          · exact h2 p hp
        · rw [itemsOf_cons, itemsOf_cons (l := rest), ← h3 keep]

/-- `strings.Join(…, "\n\n")` -/
theorem joinSep_reads : ∀ (l : List (Rd β)), Valid R l →
    Reads R (itemsOf (fun _ => true) l) (joinSep sep2 (l.map (·.msg.2)))
  | [], _ => Reads.nil hR
  | [p], h => by
    have := h p (by simp)
    rwa [← List.append_nil p.items] at this
  | p :: q :: l, h =>
    Reads.sep hR (h p List.mem_cons_self) (joinSep_reads (q :: l) (fun x hx => h x (List.mem_cons_of_mem _ hx)))

/-- the `.System` string of a messages-style template -/
theorem system_reads (l : List (Rd β)) (hv : Valid R l) : Reads R (itemsOf isSys l) (collate (l.map (·.msg))).1 := by
  have := joinSep_reads hR (l.filter (fun p => isSys p.msg.1)) (fun p hp => hv p (List.mem_filter.mp hp).1)
  rw [itemsOf_filter] at this
  have e : (collate (l.map (·.msg))).1 = joinSep sep2 ((l.filter (fun p => isSys p.msg.1)).map (·.msg.2)) := by
    unfold collate
    simp only [List.filter_map, List.map_map]
    congr 2
    exact List.filter_congr fun p _ => by obtain ⟨⟨r, c⟩, xs⟩ := p; cases r <;> rfl
  rwa [e]
end

/-- **collate keeps every message**: each message's content is contained in a merged message of
    the same role -/
theorem collateMsgs_infix : ∀ (msgs : List RMsg) (m : RMsg), m ∈ msgs →
    ∃ g ∈ collateMsgs msgs, g.1 = m.1 ∧ m.2 <:+: g.2 := by
  intro msgs
  induction msgs with
  | nil => intro m h; simp at h
  | cons a rest ih =>
    intro m hm
    obtain ⟨r, c⟩ := a
    simp only [collateMsgs]
    rcases List.mem_cons.mp hm with h | h
    · subst h
      split
      · rename_i r' c' tl _
        split
        · exact ⟨_, List.mem_cons_self, rfl, by
            rw [List.append_assoc]; exact (List.prefix_append _ _).isInfix⟩
        · exact ⟨_, List.mem_cons_self, rfl, List.infix_refl _⟩
      · exact ⟨_, List.mem_cons_self, rfl, List.infix_refl _⟩
    · obtain ⟨g, hg, hg1, hg2⟩ := ih m h
      split
      · rename_i r' c' tl heq
        rw [heq] at hg
        split
        · rename_i hrr
          rcases List.mem_cons.mp hg with hg | hg
          · subst hg
            exact ⟨_, List.mem_cons_self, by simpa [hrr] using hg1, inf_left _ hg2⟩
          · exact ⟨g, List.mem_cons_of_mem _ hg, hg1, hg2⟩
        · exact ⟨g, List.mem_cons_of_mem _ hg, hg1, hg2⟩
      · rename_i heq
        rw [heq] at hg
        simp at hg

theorem InOrder.refines_contents (keep : Role → Bool) : ∀ (l : List (Rd Bytes)), Valid InOrder l →
    Refines (itemsOf keep l) (contentsOf keep (l.map (·.msg)))
  | [], _ => fun _ h => h
  | ⟨(r, c), xs⟩ :: l, hv => by
    have ih := InOrder.refines_contents keep l (fun p hp => hv p (List.mem_cons_of_mem _ hp))
    obtain ⟨hx, hx0⟩ := hv _ List.mem_cons_self
    intro b hb
    simp only [List.map_cons, contentsOf, itemsOf_cons] at hb ⊢
    cases hk : keep r with
    | false => simpa [hk] using ih b (by simpa [hk] using hb)
    | true =>
      simp only [hk, if_true] at hb ⊢
      cases c with
      | nil => rw [show xs = [] from hx0 rfl]; exact ih b hb
      | cons a c =>
        have h2 : InOrder ([] ++ xs ++ contentsOf keep (l.map (·.msg))) b := InOrder.refine (as := []) hb hx
        exact Refines.prefix xs ih b (by simpa using h2)

/-- **collate preserves the order of the contents**: wherever the contents of the merged messages
    occur in order, so do the contents of the original messages -/
theorem collate_refines (keep : Role → Bool) : ∀ msgs : List RMsg,
    Refines (contentsOf keep msgs) (contentsOf keep (collateMsgs msgs)) :=
  fun msgs b hb => by
    obtain ⟨l', h1, h2, h3⟩ := collate_reads InOrder.reading _ (rdBytes_valid InOrder.one msgs)
    rw [map_rdBytes] at h1
    rw [← h1] at hb
    have := InOrder.refines_contents keep l' h2 b hb
    rwa [h3, itemsOf_rdBytes] at this

/-- **the `.System` string of a messages-style template holds the system messages in order** -/
theorem collate_system_inorder (msgs : List RMsg) : InOrder (contentsOf isSys msgs) (collate msgs).1 := by
  have := (system_reads InOrder.reading _ (rdBytes_valid InOrder.one msgs)).rel
  rwa [itemsOf_rdBytes, map_rdBytes] at this

/-- **collate keeps every system message**: the `.System` string handed to a messages-style
    template contains the content of every system message of its input -/
theorem collate_system_infix (msgs : List RMsg) (m : RMsg) (hm : m ∈ msgs) (hr : m.1 = Role.system) :
    m.2 <:+: (collate msgs).1 :=
  Scattered.infix_of_contents (collate_system_inorder msgs).infix_of_mem hm (by rw [hr]; rfl)

def headRole (l : List RMsg) : Option Role := l.head?.map (·.1)

theorem collate_head (l : List RMsg) : headRole (collateMsgs l) = headRole l := by
  cases l with
  | nil => rfl
  | cons a rest =>
    obtain ⟨r, c⟩ := a
    simp only [collateMsgs]
    split
    · split <;> rfl
    · rfl

/-! ### executing messages-style templates -/

theorem XOut.append_ok_nil (a : XOut) : a.append (.ok []) = a := by
  cases a with
  | ok b => simp only [XOut.append, List.append_nil]
  | err e => rfl

theorem execute_messages (tv : TVar) {t : List Node} (h : nodesMention .messages t = true) (msgs : List RMsg)
    (tools : ToolsV) :
    execute tv t msgs tools = execList ⟨false, (collate msgs).1, [], [], collateMsgs msgs, tools⟩ t none := by
  simp only [execute, h, if_true]
  rfl

/-- `{{if .F}}…{{end}}` on a string field -/
theorem execNode_ifField (root : Root) (f : Fld) (v : Bytes) (t : List Node) (b : Bytes)
    (hv : root.get f = .str v) (ht : execList root t none = .ok b) :
    execNode root (.ite (.field f) t false []) none = .ok (if v.isEmpty then [] else b) := by
  simp only [execNode, eval, evalField, hv, truthy, ht]
  cases v <;> rfl

theorem fold_bodies_exact (body : Option RMsg → XOut) (g : RMsg → Bytes) :
    ∀ (l : List RMsg) (acc : Bytes), (∀ m ∈ l, body (some m) = XOut.ok (g m)) →
    l.foldl (fun (a : XOut) m => a.append (body (some m))) (XOut.ok acc) = XOut.ok (acc ++ l.flatMap g) := by
  intro l
  induction l with
  | nil => intro acc _; simp
  | cons a l ih =>
    intro acc h
    have e : (XOut.ok acc).append (body (some a)) = XOut.ok (acc ++ g a) := by
      rw [h a (by simp)]; rfl
    rw [List.foldl_cons, e, ih (acc ++ g a) (fun m hm => h m (by simp [hm]))]
    simp

/-- `{{range .Messages}}body{{end}}`: the bodies of the messages, concatenated -/
theorem execNode_rangeMessages (root : Root) (hl : root.legacy = false) (body : List Node) (g : RMsg → Bytes)
    (hbody : ∀ x, execList root body (some x) = .ok (g x)) :
    execNode root (.range (.field .messages) body false []) none = .ok (root.msgs.flatMap g) := by
  simp only [execNode, eval, evalField, Root.get, hl, Bool.false_eq_true, if_false]
  cases hm : root.msgs with
  | nil => rfl
  | cons a l =>
    simp only [List.isEmpty_cons, Bool.false_eq_true, if_false]
    rw [fold_bodies_exact _ g _ _ (fun x _ => hbody x)]
    rfl

/-- `[role|content]` for one merged message, nothing for a role in `skip` (the header template prints the system
    messages in its header).  Nested to the right with a final `++ []`: what `execList` yields by `rfl`; `skip` is a
    `Prop` so that `headerG` is an instance by `rfl`. -/
def msgBody (skip : Role → Prop) [DecidablePred skip] (x : RMsg) : Bytes :=
  if skip x.1 then [] else [91] ++ (roleName x.1 ++ ([124] ++ (x.2 ++ ([93] ++ []))))

theorem msgBody_length (skip : Role → Prop) [DecidablePred skip] (x : RMsg) :
    (msgBody skip x).length = if skip x.1 then 0 else (roleName x.1).length + 3 + x.2.length := by
  unfold msgBody
  split
  · rfl
  · simp only [List.length_append, List.length_cons, List.length_nil]; omega

theorem bodies_read {β : Type} {R : List β → Bytes → Prop} (hR : Reading R) (skip : Role → Prop) [DecidablePred skip] :
    ∀ (l : List (Rd β)), Valid R l →
      R (itemsOf (fun r => !decide (skip r)) l) ((l.map (·.msg)).flatMap (msgBody skip))
  | [], _ => hR.nil
  | ⟨(r, c), xs⟩ :: rest, hv => by
    have ih := bodies_read hR skip rest (fun p hp => hv p (List.mem_cons_of_mem _ hp))
    have hx := (hv _ List.mem_cons_self).rel
    simp only [itemsOf_cons, List.flatMap_cons, List.map_cons, msgBody]
    refine hR.append ?_ ih
    by_cases hs : skip r
    · simp only [hs, decide_true, Bool.not_true, Bool.false_eq_true, if_false, if_true]; exact hR.nil
    · simp only [hs, decide_false, Bool.not_false, if_true, if_false]
      have hb : safeText ([91] ++ roleName r ++ [124]) = true := by cases r <;> decide
      have := hR.append (hR.text _ hb) (hR.append hx (hR.text [93] (by decide)))
      simpa using this

/-! ### length of the range part of a messages-style prompt -/

section Length
variable (skip : Role → Prop) [DecidablePred skip]

def bodiesLen (l : List RMsg) : Nat := ((collateMsgs l).flatMap (msgBody skip)).length

theorem bodiesLen_cons (r : Role) (c : Bytes) (rest : List RMsg) :
    bodiesLen skip ((r, c) :: rest) =
      if skip r then bodiesLen skip rest
      else if headRole rest = some r then bodiesLen skip rest + c.length + 2
      else (roleName r).length + 3 + c.length + bodiesLen skip rest := by
  have hh := collate_head rest
  unfold bodiesLen
  simp only [collateMsgs]
  cases hc : collateMsgs rest with
  | nil =>
    rw [hc] at hh
    have : ¬ (headRole rest = some r) := by rw [← hh]; simp [headRole]
    by_cases hs : skip r <;> simp [this, hs, msgBody_length]
  | cons b tl =>
    obtain ⟨r', c'⟩ := b
    rw [hc] at hh
    have hr' : headRole rest = some r' := by rw [← hh]; rfl
    by_cases hr : r = r'
    · subst hr
      by_cases hs : skip r
      · simp [hs, msgBody_length]
      · simp [hr', hs, msgBody_length, sep2]
        omega
    · have : ¬ (some r' = some r) := fun h => hr (Option.some.inj h).symm
      by_cases hs : skip r
      · simp [hr, hs, msgBody_length]
      · simp [hr', hr, this, hs, msgBody_length]

/-- **removing a printed message never makes the range part of the prompt longer** (dropping a message removes
    its bytes and at most merges its two neighbours) -/
theorem bodiesLen_remove (x : RMsg) (hx : ¬ skip x.1) : ∀ (a b : List RMsg),
    bodiesLen skip (a ++ b) ≤ bodiesLen skip (a ++ x :: b)
  | [], b => by
    obtain ⟨r, c⟩ := x
    rw [List.nil_append, List.nil_append, bodiesLen_cons, if_neg hx]
    split <;> omega
  | [(r, c)], b => by
    -- the message before `x` is merged with what follows it now, if it was merged with `x` before
    obtain ⟨r', c'⟩ := x
    have hh : headRole ((r', c') :: b) = some r' := rfl
    simp only [List.cons_append, List.nil_append]
    rw [bodiesLen_cons skip r c b, bodiesLen_cons skip r c ((r', c') :: b), bodiesLen_cons skip r' c' b, if_neg hx, hh]
    by_cases hs : skip r
    · simp only [hs, if_true]
      split <;> omega
    · simp only [hs, if_false]
      by_cases hrr : r' = r
      · subst hrr
        by_cases h1 : headRole b = some r' <;> simp only [h1, if_true, if_false] <;> omega
      · rw [if_neg (fun h => hrr (Option.some.inj h))]
        by_cases h1 : headRole b = some r
        · rw [if_pos h1, if_neg (fun h => hrr (Option.some.inj (h.symm.trans h1)))]
          omega
        · rw [if_neg h1]
          split <;> omega
  | (r, c) :: z :: a, b => by
    have ih := bodiesLen_remove x hx (z :: a) b
    have hh : headRole (z :: a ++ b) = headRole (z :: a ++ x :: b) := rfl
    simp only [List.cons_append] at ih hh ⊢
    rw [bodiesLen_cons skip r c, bodiesLen_cons skip r c, hh]
    split
    · exact ih
    · split <;> omega
end Length

theorem tcost_bytes {tv : TVar} {t : List Node} {msgs : List Msg} {tools : ToolsV} {i : Nat} {b : Bytes}
    (h : execute tv t ((cand msgs i).map toRMsg) tools = .ok b) : tcost tv t 1 msgs tools i = b.length := by
  unfold tcost renderAt
  rw [show systemsBefore msgs i ++ msgs.drop i = cand msgs i from rfl, h]
  rfl

theorem collate_system_remove (x : RMsg) (hx : x.1 ≠ Role.system) (a b : List RMsg) :
    (collate (a ++ x :: b)).1 = (collate (a ++ b)).1 := by
  unfold collate
  simp [List.filter_append, hx]

/-! ### the legacy loop -/

def RendersOrdered (t : List Node) : Prop :=
  ∀ s p r, ∃ b, execList (legacyRoot s p r) t none = .ok b ∧ InOrder [s, p, r] b

/-- the template renders each of the three fields of a turn (an empty field is trivially
    "rendered"): the hypothesis under which the legacy loop can be said to lose nothing -/
def Renders (t : List Node) : Prop :=
  ∀ s p r, ∃ b, execList (legacyRoot s p r) t none = .ok b ∧ s <:+: b ∧ p <:+: b ∧ r <:+: b

theorem RendersOrdered.renders {t : List Node} (h : RendersOrdered t) : Renders t := fun s p r =>
  let ⟨b, hb, ho⟩ := h s p r
  ⟨b, hb, ho.infix_of_mem s (by simp), ho.infix_of_mem p (by simp), ho.infix_of_mem r (by simp)⟩

theorem legacyStep_join_system (t : List Node) (st : Legacy) (c : Bytes) :
    legacyStep 2 t st (Role.system, c) =
      let st' := if (!st.prompt.isEmpty || !st.resp.isEmpty) then legacyFlush t st else st
      { st' with sys := joinSlot st'.sys c } := by
  simp [legacyStep]

theorem legacyStep_join_user (t : List Node) (st : Legacy) (c : Bytes) :
    legacyStep 2 t st (Role.user, c) =
      let st' := if (!st.resp.isEmpty) then legacyFlush t st else st
      { st' with prompt := joinSlot st'.prompt c } := by
  simp [legacyStep]

theorem legacyStep_join_assistant (t : List Node) (st : Legacy) (c : Bytes) :
    legacyStep 2 t st (Role.assistant, c) = { st with resp := joinSlot st.resp c } := by
  simp [legacyStep]

theorem eq_nil_of_not_isEmpty {b : Bytes} (h : (!b.isEmpty) = false) : b = [] := by
  cases b <;> simp_all

/-- a buffer that does not make the loop flush is empty after the flush decision -/
theorem maybeFlush_nil {t : List Node} {st : Legacy} (sel : Legacy → Bytes) (h0 : sel (legacyFlush t st) = [])
    {b : Bool} (hb : b = false → sel st = []) : sel (if b then legacyFlush t st else st) = [] := by
  cases b
  · exact hb rfl
  · exact h0

/-- a legacy template renders a turn transparently: what is read off the three fields is read off the rendered turn -/
def Turn {β : Type} (R : List β → Bytes → Prop) (t : List Node) : Prop :=
  ∀ s p r xs xp xr, Reads R xs s → Reads R xp p → Reads R xr r →
    ∃ b, execList (legacyRoot s p r) t none = .ok b ∧ R (xs ++ xp ++ xr) b

/-- `seen`, what has been read off the messages consumed so far, = what is read off the rendered turns ++ the pending
    system ++ the pending prompt ++ the pending response -/
def LoopInv {β : Type} (R : List β → Bytes → Prop) (st : Legacy) (seen : List β) : Prop :=
  ∃ o done ps pp pr, st.out = .ok o ∧ R done o ∧ Reads R ps st.sys ∧ Reads R pp st.prompt ∧ Reads R pr st.resp ∧
    seen = done ++ ps ++ pp ++ pr

section
variable {β : Type} {R : List β → Bytes → Prop} (hR : Reading R) {t : List Node} (hr : Turn R t)
include hR hr

theorem flush_inv {st : Legacy} {seen : List β} (h : LoopInv R st seen) (b : Bool) :
    LoopInv R (if b then legacyFlush t st else st) seen := by
  cases b with
  | false => exact h
  | true =>
    obtain ⟨o, done, ps, pp, pr, ho, hd, hs, hp, hre, hseen⟩ := h
    obtain ⟨b, hb, hord⟩ := hr _ _ _ _ _ _ hs hp hre
    refine ⟨o ++ b, done ++ (ps ++ pp ++ pr), [], [], [], ?_, hR.append hd hord, Reads.nil hR, Reads.nil hR,
      Reads.nil hR, ?_⟩
    · simp [legacyFlush, ho, hb, XOut.append]
    · simp [hseen]

theorem step_inv (st : Legacy) (seen : List β) (m : RMsg) (xs : List β) (hm : Reads R xs m.2) (h : LoopInv R st seen) :
    LoopInv R (legacyStep 2 t st m) (seen ++ (if legacyRole m.1 then xs else [])) := by
  obtain ⟨r, c⟩ := m
  cases r with
  | system =>
    rw [legacyStep_join_system]
    simp only [legacyRole, if_true]
    -- after the flush decision the prompt and response buffers are empty, so nothing is read off them
    generalize hb : (!st.prompt.isEmpty || !st.resp.isEmpty) = b
    have hp0 := maybeFlush_nil (t := t) (st := st) (·.prompt) rfl
      (fun h => eq_nil_of_not_isEmpty (Bool.or_eq_false_iff.mp (hb.trans h)).1)
    have hr0 := maybeFlush_nil (t := t) (st := st) (·.resp) rfl
      (fun h => eq_nil_of_not_isEmpty (Bool.or_eq_false_iff.mp (hb.trans h)).2)
    obtain ⟨o, done, ps, pp, pr, ho, hd, hs, hp, hre, hseen⟩ := flush_inv hR hr h b
    have hpp := hp.nil_of_empty hp0
    have hpr := hre.nil_of_empty hr0
    subst hpp; subst hpr
    exact ⟨o, done, ps ++ xs, [], [], ho, hd, joinSlot_reads hR hs hm, hp, hre, by simp [hseen]⟩
  | user =>
    rw [legacyStep_join_user]
    simp only [legacyRole, if_true]
    generalize hb : (!st.resp.isEmpty) = b
    have hr0 := maybeFlush_nil (t := t) (st := st) (·.resp) rfl (fun h => eq_nil_of_not_isEmpty (hb.trans h))
    obtain ⟨o, done, ps, pp, pr, ho, hd, hs, hp, hre, hseen⟩ := flush_inv hR hr h b
    have hpr := hre.nil_of_empty hr0
    subst hpr
    exact ⟨o, done, ps, pp ++ xs, [], ho, hd, hs, joinSlot_reads hR hp hm, hre, by simp [hseen]⟩
  | assistant =>
    rw [legacyStep_join_assistant]
    simp only [legacyRole, if_true]
    obtain ⟨o, done, ps, pp, pr, ho, hd, hs, hp, hre, hseen⟩ := h
    exact ⟨o, done, ps, pp, pr ++ xs, ho, hd, hs, hp, joinSlot_reads hR hre hm, by simp [hseen]⟩
  | tool => simpa [legacyStep, legacyRole] using h
  | other => simpa [legacyStep, legacyRole] using h

theorem fold_inv : ∀ (l : List (Rd β)) (st : Legacy) (seen : List β), Valid R l →
    LoopInv R st seen → LoopInv R ((l.map (·.msg)).foldl (legacyStep 2 t) st) (seen ++ itemsOf legacyRole l)
  | [], st, seen, _, h => by simpa [itemsOf] using h
  | p :: l, st, seen, hv, h => by
    have := fold_inv l _ _ (fun q hq => hv q (List.mem_cons_of_mem _ hq))
      (step_inv hR hr st seen p.msg p.items (hv p List.mem_cons_self) h)
    simpa [itemsOf_cons, List.append_assoc] using this

/-- the join-repaired legacy path, for a template that renders a turn transparently (also after the `.Response` cut) -/
theorem legacy_reads (t' : List Node) (efix cut : Bool)
    (hmsg : nodesMention Fld.messages t = false) (hcut : cutList efix t false = .ok cut t') (hr' : Turn R t')
    (l : List (Rd β)) (hv : Valid R l) (tools : ToolsV) :
    ∃ b, execute ⟨2, efix⟩ t (l.map (·.msg)) tools = .ok b ∧ R (itemsOf legacyRole l) b := by
  obtain ⟨l', h1, h2, h3⟩ := collate_reads hR l hv
  have h0 : LoopInv R ⟨[], [], [], .ok []⟩ [] :=
    ⟨[], [], [], [], [], rfl, hR.nil, Reads.nil hR, Reads.nil hR, Reads.nil hR, rfl⟩
  have hf := fold_inv hR hr l' _ _ h2 h0
  rw [h1, h3, List.nil_append] at hf
  generalize hst : (collateMsgs (l.map (·.msg))).foldl (legacyStep 2 t) ⟨[], [], [], .ok []⟩ = st at hf
  obtain ⟨o, done, ps, pp, pr, ho, hd, hs, hp, hre, hseen⟩ := hf
  obtain ⟨b, hb, hord⟩ := hr' _ _ _ _ _ _ hs hp hre
  refine ⟨o ++ b, ?_, ?_⟩
  · simp only [execute, collate, hmsg, Bool.false_eq_true, if_false, hst, ho, hcut, hb, XOut.append]
  · rw [hseen, List.append_assoc, List.append_assoc, ← List.append_assoc ps]
    exact hR.append hd hord
end

theorem RendersOrdered.turn {t : List Node} (h : RendersOrdered t) : Turn InOrder t :=
  fun s p r xs xp xr hs hp hre => by
    obtain ⟨b, hb, ho⟩ := h s p r
    have h1 : InOrder ([] ++ xs ++ [p, r]) b := InOrder.refine (as := []) ho hs.rel
    have h2 : InOrder (xs ++ xp ++ [r]) b := InOrder.refine (as := xs) (c := p) (cs := [r]) h1 hp.rel
    exact ⟨b, hb, by simpa using InOrder.refine (as := xs ++ xp) (c := r) (cs := []) h2 hre.rel⟩

theorem Renders.turn {t : List Node} (h : Renders t) : Turn Scattered t :=
  fun s p r xs xp xr hs hp hre =>
    let ⟨b, hb, h1, h2, h3⟩ := h s p r
    ⟨b, hb, fun c hc => by
      rcases List.mem_append.mp hc with hc | hc
      · rcases List.mem_append.mp hc with hc | hc
        · exact (hs.rel c hc).trans h1
        · exact (hp.rel c hc).trans h2
      · exact (hre.rel c hc).trans h3⟩

/-- **The join-repaired legacy path renders the conversation in its order**: for a legacy template
    that renders system, prompt, response in this order (also after the `.Response` cut), the
    non-empty contents of the system / user / assistant messages occur in the prompt one after the
    other, without overlap, in the order of the conversation. -/
theorem legacy_join_in_order (t t' : List Node) (efix cut : Bool)
    (hmsg : nodesMention Fld.messages t = false) (hcut : cutList efix t false = .ok cut t')
    (hr : RendersOrdered t) (hr' : RendersOrdered t') (msgs : List RMsg) (tools : ToolsV := {}) :
    ∃ b, execute ⟨2, efix⟩ t msgs tools = .ok b ∧ InOrder (contentsOf legacyRole msgs) b := by
  have := legacy_reads InOrder.reading hr.turn t' efix cut hmsg hcut hr'.turn _ (rdBytes_valid InOrder.one msgs) tools
  rwa [itemsOf_rdBytes, map_rdBytes] at this

/-- **The join-repaired legacy path loses nothing**: for a legacy template that renders its
    three fields (also after the `.Response` cut), the prompt contains the content of every
    system/user/assistant message it is given — whatever lies between them. -/
theorem legacy_join_nothing_lost (t t' : List Node) (efix cut : Bool)
    (hmsg : nodesMention Fld.messages t = false) (hcut : cutList efix t false = .ok cut t')
    (hr : Renders t) (hr' : Renders t') (msgs : List RMsg) (m : RMsg) (hm : m ∈ msgs)
    (hrole : m.1 = Role.system ∨ m.1 = Role.user ∨ m.1 = Role.assistant) :
    ∃ b, execute ⟨2, efix⟩ t msgs = .ok b ∧ m.2 <:+: b := by
  have := legacy_reads Scattered.reading hr.turn t' efix cut hmsg hcut hr'.turn _ (rdBytes_valid Scattered.one msgs) {}
  rw [itemsOf_rdBytes, map_rdBytes] at this
  obtain ⟨b, hb, hall⟩ := this
  exact ⟨b, hb, hall.infix_of_contents hm (by rcases hrole with h | h | h <;> rw [h] <;> rfl)⟩

end OllamaVerif.Prompt

namespace OllamaVerif.C19
open OllamaVerif OllamaVerif.Prompt

/-! ### the three harness trees -/

/-- the legacy template of prompt_test.go as `template.Parse` delivers it (leading newline
    trimmed): `{{if .System}}{{.System}} {{end}}{{if .Prompt}}{{.Prompt}} {{end}}{{if .Response}}{{.Response}} {{end}}` -/
def tLegacy : List Node :=
  [.ite (.field .system) [.action (.field .system), .text [32]] false [],
   .ite (.field .prompt) [.action (.field .prompt), .text [32]] false [],
   .ite (.field .response) [.action (.field .response), .text [32]] false []]

def legacyTree (last : List Node) : List Node :=
  [.ite (.field .system) [.action (.field .system), .text [32]] false [],
   .ite (.field .prompt) [.action (.field .prompt), .text [32]] false [],
   .ite (.field .response) last false []]

/-- `tLegacy` after the `.Response` cut: the text after the field is gone -/
def tLegacyCut : List Node := legacyTree [.action (.field .response)]

theorem tLegacy_cut (efix : Bool) : cutList efix tLegacy false = .ok true tLegacyCut := by
  cases efix <;> rfl

theorem legacyTree_exec (last : List Node) (sfx : Bytes)
    (hl : ∀ s p r, execList (legacyRoot s p r) last none = .ok (r ++ sfx)) (s p r : Bytes) :
    execList (legacyRoot s p r) (legacyTree last) none =
      .ok ((if s.isEmpty then [] else s ++ [32]) ++ ((if p.isEmpty then [] else p ++ [32]) ++ (if r.isEmpty then [] else r ++ sfx))) := by
  have hs := execNode_ifField (legacyRoot s p r) .system s [.action (.field .system), .text [32]] (s ++ [32]) rfl rfl
  have hp := execNode_ifField (legacyRoot s p r) .prompt p [.action (.field .prompt), .text [32]] (p ++ [32]) rfl rfl
  have hr := execNode_ifField (legacyRoot s p r) .response r last (r ++ sfx) rfl (hl s p r)
  simp only [legacyTree, execList, hs, hp, hr, XOut.append, List.append_nil]

theorem legacyTree_renders_ordered (last : List Node) (sfx : Bytes)
    (hl : ∀ s p r, execList (legacyRoot s p r) last none = .ok (r ++ sfx)) : RendersOrdered (legacyTree last) :=
  fun s p r => ⟨_, legacyTree_exec last sfx hl s p r,
    ((InOrder.self s).guarded (List.prefix_append s _).isInfix).append
      (((InOrder.self p).guarded (List.prefix_append p _).isInfix).append
        ((InOrder.self r).guarded (List.prefix_append r _).isInfix))⟩

theorem tLegacy_renders_ordered : RendersOrdered tLegacy := legacyTree_renders_ordered _ [32] (fun _ _ _ => rfl)

theorem tLegacyCut_renders_ordered : RendersOrdered tLegacyCut := legacyTree_renders_ordered _ [] (fun _ _ _ => rfl)

theorem legacyTree_turn {β : Type} {R : List β → Bytes → Prop} (hR : Reading R) (last : List Node) (sfx : Bytes)
    (hsfx : safeText sfx = true)
    (hl : ∀ s p r, execList (legacyRoot s p r) last none = .ok (r ++ sfx)) : Turn R (legacyTree last) :=
  fun s p r xs xp xr hs hp hre => ⟨_, legacyTree_exec last sfx hl s p r, by
    have a := hs.guarded hR [] [32] rfl (by decide)
    have b := hp.guarded hR [] [32] rfl (by decide)
    have c := hre.guarded hR [] sfx rfl hsfx
    simp only [List.nil_append] at a b c
    simpa [List.append_assoc] using hR.append a (hR.append b c)⟩

theorem tLegacy_reads {β : Type} {R : List β → Bytes → Prop} (hR : Reading R) (efix : Bool) (tools : ToolsV)
    (l : List (Rd β)) (hv : Valid R l) :
    ∃ b, execute ⟨2, efix⟩ tLegacy (l.map (·.msg)) tools = .ok b ∧ R (itemsOf legacyRole l) b :=
  legacy_reads hR (show Turn R tLegacy from legacyTree_turn hR _ [32] (by decide) (fun _ _ _ => rfl))
    tLegacyCut efix true (by decide) (tLegacy_cut efix) (legacyTree_turn hR _ [] rfl (fun _ _ _ => rfl)) l hv tools

/-- harness style 3 as Parse delivers it: `{{range .Messages}}[{{.Role}}|{{.Content}}]{{end}}` -/
def tInPlace : List Node :=
  [.range (.field .messages)
    [.text [91], .action (.field .role), .text [124], .action (.field .content), .text [93]] false []]

/-- harness style 0: `{{if .System}}S<{{.System}}>{{end}}{{range .Messages}}{{if ne .Role "system"}}[{{.Role}}|{{.Content}}]{{end}}{{end}}` -/
def tHeader : List Node :=
  [.ite (.field .system) [.text [83, 60], .action (.field .system), .text [62]] false [],
   .range (.field .messages)
    [.ite (.ne (.field .role) (.str [115, 121, 115, 116, 101, 109]))
      [.text [91], .action (.field .role), .text [124], .action (.field .content), .text [93]] false []] false []]

/-- the body of `tInPlace`'s range (the trees themselves are written out in full, as Generated/C19_Trees.lean has them) -/
def inPlaceBody : List Node :=
  [.text [91], .action (.field .role), .text [124], .action (.field .content), .text [93]]

/-- **In-place messages template, exact form**: the prompt is the concatenation of `[role|content]` over the
    merged messages -/
theorem inplace_exact (tv : TVar) (msgs : List RMsg) (tools : ToolsV := {}) :
    execute tv tInPlace msgs tools =
      .ok ((collateMsgs msgs).flatMap (fun x => [91] ++ (roleName x.1 ++ ([124] ++ (x.2 ++ ([93] ++ [])))))) := by
  rw [execute_messages tv (by decide) msgs tools]
  show (execNode _ (.range (.field .messages) inPlaceBody false []) none).append (.ok []) = _
  rw [execNode_rangeMessages _ rfl inPlaceBody (msgBody (fun _ => False)) (fun _ => rfl), XOut.append_ok_nil]
  rfl

theorem inplace_reads {β : Type} {R : List β → Bytes → Prop} (hR : Reading R) (tv : TVar) (tools : ToolsV)
    (l : List (Rd β)) (hv : Valid R l) :
    ∃ b, execute tv tInPlace (l.map (·.msg)) tools = .ok b ∧ R (itemsOf (fun _ => true) l) b := by
  obtain ⟨l', h1, h2, h3⟩ := collate_reads hR l hv
  refine ⟨_, inplace_exact tv _ tools, ?_⟩
  rw [← h1, ← h3]
  exact bodies_read hR (fun _ => False) l' h2

def headerBody : List Node :=
  [.ite (.ne (.field .role) (.str [115, 121, 115, 116, 101, 109]))
      [.text [91], .action (.field .role), .text [124], .action (.field .content), .text [93]] false []]

/-- `msgBody (· = Role.system)`, by `rfl` -/
def headerG (x : RMsg) : Bytes :=
  if x.1 = Role.system then [] else [91] ++ (roleName x.1 ++ ([124] ++ (x.2 ++ ([93] ++ []))))

theorem roleName_ne_system (r : Role) : roleName r ≠ [115, 121, 115, 116, 101, 109] ↔ r ≠ Role.system := by
  cases r <;> decide

theorem headerBody_exec (root : Root) (x : RMsg) : execList root headerBody (some x) = .ok (headerG x) := by
  simp only [headerBody, execList, execNode, eval, evalField, truthy, roleName_ne_system, headerG, printVal,
    XOut.append, List.append_nil]
  by_cases h : x.1 = Role.system <;> simp [h]

theorem header_exact (tv : TVar) (msgs : List RMsg) (tools : ToolsV := {}) :
    execute tv tHeader msgs tools =
      .ok ((if (collate msgs).1.isEmpty then [] else [83, 60] ++ ((collate msgs).1 ++ ([62] ++ []))) ++
        (collateMsgs msgs).flatMap headerG) := by
  rw [execute_messages tv (by decide) msgs tools]
  show (execNode _ (.ite (.field .system) [.text [83, 60], .action (.field .system), .text [62]] false []) none).append
    ((execNode _ (.range (.field .messages) headerBody false []) none).append (.ok [])) = _
  rw [execNode_ifField _ .system (collate msgs).1 _ ([83, 60] ++ ((collate msgs).1 ++ ([62] ++ []))) rfl rfl,
    execNode_rangeMessages _ rfl headerBody headerG (headerBody_exec _), XOut.append_ok_nil]
  rfl

theorem header_reads {β : Type} {R : List β → Bytes → Prop} (hR : Reading R) (tv : TVar) (tools : ToolsV)
    (l : List (Rd β)) (hv : Valid R l) :
    ∃ b, execute tv tHeader (l.map (·.msg)) tools = .ok b ∧
      R (itemsOf isSys l ++ itemsOf (fun r => !isSys r) l) b := by
  obtain ⟨l', h1, h2, h3⟩ := collate_reads hR l hv
  refine ⟨_, header_exact tv _ tools,
    hR.append ((system_reads hR l hv).guarded hR [83, 60] ([62] ++ []) (by decide) (by decide)) ?_⟩
  rw [← h1, ← h3]
  have := bodies_read hR (· = Role.system) l' h2
  rwa [show (fun r => !decide (r = Role.system)) = (fun r => !isSys r) from funext fun r => by cases r <;> rfl] at this

theorem scan_of_reads {tv : TVar} {t : List Node} {tools : ToolsV} {arr : List (Rd Nat) → List Nat}
    (hreads : ∀ l : List (Rd Nat), Valid Tagged l → ∃ b, execute tv t (l.map (·.msg)) tools = .ok b ∧ Tagged (arr l) b)
    (L : List Msg) (hclean : ∀ m ∈ L, cleanPieces m.content = true) :
    ∃ p, execute tv t (L.map toRMsg) tools = .ok p ∧ scanTags p 0 = arr (L.map rdTags) := by
  obtain ⟨b, hb, ht⟩ := hreads _ (rdTags_valid L hclean)
  rw [List.map_map] at hb
  exact ⟨b, hb, ht.scan⟩

/-! ### length of the prompt under the byte tokenizer -/

def headerLen (l : List RMsg) : Nat :=
  (if (collate l).1.isEmpty then 0 else 3 + (collate l).1.length) + bodiesLen (· = Role.system) l

theorem tcost_header_bytes (tv : TVar) (msgs : List Msg) (tools : ToolsV) (i : Nat) :
    tcost tv tHeader 1 msgs tools i = headerLen ((cand msgs i).map toRMsg) := by
  rw [tcost_bytes (header_exact tv _ tools), List.length_append]
  unfold headerLen
  congr 1
  cases (collate ((cand msgs i).map toRMsg)).1 with
  | nil => rfl
  | cons a s => simp only [List.isEmpty_cons, Bool.false_eq_true, if_false, List.length_append, List.length_cons, List.length_nil]; omega

/-! ### the join repair of the legacy loop is conservative -/

/-- **The join repair changes nothing where the `lmode = 0` loop loses nothing**: whenever the slot a message
    is written to is empty (after the flush decision of that loop), the repaired step is its step. -/
theorem join_step_conservative (t : List Node) (st : Legacy) (m : RMsg)
    (hfree : match m.1 with
      | .system => (!st.prompt.isEmpty || !st.resp.isEmpty) = true ∨ st.sys = []
      | .user => (!st.resp.isEmpty) = true ∨ st.prompt = []
      | .assistant => st.resp = []
      | _ => True) :
    legacyStep 2 t st m = legacyStep 0 t st m := by
  obtain ⟨r, c⟩ := m
  cases r with
  | system =>
    simp only at hfree
    rcases hfree with h | h
    · simp [legacyStep, h, legacyFlush, joinSlot]
    · simp only [legacyStep]
      by_cases hc : (!st.prompt.isEmpty || !st.resp.isEmpty) = true
      · simp [hc, legacyFlush, joinSlot]
      · simp [hc, h, joinSlot]
  | user =>
    simp only at hfree
    rcases hfree with h | h
    · simp [legacyStep, h, legacyFlush, joinSlot]
    · simp only [legacyStep]
      by_cases hc : (!st.resp.isEmpty) = true
      · simp [hc, legacyFlush, joinSlot]
      · simp [hc, h, joinSlot]
  | assistant =>
    simp only at hfree
    simp [legacyStep, hfree, joinSlot]
  | tool => rfl
  | other => rfl

end OllamaVerif.C19

namespace OllamaVerif.Prompt
open OllamaVerif.C19

/-! ### the legacy template on the join-repaired loop, run on pieces -/

/-- a message whose content is given as pieces, and its rendering -/
abbrev PMsg := Role × List Piece

def rp (m : PMsg) : RMsg := (m.1, renderPieces m.2)

/-- `collateMsgs` at the level of pieces: the blank line that joins two messages is a literal piece -/
def collateP : List PMsg → List PMsg
  | [] => []
  | (r, c) :: rest =>
    match collateP rest with
    | (r', c') :: tl => if r = r' then (r, c ++ [Piece.lit sep2] ++ c') :: tl else (r, c) :: (r', c') :: tl
    | [] => [(r, c)]

theorem renderPieces_append (a b : List Piece) : renderPieces (a ++ b) = renderPieces a ++ renderPieces b := by
  simp [renderPieces]

theorem collateMsgs_map_rp : ∀ l : List PMsg, collateMsgs (l.map rp) = (collateP l).map rp := by
  intro l
  induction l with
  | nil => rfl
  | cons a l ih =>
    obtain ⟨r, c⟩ := a
    show collateMsgs ((r, renderPieces c) :: l.map rp) = (collateP ((r, c) :: l)).map rp
    simp only [collateMsgs, collateP, ih]
    cases hc : collateP l with
    | nil => simp [rp]
    | cons b tl =>
      obtain ⟨r', c'⟩ := b
      simp only [List.map_cons, rp]
      by_cases hr : r = r'
      · simp [hr, rp, renderPieces, renderPiece]
      · simp [hr, rp]

/-- a slot followed by a blank, unless it renders empty (`{{if .X}}{{.X}} {{end}}`) -/
def spaceP (c : List Piece) : List Piece := if (renderPieces c).isEmpty then [] else c ++ [Piece.lit [32]]

def bareP (c : List Piece) : List Piece := if (renderPieces c).isEmpty then [] else c

def turnP (s p r : List Piece) : List Piece := spaceP s ++ spaceP p ++ spaceP r

def turnCutP (s p r : List Piece) : List Piece := spaceP s ++ spaceP p ++ bareP r

theorem render_spaceP (c : List Piece) :
    renderPieces (spaceP c) = if (renderPieces c).isEmpty then [] else renderPieces c ++ [32] := by
  unfold spaceP
  split
  · rfl
  · simp [renderPieces, renderPiece]

theorem render_bareP (c : List Piece) :
    renderPieces (bareP c) = if (renderPieces c).isEmpty then [] else renderPieces c := by
  unfold bareP
  split <;> rfl

theorem render_turnP (s p r : List Piece) :
    execList (legacyRoot (renderPieces s) (renderPieces p) (renderPieces r)) tLegacy none = .ok (renderPieces (turnP s p r)) := by
  rw [show tLegacy = legacyTree _ from rfl, legacyTree_exec _ [32] (fun _ _ _ => rfl)]
  simp only [turnP, renderPieces_append, render_spaceP, List.append_assoc]

theorem render_turnCutP (s p r : List Piece) :
    execList (legacyRoot (renderPieces s) (renderPieces p) (renderPieces r)) tLegacyCut none = .ok (renderPieces (turnCutP s p r)) := by
  rw [tLegacyCut, legacyTree_exec _ [] (fun _ _ _ => rfl)]
  simp only [turnCutP, renderPieces_append, render_spaceP, render_bareP, List.append_assoc, List.append_nil]

structure LegacyP where
  sys : List Piece
  prompt : List Piece
  resp : List Piece
  out : List Piece

def absL (st : LegacyP) : Legacy :=
  ⟨renderPieces st.sys, renderPieces st.prompt, renderPieces st.resp, .ok (renderPieces st.out)⟩

def joinSlotP (a c : List Piece) : List Piece :=
  if (renderPieces a).isEmpty then c else a ++ [Piece.lit sep2] ++ c

theorem render_joinSlotP (a c : List Piece) :
    renderPieces (joinSlotP a c) = joinSlot (renderPieces a) (renderPieces c) := by
  unfold joinSlotP joinSlot
  split
  · rfl
  · simp [renderPieces, renderPiece]

def flushP (st : LegacyP) : LegacyP := ⟨[], [], [], st.out ++ turnP st.sys st.prompt st.resp⟩

theorem abs_flushP (st : LegacyP) : absL (flushP st) = legacyFlush tLegacy (absL st) := by
  simp only [absL, flushP, legacyFlush, render_turnP, XOut.append, renderPieces_append]
  rfl

def stepP (st : LegacyP) (m : PMsg) : LegacyP :=
  match m.1 with
  | .system =>
    let st' := if (!(renderPieces st.prompt).isEmpty || !(renderPieces st.resp).isEmpty) then flushP st else st
    { st' with sys := joinSlotP st'.sys m.2 }
  | .user =>
    let st' := if (!(renderPieces st.resp).isEmpty) then flushP st else st
    { st' with prompt := joinSlotP st'.prompt m.2 }
  | .assistant => { st with resp := joinSlotP st.resp m.2 }
  | _ => st

theorem abs_maybeFlushP (b : Bool) (st : LegacyP) :
    absL (if b then flushP st else st) = if b then legacyFlush tLegacy (absL st) else absL st := by
  cases b
  · rfl
  · exact abs_flushP st

theorem abs_stepP (st : LegacyP) (m : PMsg) : absL (stepP st m) = legacyStep 2 tLegacy (absL st) (rp m) := by
  obtain ⟨r, c⟩ := m
  cases r with
  | system =>
    show absL (stepP st (Role.system, c)) = legacyStep 2 tLegacy (absL st) (Role.system, renderPieces c)
    rw [legacyStep_join_system, ← abs_maybeFlushP]
    simp [stepP, absL, render_joinSlotP]
  | user =>
    show absL (stepP st (Role.user, c)) = legacyStep 2 tLegacy (absL st) (Role.user, renderPieces c)
    rw [legacyStep_join_user, ← abs_maybeFlushP]
    simp [stepP, absL, render_joinSlotP]
  | assistant =>
    show absL (stepP st (Role.assistant, c)) = legacyStep 2 tLegacy (absL st) (Role.assistant, renderPieces c)
    rw [legacyStep_join_assistant]
    simp [stepP, absL, render_joinSlotP]
  | tool => rfl
  | other => rfl

theorem abs_foldP : ∀ (l : List PMsg) (st : LegacyP),
    absL (l.foldl stepP st) = (l.map rp).foldl (legacyStep 2 tLegacy) (absL st) := by
  intro l
  induction l with
  | nil => intro st; rfl
  | cons a l ih =>
    intro st
    simp only [List.foldl_cons, List.map_cons]
    rw [ih, abs_stepP]

def finalP (l : List PMsg) : List Piece :=
  let st := (collateP l).foldl stepP ⟨[], [], [], []⟩
  st.out ++ turnCutP st.sys st.prompt st.resp

/-- the prompt of `tLegacy` is the rendering of `finalP`: collate and the loop run on pieces, then the cut turn -/
theorem legacy_exact (efix : Bool) (l : List PMsg) (tools : ToolsV) :
    execute ⟨2, efix⟩ tLegacy (l.map rp) tools = .ok (renderPieces (finalP l)) := by
  have hmsg : nodesMention Fld.messages tLegacy = false := by decide
  have hfold := abs_foldP (collateP l) ⟨[], [], [], []⟩
  have h0 : absL ⟨[], [], [], []⟩ = ⟨[], [], [], .ok []⟩ := rfl
  rw [h0, ← collateMsgs_map_rp] at hfold
  simp only [execute, collate, hmsg, Bool.false_eq_true, if_false, ← hfold, tLegacy_cut efix]
  simp only [absL, render_turnCutP, XOut.append, finalP, renderPieces_append]

end OllamaVerif.Prompt
