/-
  C20: the special-token splitting loop as the Go code runs it (one slice edited in place while it is scanned)
  computes the model's `fragments` (`goFragments_eq`).

```go
for i := 0; i < len(fragments); i++ {
    frag := fragments[i]
    if len(frag.ids) > 0 { continue }
    ... middle ...
    fragments = append(fragments[:i], append(middle, fragments[i+1:]...)...)
}
```
`goSplitPass` is that loop (index `i`, the slice rebuilt around `middle`, `i++` stepping INTO the pieces just inserted);
`goSplitPass_eq`: it computes the model's `splitFrags` (which splits every text fragment recursively).
-/
import OllamaVerif.Proofs.Tokenizer
namespace OllamaVerif.Tok

/-- `middle` for the text fragment `v` -/
def goMiddle (sp : Special) (v : Str) : List Frag :=
  match indexOf v sp.lit with
  | none => [.text v]
  | some j =>
    (if j > 0 then [.text (v.take j)] else []) ++ [.special sp] ++
      (let rest := v.drop (j + sp.lit.length)
       if rest.isEmpty then [] else [.text rest])

def goSplitPass (sp : Special) : Nat → List Frag → Nat → List Frag
  | 0, frs, _ => frs
  | fuel+1, frs, i =>
    match frs[i]? with
    | none => frs
    | some (.special _) => goSplitPass sp fuel frs (i + 1)
    | some (.text v) => goSplitPass sp fuel (frs.take i ++ goMiddle sp v ++ frs.drop (i + 1)) (i + 1)

/-- iterations the loop still needs: one per special fragment, `2·len + 1` bounds a text fragment -/
def splitMeasure : List Frag → Nat
  | [] => 0
  | .special _ :: tl => 1 + splitMeasure tl
  | .text v :: tl => 2 * v.length + 1 + splitMeasure tl

theorem splitMeasure_append (a b : List Frag) : splitMeasure (a ++ b) = splitMeasure a + splitMeasure b := by
  induction a with
  | nil => simp [splitMeasure]
  | cons x a ih => cases x <;> simp [splitMeasure, ih] <;> omega

/-- `splitSpecial` does not depend on its fuel once the fuel exceeds the length -/
theorem splitSpecial_fuel (sp : Special) (hne : sp.lit ≠ []) (f g : Nat) (s : Str) (hf : s.length < f) (hg : s.length < g) :
    splitSpecial sp f s = splitSpecial sp g s := by
  have hpos : 0 < sp.lit.length := List.length_pos_iff.mpr hne
  induction f generalizing g s with
  | zero => omega
  | succ f ih =>
    cases g with
    | zero => omega
    | succ g =>
      unfold splitSpecial
      cases hi : indexOf s sp.lit with
      | none => rfl
      | some i =>
        simp only
        have hlen := indexOf_add_le hi
        congr 1
        split
        · rfl
        · apply ih
          · simp only [List.length_drop]; omega
          · simp only [List.length_drop]; omega

theorem getElem?_append_len {α} (a : List α) (x : α) (b : List α) : (a ++ x :: b)[a.length]? = some x := by
  simp

theorem splitFrags_append (sp : Special) (a b : List Frag) :
    splitFrags sp (a ++ b) = splitFrags sp a ++ splitFrags sp b := by simp [splitFrags]

/-- one step of the Go loop on `v`: the first piece of `middle` is final, the others still need splitting -/
theorem goMiddle_spec (sp : Special) (hne : sp.lit ≠ []) (v : Str) :
    ∃ m0 mrest, goMiddle sp v = m0 :: mrest ∧ splitSpecial sp (v.length + 1) v = m0 :: splitFrags sp mrest ∧
      splitMeasure mrest < 2 * v.length + 1 := by
  have hpos : 0 < sp.lit.length := List.length_pos_iff.mpr hne
  unfold goMiddle
  cases hi : indexOf v sp.lit with
  | none => exact ⟨.text v, [], rfl, by simp [splitSpecial, hi, splitFrags], by simp [splitMeasure]⟩
  | some j =>
    have hlen := indexOf_add_le hi
    have hrest : ∃ restL, (if (v.drop (j + sp.lit.length)).isEmpty then [] else [Frag.text (v.drop (j + sp.lit.length))])
          = restL ∧
        (if (v.drop (j + sp.lit.length)).isEmpty then []
          else splitSpecial sp (v.length - (j + sp.lit.length) + 1) (v.drop (j + sp.lit.length))) = splitFrags sp restL ∧
        splitMeasure restL ≤ 2 * (v.length - (j + sp.lit.length)) + 1 := by
      refine ⟨_, rfl, ?_⟩
      split
      · exact ⟨rfl, by simp [splitMeasure]⟩
      · exact ⟨by simp [splitFrags], by simp [splitMeasure]⟩
    obtain ⟨restL, hr1, hr2, hr3⟩ := hrest
    have hspec : splitSpecial sp (v.length + 1) v =
        (if j > 0 then [Frag.text (v.take j)] else []) ++ [Frag.special sp] ++ splitFrags sp restL := by
      conv => lhs; unfold splitSpecial
      simp only [hi]
      rw [← hr2]
      congr 1
      split
      · rfl
      · exact splitSpecial_fuel sp hne _ _ _ (by simp only [List.length_drop]; omega) (by simp only [List.length_drop]; omega)
    simp only [hr1, hspec]
    by_cases hj : j > 0
    · exact ⟨.text (v.take j), .special sp :: restL, by simp [hj], by simp [hj, splitFrags_cons],
        by simp only [splitMeasure]; omega⟩
    · exact ⟨.special sp, restL, by simp [hj], by simp [hj], by omega⟩

/-- the loop, started at position `done.length` of `done ++ todo`, leaves `done` untouched and computes the model's
    split of `todo` -/
theorem goSplitPass_sim (sp : Special) (hne : sp.lit ≠ []) (fuel : Nat) (done todo : List Frag)
    (hf : splitMeasure todo < fuel) :
    goSplitPass sp fuel (done ++ todo) done.length = done ++ splitFrags sp todo := by
  induction fuel generalizing done todo with
  | zero => omega
  | succ fuel ih =>
    unfold goSplitPass
    cases todo with
    | nil => simp [splitFrags]
    | cons fr tl =>
      rw [getElem?_append_len]
      cases fr with
      | special q =>
        have := ih (done ++ [.special q]) tl (by simp [splitMeasure] at hf; omega)
        simp only [List.append_assoc, List.singleton_append, List.length_append, List.length_singleton] at this
        simp only [this, splitFrags_cons, List.singleton_append]
      | text v =>
        obtain ⟨m0, mrest, hm, hsplit, hlt⟩ := goMiddle_spec sp hne v
        have htake : (done ++ Frag.text v :: tl).take done.length = done := by simp
        have hdrop : (done ++ Frag.text v :: tl).drop (done.length + 1) = tl := by simp
        simp only [splitMeasure] at hf
        have := ih (done ++ [m0]) (mrest ++ tl) (by rw [splitMeasure_append]; omega)
        simp only [List.append_assoc, List.singleton_append, List.length_append, List.length_singleton] at this
        simp only [htake, hdrop, hm, List.cons_append, List.append_assoc, this, splitFrags_cons, hsplit,
          splitFrags_append]

/-- one pass of the Go loop over the whole slice = the model's `splitFrags` -/
theorem goSplitPass_eq (sp : Special) (hne : sp.lit ≠ []) (frs : List Frag) (fuel : Nat) (hf : splitMeasure frs < fuel) :
    goSplitPass sp fuel frs 0 = splitFrags sp frs := by
  have := goSplitPass_sim sp hne fuel [] frs hf
  simpa using this

/-- the outer loop over `SpecialVocabulary()` -/
def goFragments (specials : List Special) (s : Str) : List Frag :=
  specials.foldl (fun frs sp => goSplitPass sp (splitMeasure frs + 1) frs 0) [.text s]

/-- **The in-place splitting loops of `Encode` compute the model's `fragments`** (any specials with non-empty
    literals, any text). -/
theorem goFragments_eq (specials : List Special) (hne : ∀ q ∈ specials, q.lit ≠ []) (s : Str) :
    goFragments specials s = fragments specials s := by
  unfold goFragments fragments
  generalize ([Frag.text s] : List Frag) = init
  induction specials generalizing init with
  | nil => rfl
  | cons sp rest ih =>
    simp only [List.foldl_cons]
    rw [goSplitPass_eq sp (hne sp (by simp)) init _ (by omega)]
    exact ih (fun q hq => hne q (List.mem_cons_of_mem _ hq)) _

/-! ### an empty special literal: the loop never terminates -/

/-- **Divergence witness (finding `empty-special-hang`).**  With an empty special literal and a non-empty text fragment the
    loop inserts one more special fragment in front of the SAME text on every iteration: after `fuel` iterations the slice
    is `done ++ fuel × [special] ++ [text v]` and the scan position still points at the text — the exit condition
    `i >= len(fragments)` is never met and the slice grows without bound. -/
theorem goSplitPass_empty_diverges (sp : Special) (hlit : sp.lit = []) (v : Str) (hv : v ≠ []) (fuel : Nat)
    (done : List Frag) :
    goSplitPass sp fuel (done ++ [.text v]) done.length = done ++ List.replicate fuel (.special sp) ++ [.text v] := by
  induction fuel generalizing done with
  | zero => simp [goSplitPass]
  | succ fuel ih =>
    unfold goSplitPass
    rw [getElem?_append_len]
    simp only
    have htake : (done ++ [Frag.text v]).take done.length = done := by simp
    have hdrop : (done ++ [Frag.text v]).drop (done.length + 1) = [] := by simp
    have hmid : goMiddle sp v = [.special sp, .text v] := by
      unfold goMiddle
      rw [hlit, indexOf_eq, Basic.indexOf_of_prefix (List.nil_prefix)]
      simp [hv]
    rw [htake, hdrop, hmid]
    have := ih (done ++ [.special sp])
    simp only [List.append_assoc, List.length_append, List.length_singleton,
      List.cons_append, List.nil_append, List.append_nil] at this ⊢
    rw [this, List.replicate_succ]
    simp

end OllamaVerif.Tok
