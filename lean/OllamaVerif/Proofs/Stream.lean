/-
  Helper definitions and lemmas for C17 (Model/Stream.lean): projections used to state the
  property (what a client obtains by aggregating a stream), closed forms of the non-stream loop,
  what the callbacks send on a protocol-respecting run (`Protocol`), step equations of the callbacks and the OpenAI
  writers.  The last part is in namespace `OllamaVerif.C17`: helpers of the theorems of Properties/C17.lean that need
  none of its definitions (`RunnerOK`, `OneFinal`, `aggCalls`, …).
-/
import OllamaVerif.Model.Stream
namespace OllamaVerif.Stream
open OllamaVerif

/-- the model output: concatenation of the chunk contents -/
def texts (cs : List Chunk) : Bytes := (cs.map (·.content)).flatten

def lastOr {α : Type} (d : α) : List α → α
  | [] => d
  | x :: xs => lastOr x xs

def Item.msg? {α : Type} : Item α → Option α
  | .msg m => some m
  | .err _ => none

def Item.err? {α : Type} : Item α → Option Bytes
  | .msg _ => none
  | .err e => some e

def msgsOf {α : Type} (items : List (Item α)) : List α := items.filterMap Item.msg?
def errsOf {α : Type} (items : List (Item α)) : List Bytes := items.filterMap Item.err?

@[simp] theorem texts_nil : texts [] = [] := rfl
@[simp] theorem texts_cons (c : Chunk) (cs : List Chunk) : texts (c :: cs) = c.content ++ texts cs := by
  simp [texts]
theorem texts_append (a b : List Chunk) : texts (a ++ b) = texts a ++ texts b := by
  simp [texts]

@[simp] theorem lastOr_nil {α : Type} (d : α) : lastOr d [] = d := rfl
@[simp] theorem lastOr_cons {α : Type} (d x : α) (xs : List α) : lastOr d (x :: xs) = lastOr x xs := rfl

theorem lastOr_append_singleton {α : Type} (d x : α) (xs : List α) : lastOr d (xs ++ [x]) = x := by
  induction xs generalizing d with
  | nil => rfl
  | cons y ys ih => simp [ih]

theorem lastOr_map {α β : Type} (f : α → β) (d : α) (xs : List α) :
    lastOr (f d) (xs.map f) = f (lastOr d xs) := by
  induction xs generalizing d with
  | nil => rfl
  | cons y ys ih => simp [ih]

theorem lastOr_mem {α : Type} (d : α) (xs : List α) : lastOr d xs = d ∨ lastOr d xs ∈ xs := by
  induction xs generalizing d with
  | nil => exact Or.inl rfl
  | cons x xs ih => exact Or.inr ((ih x).elim (fun h => by simp [h]) (fun h => by simp [h]))

theorem getLast?_cons_some {α : Type} {a b : α} {l : List α} (h : l.getLast? = some b) :
    (a :: l).getLast? = some b := by
  cases l with
  | nil => cases h
  | cons _ _ => rw [List.getLast?_cons_cons]; exact h

@[simp] theorem msgsOf_map_msg {α : Type} (ms : List α) : msgsOf (ms.map Item.msg) = ms := by
  induction ms with
  | nil => rfl
  | cons m ms ih => simp_all [msgsOf, Item.msg?]

@[simp] theorem errsOf_map_msg {α : Type} (ms : List α) : errsOf (ms.map Item.msg) = [] := by
  induction ms with
  | nil => rfl
  | cons m ms ih => simp_all [errsOf, Item.err?]

theorem msgsOf_append {α : Type} (a b : List (Item α)) : msgsOf (a ++ b) = msgsOf a ++ msgsOf b := by
  simp [msgsOf, List.filterMap_append]

theorem errsOf_append {α : Type} (a b : List (Item α)) : errsOf (a ++ b) = errsOf a ++ errsOf b := by
  simp [errsOf, List.filterMap_append]

theorem msgsOf_chan {α : Type} (ms : List α) (e : End) : msgsOf (ms.map Item.msg ++ endItems e) = ms := by
  rw [msgsOf_append, msgsOf_map_msg]
  cases e <;> simp [msgsOf, endItems, Item.msg?]

theorem errsOf_chan {α : Type} (ms : List α) (e : End) :
    errsOf (ms.map Item.msg ++ (endItems e : List (Item α))) = match e with | .ok => [] | .err m => [m] := by
  rw [errsOf_append, errsOf_map_msg]
  cases e <;> simp [errsOf, endItems, Item.err?]

/-! ### the non-stream loop -/

theorem onceLoop_eq {α : Type} (content : α → Bytes) (items : List (Item α)) (sb : Bytes) (r : α) :
    onceLoop content items sb r =
      match (errsOf items).head? with
      | some e => .error e
      | none => .ok (sb ++ ((msgsOf items).map content).flatten, lastOr r (msgsOf items)) := by
  induction items generalizing sb r with
  | nil => exact congrArg (fun t => Except.ok (t, r)) (List.append_nil sb).symm
  | cons it rest ih =>
    cases it with
    | msg m => rw [onceLoop, ih, List.append_assoc]; rfl
    | err e => rfl

theorem onceLoop_chan {α : Type} (content : α → Bytes) (ms : List α) (e : End) (r : α) :
    onceLoop content (ms.map Item.msg ++ endItems e) [] r =
      match e with
      | .ok => .ok ((ms.map content).flatten, lastOr r ms)
      | .err m => .error m := by
  rw [onceLoop_eq, errsOf_chan, msgsOf_chan]
  cases e <;> rfl

/-! ### A callback run over the runner's chunks -/

def NoneDone (cs : List Chunk) : Prop := ∀ c ∈ cs, c.done = false

theorem NoneDone.head {c : Chunk} {cs : List Chunk} (h : NoneDone (c :: cs)) : c.done = false := h c List.mem_cons_self
theorem NoneDone.tail {c : Chunk} {cs : List Chunk} (h : NoneDone (c :: cs)) : NoneDone cs :=
  fun x hx => h x (List.mem_cons_of_mem c hx)

/-- the flags of a message built for a chunk that is not done -/
structure Quiet (i : Info) : Prop where
  done : i.done = false
  reason : i.reason = []

theorem chunkInfo_quiet (c : Chunk) (h : c.done = false) : Quiet (chunkInfo c) :=
  ⟨h, by simp [chunkInfo, h]⟩

/-- `cb` = a callback from some state, as a function of the chunks: chunks that are not done give quiet messages
    only; a done chunk after them gives one more message, with its flags, last -/
structure Protocol {μ : Type} (info : μ → Info) (cb : List Chunk → List μ) : Prop where
  quiet : ∀ cs, NoneDone cs → ∀ m ∈ cb cs, Quiet (info m)
  final : ∀ init l, NoneDone init → l.done = true →
    ∃ pre m, cb (init ++ [l]) = pre ++ [m] ∧ (∀ x ∈ pre, Quiet (info x)) ∧ info m = chunkInfo l

/-- one call sends nothing (only for a chunk that is not done) or one message with the chunk's flags -/
theorem protocol_of_cons {σ μ : Type} (info : μ → Info) (cb : List Chunk → σ → List μ) (hnil : ∀ s, cb [] s = [])
    (hcons : ∀ c cs s, (c.done = false ∧ ∃ s', cb (c :: cs) s = cb cs s')
      ∨ ∃ x s', cb (c :: cs) s = x :: cb cs s' ∧ info x = chunkInfo c) (s : σ) :
    Protocol info (cb · s) := by
  constructor
  · intro cs hnd
    induction cs generalizing s with
    | nil => intro m hm; rw [hnil] at hm; cases hm
    | cons c cs ih =>
      have ih' := fun s' => ih s' hnd.tail
      intro m hm
      rcases hcons c cs s with ⟨_, s', e⟩ | ⟨x, s', e, hx⟩
      · exact ih' s' m (e ▸ hm)
      · rcases List.mem_cons.mp (e ▸ hm) with rfl | hm
        · rw [hx]; exact chunkInfo_quiet c hnd.head
        · exact ih' s' m hm
  · intro init l hnd hl
    induction init generalizing s with
    | nil =>
      rcases hcons l [] s with ⟨hd, _⟩ | ⟨x, s', e, hx⟩
      · rw [hl] at hd; cases hd
      · exact ⟨[], x, by rw [List.nil_append, e, hnil]; rfl, fun _ h => (nomatch h), hx⟩
    | cons c cs ih =>
      have ih' := fun s' => ih s' hnd.tail
      rcases hcons c (cs ++ [l]) s with ⟨_, s', e⟩ | ⟨x, s', e, hx⟩
      · obtain ⟨pre, m, hs, hq, hm⟩ := ih' s'
        exact ⟨pre, m, by rw [List.cons_append, e, hs], hq, hm⟩
      · obtain ⟨pre, m, hs, hq, hm⟩ := ih' s'
        refine ⟨x :: pre, m, by rw [List.cons_append, e, hs]; rfl, fun y hy => ?_, hm⟩
        rcases List.mem_cons.mp hy with rfl | hy
        · rw [hx]; exact chunkInfo_quiet c hnd.head
        · exact hq y hy

/-! ### GenerateHandler callback -/

theorem genCallback_resp (raw : Bool) (pl : Nat) (cs : List Chunk) (sb : Bytes) :
    (genCallback raw pl cs sb).map (·.resp) = cs.map (·.content) := by
  induction cs generalizing sb with
  | nil => rfl
  | cons c cs ih => simp [genCallback, genMsgOf, ih]

theorem genCallback_last (raw : Bool) (pl : Nat) (cs : List Chunk) (sb : Bytes) (d : GenMsg) :
    lastOr d (genCallback raw pl cs sb) =
      match cs with
      | [] => d
      | c :: cs' => genMsgOf raw pl (sb ++ texts (c :: cs')) (lastOr c cs') := by
  induction cs generalizing sb d with
  | nil => rfl
  | cons c cs ih =>
    simp only [genCallback, lastOr_cons]
    rw [ih]
    cases cs with
    | nil => simp
    | cons c2 cs2 => simp [List.append_assoc]

theorem genOnce_ok_cons (raw : Bool) (pl : Nat) (c : Chunk) (cs : List Chunk) :
    genOnce raw pl (c :: cs) .ok =
      .ok { genMsgOf raw pl (texts (c :: cs)) (lastOr c cs) with resp := texts (c :: cs) } := by
  unfold genOnce genChan
  rw [onceLoop_chan]
  simp only [genCallback_resp, genCallback_last]
  simp [texts]

theorem genOnce_ok_nil (raw : Bool) (pl : Nat) : genOnce raw pl [] .ok = .ok default := by
  rfl

theorem genOnce_err (raw : Bool) (pl : Nat) (cs : List Chunk) (m : Bytes) :
    genOnce raw pl cs (.err m) = .error m := by
  unfold genOnce genChan
  rw [onceLoop_chan]

theorem genCallback_protocol (raw : Bool) (pl : Nat) (sb : Bytes) : Protocol (·.info) (genCallback raw pl · sb) :=
  protocol_of_cons _ (genCallback raw pl) (fun _ => rfl) (fun _ _ _ => Or.inr ⟨_, _, rfl, rfl⟩) sb

/-! ### ChatHandler callback, unbuffered (stream == false, or no tools) -/

def chatMsgOf (c : Chunk) : ChatMsg := { content := c.content, calls := [], info := chunkInfo c }

theorem chatCallback_unbuffered (parse : Bytes → List Call) (cs : List Chunk) (sb : Bytes) (idx : Nat) :
    chatCallback parse false cs sb idx = cs.map chatMsgOf := by
  induction cs generalizing sb idx with
  | nil => rfl
  | cons c cs ih => exact congrArg (_ :: ·) (ih sb idx)

theorem chatMsgOf_contents (cs : List Chunk) : ((cs.map chatMsgOf).map (·.content)).flatten = texts cs := by
  rw [List.map_map]; rfl

theorem chatOnce_ok_cons (parse : Bytes → List Call) (tools : Bool) (c : Chunk) (cs : List Chunk) :
    chatOnce parse tools (c :: cs) .ok =
      let t := texts (c :: cs)
      let l := lastOr c cs
      if tools && !(parse t).isEmpty then .ok { content := [], calls := parse t, info := chunkInfo l }
      else .ok { content := t, calls := [], info := chunkInfo l } := by
  unfold chatOnce chatChan
  rw [onceLoop_chan, chatCallback_unbuffered]
  have h2 : lastOr (default : ChatMsg) (List.map chatMsgOf (c :: cs)) = chatMsgOf (lastOr c cs) :=
    lastOr_map chatMsgOf c cs
  simp only [chatMsgOf_contents, h2]
  rfl

theorem chatOnce_ok_snoc (parse : Bytes → List Call) (tools : Bool) (init : List Chunk) (l : Chunk) :
    chatOnce parse tools (init ++ [l]) .ok =
      if tools && !(parse (texts (init ++ [l]))).isEmpty
      then .ok { content := [], calls := parse (texts (init ++ [l])), info := chunkInfo l }
      else .ok { content := texts (init ++ [l]), calls := [], info := chunkInfo l } := by
  cases init with
  | nil => exact chatOnce_ok_cons parse tools l []
  | cons c cs =>
    rw [List.cons_append, chatOnce_ok_cons]
    simp only [lastOr_append_singleton]

theorem chatOnce_err (parse : Bytes → List Call) (tools : Bool) (cs : List Chunk) (m : Bytes) :
    chatOnce parse tools cs (.err m) = .error m := by
  unfold chatOnce chatChan
  rw [onceLoop_chan]

/-! ### The buffered callbacks (streaming with tools) -/

theorem chatCallback_cons_calls (parse : Bytes → List Call) (c : Chunk) (cs : List Chunk) (sb : Bytes) (idx : Nat)
    (h : parse (sb ++ c.content) ≠ []) :
    chatCallback parse true (c :: cs) sb idx
      = { content := [], calls := setIdx idx (parse (sb ++ c.content)), info := chunkInfo c }
          :: chatCallback parse true cs [] (idx + (parse (sb ++ c.content)).length) := by
  simp only [chatCallback]
  cases hp : parse (sb ++ c.content) with
  | nil => exact absurd hp h
  | cons _ _ => rfl

theorem chatCallback_cons_done (parse : Bytes → List Call) (c : Chunk) (cs : List Chunk) (sb : Bytes) (idx : Nat)
    (h : parse (sb ++ c.content) = []) (hd : c.done = true) :
    chatCallback parse true (c :: cs) sb idx
      = { content := if idx == 0 then sb ++ c.content else c.content, calls := [], info := chunkInfo c }
          :: chatCallback parse true cs (sb ++ c.content) idx := by
  simp only [chatCallback, h, hd]; rfl

theorem chatCallback_cons_quiet (parse : Bytes → List Call) (c : Chunk) (cs : List Chunk) (sb : Bytes) (idx : Nat)
    (h : parse (sb ++ c.content) = []) (hd : c.done = false) :
    chatCallback parse true (c :: cs) sb idx = chatCallback parse true cs (sb ++ c.content) idx := by
  simp only [chatCallback, h, hd]; rfl

theorem chatCallbackFixed_cons_calls (parse : Bytes → List Call) (c : Chunk) (cs : List Chunk) (sb : Bytes) (idx : Nat)
    (h : idx < (parse (sb ++ c.content)).length) :
    chatCallbackFixed parse (c :: cs) sb idx
      = { content := [], calls := (setIdx 0 (parse (sb ++ c.content))).drop idx, info := chunkInfo c }
          :: chatCallbackFixed parse cs (sb ++ c.content) (parse (sb ++ c.content)).length := by
  simp only [chatCallbackFixed, decide_eq_true h, Bool.and_true]
  cases hp : parse (sb ++ c.content) with
  | nil => rw [hp] at h; cases h
  | cons _ _ => rfl

theorem chatCallbackFixed_cons_done (parse : Bytes → List Call) (c : Chunk) (cs : List Chunk) (sb : Bytes) (idx : Nat)
    (h : (parse (sb ++ c.content)).length ≤ idx) (hd : c.done = true) :
    chatCallbackFixed parse (c :: cs) sb idx
      = { content := if idx == 0 then sb ++ c.content else [], calls := [], info := chunkInfo c }
          :: chatCallbackFixed parse cs (sb ++ c.content) idx := by
  simp only [chatCallbackFixed, decide_eq_false (Nat.not_lt.mpr h), Bool.and_false, hd]; rfl

theorem chatCallbackFixed_cons_quiet (parse : Bytes → List Call) (c : Chunk) (cs : List Chunk) (sb : Bytes) (idx : Nat)
    (h : (parse (sb ++ c.content)).length ≤ idx) (hd : c.done = false) :
    chatCallbackFixed parse (c :: cs) sb idx = chatCallbackFixed parse cs (sb ++ c.content) idx := by
  simp only [chatCallbackFixed, decide_eq_false (Nat.not_lt.mpr h), Bool.and_false, hd]; rfl

theorem chatCallback_protocol (parse : Bytes → List Call) (b : Bool) (sb : Bytes) (idx : Nat) :
    Protocol (·.info) (chatCallback parse b · sb idx) := by
  refine protocol_of_cons _ (fun cs (s : Bytes × Nat) => chatCallback parse b cs s.1 s.2) (fun _ => rfl) ?_ (sb, idx)
  intro c cs ⟨sb, idx⟩
  cases b
  · exact Or.inr ⟨_, (sb, idx), rfl, rfl⟩
  · by_cases h : parse (sb ++ c.content) = []
    · cases hd : c.done
      · exact Or.inl ⟨rfl, (_, _), chatCallback_cons_quiet parse c cs sb idx h hd⟩
      · exact Or.inr ⟨_, (_, _), chatCallback_cons_done parse c cs sb idx h hd, rfl⟩
    · exact Or.inr ⟨_, (_, _), chatCallback_cons_calls parse c cs sb idx h, rfl⟩

theorem chatCallbackFixed_protocol (parse : Bytes → List Call) (sb : Bytes) (idx : Nat) :
    Protocol (·.info) (chatCallbackFixed parse · sb idx) := by
  refine protocol_of_cons _ (fun cs (s : Bytes × Nat) => chatCallbackFixed parse cs s.1 s.2) (fun _ => rfl) ?_ (sb, idx)
  intro c cs ⟨sb, idx⟩
  by_cases h : idx < (parse (sb ++ c.content)).length
  · exact Or.inr ⟨_, (_, _), chatCallbackFixed_cons_calls parse c cs sb idx h, rfl⟩
  · cases hd : c.done
    · exact Or.inl ⟨rfl, (_, _), chatCallbackFixed_cons_quiet parse c cs sb idx (Nat.not_lt.mp h) hd⟩
    · exact Or.inr ⟨_, (_, _), chatCallbackFixed_cons_done parse c cs sb idx (Nat.not_lt.mp h) hd, rfl⟩

/-- a guard indexed by the chunk boundaries (`Q` = accumulated text, chunks still to come), peeled by one chunk -/
theorem guard_shift (Q : Bytes → List Chunk → Prop) (sb : Bytes) (c : Chunk) (cs : List Chunk)
    (h : ∀ k, k < (c :: cs).length → Q (sb ++ texts ((c :: cs).take (k + 1))) ((c :: cs).drop (k + 1))) :
    Q (sb ++ c.content) cs
    ∧ ∀ k, k < cs.length → Q ((sb ++ c.content) ++ texts (cs.take (k + 1))) (cs.drop (k + 1)) := by
  refine ⟨by simpa using h 0 (Nat.zero_lt_succ _), fun k hk => ?_⟩
  have := h (k + 1) (Nat.succ_lt_succ hk)
  simpa [List.append_assoc] using this

/-- as long as nothing parses and nothing is done, the buffered callback only accumulates -/
theorem chatCallback_buffered_quiet (parse : Bytes → List Call) (init rest : List Chunk) (sb : Bytes) (idx : Nat)
    (hnd : NoneDone init)
    (hnp : ∀ k, k < init.length → parse (sb ++ texts (init.take (k + 1))) = []) :
    chatCallback parse true (init ++ rest) sb idx = chatCallback parse true rest (sb ++ texts init) idx := by
  induction init generalizing sb with
  | nil => simp
  | cons c cs ih =>
    obtain ⟨h0, hnp'⟩ := guard_shift (fun t _ => parse t = []) sb c cs hnp
    rw [List.cons_append, chatCallback_cons_quiet parse c _ sb idx h0 hnd.head,
      ih (sb ++ c.content) hnd.tail hnp', texts_cons, List.append_assoc]

/-- only empty chunks after a parse: `chatCallback` (builder reset) and `chatCallbackFixed` (builder kept, the same
    calls found again) both send nothing but an empty message for a done chunk -/
theorem chatCallback_eq_fixed_tail (parse : Bytes → List Call) (hp : parse [] = []) (cs : List Chunk) (sb : Bytes)
    (he : texts cs = []) (hn : parse sb ≠ []) :
    chatCallback parse true cs [] (parse sb).length = chatCallbackFixed parse cs sb (parse sb).length := by
  induction cs with
  | nil => rfl
  | cons c cs ih =>
    obtain ⟨hc, he'⟩ : c.content = [] ∧ texts cs = [] := by simpa using he
    have h1 : parse ([] ++ c.content) = [] := by rw [hc]; exact hp
    have h2 : (parse (sb ++ c.content)).length ≤ (parse sb).length := by rw [hc, List.append_nil]; exact Nat.le_refl _
    have hz : ((parse sb).length == 0) = false := beq_false_of_ne (Nat.ne_of_gt (List.length_pos_iff.mpr hn))
    cases hd : c.done
    · rw [chatCallback_cons_quiet parse c cs [] _ h1 hd, chatCallbackFixed_cons_quiet parse c cs sb _ h2 hd, hc,
        List.append_nil, List.append_nil]
      exact ih he'
    · rw [chatCallback_cons_done parse c cs [] _ h1 hd, chatCallbackFixed_cons_done parse c cs sb _ h2 hd, hz, hc,
        List.append_nil, List.append_nil]
      exact congrArg (_ :: ·) (ih he')

theorem chatCallback_eq_fixed (parse : Bytes → List Call) (hp : parse [] = []) (cs : List Chunk) (sb : Bytes)
    (hg : ∀ k, k < cs.length → parse (sb ++ texts (cs.take (k + 1))) ≠ [] → texts (cs.drop (k + 1)) = []) :
    chatCallback parse true cs sb 0 = chatCallbackFixed parse cs sb 0 := by
  induction cs generalizing sb with
  | nil => rfl
  | cons c cs ih =>
    obtain ⟨h0, hg'⟩ := guard_shift (fun t rest => parse t ≠ [] → texts rest = []) sb c cs hg
    by_cases h : parse (sb ++ c.content) = []
    · have hle : (parse (sb ++ c.content)).length ≤ 0 := by rw [h]; exact Nat.le_refl _
      cases hd : c.done
      · rw [chatCallback_cons_quiet parse c cs sb 0 h hd, chatCallbackFixed_cons_quiet parse c cs sb 0 hle hd]
        exact ih _ hg'
      · rw [chatCallback_cons_done parse c cs sb 0 h hd, chatCallbackFixed_cons_done parse c cs sb 0 hle hd]
        exact congrArg (_ :: ·) (ih _ hg')
    · -- first parse: `chatCallback` resets its builder, everything that follows is empty
      rw [chatCallback_cons_calls parse c cs sb 0 h,
        chatCallbackFixed_cons_calls parse c cs sb 0 (List.length_pos_iff.mpr h), Nat.zero_add,
        chatCallback_eq_fixed_tail parse hp cs _ (h0 h) h]
      rfl

/-! ### setIdx -/

def eraseIdx (c : Call) : Call := { c with index := 0 }

theorem setIdx_erase (i : Nat) (cs : List Call) : (setIdx i cs).map eraseIdx = cs.map eraseIdx := by
  induction cs generalizing i with
  | nil => rfl
  | cons c cs ih => simp [setIdx, eraseIdx, ih]

theorem setIdx_index (i : Nat) (cs : List Call) : (setIdx i cs).map (·.index) = List.range' i cs.length := by
  induction cs generalizing i with
  | nil => rfl
  | cons c cs ih => simp [setIdx, ih, List.range'_succ]

@[simp] theorem setIdx_length (i : Nat) (cs : List Call) : (setIdx i cs).length = cs.length := by
  induction cs generalizing i with
  | nil => rfl
  | cons c cs ih => simp [setIdx, ih]

theorem setIdx_isEmpty (i : Nat) (cs : List Call) : (setIdx i cs).isEmpty = cs.isEmpty := by
  cases cs <;> simp [setIdx]

theorem setIdx_take (i n : Nat) (cs : List Call) : setIdx i (cs.take n) = (setIdx i cs).take n := by
  induction cs generalizing i n with
  | nil => simp [setIdx]
  | cons c cs ih =>
    cases n with
    | zero => simp [setIdx]
    | succ n => simp [setIdx, ih]

theorem setIdx_prefix {q p : List Call} (h : q <+: p) : setIdx 0 q = (setIdx 0 p).take q.length := by
  have := List.prefix_iff_eq_take.mp h
  rw [← setIdx_take, ← this]

theorem setIdx_append (i : Nat) (a b : List Call) : setIdx i (a ++ b) = setIdx i a ++ setIdx (i + a.length) b := by
  induction a generalizing i with
  | nil => simp [setIdx]
  | cons x xs ih => simp [setIdx, ih, Nat.add_assoc, Nat.add_comm 1]

theorem setIdx_map_erase (i : Nat) (cs : List Call) : setIdx i (cs.map eraseIdx) = setIdx i cs := by
  induction cs generalizing i with
  | nil => rfl
  | cons c cs ih => exact congrArg (_ :: ·) (ih _)

theorem setIdx_congr (i : Nat) (a b : List Call) (h : a.map eraseIdx = b.map eraseIdx) : setIdx i a = setIdx i b := by
  rw [← setIdx_map_erase, h, setIdx_map_erase]

theorem isEmpty_eq_of_map_eq {α β : Type} {f : α → β} {a b : List α} (h : a.map f = b.map f) :
    a.isEmpty = b.isEmpty := by
  cases a <;> cases b <;> first | rfl | cases h

/-! ### OpenAI writers: projections -/

def OaEv.text? : OaEv → Bytes
  | .chunk c _ _ => c
  | .tchunk t _ _ => t
  | .chat _ c _ _ _ => c
  | .text t _ _ => t
  | _ => []

def OaEv.calls? : OaEv → List Call
  | .chunk _ cs _ => cs
  | .chat _ _ cs _ _ => cs
  | _ => []

def OaEv.isDone : OaEv → Bool
  | .done => true
  | _ => false

def OaEv.isError : OaEv → Bool
  | .error _ => true
  | _ => false

/-- concatenated delta contents / tool calls of an OpenAI stream, number of `[DONE]` lines -/
def oaText (evs : List OaEv) : Bytes := (evs.map OaEv.text?).flatten
def oaCalls (evs : List OaEv) : List Call := (evs.map OaEv.calls?).flatten
def oaDones (evs : List OaEv) : Nat := (evs.filter OaEv.isDone).length

theorem oaText_append (a b : List OaEv) : oaText (a ++ b) = oaText a ++ oaText b := by simp [oaText]
theorem oaCalls_append (a b : List OaEv) : oaCalls (a ++ b) = oaCalls a ++ oaCalls b := by simp [oaCalls]
theorem oaDones_append (a b : List OaEv) : oaDones (a ++ b) = oaDones a + oaDones b := by simp [oaDones]

/-- the tail a writer adds after the chunk of a done message -/
def oaTail (usage : Bool) (m : Info) : List OaEv :=
  (if usage then [OaEv.usage (usageOf m)] else []) ++ [OaEv.done]

theorem oaTailIf_text (d u : Bool) (m : Info) : oaText (if d then oaTail u m else []) = [] := by
  cases d <;> cases u <;> rfl
theorem oaTailIf_calls (d u : Bool) (m : Info) : oaCalls (if d then oaTail u m else []) = [] := by
  cases d <;> cases u <;> rfl
theorem oaTailIf_dones (d u : Bool) (m : Info) : oaDones (if d then oaTail u m else []) = if d then 1 else 0 := by
  cases d <;> cases u <;> rfl

end OllamaVerif.Stream

namespace OllamaVerif.C17
open OllamaVerif OllamaVerif.Stream

theorem msgsOf_cons_err {α : Type} (e : Bytes) (rest : List (Item α)) : msgsOf (Item.err e :: rest) = msgsOf rest := rfl
theorem msgsOf_cons_msg {α : Type} (m : α) (rest : List (Item α)) : msgsOf (Item.msg m :: rest) = m :: msgsOf rest := rfl

theorem endItemsV_pinned {α : Type} (cs : List Chunk) (e : End) : (endItemsV false cs e : List (Item α)) = endItems e := by
  cases e <;> rfl

theorem msgsOf_genStream (raw : Bool) (pl : Nat) (cs : List Chunk) (e : End) :
    msgsOf (genStream raw pl cs e) = genCallback raw pl cs [] := msgsOf_chan _ e

theorem msgsOf_chatStream (parse : Bytes → List Call) (tools : Bool) (cs : List Chunk) (e : End) :
    msgsOf (chatStream parse tools cs e) = chatCallback parse tools cs [] 0 := msgsOf_chan _ e

theorem filter_done_nonfinal {α : Type} (done : α → Bool) (pre : List α) (h : ∀ x ∈ pre, done x = false) :
    pre.filter done = [] :=
  List.filter_eq_nil_iff.mpr fun x hx => by rw [h x hx]; exact Bool.false_ne_true

theorem filter_done_quiet {α : Type} (info : α → Info) (pre : List α) (h : ∀ x ∈ pre, Quiet (info x)) :
    pre.filter (fun x => (info x).done) = [] :=
  filter_done_nonfinal _ pre fun x hx => (h x hx).done

theorem eq_map_msgsOf {α : Type} (items : List (Item α)) (h : errsOf items = []) :
    items = (msgsOf items).map Item.msg := by
  induction items with
  | nil => rfl
  | cons it rest ih =>
    cases it with
    | msg m => exact congrArg (_ :: ·) (ih h)
    | err e => cases h

theorem lastOr_calls_nil (ms : List ChatMsg) (h : ∀ m ∈ ms, m.calls = []) : (lastOr default ms).calls = [] :=
  (lastOr_mem default ms).elim (fun hh => by rw [hh]; rfl) (fun hh => h _ hh)

theorem or_not_isEmpty_append {α : Type} (s : Bool) (a b : List α) :
    (s || !(a ++ b).isEmpty) = ((s || !a.isEmpty) || !b.isEmpty) := by
  cases s <;> cases a <;> cases b <;> rfl

theorem sawDone_snoc (init : List Chunk) (l : Chunk) (hl : l.done = true) : sawDone (init ++ [l]) = true := by
  simp [sawDone, hl]

theorem endItemsV_silent {α : Type} (cs : List Chunk) (hnd : NoneDone cs) :
    (endItemsV true cs .ok : List (Item α)) = [.err sIncomplete] := by
  have : sawDone cs = false := List.any_eq_false.mpr fun x hx => by simp [hnd x hx]
  simp [endItemsV, this]

theorem noneDone_content (c : Chunk) :
    NoneDone (if c.content.isEmpty then [] else [(⟨c.content, false, 0, 0, 0⟩ : Chunk)]) := by
  intro x hx
  split at hx
  · cases hx
  · cases List.mem_singleton.mp hx; rfl

theorem schedStatus_ge (k : SchedErr) : 400 ≤ schedStatus k := by cases k <;> decide

/-- invariant of the streaming tool path: the builder is empty or does not parse -/
theorem chatCallback_final_no_calls (parse : Bytes → List Call) (hp : parse [] = []) (init : List Chunk) (l : Chunk)
    (sb : Bytes) (idx : Nat) (hsb : sb = [] ∨ parse sb = []) (hnd : NoneDone init) (hl : l.done = true)
    (hlc : l.content = []) (d : ChatMsg) :
    (lastOr d (chatCallback parse true (init ++ [l]) sb idx)).calls = [] := by
  induction init generalizing sb idx d with
  | nil =>
    have hps : parse (sb ++ l.content) = [] := by
      rw [hlc, List.append_nil]
      exact hsb.elim (fun h => h ▸ hp) id
    rw [List.nil_append, chatCallback_cons_done parse l [] sb idx hps hl]; rfl
  | cons c cs ih =>
    have hnd' : NoneDone cs := hnd.tail
    by_cases h : parse (sb ++ c.content) = []
    · rw [List.cons_append, chatCallback_cons_quiet parse c _ sb idx h hnd.head]
      exact ih (sb ++ c.content) idx (Or.inr h) hnd' d
    · rw [List.cons_append, chatCallback_cons_calls parse c _ sb idx h]
      exact ih [] _ (Or.inl rfl) hnd' _

theorem asChat_err (e : Bytes) : (asChat (.err e)).content = [] ∧ (asChat (.err e)).calls = [] ∧ (asChat (.err e)).info.done = false :=
  ⟨rfl, rfl, rfl⟩
theorem asGen_err (e : Bytes) : (asGen (.err e)).resp = [] ∧ (asGen (.err e)).info.done = false := ⟨rfl, rfl⟩

/-- one step for any item, the `finish_reason` left open (what uses this does not look at it); `_cons_quiet` and
    `_cons_final` give it for a message -/
theorem oaChatStream_cons (usage : Bool) (it : Item ChatMsg) (rest : List (Item ChatMsg)) (sent : Bool) :
    ∃ f, oaChatStream usage (it :: rest) sent =
      [OaEv.chunk (asChat it).content (asChat it).calls f]
        ++ (if (asChat it).info.done then oaTail usage (asChat it).info else [])
        ++ oaChatStream usage rest (sent || !(asChat it).calls.isEmpty) := ⟨_, rfl⟩

theorem oaCmplStream_cons (usage : Bool) (it : Item GenMsg) (rest : List (Item GenMsg)) :
    ∃ f u, oaCmplStream usage (it :: rest) =
      [OaEv.tchunk (asGen it).resp f u]
        ++ (if (asGen it).info.done then oaTail usage (asGen it).info else [])
        ++ oaCmplStream usage rest := ⟨_, _, rfl⟩

theorem oaChatStream_single_append (usage : Bool) (x : ChatMsg) (rest : List (Item ChatMsg)) (sent : Bool) :
    oaChatStream usage (Item.msg x :: rest) sent
      = oaChatStream usage [Item.msg x] sent ++ oaChatStream usage rest (sent || !x.calls.isEmpty) := by
  simp [oaChatStream, asChat]

theorem oaChatStream_cons_quiet (usage : Bool) (x : ChatMsg) (rest : List (Item ChatMsg)) (sent : Bool)
    (hq : Quiet x.info) :
    oaChatStream usage (Item.msg x :: rest) sent
      = OaEv.chunk x.content x.calls none :: oaChatStream usage rest (sent || !x.calls.isEmpty) := by
  simp only [oaChatStream, asChat, hq.done, hq.reason]; rfl

theorem oaChatStream_cons_final (usage : Bool) (m : ChatMsg) (rest : List (Item ChatMsg)) (sent : Bool)
    (hd : m.info.done = true) :
    oaChatStream usage (Item.msg m :: rest) sent
      = OaEv.chunk m.content m.calls
          (if m.info.reason.isEmpty then none else if sent then some sToolCalls else some m.info.reason)
        :: (oaTail usage m.info ++ oaChatStream usage rest (sent || !m.calls.isEmpty)) := by
  simp only [oaChatStream, asChat, hd]; rfl

theorem oaCmplStream_cons_quiet (usage : Bool) (x : GenMsg) (rest : List (Item GenMsg)) (hq : Quiet x.info) :
    oaCmplStream usage (Item.msg x :: rest)
      = OaEv.tchunk x.resp none (if usage then some ⟨0, 0, 0⟩ else none) :: oaCmplStream usage rest := by
  simp only [oaCmplStream, asGen, hq.done, hq.reason]; rfl

theorem oaCmplStream_cons_final (usage : Bool) (m : GenMsg) (rest : List (Item GenMsg)) (hd : m.info.done = true) :
    oaCmplStream usage (Item.msg m :: rest)
      = OaEv.tchunk m.resp (nonEmpty? m.info.reason) (if usage then some ⟨0, 0, 0⟩ else none)
        :: (oaTail usage m.info ++ oaCmplStream usage rest) := by
  simp only [oaCmplStream, asGen, hd]; rfl

theorem oaChatStreamFF_cons_quiet (usage : Bool) (x : ChatMsg) (rest : List (Item ChatMsg)) (sent : Bool)
    (hq : Quiet x.info) :
    oaChatStreamFF usage (Item.msg x :: rest) sent
      = OaEv.chunk x.content x.calls none :: oaChatStreamFF usage rest (sent || !x.calls.isEmpty) := by
  simp only [oaChatStreamFF, hq.done, hq.reason]; rfl

theorem oaChatStreamFF_cons_final (usage : Bool) (m : ChatMsg) (rest : List (Item ChatMsg)) (sent : Bool)
    (hd : m.info.done = true) :
    oaChatStreamFF usage (Item.msg m :: rest) sent
      = OaEv.chunk m.content m.calls
          (if m.info.reason.isEmpty then none
            else if sent || !m.calls.isEmpty then some sToolCalls else some m.info.reason)
        :: (oaTail usage m.info ++ oaChatStreamFF usage rest (sent || !m.calls.isEmpty)) := by
  simp only [oaChatStreamFF, hd]; rfl

theorem oaChatStream_no_error (usage : Bool) (items : List (Item ChatMsg)) (sent : Bool) :
    (oaChatStream usage items sent).filter OaEv.isError = [] := by
  induction items generalizing sent with
  | nil => rfl
  | cons it rest ih =>
    obtain ⟨f, hstep⟩ := oaChatStream_cons usage it rest sent
    rw [hstep, List.filter_append, List.filter_append, ih]
    cases (asChat it).info.done <;> cases usage <;> rfl

theorem oaCmplStream_no_error (usage : Bool) (items : List (Item GenMsg)) :
    (oaCmplStream usage items).filter OaEv.isError = [] := by
  induction items with
  | nil => rfl
  | cons it rest ih =>
    obtain ⟨f, u, hstep⟩ := oaCmplStream_cons usage it rest
    rw [hstep, List.filter_append, List.filter_append, ih]
    cases (asGen it).info.done <;> cases usage <;> rfl

theorem not_isError_of_filter {evs : List OaEv} (h : evs.filter OaEv.isError = []) :
    ∀ ev ∈ evs, ev.isError = false :=
  fun ev hev => Bool.eq_false_iff.mpr (List.filter_eq_nil_iff.mp h ev hev)

theorem oaChatStreamFixed_run (usage : Bool) (pre : List ChatMsg) (m : Bytes) (hm : m.isEmpty = false) (sent : Bool) :
    oaChatStreamFixed usage (pre.map Item.msg ++ [Item.err m]) sent
      = oaChatStream usage (pre.map Item.msg) sent ++ [OaEv.error m] := by
  induction pre generalizing sent with
  | nil => simp [oaChatStreamFixed, oaChatStream, hm]
  | cons x xs ih =>
    simp only [List.map_cons, List.cons_append, oaChatStreamFixed, ih]
    rw [oaChatStream_single_append usage x (xs.map Item.msg) sent, List.append_assoc]

theorem oaCmplStreamFixed_run (usage : Bool) (pre : List GenMsg) (m : Bytes) (hm : m.isEmpty = false) :
    oaCmplStreamFixed usage (pre.map Item.msg ++ [Item.err m])
      = oaCmplStream usage (pre.map Item.msg) ++ [OaEv.error m] := by
  induction pre with
  | nil => simp [oaCmplStreamFixed, oaCmplStream, hm]
  | cons x xs ih =>
    simp only [List.map_cons, List.cons_append, oaCmplStreamFixed, ih]
    simp [oaCmplStream, asGen]

theorem client_view_msgs {α : Type} [Inhabited α] (ms : List α) : clientView (ms.map Item.msg) = (ms, none) := by
  induction ms with
  | nil => rfl
  | cons m ms ih => simp [clientView, ih]

/-- messages up to the first (non-empty) error line are delivered to the callback, that error is
    returned, nothing after it is looked at -/
theorem client_view_err {α : Type} [Inhabited α] (ms : List α) (m : Bytes) (rest : List (Item α)) (hm : m.isEmpty = false) :
    clientView (ms.map Item.msg ++ Item.err m :: rest) = (ms, some m) := by
  induction ms with
  | nil => simp [clientView, hm]
  | cons x xs ih => simp [clientView, ih]

theorem chatOnceH_eq_base (v : Variant) (f : Fault) (parse : Bytes → List Call) (tools hist : Bool) (cs : List Chunk)
    (e : End) (hp : f.chatPre hist = none)
    (hend : (endItemsV v.incomplete cs e : List (Item ChatMsg)) = endItems e) :
    chatOnceH v f parse tools hist cs e = chatOnceV v.toolsIndex parse tools cs e := by
  simp only [chatOnceH, hp, chatItemsH, Bool.and_false, Bool.false_eq_true, ↓reduceIte, hend]
  unfold chatOnceV chatOnce chatChan
  rw [onceLoop_chan, chatCallback_unbuffered]
  cases e with
  | err m => rfl
  | ok =>
    have hcalls : (lastOr (default : ChatMsg) (cs.map chatMsgOf)).calls = [] :=
      lastOr_calls_nil _ fun m hm => by obtain ⟨c, _, rfl⟩ := List.mem_map.mp hm; rfl
    simp only
    by_cases hc : (tools && !(parse (List.map (fun x : ChatMsg => x.content) (List.map chatMsgOf cs)).flatten).isEmpty) = true
    · simp only [hc, ↓reduceIte]
      cases v.toolsIndex <;> rfl
    · simp only [hc, Bool.false_eq_true, ↓reduceIte]
      cases v.toolsIndex
      · rfl
      · simp [hcalls, setIdx]

theorem chatOnceV_tools_snoc (parse : Bytes → List Call) (init : List Chunk) (l : Chunk) :
    chatOnceV true parse true (init ++ [l]) .ok =
      .ok { content := if (parse (texts (init ++ [l]))).isEmpty then texts (init ++ [l]) else [],
            calls := setIdx 0 (parse (texts (init ++ [l]))), info := chunkInfo l } := by
  unfold chatOnceV
  rw [chatOnce_ok_snoc]
  cases parse (texts (init ++ [l])) <;> rfl

theorem chatOnceH_tools_snoc (v : Variant) (hi : v.toolsIndex = true) (parse : Bytes → List Call) (hist : Bool)
    (init : List Chunk) (l : Chunk) (hl : l.done = true) :
    chatOnceH v .none parse true hist (init ++ [l]) .ok =
      .ok { content := if (parse (texts (init ++ [l]))).isEmpty then texts (init ++ [l]) else [],
            calls := setIdx 0 (parse (texts (init ++ [l]))), info := chunkInfo l } := by
  rw [chatOnceH_eq_base v .none parse true hist _ _ rfl (by simp [endItemsV, endItems, sawDone_snoc init l hl]), hi,
    chatOnceV_tools_snoc]

theorem oaChatOnce_tools (v : Variant) (hi : v.toolsIndex = true) (parse : Bytes → List Call) (hist : Bool)
    (init : List Chunk) (l : Chunk) (hl : l.done = true) (hr : (reasonStr l.reason).isEmpty = false) :
    ∃ o, chatOnceH v .none parse true hist (init ++ [l]) .ok = .ok o
      ∧ oaChatOnce (.ok o) = .chat o.info.named o.content o.calls
          (if (parse (texts (init ++ [l]))).isEmpty then some (reasonStr l.reason) else some sToolCalls)
          (usageOf o.info) := by
  refine ⟨_, chatOnceH_tools_snoc v hi parse hist init l hl, ?_⟩
  cases parse (texts (init ++ [l])) with
  | nil => simp [oaChatOnce, chunkInfo, hl, nonEmpty?, hr, setIdx]
  | cons _ _ => simp [oaChatOnce, setIdx, nonEmpty?, sToolCalls]

theorem generateStreamH_all {P : List (Item GenMsg) → Prop} (v : Variant) (f : Fault) (raw hasCtx : Bool) (pl : Nat)
    (cs : List Chunk) (e : End) (h : P (genItemsH v f raw pl cs e)) :
    match generateStreamH v f raw hasCtx pl cs e with
    | .error _ => True
    | .ok items => P items := by
  unfold generateStreamH
  cases f.genPre hasCtx with
  | some m => trivial
  | none => exact h

theorem chatStreamH_all {P : List (Item ChatMsg) → Prop} (v : Variant) (f : Fault) (parse : Bytes → List Call)
    (tools hist : Bool) (cs : List Chunk) (e : End) (h : P (chatItemsH v parse tools cs e)) :
    match chatStreamH v f parse tools hist cs e with
    | .error _ => True
    | .ok items => P items := by
  unfold chatStreamH
  cases f.chatPre hist with
  | some m => trivial
  | none => exact h

end OllamaVerif.C17
