/-
  C19: lemmas about chatPrompt and the bytes of Model/Prompt.lean, in the order of the model: the loops' specifications
  (`scan_diag` and `scan_failure` for the backward loop, `rewriteAll_spec`), bytes ↔ pieces, the runner's regexp
  (`Tagged`), the candidates of the backward loop, what a successful call means (`OkSpec`), the handler's conversation
  and the OpenAI entry, the F5 sanitiser.  The template layer is in Proofs/PromptRender.lean.  Core Lean only.
-/
import OllamaVerif.Model.Prompt

namespace OllamaVerif.Prompt


/-! ### the backward loop -/

/-- specification of the cut: starting from the latest message (`k = L-1`), extend the run by one
    older message as long as the extended run fits -/
def specCut (fitsAt : Nat → Bool) : Nat → Nat
  | 0 => 0
  | k+1 => if fitsAt k then specCut fitsAt k else k+1

theorem specCut_spec (f : Nat → Bool) : ∀ k, specCut f k ≤ k ∧ (∀ j, specCut f k ≤ j → j < k → f j = true) ∧
    (specCut f k = 0 ∨ f (specCut f k - 1) = false)
  | 0 => ⟨Nat.le_refl _, fun _ _ h => absurd h (Nat.not_lt_zero _), Or.inl rfl⟩
  | k+1 => by
    obtain ⟨h1, h2, h3⟩ := specCut_spec f k
    simp only [specCut]
    split
    · rename_i hk
      refine ⟨Nat.le_succ_of_le h1, fun j hj hjk => ?_, h3⟩
      rcases Nat.lt_succ_iff_lt_or_eq.mp hjk with h | h
      · exact h2 j hj h
      · exact h ▸ hk
    · rename_i hk
      exact ⟨Nat.le_refl _, fun j hj hjk => absurd hjk (Nat.not_lt.mpr hj), Or.inr (by simpa using hk)⟩

section
variable (cfg : Cfg) (cost : Nat → Nat) (bad : Nat → Bool) (msgs : List Msg)

/-- the loop from the state it is in after the first (`continue`) iteration and after every successful one:
    next index to visit `k-1`, and `n = k`.  The surviving `system` slice is that of iteration `n' - 1`; for
    `n' = 0` this is iteration 0 (the subtraction is truncated), whose slice is empty. -/
theorem scan_diag : ∀ (k : Nat) (s : Option Nat) (q n' : Nat) (s' : Option Nat) (q' : Nat),
      scan cfg cost bad msgs k k s q = .done n' s' q' →
      n' = specCut (fits cfg cost msgs) k ∧
      (0 < k → s' = some (n' - 1)) ∧ (k = 0 → s' = s) ∧
      q' = q + (k - n') + (if n' = 0 then 0 else 1) := by
  intro k
  induction k with
  | zero =>
    intro s q n' s' q' h
    cases h
    exact ⟨rfl, fun h => absurd h (Nat.lt_irrefl _), fun _ => rfl, rfl⟩
  | succ k ih =>
    intro s q n' s' q' h
    simp only [scan, Nat.ne_of_lt (Nat.lt_succ_self k), if_false] at h
    split at h
    · cases h
    split at h
    · cases h
    split at h
    · rename_i hfit
      obtain ⟨h1, h4, h5, h6⟩ := ih (some k) (q+1) n' s' q' h
      have hle : n' ≤ k := h1 ▸ (specCut_spec _ k).1
      refine ⟨by rw [specCut, if_pos hfit]; exact h1, fun _ => ?_, fun hk => by omega, by omega⟩
      by_cases hk : k = 0
      · rw [h5 hk, hk, show n' = 0 by omega]
      · exact h4 (by omega)
    · rename_i hfit
      cases h
      exact ⟨by rw [specCut, if_neg hfit], fun _ => rfl, fun hk => by omega, by simp⟩

/-- the loop as chatPrompt starts it on a non-empty conversation of length `k+1` -/
theorem scan_start (k n' : Nat) (s' : Option Nat) (q' : Nat)
    (h : scan cfg cost bad msgs (k+1) k none 0 = .done n' s' q') :
    scan cfg cost bad msgs k k none 0 = .done n' s' q' := by
  unfold scan at h
  split at h
  · cases h
  · rw [if_pos rfl] at h
    exact h

/-- what a result other than `done` of the first `k` iterations proves -/
def ScanCause (k : Nat) : Scan → Prop
  | .err => cfg.mllama = true ∧ ∃ i, i < k ∧ 1 < (imagesAt msgs i).length
  | .fail i => bad i = true ∧ i < k
  | .done _ _ _ => True

theorem ScanCause.succ {k : Nat} : ∀ {r : Scan}, ScanCause cfg bad msgs k r → ScanCause cfg bad msgs (k+1) r
  | .err, ⟨a, i, hi, hb⟩ => ⟨a, i, Nat.lt_succ_of_lt hi, hb⟩
  | .fail _, ⟨a, b⟩ => ⟨a, Nat.lt_succ_of_lt b⟩
  | .done _ _ _, _ => trivial

theorem scan_failure : ∀ (k n : Nat) (s : Option Nat) (q : Nat),
    ScanCause cfg bad msgs k (scan cfg cost bad msgs k n s q)
  | 0, _, _, _ => trivial
  | k+1, n, s, q => by
    unfold scan
    split
    · rename_i hc
      simp only [Bool.and_eq_true, decide_eq_true_eq] at hc
      exact ⟨hc.1, k, Nat.lt_succ_self k, hc.2⟩
    split
    · exact (scan_failure k _ _ _).succ
    split
    · rename_i hb
      exact ⟨hb, Nat.lt_succ_self k⟩
    split
    · exact (scan_failure k _ _ _).succ
    · trivial
end

/-! ### the rewriting loops -/

def countTag (k : Nat) (c : List Piece) : Nat := c.countP (fun p => p == Piece.tag k)

/-- the literal text: placeholders, tags and the mllama marker removed -/
def strip (c : List Piece) : List Piece :=
  c.filter (fun p => match p with | .lit _ => true | _ => false)

@[simp] theorem countTag_append (k : Nat) (a b : List Piece) :
    countTag k (a ++ b) = countTag k a + countTag k b := by
  simp [countTag, List.countP_append]

theorem countTag_cons (k : Nat) (p : Piece) (c : List Piece) :
    countTag k (p :: c) = countTag k c + (if p = Piece.tag k then 1 else 0) := by
  simp only [countTag, List.countP_cons, beq_iff_eq]

theorem countTag_fillSlot (k t : Nat) : ∀ (c : List Piece), hasSlot c = true →
    countTag k (fillSlot t c) = countTag k c + (if k = t then 1 else 0)
  | [], h => by cases h
  | p :: r, h => by
    cases p with
    | slot =>
      simp only [fillSlot, countTag_cons, Piece.tag.injEq, reduceCtorEq, if_false, Nat.add_zero, eq_comm]
    | lit b => simp only [fillSlot, countTag_cons, countTag_fillSlot k t r h, reduceCtorEq, if_false, Nat.add_zero]
    | tag j => simp only [fillSlot, countTag_cons, countTag_fillSlot k t r h]; omega
    | mm => simp only [fillSlot, countTag_cons, countTag_fillSlot k t r h, reduceCtorEq, if_false, Nat.add_zero]

theorem strip_fillSlot (t : Nat) : ∀ (c : List Piece), strip (fillSlot t c) = strip c
  | [] => rfl
  | .slot :: _ => rfl
  | .lit b :: r => congrArg (Piece.lit b :: ·) (strip_fillSlot t r)
  | .tag _ :: r => strip_fillSlot t r
  | .mm :: r => strip_fillSlot t r

@[simp] theorem strip_append (a b : List Piece) : strip (a ++ b) = strip a ++ strip b := by
  simp [strip]

@[simp] theorem countTag_mm (k : Nat) (b : Bool) :
    countTag k (if b then [Piece.mm] else []) = 0 := by
  cases b <;> rfl

@[simp] theorem strip_mm (b : Bool) : strip (if b then [Piece.mm] else []) = [] := by
  cases b <;> rfl


/-- specification of the returned image list: the images of the retained messages, numbered from `k`,
    preprocessed iff the model is an mllama model with a projector -/
def specImagesFrom (cfg : Cfg) : Nat → List Img → List ImgOut
  | _, [] => []
  | k, im :: ims => ⟨k, im.src, cfg.mllama && decide (2 ≤ cfg.proj)⟩ :: specImagesFrom cfg (k+1) ims

theorem specImagesFrom_append (cfg : Cfg) : ∀ (a b : List Img) (k : Nat),
    specImagesFrom cfg k (a ++ b) = specImagesFrom cfg k a ++ specImagesFrom cfg (k + a.length) b
  | [], b, k => rfl
  | x :: a, b, k => by
    simp only [List.cons_append, specImagesFrom, specImagesFrom_append cfg a b (k+1), List.length_cons]
    rw [Nat.add_assoc, Nat.add_comm 1]

theorem specImagesFrom_length (cfg : Cfg) : ∀ (ims : List Img) (k : Nat), (specImagesFrom cfg k ims).length = ims.length
  | [], _ => rfl
  | _ :: ims, k => congrArg (· + 1) (specImagesFrom_length cfg ims (k+1))

theorem specImagesFrom_src (cfg : Cfg) : ∀ (ims : List Img) (k : Nat),
    (specImagesFrom cfg k ims).map (·.src) = ims.map (·.src)
  | [], _ => rfl
  | im :: ims, k => congrArg (im.src :: ·) (specImagesFrom_src cfg ims (k+1))

theorem specImagesFrom_id (cfg : Cfg) : ∀ (ims : List Img) (k j : Nat) (hj : j < (specImagesFrom cfg k ims).length),
    ((specImagesFrom cfg k ims)[j]).id = k + j
  | _ :: _, _, 0, _ => rfl
  | _ :: ims, k, j+1, hj => by
    simp only [specImagesFrom, List.getElem_cons_succ]
    rw [specImagesFrom_id cfg ims (k+1) j (Nat.lt_of_succ_lt_succ hj)]
    omega

def imgOk (cfg : Cfg) (im : Img) : Prop := cfg.mllama = false ∨ cfg.proj < 2 ∨ im.ok = true

instance (cfg : Cfg) (im : Img) : Decidable (imgOk cfg im) := inferInstanceAs (Decidable (_ ∨ _ ∨ _))

theorem imgData_eq (cfg : Cfg) (id : Nat) (im : Img) (mm : Bool) :
    imgData cfg id im mm =
      if imgOk cfg im then .ok (⟨id, im.src, cfg.mllama && decide (2 ≤ cfg.proj)⟩, cfg.mllama || mm)
      else .error .preprocess := by
  obtain ⟨_, ml, pj, _⟩ := cfg
  obtain ⟨_, ok⟩ := im
  by_cases hp : pj < 2 <;> cases ml <;> cases ok <;> simp [imgData, imgOk, hp] <;> omega

/-- the last conjunct: `pre` (empty at the start) never holds anything but tags -/
theorem stepImg_spec (cfg : Cfg) (st st' : RW) (im : Img) (h : stepImg cfg st im = .ok st') :
    st'.acc = st.acc ++ specImagesFrom cfg st.acc.length [im] ∧
    (∀ k, countTag k (st'.pre ++ st'.body) =
      countTag k (st.pre ++ st.body) + (if k = st.acc.length then 1 else 0)) ∧
    strip st'.body = strip st.body ∧ (strip st.pre = [] → strip st'.pre = []) := by
  unfold stepImg at h
  rw [imgData_eq] at h
  split at h
  · cases h
  · rename_i o mm hr
    split at hr
    · cases hr
      split at h
      · rename_i hs
        cases h
        refine ⟨rfl, fun k => ?_, strip_fillSlot _ _, id⟩
        simp only [countTag_append, countTag_fillSlot k _ _ hs, Nat.add_assoc]
      · cases h
        refine ⟨rfl, fun k => ?_, rfl, fun hp => ?_⟩
        · simp only [countTag_append, countTag_cons, Piece.tag.injEq, eq_comm (a := st.acc.length)]
          show _ + (0 + _) + _ = _
          omega
        · rw [strip_append, hp]; rfl
    · cases hr

theorem foldImgs_spec (cfg : Cfg) : ∀ (ims : List Img) (st st' : RW), foldImgs cfg ims st = .ok st' →
    st'.acc = st.acc ++ specImagesFrom cfg st.acc.length ims ∧
    (∀ k, countTag k (st'.pre ++ st'.body) = countTag k (st.pre ++ st.body) +
        (if st.acc.length ≤ k ∧ k < st.acc.length + ims.length then 1 else 0)) ∧
    strip st'.body = strip st.body ∧ (strip st.pre = [] → strip st'.pre = [])
  | [], st, st', h => by
    cases h
    exact ⟨(List.append_nil _).symm, fun k => by rw [if_neg (by simp)]; rfl, rfl, id⟩
  | im :: ims, st, st', h => by
    simp only [foldImgs] at h
    split at h
    · cases h
    · rename_i st1 h1
      obtain ⟨a1, c1, b1, p1⟩ := stepImg_spec cfg st st1 im h1
      obtain ⟨a2, c2, b2, p2⟩ := foldImgs_spec cfg ims st1 st' h
      have hlen : st1.acc.length = st.acc.length + 1 := by rw [a1]; simp [specImagesFrom]
      refine ⟨?_, fun k => ?_, b2.trans b1, fun hp => p2 (p1 hp)⟩
      · rw [a2, hlen, a1, List.append_assoc]; rfl
      · rw [c2 k, c1 k, hlen, List.length_cons]
        split <;> split <;> split <;> omega

structure SameMsg (m m' : Msg) : Prop where
  role : m'.role = m.role
  images : m'.images = m.images
  text : strip m'.content = strip m.content

theorem rewriteMsg_spec (cfg : Cfg) (m m' : Msg) (acc acc' : List ImgOut)
    (h : rewriteMsg cfg m acc = .ok (m', acc')) :
    SameMsg m m' ∧ acc' = acc ++ specImagesFrom cfg acc.length m.images ∧
    ∀ k, countTag k m'.content = countTag k m.content +
        (if acc.length ≤ k ∧ k < acc.length + m.images.length then 1 else 0) := by
  unfold rewriteMsg at h
  split at h
  · cases h
  · rename_i st hst
    cases h
    obtain ⟨a, c, b, p⟩ := foldImgs_spec cfg m.images _ st hst
    refine ⟨⟨rfl, rfl, ?_⟩, a, fun k => ?_⟩
    · simp only [assemble, strip_append, p rfl, strip_mm, b, List.nil_append]
    · have := c k
      simp only [countTag_append, List.nil_append] at this
      simp only [assemble, countTag_append, countTag_mm]
      show countTag k st.pre + 0 + countTag k st.body = _
      omega

/-- pointwise correspondence of two message lists (core has no `Forall₂`) -/
inductive AllSame : List Msg → List Msg → Prop
  | nil : AllSame [] []
  | cons {m m' ms ms'} : SameMsg m m' → AllSame ms ms' → AllSame (m :: ms) (m' :: ms')

/-- every message's NEW tags are exactly the indices of its own images: `b` is the number of
    images returned before this message -/
inductive Owned : Nat → List Msg → List Msg → Prop
  | nil {b} : Owned b [] []
  | cons {b m m' ms ms'} :
      (∀ k, countTag k m'.content = countTag k m.content +
        (if b ≤ k ∧ k < b + m.images.length then 1 else 0)) →
      Owned (b + m.images.length) ms ms' → Owned b (m :: ms) (m' :: ms')

theorem range_ind_add (a b c k : Nat) (hab : a ≤ b) (hbc : b ≤ c) :
    (if a ≤ k ∧ k < b then 1 else 0) + (if b ≤ k ∧ k < c then 1 else 0) = if a ≤ k ∧ k < c then 1 else 0 := by
  split <;> split <;> split <;> omega

theorem Owned.count {b : Nat} {ms ms' : List Msg} (h : Owned b ms ms') (k : Nat) :
    countTag k (ms'.flatMap (·.content)) = countTag k (ms.flatMap (·.content)) +
      (if b ≤ k ∧ k < b + (ms.flatMap (·.images)).length then 1 else 0) := by
  induction h with
  | nil => rw [if_neg (by simp)]; rfl
  | @cons b m m' ms ms' hm _ ih =>
    simp only [List.flatMap_cons, countTag_append, List.length_append, hm k, ih]
    rw [← Nat.add_assoc b, ← range_ind_add b (b + m.images.length) _ k (Nat.le_add_right _ _) (Nat.le_add_right _ _)]
    omega

theorem rewriteAll_spec (cfg : Cfg) : ∀ (ms ms' : List Msg) (acc acc' : List ImgOut),
    rewriteAll cfg ms acc = .ok (ms', acc') →
    AllSame ms ms' ∧ Owned acc.length ms ms' ∧
    acc' = acc ++ specImagesFrom cfg acc.length (ms.flatMap (·.images))
  | [], ms', acc, acc', h => by
    cases h
    exact ⟨.nil, .nil, (List.append_nil _).symm⟩
  | m :: ms, ms', acc, acc', h => by
    simp only [rewriteAll] at h
    split at h
    · cases h
    · rename_i m1 acc1 h1
      split at h
      · cases h
      · rename_i ms1 acc2 h2
        cases h
        obtain ⟨s1, a1, c1⟩ := rewriteMsg_spec cfg m m1 acc acc1 h1
        obtain ⟨s2, o2, a2⟩ := rewriteAll_spec cfg ms ms1 acc1 _ h2
        have hlen : acc1.length = acc.length + m.images.length := by
          rw [a1, List.length_append, specImagesFrom_length]
        rw [hlen] at o2 a2
        exact ⟨.cons s1 s2, .cons c1 o2, by rw [a2, a1, List.flatMap_cons, specImagesFrom_append, List.append_assoc]⟩

theorem rewriteAll_noimg (cfg : Cfg) : ∀ (ms : List Msg) (acc : List ImgOut),
    (∀ m ∈ ms, m.images = []) → rewriteAll cfg ms acc = .ok (ms, acc)
  | [], _, _ => rfl
  | m :: ms, acc, h => by
    have hm : rewriteMsg cfg m acc = .ok (m, acc) := by
      obtain ⟨r, c, i⟩ := m
      cases (h _ List.mem_cons_self : i = [])
      rfl
    simp only [rewriteAll, hm, rewriteAll_noimg cfg ms acc (fun x hx => h x (List.mem_cons_of_mem _ hx))]


theorem foldImgs_total (cfg : Cfg) : ∀ (ims : List Img) (st : RW), (∀ im ∈ ims, imgOk cfg im) →
    ∃ st', foldImgs cfg ims st = .ok st'
  | [], st, _ => ⟨st, rfl⟩
  | im :: ims, st, h => by
    have h1 : ∃ st1, stepImg cfg st im = .ok st1 := by
      simp only [stepImg, imgData_eq, if_pos (h im List.mem_cons_self)]
      split <;> exact ⟨_, rfl⟩
    obtain ⟨st1, h1⟩ := h1
    obtain ⟨st2, h2⟩ := foldImgs_total cfg ims st1 (fun x hx => h x (List.mem_cons_of_mem _ hx))
    exact ⟨st2, by simp only [foldImgs, h1, h2]⟩

theorem rewriteAll_total (cfg : Cfg) : ∀ (ms : List Msg) (acc : List ImgOut),
    (∀ m ∈ ms, ∀ im ∈ m.images, imgOk cfg im) → ∃ r, rewriteAll cfg ms acc = .ok r
  | [], _, _ => ⟨_, rfl⟩
  | m :: ms, acc, h => by
    obtain ⟨st, hst⟩ := foldImgs_total cfg m.images ⟨[], false, m.content, acc⟩ (h m List.mem_cons_self)
    obtain ⟨⟨ms', acc'⟩, h2⟩ := rewriteAll_total cfg ms st.acc (fun x hx => h x (List.mem_cons_of_mem _ hx))
    exact ⟨({ m with content := assemble st } :: ms', acc'), by simp only [rewriteAll, rewriteMsg, hst, h2]⟩


/-! ### bytes ↔ pieces -/


theorem renderPieces_flushLit (acc : Bytes) : renderPieces (flushLit acc) = acc.reverse := by
  unfold flushLit
  cases acc <;> simp [renderPieces, renderPiece]

theorem splitGo_render : ∀ (bs : Bytes) (skip : Nat) (acc : Bytes),
    renderPieces (splitGo bs skip acc) = acc.reverse ++ bs.drop skip := by
  intro bs
  induction bs with
  | nil => intro skip acc; simp [splitGo, renderPieces_flushLit]
  | cons b bs ih =>
    intro skip acc
    cases skip with
    | succ k => simp [splitGo, ih]
    | zero =>
      simp only [splitGo]
      split
      · rename_i hp
        obtain ⟨t, ht⟩ := List.isPrefixOf_iff_prefix.mp hp
        have hb : b = 91 ∧ bs = [105, 109, 103, 93] ++ t := by
          simp only [bImg, List.cons_append, List.nil_append] at ht
          injection ht with h1 h2
          exact ⟨h1.symm, by simpa using h2.symm⟩
        have := ih 4 []
        simp only [renderPieces, List.flatMap_append, List.flatMap_cons] at this ⊢
        rw [this]
        have h2 := renderPieces_flushLit acc
        simp only [renderPieces] at h2
        rw [h2, hb.1, hb.2]
        simp [renderPiece, bImg]
      · rw [ih 0 (b :: acc)]
        simp

/-- the piece representation loses nothing: rendering the parsed content gives the bytes back -/
theorem splitImg_render (s : Bytes) : renderPieces (splitImg s) = s := by
  simp [splitImg, splitGo_render]


theorem countTag_flushLit (k : Nat) (acc : Bytes) : countTag k (flushLit acc) = 0 := by
  unfold flushLit
  cases acc <;> simp [countTag]

theorem splitGo_noTag (k : Nat) : ∀ (bs : Bytes) (skip : Nat) (acc : Bytes),
    countTag k (splitGo bs skip acc) = 0 := by
  intro bs
  induction bs with
  | nil => intro skip acc; simp [splitGo, countTag_flushLit]
  | cons b bs ih =>
    intro skip acc
    cases skip with
    | succ j => simp [splitGo, ih]
    | zero =>
      simp only [splitGo]
      split
      · have := ih 4 []
        simp only [countTag_append, countTag_flushLit, Nat.zero_add]
        simp only [countTag, List.countP_cons] at this ⊢
        simpa using this
      · exact ih 0 (b :: acc)

/-- parsed raw content never contains a tag piece: the hypothesis of `images_once_indexed` holds
    for every conversation the oracle parses -/
theorem splitImg_noTag (k : Nat) (s : Bytes) : countTag k (splitImg s) = 0 :=
  splitGo_noTag k s 0 []


/-! ### the runner's tag resolution -/

theorem resolveTag_of_ids (imgs : List ImgOut) (h : ∀ k (hk : k < imgs.length), (imgs[k]).id = k) (k : Nat)
    (hk : k < imgs.length) : resolveTag imgs k = some imgs[k] :=
  List.find?_eq_some_iff_getElem.mpr ⟨decide_eq_true (h k hk), k, hk, rfl, fun j hj => by
    rw [Bool.not_eq_true', decide_eq_false_iff_not, h j (Nat.lt_trans hj hk)]
    exact Nat.ne_of_lt hj⟩

theorem count_tagsOf (k : Nat) : ∀ c : List Piece, (tagsOf c).count k = countTag k c
  | [] => rfl
  | .tag j :: c => by
    rw [countTag_cons, ← count_tagsOf k c]
    simp only [tagsOf, List.filterMap_cons, List.count_cons, beq_iff_eq, Piece.tag.injEq]
  | .lit _ :: c => (count_tagsOf k c).trans (by rw [countTag_cons, if_neg Piece.noConfusion]; rfl)
  | .slot :: c => (count_tagsOf k c).trans (by rw [countTag_cons, if_neg Piece.noConfusion]; rfl)
  | .mm :: c => (count_tagsOf k c).trans (by rw [countTag_cons, if_neg Piece.noConfusion]; rfl)

theorem tagsOf_nil : tagsOf ([] : List Piece) = [] := rfl

theorem resolveTags_all (imgs : List ImgOut) : ∀ (tags : List Nat),
    (∀ k ∈ tags, ∃ o, resolveTag imgs k = some o) → ∃ l, resolveTags imgs tags = some l ∧ l.length = tags.length := by
  intro tags
  induction tags with
  | nil => intro _; exact ⟨[], rfl, rfl⟩
  | cons k ks ih =>
    intro h
    obtain ⟨o, ho⟩ := h k (by simp)
    obtain ⟨l, hl, hlen⟩ := ih (fun j hj => h j (by simp [hj]))
    exact ⟨o :: l, by simp [resolveTags, ho, hl], by simp [hlen]⟩

theorem resolves_of_count {imgs : List ImgOut} {tags : List Nat} (hid : ∀ k (hk : k < imgs.length), (imgs[k]).id = k)
    (hcnt : ∀ k, tags.count k = if k < imgs.length then 1 else 0) :
    (∀ k ∈ tags, ∃ hk : k < imgs.length, resolveTag imgs k = some imgs[k]) ∧
    ∃ l, resolveTags imgs tags = some l ∧ l.length = tags.length := by
  have key : ∀ k ∈ tags, ∃ hk : k < imgs.length, resolveTag imgs k = some imgs[k] := by
    intro k hk
    have hpos : 0 < tags.count k := List.count_pos_iff.mpr hk
    rw [hcnt k] at hpos
    have hlt : k < imgs.length := by
      by_cases hlt : k < imgs.length
      · exact hlt
      · rw [if_neg hlt] at hpos; cases hpos
    exact ⟨hlt, resolveTag_of_ids imgs hid k hlt⟩
  exact ⟨key, resolveTags_all imgs _ (fun k hk => ⟨_, (key k hk).2⟩)⟩


/-! ### the runner's scan of the rendered bytes finds exactly the tag pieces -/

theorem digitsVal_snoc (a : Bytes) (d : UInt8) : digitsVal (a ++ [d]) = 10 * digitsVal a + (d.toNat - 48) := by
  simp [digitsVal, List.foldl_append]

theorem isDigit_of (k : Nat) (h : k < 10) : isDigit (digitByte k) = true ∧ (digitByte k).toNat - 48 = k :=
  (by decide : ∀ k : Fin 10, isDigit (digitByte k) = true ∧ (digitByte k).toNat - 48 = k) ⟨k, h⟩

theorem decDigits_spec : ∀ (fuel n : Nat), n < fuel →
    (decDigits fuel n).all isDigit = true ∧ digitsVal (decDigits fuel n) = n ∧ decDigits fuel n ≠ [] := by
  intro fuel
  induction fuel with
  | zero => intro n h; omega
  | succ fuel ih =>
    intro n h
    unfold decDigits
    split
    · rename_i hn
      obtain ⟨h1, h2⟩ := isDigit_of n hn
      refine ⟨by rw [List.all_cons, h1]; rfl, ?_, by simp⟩
      show 10 * 0 + ((digitByte n).toNat - 48) = n
      omega
    · rename_i hn
      obtain ⟨a, b, c⟩ := ih (n / 10) (by omega)
      obtain ⟨h1, h2⟩ := isDigit_of (n % 10) (by omega)
      refine ⟨by rw [List.all_append, a, List.all_cons, h1]; rfl, ?_, by simp⟩
      rw [digitsVal_snoc, b, h2]
      omega

theorem takeWhile_digits (ds rest : Bytes) (h : ds.all isDigit = true) :
    (ds ++ 93 :: rest).takeWhile isDigit = ds ∧ (ds ++ 93 :: rest).drop ds.length = 93 :: rest := by
  induction ds with
  | nil => simp [isDigit]
  | cons d ds ih =>
    simp only [List.all_cons, Bool.and_eq_true] at h
    obtain ⟨i1, i2⟩ := ih h.2
    simp [h.1, i1]

theorem scanTags_skip : ∀ (a rest : Bytes), scanTags (a ++ rest) a.length = scanTags rest 0 := by
  intro a
  induction a with
  | nil => intro rest; rfl
  | cons x a ih => intro rest; simp only [List.cons_append, List.length_cons, scanTags]; exact ih rest

theorem matchTag_tag (ds rest : Bytes) (h : ds.all isDigit = true) (hne : ds ≠ []) :
    matchTag (bImgDash ++ ds ++ [93] ++ rest) = some (digitsVal ds, 5 + ds.length + 1) := by
  obtain ⟨t1, t2⟩ := takeWhile_digits ds rest h
  have e : bImgDash ++ ds ++ [93] ++ rest = 91 :: 105 :: 109 :: 103 :: 45 :: (ds ++ 93 :: rest) := by
    simp [bImgDash]
  rw [e]
  have hp : bImgDash.isPrefixOf (91 :: 105 :: 109 :: 103 :: 45 :: (ds ++ 93 :: rest)) = true := by
    simp [bImgDash, List.isPrefixOf]
  unfold matchTag
  simp only [hp, if_true]
  have hd : (91 :: 105 :: 109 :: 103 :: 45 :: (ds ++ 93 :: rest)).drop 5 = ds ++ 93 :: rest := rfl
  rw [hd, t1]
  have : ds.isEmpty = false := by cases ds <;> simp_all
  simp only [this, Bool.false_eq_true, if_false, t2]

theorem scanTags_tag (ds rest : Bytes) (h : ds.all isDigit = true) (hne : ds ≠ []) :
    scanTags (bImgDash ++ ds ++ [93] ++ rest) 0 = digitsVal ds :: scanTags rest 0 := by
  have hm := matchTag_tag ds rest h hne
  have e : bImgDash ++ ds ++ [93] ++ rest = 91 :: ((105 :: 109 :: 103 :: 45 :: (ds ++ [93])) ++ rest) := by
    simp [bImgDash]
  rw [e] at hm ⊢
  simp only [scanTags, hm]
  have hl : 5 + ds.length + 1 - 1 = (105 :: 109 :: 103 :: 45 :: (ds ++ [93])).length := by
    simp; omega
  rw [hl, scanTags_skip]

theorem matchTag_none (s : Bytes) (h : bImgDash.isPrefixOf s = false) : matchTag s = none := by
  rw [matchTag, h]
  rfl

/-- text in which no `[` starts (a prefix of) `[img-`: it contains no `[img-`, and does not end in the
    middle of one — the recorded assumption on user text, made precise -/
def safeText : Bytes → Bool
  | [] => true
  | x :: s => (x != 91 || !((x :: s).take 5).isPrefixOf bImgDash) && safeText s

theorem isPrefixOf_append_take (p t rest : Bytes) (h : p.isPrefixOf (t ++ rest) = true) :
    (t.take p.length).isPrefixOf p = true := by
  induction p generalizing t with
  | nil => simp
  | cons a p ih =>
    cases t with
    | nil => simp
    | cons b t =>
      simp only [List.cons_append, List.isPrefixOf, Bool.and_eq_true, beq_iff_eq] at h
      simp only [List.length_cons, List.take_succ_cons, List.isPrefixOf, Bool.and_eq_true, beq_iff_eq]
      exact ⟨h.1.symm, ih t h.2⟩

theorem scanTags_safe : ∀ (b rest : Bytes), safeText b = true → scanTags (b ++ rest) 0 = scanTags rest 0
  | [], _, _ => rfl
  | x :: b, rest, h => by
    simp only [safeText, Bool.and_eq_true, Bool.or_eq_true, bne_iff_ne, ne_eq, Bool.not_eq_true'] at h
    have hm : matchTag (x :: (b ++ rest)) = none := matchTag_none _ (by
      cases hq : bImgDash.isPrefixOf (x :: (b ++ rest)) with
      | false => rfl
      | true =>
        have ht := isPrefixOf_append_take bImgDash (x :: b) rest hq
        rcases h.1 with hx | hp
        · simp only [bImgDash, List.isPrefixOf, Bool.and_eq_true, beq_iff_eq] at hq
          exact absurd hq.1.symm hx
        · rw [show bImgDash.length = 5 from rfl, hp] at ht
          cases ht)
    simp only [List.cons_append, scanTags, hm]
    exact scanTags_safe b rest h.2

def cleanPieces (c : List Piece) : Bool :=
  c.all (fun p => match p with | .lit b => safeText b | _ => true)

theorem cleanPieces_strip (c : List Piece) : cleanPieces c = cleanPieces (strip c) := by
  simp only [cleanPieces, strip, List.all_filter]
  congr 1
  funext p
  cases p <;> rfl

theorem SameMsg.clean {m m' : Msg} (h : SameMsg m m') : cleanPieces m'.content = cleanPieces m.content := by
  rw [cleanPieces_strip, h.text, ← cleanPieces_strip]

theorem natBytes_spec (k : Nat) :
    (natBytes k).all isDigit = true ∧ digitsVal (natBytes k) = k ∧ natBytes k ≠ [] :=
  decDigits_spec (k+1) k (by omega)


/-- the scan of `b` yields `ks` whatever follows `b`: in this form scans of concatenations concatenate -/
def Tagged (ks : List Nat) (b : Bytes) : Prop := ∀ rest, scanTags (b ++ rest) 0 = ks ++ scanTags rest 0

theorem Tagged.append {ks ks' : List Nat} {a b : Bytes} (ha : Tagged ks a) (hb : Tagged ks' b) :
    Tagged (ks ++ ks') (a ++ b) := fun rest => by
  rw [List.append_assoc, ha, hb, List.append_assoc]

theorem Tagged.text (y : Bytes) (hy : safeText y = true) : Tagged [] y := fun rest => scanTags_safe y rest hy

theorem Tagged.scan {ks : List Nat} {b : Bytes} (h : Tagged ks b) : scanTags b 0 = ks := by
  have := h []
  rwa [List.append_nil, show scanTags [] 0 = [] from rfl, List.append_nil] at this

theorem Tagged.pieces : ∀ (c : List Piece), cleanPieces c = true → Tagged (tagsOf c) (renderPieces c)
  | [], _ => Tagged.text [] rfl
  | p :: c, h => by
    obtain ⟨hp, hc⟩ := Bool.and_eq_true_iff.mp (show (_ && cleanPieces c) = true from h)
    have ih := Tagged.pieces c hc
    rw [show renderPieces (p :: c) = renderPiece p ++ renderPieces c from List.flatMap_cons]
    cases p with
    | lit b => exact (Tagged.text b hp).append ih
    | slot => exact (Tagged.text bImg (by decide)).append ih
    | mm => exact (Tagged.text bMM (by decide)).append ih
    | tag k =>
      obtain ⟨d1, d2, d3⟩ := natBytes_spec k
      have hk : Tagged [k] (renderPiece (.tag k)) := fun rest => by
        have := scanTags_tag (natBytes k) rest d1 d3
        rwa [d2] at this
      exact hk.append ih

/-- **The runner's regexp finds exactly the tags**: for contents whose literal text is `safeText`, the
    `[img-N]` matches of the rendered bytes are the `tag` pieces, in order, each number read back exactly
    (no tag is missed, none is invented, `strconv.Atoi` inverts `%d`) -/
theorem scanTags_renderPieces : ∀ (c : List Piece), cleanPieces c = true →
    scanTags (renderPieces c) 0 = tagsOf c :=
  fun c h => (Tagged.pieces c h).scan


/-! ### the conversation and the candidates of the backward loop -/

theorem imagesAt_cases (msgs : List Msg) (i : Nat) :
    imagesAt msgs i = [] ∨ ∃ m ∈ msgs, imagesAt msgs i = m.images := by
  unfold imagesAt
  split
  · rename_i m rest heq
    right
    refine ⟨m, ?_, rfl⟩
    have : m ∈ msgs.drop i := by rw [heq]; simp
    exact List.mem_of_mem_drop this
  · left; rfl

theorem imgCount_noimg (l : List Msg) (h : ∀ m ∈ l, m.images = []) : imgCount l = 0 := by
  induction l with
  | nil => rfl
  | cons m ms ih =>
    simp only [imgCount, List.map_cons, List.sum_cons]
    rw [h m (by simp)]
    have := ih (fun x hx => h x (by simp [hx]))
    simp only [imgCount] at this
    simp [this]

/-- the candidate list of iteration `i` -/
def cand (msgs : List Msg) (i : Nat) : List Msg := systemsBefore msgs i ++ msgs.drop i

theorem systemsBefore_succ (msgs : List Msg) (i : Nat) (h : i < msgs.length) :
    systemsBefore msgs (i+1) = systemsBefore msgs i ++ (if msgs[i].role = Role.system then [msgs[i]] else []) := by
  simp only [systemsBefore, List.take_add_one, List.filter_append]
  rw [List.getElem?_eq_getElem h]
  by_cases hr : msgs[i].role = Role.system <;> simp [hr]

theorem cand_step (msgs : List Msg) (i : Nat) (h : i < msgs.length) :
    cand msgs (i+1) = cand msgs i ∨
    ∃ a b x, x.role ≠ Role.system ∧ cand msgs i = a ++ x :: b ∧ cand msgs (i+1) = a ++ b := by
  have hd : msgs.drop i = msgs[i] :: msgs.drop (i+1) := (List.drop_eq_getElem_cons h)
  unfold cand
  rw [systemsBefore_succ msgs i h, hd]
  by_cases hr : msgs[i].role = Role.system
  · left; simp [hr]
  · right
    exact ⟨systemsBefore msgs i, msgs.drop (i+1), msgs[i], hr, rfl, by simp [hr]⟩

theorem imgCount_drop_step (msgs : List Msg) (i : Nat) :
    imgCount (msgs.drop (i+1)) ≤ imgCount (msgs.drop i) := by
  by_cases h : i < msgs.length
  · rw [List.drop_eq_getElem_cons h]
    simp only [imgCount, List.map_cons, List.sum_cons]
    omega
  · have h1 : msgs.drop i = [] := List.drop_eq_nil_of_le (by omega)
    have h2 : msgs.drop (i+1) = [] := List.drop_eq_nil_of_le (by omega)
    rw [h1, h2]; exact Nat.le_refl _

theorem antitone_of_step (f : Nat → Nat) (L : Nat) (hstep : ∀ i, i < L → f (i+1) ≤ f i) {i j : Nat}
    (hij : i ≤ j) (hj : j ≤ L) : f j ≤ f i := by
  induction hij with
  | refl => exact Nat.le_refl _
  | step h ih => exact Nat.le_trans (hstep _ (by omega)) (ih (by omega))

/-- the hypothesis of `retained_longest_fitting`, for a cost that is a function of the candidate and does not grow when
    a non-system message is removed -/
theorem total_antitone_of_remove (cfg : Cfg) (msgs : List Msg) (c : Nat → Nat) (f : List RMsg → Nat)
    (hc : ∀ i, c i = f ((cand msgs i).map toRMsg))
    (hf : ∀ (x : RMsg) (a b : List RMsg), x.1 ≠ Role.system → f (a ++ b) ≤ f (a ++ x :: b)) :
    ∀ i j, i ≤ j → j + 1 < msgs.length → total cfg c msgs j ≤ total cfg c msgs i := by
  have hstep : ∀ i, i < msgs.length → total cfg c msgs (i+1) ≤ total cfg c msgs i := by
    intro i hi
    have hcost : c (i+1) ≤ c i := by
      rw [hc, hc]
      rcases cand_step msgs i hi with h | ⟨a, b, x, hx, h1, h2⟩
      · rw [h]; exact Nat.le_refl _
      · rw [h1, h2, List.map_append, List.map_append, List.map_cons]
        exact hf (toRMsg x) _ _ hx
    have hi' := Nat.mul_le_mul_left (imageNumTokens cfg) (imgCount_drop_step msgs i)
    unfold total
    split <;> omega
  intro i j hij hj
  exact antitone_of_step _ msgs.length hstep hij (by omega)


/-! ### chatPrompt: what a successful call means -/

theorem AllSame.getLast {a b : List Msg} (h : AllSame a b) (hne : a ≠ []) :
    ∃ m m', a.getLast? = some m ∧ b.getLast? = some m' ∧ SameMsg m m' := by
  induction h with
  | nil => exact absurd rfl hne
  | @cons m m' ms ms' hm hrest ih =>
    cases hrest with
    | nil => exact ⟨m, m', rfl, rfl, hm⟩
    | @cons m2 m2' ms2 ms2' hm2 hrest2 =>
      obtain ⟨x, x', hx, hx', hs⟩ := ih (by simp)
      refine ⟨x, x', ?_, ?_, hs⟩
      · rw [List.getLast?_cons_cons]; exact hx
      · rw [List.getLast?_cons_cons]; exact hx'

theorem AllSame.mem_right {a b : List Msg} (h : AllSame a b) : ∀ m' ∈ b, ∃ m ∈ a, SameMsg m m' := by
  induction h with
  | nil => intro m' hm; simp at hm
  | @cons m m' ms ms' hm hrest ih =>
    intro x hx
    rcases List.mem_cons.mp hx with h | h
    · subst h; exact ⟨m, by simp, hm⟩
    · obtain ⟨y, hy, hs⟩ := ih x h
      exact ⟨y, by simp [hy], hs⟩

theorem countTag_flatMap_zero (k : Nat) (l : List Msg)
    (h : ∀ m ∈ l, countTag k m.content = 0) : countTag k (l.flatMap (·.content)) = 0 := by
  induction l with
  | nil => rfl
  | cons m ms ih =>
    simp only [List.flatMap_cons, countTag_append]
    rw [h m (by simp), ih (fun x hx => h x (by simp [hx]))]

section
variable {cfg : Cfg} {cost : Nat → Nat} {bad : Nat → Bool} {msgs : List Msg}
  {q n : Nat} {sys ret : List Msg} {imgs : List ImgOut}

theorem mem_systemsBefore {m : Msg} {i : Nat} (hm : m ∈ msgs.take i) (hr : m.role = Role.system) :
    m ∈ systemsBefore msgs i :=
  List.mem_filter.mpr ⟨hm, decide_eq_true hr⟩

/-- stated over `out` so that `chatPrompt_inv _ h` reduces to the case of the outcome in `h` -/
theorem chatPrompt_inv : ∀ out, chatPrompt cfg cost bad msgs = out →
    match out with
    | .panicEmpty => msgs = []
    | .errTooMany => scan cfg cost bad msgs msgs.length (msgs.length - 1) none 0 = .err
    | .execFail i => scan cfg cost bad msgs msgs.length (msgs.length - 1) none 0 = .fail i
    | .errPreprocess => ∃ n s q e, scan cfg cost bad msgs msgs.length (msgs.length - 1) none 0 = .done n s q ∧
        rewriteAll cfg (msgs.drop n) [] = .error e
    | .ok q n sys ret imgs => msgs ≠ [] ∧ ∃ s,
        scan cfg cost bad msgs msgs.length (msgs.length - 1) none 0 = .done n s q ∧
        rewriteAll cfg (msgs.drop n) [] = .ok (ret, imgs) ∧ sys = finalSystem cfg msgs n s := by
  intro out h
  subst h
  cases msgs with
  | nil => rfl
  | cons m ms =>
    unfold chatPrompt
    cases hs : scan cfg cost bad (m :: ms) (m :: ms).length ((m :: ms).length - 1) none 0 with
    | err => rfl
    | fail i => rfl
    | done n s q =>
      simp only
      cases hr : rewriteAll cfg ((m :: ms).drop n) [] with
      | error e => exact ⟨n, s, q, e, rfl, hr⟩
      | ok r => exact ⟨List.cons_ne_nil _ _, s, rfl, hr, rfl⟩

/-- what an `.ok q n sys ret imgs` outcome means, every component in closed form or up to the tags it owns -/
structure OkSpec (cfg : Cfg) (cost : Nat → Nat) (msgs : List Msg) (q n : Nat) (sys ret : List Msg) (imgs : List ImgOut) :
    Prop where
  cut : n = specCut (fits cfg cost msgs) (msgs.length - 1)
  lt : n < msgs.length
  calls : q = (msgs.length - 1 - n) + (if n = 0 then 0 else 1)
  /-- the variant `fixed = false` passes the slice of the iteration that broke (`n - 1` truncated: none for `n = 0`) -/
  system : sys = systemsBefore msgs (if cfg.fixed then n else n - 1)
  same : AllSame (msgs.drop n) ret
  owned : Owned 0 (msgs.drop n) ret
  images : imgs = specImagesFrom cfg 0 ((msgs.drop n).flatMap (·.images))

theorem ok_spec (h : chatPrompt cfg cost bad msgs = .ok q n sys ret imgs) : OkSpec cfg cost msgs q n sys ret imgs := by
  obtain ⟨hne, s, hs, hr, hsys⟩ := chatPrompt_inv _ h
  have hpos : 0 < msgs.length := List.length_pos_iff.mpr hne
  rw [← Nat.sub_add_cancel hpos] at hs
  obtain ⟨h1, h4, h5, h6⟩ := scan_diag cfg cost bad msgs _ _ _ _ _ _ (scan_start cfg cost bad msgs _ _ _ _ hs)
  obtain ⟨a, o, i⟩ := rewriteAll_spec cfg _ _ _ _ hr
  have hle := h1 ▸ (specCut_spec (fits cfg cost msgs) (msgs.length - 1)).1
  refine ⟨h1, by omega, by omega, ?_, a, o, by simpa using i⟩
  subst hsys
  unfold finalSystem
  cases cfg.fixed with
  | true => rfl
  | false =>
    by_cases hk : msgs.length - 1 = 0
    · rw [h5 hk, show n - 1 = 0 by omega]; rfl
    · rw [h4 (by omega)]; rfl

end

/-- the roles the legacy loop of `execute` looks at (used in Proofs/PromptRender.lean) -/
def legacyRole : Role → Bool
  | .system => true | .user => true | .assistant => true | _ => false

/-! ### the handler's conversation; the OpenAI-compatible entry -/

theorem handlerMsgs_all (P : Msg → Prop) (mm : List Msg) (s : Bytes) (req : List Msg)
    (h1 : ∀ m ∈ mm, P m) (h2 : ∀ m ∈ req, P m) (h3 : P ⟨Role.system, splitImg s, []⟩) :
    ∀ m ∈ handlerMsgs mm s req, P m := by
  intro m hm
  unfold handlerMsgs at hm
  cases req with
  | nil => exact h1 m hm
  | cons r0 rs =>
    simp only at hm
    split at hm
    · rcases List.mem_cons.mp hm with h | h
      · subst h; exact h3
      · rcases List.mem_append.mp h with h | h
        · exact h1 m h
        · exact h2 m h
    · rcases List.mem_append.mp hm with h | h
      · exact h1 m h
      · exact h2 m h


theorem fromOpenAIMsg_images (m : OMsg) : (fromOpenAIMsg m).flatMap (·.images) = omsgImages m := by
  obtain ⟨r, c⟩ := m
  cases c with
  | str c => rfl
  | parts ps =>
    simp only [fromOpenAIMsg, omsgImages]
    induction ps with
    | nil => rfl
    | cons p ps ih =>
      cases p <;> simp_all [partMsg, partImages]

/-- the images of the converted conversation are the image parts of the request, in order -/
theorem fromOpenAI_images (l : List OMsg) : (fromOpenAI l).flatMap (·.images) = l.flatMap omsgImages := by
  induction l with
  | nil => rfl
  | cons m l ih =>
    simp only [fromOpenAI, List.flatMap_cons, List.flatMap_append] at ih ⊢
    rw [ih, fromOpenAIMsg_images]

/-- every converted message carries at most one image -/
theorem fromOpenAI_one_image (l : List OMsg) : ∀ m ∈ fromOpenAI l, m.images.length ≤ 1 := by
  intro m hm
  simp only [fromOpenAI, List.mem_flatMap] at hm
  obtain ⟨o, _, hmo⟩ := hm
  obtain ⟨r, c⟩ := o
  cases c with
  | str c => simp [fromOpenAIMsg] at hmo; subst hmo; simp
  | parts ps =>
    simp only [fromOpenAIMsg, List.mem_map] at hmo
    obtain ⟨p, _, hp⟩ := hmo
    subst hp
    cases p <;> simp [partMsg]


/-! ### the proposed repair of F5: sanitised text contains no image tag -/

theorem sanitizeGo_cons (b : UInt8) (bs : Bytes) :
    sanitizeGo (b :: bs) 0 =
      if bImgDash.isPrefixOf (b :: bs) then [91, 105, 109, 103, 32, 45] ++ sanitizeGo bs 4 else b :: sanitizeGo bs 0 := by
  simp only [sanitizeGo]

/-- the sanitiser copies what is not `[`: a word without `[` starts the output iff it starts the input -/
theorem sanitize_prefix : ∀ (w rest : Bytes), (∀ x ∈ w, x ≠ 91) →
    w.isPrefixOf (sanitizeGo rest 0) = w.isPrefixOf rest
  | [], _, _ => by simp
  | x :: w, [], _ => rfl
  | x :: w, r :: rest, hw => by
    have hx : x ≠ 91 := hw x List.mem_cons_self
    rw [sanitizeGo_cons]
    split
    · rename_i hp
      have hr : r = 91 := by
        simp [bImgDash, List.isPrefixOf] at hp
        exact hp.1.symm
      subst hr
      simp [List.isPrefixOf, show (x == 91) = false by simpa using hx]
    · simp only [List.isPrefixOf, sanitize_prefix w rest (fun y hy => hw y (List.mem_cons_of_mem _ hy))]

/-- the sanitiser's output never STARTS with `[img-`: not from a replaced occurrence (`[img -`), not from copied bytes -/
theorem sanitize_no_dash_head (s : Bytes) : bImgDash.isPrefixOf (sanitizeGo s 0) = false := by
  cases s with
  | nil => rfl
  | cons b bs =>
    rw [sanitizeGo_cons]
    cases hp : bImgDash.isPrefixOf (b :: bs) with
    | true => rfl
    | false =>
      rw [if_neg Bool.false_ne_true]
      simp only [bImgDash, List.isPrefixOf, sanitize_prefix [105, 109, 103, 45] bs (by decide)] at hp ⊢
      exact hp

/-- **Proposed repair of F5: sanitised text contains no image tag the runner could read** — for every text -/
theorem sanitized_text_has_no_tag : ∀ (s : Bytes) (k : Nat), scanTags (sanitizeGo s k) 0 = []
  | [], _ => rfl
  | _ :: bs, k+1 => sanitized_text_has_no_tag bs k
  | b :: bs, 0 => by
    have hno := sanitize_no_dash_head (b :: bs)
    rw [sanitizeGo_cons] at hno ⊢
    split at hno <;> rename_i hp
    · rw [if_pos hp, scanTags_safe [91, 105, 109, 103, 32, 45] _ (by decide)]
      exact sanitized_text_has_no_tag bs 4
    · rw [if_neg hp]
      simp only [scanTags, matchTag_none _ hno]
      exact sanitized_text_has_no_tag bs 0

theorem sanitizeBytes_no_tag (s : Bytes) : scanTags (sanitizeBytes s) 0 = [] :=
  sanitized_text_has_no_tag s 0


end OllamaVerif.Prompt
