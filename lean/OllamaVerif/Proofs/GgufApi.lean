/-
  C10 — create-from and show on every installed blob: no panic site, no over-budget allocation.
-/
import OllamaVerif.Model.GgufApi
import OllamaVerif.Proofs.GgufSafe
import OllamaVerif.Proofs.GgufCreate

namespace OllamaVerif.Gguf
open OllamaVerif

theorem mapM_safe {α β : Type} (f : α → Except Err β) : ∀ (l : List α), (∀ a ∈ l, Safe (f a)) → Safe (l.mapM f) := by
  intro l
  induction l with
  | nil => intro _; trivial
  | cons a as ih =>
    intro h
    rw [List.mapM_cons]
    refine (h a (by simp)).bind fun b => ?_
    exact (ih (fun x hx => h x (by simp [hx]))).bind fun bs => trivial

theorem decodeFile_safe (bs : Bytes) (maxArraySize : Int) (B : Nat) (hB : bs.length ≤ B) (maxSeek : Nat) :
    Safe (decodeFile bs maxArraySize (some B) Guards.all maxSeek) := by
  unfold decodeFile
  have hd := decode_safe_all bs maxArraySize B hB
  cases h : decode bs maxArraySize (some B) Guards.all with
  | error e => rw [h] at hd; exact hd
  | ok d => simp only []; split <;> trivial

theorem parseFromModel_safe (blobs : List Bytes) (B : Nat) (hB : ∀ b ∈ blobs, b.length ≤ B) (maxSeek : Nat) :
    Safe (parseFromModel blobs (some B) Guards.all maxSeek) :=
  mapM_safe _ blobs (fun b hb => decodeFile_safe b 0 B (hB b hb) maxSeek)

theorem createFrom_safe (blobs : List Bytes) (B : Nat) (hB : ∀ b ∈ blobs, b.length ≤ B) (maxSeek : Nat) :
    Safe (createFrom blobs (some B) Guards.all maxSeek) := by
  unfold createFrom
  refine (parseFromModel_safe blobs B hB maxSeek).bind fun ds => ?_
  refine Safe.bind (mapM_safe _ ds (fun d _ => by rw [createAccessors_all]; trivial)) fun _ => trivial

theorem capabilities_safe (blob : Bytes) (B : Nat) (hB : blob.length ≤ B) (maxSeek : Nat) :
    Safe (capabilities blob (some B) Guards.all maxSeek) := by
  unfold capabilities
  have hd := decodeFile_safe blob 0 B hB maxSeek
  cases h : decodeFile blob 0 (some B) Guards.all maxSeek with
  | error e =>
    rw [h] at hd
    cases e with
    | panic s => cases hd
    | alloc s n => cases hd
    | eof => trivial
    | ueof => trivial
    | invalid w => trivial
  | ok d =>
    simp only []
    obtain ⟨a, ha⟩ := kvString_all d.kvs (bytesOf "general.architecture") (bytesOf "unknown")
    unfold kvArchitecture
    rw [ha]
    trivial

theorem showModel_safe (blob : Bytes) (verbose : Bool) (B : Nat) (hB : blob.length ≤ B) (maxSeek : Nat) :
    Safe (showModel blob verbose (some B) Guards.all maxSeek) := by
  unfold showModel
  refine (capabilities_safe blob B hB maxSeek).bind fun _ => ?_
  exact (decodeFile_safe blob (if verbose then -1 else 0) B hB maxSeek).bind fun _ => trivial

end OllamaVerif.Gguf
