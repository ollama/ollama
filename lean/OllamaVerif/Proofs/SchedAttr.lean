/-
  The simp set `sched_upd`: `upd`, the record helpers that occur in the post-states of `Step`, and the auxiliary
  definitions the invariants are stated with, unfolded before a preservation goal is closed.  Declared in a module
  of its own because an attribute cannot be used in the module that registers it.
-/
import Lean.Meta.Tactic.Simp.RegisterCommand

/-- unfolds `upd` and what the scheduler's invariants are stated with (`pendingSet`, `tokens`, `Wake`, …) -/
register_simp_attr sched_upd
