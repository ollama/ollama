/-
  Groups 6 and 7 of the scheduler invariants (holder -> finish event in flight; every open runner has a
  wake-up pending; runner ids in flight are in range, untouched slots are pristine, refMu is held across a Ping only
  while the pc is in it) for the good variant; `InvAll` bundles groups 1–4, 6 and 7
  (`reach_invAll`).
-/
import OllamaVerif.Proofs.Sched4
namespace OllamaVerif.Sched
variable {s s' : State} {a : Act}

/-- something will eventually look at runner `r` again -/
def Wake (s : State) (r : Rid) : Prop :=
  0 < (s.runners r).refCount ∨ (s.runners r).refMuHeld = true ∨ (s.runners r).timerArmed = true ∨
  r ∈ s.timerCbs ∨ r ∈ s.expiredQ ∨ r ∈ s.requeuers ∨ s.cpc = .exp r

structure Inv6 (s : State) : Prop where
  t1 : ∀ r q, r < s.nRunners → q ∈ (s.runners r).holders → 0 < (tokens s).count q
  w : ∀ r, r < s.nRunners → (s.runners r).closed = false → Wake s r


attribute [sched_upd] Wake

def Runner.core6 (x : Runner) := (x.holders, x.closed, x.refCount, x.refMuHeld, x.timerArmed)

theorem Inv6.frame (h : Inv6 s) (hr : ∀ j, (s'.runners j).core6 = (s.runners j).core6)
    (hn : s'.nRunners = s.nRunners := by rfl) (ht : tokens s' = tokens s := by rfl)
    (h1 : s'.timerCbs = s.timerCbs := by rfl) (h2 : s'.expiredQ = s.expiredQ := by rfl)
    (h3 : s'.requeuers = s.requeuers := by rfl) (hcp : s'.cpc = s.cpc := by rfl) : Inv6 s' := by
  simp only [Runner.core6, Prod.mk.injEq] at hr
  exact { t1 := by simpa only [hr, hn, ht] using h.t1
          w := by simpa only [Wake, hr, hn, h1, h2, h3, hcp] using h.w }

theorem Inv6.step (i3 : Inv3 s) (i4 : Inv4 s) (h : Inv6 s) (hs : Step Variant.good s a s') : Inv6 s' := by
  cases hs with
  | loadDone_ok =>
    -- the loader's reference is now the request's: the count stays positive (`c2`)
    exact { h with
      t1 := by have := h.t1; sched_simp; grind
      w := by have := h.w; have := i4.c2; sched_simp; grind }
  | loadDone_fail | timerFire | pUse_grant | pLoad_ok | timerCb =>
    exact { h with
      t1 := by have := h.t1; sched_simp; grind
      w := by have := h.w; sched_simp; grind }
  | pExpire | unloadRun | unloadBind_expire =>
    -- a runner that is not queued for unload is referenced: its count has not wrapped (`c1`)
    exact { h with
      t1 := by have := h.t1; sched_simp; grind
      w := by have := h.w; have := i4.c1; sched_simp; grind }
  | cTakeFinished_gone =>
    -- cannot happen: the request of a finish event holds a runner, which `loaded` still names
    exact { h with
      t1 := by have := i4.f4; have hfin2 := finished_loaded i3 i4; grind }
  | cTakeFinished_found | cTakeExpired | cExp_busy | cExp_unload | cVram =>
    exact { h with
      t1 := by have := h.t1; sched_simp; grind [CPC.tok]
      w := by have := h.w; sched_simp; grind }
  | cFin q r heq hl =>
    obtain ⟨hh, x1, x3, hpos⟩ := fin_holds i4 heq
    have hw := i4.c1 r x1  -- the count cannot have wrapped, so it is still positive exactly if holders or the loader remain
    rw [cFin_eq hh hpos]
    simp only []
    repeat' split
    all_goals exact { h with
      t1 := by have := h.t1; have := i4.g2; have := i4.g3; sched_simp; grind [CPC.tok, List.count_erase_self]
      w := by have := h.w; sched_simp; grind }
  | requeue =>
    exact { h with
      w := by have := h.w; sched_simp; grind }
  | finishSend =>
    exact { h with
      t1 := by have := h.t1; sched_simp; grind }
  | setPing | setPingBlock | setPingOpen | pingDone | pNeedsReload_parks => exact h.frame (upd_congr Runner.core6 (by rfl))
  | _ => exact { h with }


/-! ## Group 7: every runner id in flight denotes a started runner; untouched slots are pristine -/

def PPC.isPinging (p : PPC) (r : Rid) : Bool :=
  match p with
  | .pinging _ r' => r' == r
  | _ => false

/-- `z`: a slot that was never started is `{}`; `b`: the runner ids in the queues and at the two pcs are started;
    `ph`: needsReload holds a runner's refMu across a parked Ping only while the pc is `pinging` that runner -/
structure Inv7 (s : State) : Prop where
  z : ∀ r, s.nRunners ≤ r → s.runners r = {}
  bE : ∀ r, r ∈ s.expiredQ → r < s.nRunners
  bR : ∀ r, r ∈ s.requeuers → r < s.nRunners
  bT : ∀ r, r ∈ s.timerCbs → r < s.nRunners
  bU : ∀ r, r ∈ s.unloaders → r < s.nRunners
  bC : ∀ r, s.cpc = .exp r → r < s.nRunners
  bX : ∀ q r, s.ppc = .expire q r → r < s.nRunners
  ph : ∀ r, (s.runners r).pingHeld = true → s.ppc.isPinging r = true


theorem victim_lt (i3 : Inv3 s) (vic : Rid) (hv : findVictim s = some vic) : vic < s.nRunners := by
  obtain ⟨p, hp, rfl⟩ := List.mem_map.mp (victim_is_loaded s vic hv)
  exact (i3.wf p hp).1

theorem Inv7.rewrite (h : Inv7 s) {r0 : Rid} {x : Runner} (hr : r0 < s.nRunners)
    (hx : x.pingHeld = true → (s.runners r0).pingHeld = true := by exact id) :
    Inv7 { s with runners := upd s.runners r0 x } :=
  { h with
    z := fun r (hle : s.nRunners ≤ r) => by
      have hne : r ≠ r0 := Nat.ne_of_gt (Nat.lt_of_lt_of_le hr hle)
      simp only [upd, if_neg hne]; exact h.z r hle
    ph := fun r hp => by
      simp only [upd] at hp
      split at hp
      · subst_vars; exact h.ph _ (hx hp)
      · exact h.ph r hp }

theorem Inv7.step (i3 : Inv3 s) (i4 : Inv4 s) (h : Inv7 s) (hs : Step Variant.good s a s') : Inv7 s' := by
  cases hs with
  | loadDone_ok r hr | setPing r _ hr | setPingBlock r hr | setPingOpen r hr => exact { h.rewrite hr with }
  | loadDone_fail r hr =>
    exact { h.rewrite hr with
      bE := by have := h.bE; sched_simp; grind }
  | timerFire r hr =>
    exact { h.rewrite hr with
      bT := by have := h.bT; sched_simp; grind }
  | pingDone r _ q hpc =>
    -- on failure the runner of the parked check is the one to expire: it exists (`mP`)
    have hr := (i4.mP q r hpc).1
    exact { h.rewrite hr (by intro e; cases e) with
      bX := by have := h.bX; sched_simp; grind
      ph := by have := h.ph; sched_simp; grind [PPC.isPinging] }
  | pTake_eval | pLookup_reuse | pLookup_load | pLookup_fail | pLookup_delay | pNeedsReload_ok | pUse_recheck | pWaitUnload
  | pLoad_fail =>
    exact { h with
      bX := by have := h.bX; grind
      ph := by have := h.ph; sched_simp; grind [PPC.isPinging] }
  | pLookup_evict =>
    exact { h with
      bX := by have hvic := victim_lt i3; grind
      ph := by have := h.ph; grind [PPC.isPinging] }
  | pNeedsReload_reload =>
    exact { h with
      bX := by have := i4.mN; grind
      ph := by have := h.ph; grind [PPC.isPinging] }
  | pNeedsReload_parks =>
    -- `z`: `pingHeld` may be set here, but not on a slot that was never started: its `pingBlock` is false, against the guard
    exact { h with
      z := by have := h.z; sched_simp; grind
      bX := by have := h.bX; grind
      ph := by have := h.ph; sched_simp; grind [PPC.isPinging] }
  | pUse_grant q r hpc =>
    exact { h.rewrite (i4.mU q r hpc).1 with
      bX := by have := h.bX; grind
      ph := by have := h.ph; sched_simp; grind [PPC.isPinging] }
  | pExpire q r hpc =>
    have hr := h.bX q r hpc
    exact { h.rewrite hr with
      bE := by have := h.bE; sched_simp; grind
      bX := by have := h.bX; grind
      ph := by have := h.ph; sched_simp; grind [PPC.isPinging] }
  | pLoad_ok =>
    exact { h with
      z := by have := h.z; sched_simp; grind
      bE := by have := h.bE; grind
      bR := by have := h.bR; grind
      bT := by have := h.bT; grind
      bU := by have := h.bU; grind
      bC := by have := h.bC; grind
      bX := by have := h.bX; grind
      ph := by have := h.ph; sched_simp; grind [PPC.isPinging] }
  | cTakeFinished_found | cVram =>
    exact { h with
      bC := by have := h.bC; grind }
  | cFin q r heq hl =>
    obtain ⟨hh, x1, x3, hpos⟩ := fin_holds i4 heq
    rw [cFin_eq hh hpos]
    simp only []
    repeat' split
    all_goals exact { h.rewrite x1 with
      bE := by have := h.bE; grind
      bC := by have := h.bC; grind }
  | cTakeExpired =>
    exact { h with
      bE := by have := h.bE; grind
      bC := by have := h.bE; grind }
  | cExp_busy =>
    exact { h with
      bR := by have := h.bR; have := h.bC; sched_simp; grind
      bC := by have := h.bC; sched_simp; grind }
  | cExp_unload r hc =>
    exact { h.rewrite (h.bC r hc) (by split <;> exact id) with
      bC := by have := h.bC; sched_simp; grind }
  | requeue =>
    exact { h with
      bE := by have := h.bE; have := h.bR; grind
      bR := by have := h.bR; grind }
  | timerCb r hr =>
    exact { h.rewrite (h.bT r hr) with
      bE := by have := h.bE; have := h.bT; sched_simp; grind
      bT := by have := h.bT; sched_simp; grind }
  | unloadRun r hr =>
    exact { h.rewrite (h.bU r hr) with
      bE := by have := h.bE; have := h.bU; sched_simp; grind
      bU := by have := h.bU; sched_simp; grind }
  | unloadBind_parks =>
    -- a slot that was never started is not locked (`z`)
    exact { h with
      bU := by have := h.bU; have := h.z; sched_simp; grind }
  | unloadBind_expire m r _ hl =>
    have hr := lookup_lt i3 m r hl
    exact { h.rewrite hr with
      bE := by have := h.bE; sched_simp; grind }
  | _ => exact { h with }

/-- groups 1–4, 6 and 7 (group 5 holds for every variant and is kept apart: `InvV`) -/
structure InvAll (s : State) : Prop where
  base : Inv s
  i6 : Inv6 s
  i7 : Inv7 s

theorem InvAll.step (h : InvAll s) (hs : Step Variant.good s a s') : InvAll s' :=
  ⟨h.base.step hs, h.i6.step h.base.i3 h.base.i4 hs, h.i7.step h.base.i3 h.base.i4 hs⟩

theorem invAll_init (maxRunners maxQueue defaultSession : Nat) : InvAll (init maxRunners maxQueue defaultSession) := by
  refine ⟨inv_init _ _ _, ?_, ?_⟩ <;> constructor <;> simp [init]

theorem reach_invAll {mr mq ds : Nat} {s : State} (h : Reach Variant.good (init mr mq ds) s) : InvAll s :=
  Reach.induction (invAll_init mr mq ds) (fun _ ih hs => ih.step hs) h

end OllamaVerif.Sched
