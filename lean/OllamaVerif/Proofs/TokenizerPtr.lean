/-
  C20: the Go code's `merges` array with its stored `p` / `n` pointers refines the model's list of live parts.
  `merges []merge{p, n, runes}` is modelled as a table keyed by the array index (`start`), in index order; an entry
  whose `runes` are empty is dead.  `goLoop` is the Go loop statement by statement: both ends of the popped pair
  are read from the table, the four assignments, and the two `pairwise` calls that follow the STORED pointers
  `merges[pair.a].p` and `merges[pair.a].n`.  Theorem `goMergeAll_eq`: the live entries it leaves are exactly the
  parts of the model's `mergeAll`.  `goLoop` carries the model's fuel `3n+3`; that it is never exhausted is
  `mergeAll_fuel_sufficient` (Proofs/TokenizerVocab.lean) through `goLoop_sim`, which holds for every fuel.
-/
import OllamaVerif.Proofs.TokenizerAdj
namespace OllamaVerif.Tok

structure MEnt where
  start : Nat
  p : Option Nat     -- `none` = -1
  n : Nat
  runes : Str

def MEnt.live (e : MEnt) : Bool := !e.runes.isEmpty
def MEnt.part (e : MEnt) : Part := ⟨e.start, e.runes⟩

def getEnt (ms : List MEnt) (i : Nat) : Option MEnt := ms.find? (fun e => e.start == i)
def updEnt (ms : List MEnt) (i : Nat) (f : MEnt → MEnt) : List MEnt := ms.map fun e => if e.start = i then f e else e
def liveParts (ms : List MEnt) : List Part := (ms.filter MEnt.live).map MEnt.part

/-- `left, right := merges[a], merges[b]`; the emptiness tests and the family's validity test; then
    `merges[a].runes = append(left.runes, right.runes...)`, `merges[b].runes = nil`, `merges[a].n = right.n`,
    `if right.n < len(merges) { merges[right.n].p = a }` (no entry is keyed `right.n` otherwise) -/
def goJoin (ok : Str → Str → Bool) (ms : List MEnt) (a b : Nat) : Option (List MEnt) :=
  match getEnt ms a, getEnt ms b with
  | some l, some r =>
    if l.live && r.live && ok l.runes r.runes then
      some (updEnt (updEnt (updEnt ms a fun e => { e with runes := l.runes ++ r.runes, n := r.n })
        b fun e => { e with runes := [] }) r.n fun e => { e with p := some a })
    else none
  | _, _ => none

/-- `pairwise(a, b)` + push: `a < 0` or `b >= len(runes)` (no entry keyed `b`) gives nil -/
def goPairwise (cfg : Cfg) (ms : List MEnt) (h : Array Cand) (a : Option Nat) (b : Nat) : Array Cand :=
  match a with
  | none => h
  | some a =>
    match getEnt ms a, getEnt ms b with
    | some l, some r =>
      match cfg.make l.runes r.runes with
      | some (key, size, value) => heapPush cfg.less h ⟨a, b, key, size, value⟩
      | none => h
    | _, _ => h

def goLoop (cfg : Cfg) : Nat → List MEnt → Array Cand → List MEnt
  | 0, ms, _ => ms
  | f+1, ms, h =>
    match heapPop cfg.less h with
    | none => ms
    | some (c, h) =>
      match goJoin (cfg.ok c) ms c.a c.b with
      | some ms' =>
        match getEnt ms' c.a with
        | some ea =>
          let h := goPairwise cfg ms' h ea.p c.a
          let h := goPairwise cfg ms' h (some c.a) ea.n
          goLoop cfg f ms' h
        | none => ms'   -- not reached (`goLoop_sim`)
      | none => goLoop cfg f ms h

/-! ### the table -/

def KeysSorted (ms : List MEnt) : Prop := ms.Pairwise (fun x y => x.start < y.start)

theorem getEnt_cons (e : MEnt) (ms : List MEnt) (i : Nat) :
    getEnt (e :: ms) i = if e.start = i then some e else getEnt ms i := by
  unfold getEnt
  rw [List.find?_cons]
  by_cases h : e.start = i
  · simp [h]
  · have : (e.start == i) = false := by simp [h]
    simp [this, h]

theorem getEnt_some (ms : List MEnt) (i : Nat) (e : MEnt) (h : getEnt ms i = some e) : e ∈ ms ∧ e.start = i := by
  unfold getEnt at h
  exact ⟨List.mem_of_find?_eq_some h, by simpa using List.find?_some h⟩

theorem getEnt_of_mem (ms : List MEnt) (hs : KeysSorted ms) (e : MEnt) (he : e ∈ ms) : getEnt ms e.start = some e := by
  induction ms with
  | nil => cases he
  | cons x ms ih =>
    have hp := List.pairwise_cons.mp hs
    rw [getEnt_cons]
    rcases List.mem_cons.mp he with rfl | he
    · simp
    · have := hp.1 e he
      rw [if_neg (by omega)]
      exact ih hp.2 he

theorem liveParts_cons (e : MEnt) (ms : List MEnt) :
    liveParts (e :: ms) = if e.live then e.part :: liveParts ms else liveParts ms := by
  unfold liveParts
  by_cases h : e.live = true
  · simp [h]
  · simp [h]

theorem liveParts_sorted (ms : List MEnt) (hs : KeysSorted ms) : SortedP (liveParts ms) := by
  induction ms with
  | nil => exact List.Pairwise.nil
  | cons e ms ih =>
    have hp := List.pairwise_cons.mp hs
    rw [liveParts_cons]
    split
    · apply List.Pairwise.cons _ (ih hp.2)
      intro q hq
      simp only [liveParts, List.mem_map, List.mem_filter] at hq
      obtain ⟨x, ⟨hx, _⟩, rfl⟩ := hq
      exact hp.1 x hx
    · exact ih hp.2

theorem getPart_liveParts (ms : List MEnt) (hs : KeysSorted ms) (i : Nat) :
    getPart (liveParts ms) i = match getEnt ms i with
      | some e => if e.live then some e.part else none
      | none => none := by
  induction ms with
  | nil => rfl
  | cons e ms ih =>
    have hp := List.pairwise_cons.mp hs
    rw [liveParts_cons, getEnt_cons]
    by_cases hi : e.start = i
    · rw [if_pos hi]
      by_cases hl : e.live = true
      · simp [hl, getPart_cons, MEnt.part, hi]
      · simp only [hl, if_false, Bool.false_eq_true]
        -- a dead entry keyed i: no other entry is keyed i
        apply getPart_none_of_lt
        intro q hq
        simp only [liveParts, List.mem_map, List.mem_filter] at hq
        obtain ⟨x, ⟨hx, _⟩, rfl⟩ := hq
        have := hp.1 x hx
        simp only [MEnt.part]; omega
    · rw [if_neg hi]
      by_cases hl : e.live = true
      · simp only [hl, if_true]
        rw [getPart_cons, if_neg (by simpa [MEnt.part] using hi)]
        exact ih hp.2
      · simp only [hl, if_false, Bool.false_eq_true]
        exact ih hp.2

/-! ### neighbours in a sorted list of parts -/

def headStart? (l : List Part) : Option Nat := l.head?.map (·.start)

theorem prevStart_cons (x : Part) (l : List Part) (s : Nat) :
    prevStart (x :: l) s = if headStart? l = some s then some x.start else prevStart l s := by
  cases l with
  | nil => simp [prevStart, headStart?]
  | cons y l => simp [prevStart, headStart?]

theorem nextStart_cons (x : Part) (l : List Part) (s N : Nat) :
    nextStart (x :: l) s N = match headStart? l with
      | none => N
      | some y => if x.start = s then y else nextStart l s N := by
  cases l with
  | nil => simp [nextStart, headStart?]
  | cons y l => simp [nextStart, headStart?]

theorem nextStart_gt (ps : List Part) (hs : SortedP ps) (s N : Nat) (hN : s < N) : s < nextStart ps s N := by
  by_cases hx : nextStart ps s N = N
  · omega
  · exact ((nextStart_consec ps s N hx).adj hs).1

section neighbours
variable (pre rest : List Part) (p q p' : Part) (a b N : Nat)
variable (hpa : p.start = a) (hqb : q.start = b) (hp'a : p'.start = a) (hab : a < b)
variable (hs : SortedP (pre ++ p :: q :: rest))

include hpa hqb hp'a hab hs in
theorem nextStart_join (s : Nat) (hsb : s ≠ b) :
    nextStart (pre ++ p' :: rest) s N =
      if s = a then nextStart (pre ++ p :: q :: rest) b N else nextStart (pre ++ p :: q :: rest) s N := by
  induction pre with
  | nil =>
    simp only [List.nil_append]
    rw [nextStart_cons, nextStart_cons p, nextStart_cons p, nextStart_cons q, nextStart_cons q]
    simp only [headStart?, List.head?_cons, Option.map_some, hpa, hp'a, hqb, if_neg (Nat.ne_of_lt hab),
      if_neg (Ne.symm hsb)]
    by_cases hs : s = a
    · simp [hs]
    · simp [hs, Ne.symm hs]
  | cons x pre ih =>
    have hsx := List.pairwise_cons.mp hs
    have ih' := ih hsx.2
    have hx : x.start < a := by have := hsx.1 p (by simp); omega
    have hxb : ¬ x.start = b := by omega
    cases pre with
    | nil =>
      simp only [List.cons_append, List.nil_append, nextStart, if_neg hxb] at ih' ⊢
      rw [ih']
      by_cases hs : x.start = s
      · rw [if_pos hs, if_pos hs, if_neg (by omega), hpa, hp'a]
      · rw [if_neg hs, if_neg hs]
    | cons y pre =>
      simp only [List.cons_append, nextStart, if_neg hxb] at ih' ⊢
      rw [ih']
      by_cases hs : x.start = s
      · rw [if_pos hs, if_pos hs, if_neg (by omega)]
      · rw [if_neg hs, if_neg hs]

include hpa hqb hp'a hab hs in
theorem prevStart_join (hbN : b < N) (s : Nat) (hsb : s ≠ b) (hsN : s ≠ N) :
    prevStart (pre ++ p' :: rest) s =
      if s = nextStart (pre ++ p :: q :: rest) b N then some a else prevStart (pre ++ p :: q :: rest) s := by
  induction pre with
  | nil =>
    simp only [List.nil_append]
    rw [prevStart_cons, prevStart_cons p, prevStart_cons q, nextStart_cons p, nextStart_cons q]
    simp only [headStart?, List.head?_cons, Option.map_some, hpa, hp'a, hqb, if_neg (Nat.ne_of_lt hab),
      Option.some.injEq, if_neg (Ne.symm hsb)]
    cases hh : rest.head?.map (·.start) with
    | none => simp [hsN]
    | some y =>
      by_cases hy : y = s
      · simp [hy]
      · simp [hy, Ne.symm hy]
  | cons x pre ih =>
    have hsx := List.pairwise_cons.mp hs
    have ih' := ih hsx.2
    have hxa : x.start < a := by have := hsx.1 p (by simp); omega
    have hxb : ¬ x.start = b := by omega
    cases pre with
    | nil =>
      have hnx : b < nextStart (p :: q :: rest) b N := nextStart_gt _ hsx.2 b N hbN
      simp only [List.cons_append, List.nil_append] at ih' ⊢
      rw [prevStart.eq_1 s x p', prevStart.eq_1 s x p, nextStart.eq_1 b N x p, if_neg hxb, ih', hpa, hp'a]
      by_cases h : a = s
      · rw [if_pos h, if_pos h, if_neg (by omega)]
      · rw [if_neg h, if_neg h]
    | cons y pre =>
      have hya : y.start < b := by have := (List.pairwise_cons.mp hsx.2).1 q (by simp); omega
      have hnx : b < nextStart (y :: (pre ++ p :: q :: rest)) b N := nextStart_gt _ hsx.2 b N hbN
      simp only [List.cons_append] at ih' ⊢
      rw [prevStart.eq_1 s x y, prevStart.eq_1 s x y, nextStart.eq_1 b N x y, if_neg hxb, ih']
      by_cases h : y.start = s
      · rw [if_pos h, if_pos h, if_neg (by omega)]
      · rw [if_neg h, if_neg h]
end neighbours

/-! ### the representation invariant and the simulation -/

/-- the table `ms` represents the live parts `ps`; `N` = `len(runes)` (the `n` of the last live entry, above every key).
    Only LIVE entries' pointers are constrained: a dead entry keeps the `p` / `n` it had -/
structure Rep (N : Nat) (ms : List MEnt) (ps : List Part) : Prop where
  sorted : KeysSorted ms
  bound : ∀ e ∈ ms, e.start < N
  parts : ps = liveParts ms
  ptr : ∀ e ∈ ms, e.live = true → e.p = prevStart ps e.start ∧ e.n = nextStart ps e.start N

theorem Rep.live_of_part {N ms ps} (R : Rep N ms ps) (q : Part) (hq : q ∈ ps) :
    ∃ e, getEnt ms q.start = some e ∧ e.live = true ∧ e.part = q := by
  have h1 := getPart_of_mem ps (by rw [R.parts]; exact liveParts_sorted ms R.sorted) q hq
  rw [R.parts, getPart_liveParts ms R.sorted] at h1
  cases hg : getEnt ms q.start with
  | none => rw [hg] at h1; cases h1
  | some e =>
    rw [hg] at h1
    by_cases hl : e.live = true
    · simp only [hl, if_true, Option.some.injEq] at h1
      exact ⟨e, rfl, hl, h1⟩
    · simp [hl] at h1

theorem goPairwise_eq_pushCand (cfg : Cfg) {N ms ps} (R : Rep N ms ps) (h : Array Cand) (x y : Nat)
    (hx : ∃ q ∈ ps, q.start = x) (hy : ∃ q ∈ ps, q.start = y) :
    goPairwise cfg ms h (some x) y = pushCand cfg ps h x y := by
  obtain ⟨p, hp, rfl⟩ := hx
  obtain ⟨q, hq, rfl⟩ := hy
  obtain ⟨l, hgx, hl, _⟩ := R.live_of_part p hp
  obtain ⟨r, hgy, hr, _⟩ := R.live_of_part q hq
  unfold goPairwise pushCand
  rw [R.parts, getPart_liveParts ms R.sorted, getPart_liveParts ms R.sorted]
  simp only [hgx, hgy, hl, hr, if_true, MEnt.part]
  cases cfg.make l.runes r.runes <;> rfl

/-- the three updates of the Go step as one map -/
def stepF (a b rn : Nat) (X : Str) (e : MEnt) : MEnt :=
  if e.start = a then { e with runes := X, n := rn }
  else if e.start = b then { e with runes := [] }
  else if e.start = rn then { e with p := some a }
  else e

theorem stepF_start (a b rn : Nat) (X : Str) (e : MEnt) : (stepF a b rn X e).start = e.start := by
  unfold stepF; repeat' split
  all_goals rfl

theorem stepF_a {a b rn : Nat} {X : Str} {e : MEnt} (h1 : e.start = a) :
    stepF a b rn X e = { e with runes := X, n := rn } := by unfold stepF; rw [if_pos h1]
theorem stepF_b {a b rn : Nat} {X : Str} {e : MEnt} (h1 : ¬ e.start = a) (h2 : e.start = b) :
    stepF a b rn X e = { e with runes := [] } := by unfold stepF; rw [if_neg h1, if_pos h2]
theorem stepF_rn {a b rn : Nat} {X : Str} {e : MEnt} (h1 : ¬ e.start = a) (h2 : ¬ e.start = b) (h3 : e.start = rn) :
    stepF a b rn X e = { e with p := some a } := by unfold stepF; rw [if_neg h1, if_neg h2, if_pos h3]
theorem stepF_else {a b rn : Nat} {X : Str} {e : MEnt} (h1 : ¬ e.start = a) (h2 : ¬ e.start = b) (h3 : ¬ e.start = rn) :
    stepF a b rn X e = e := by unfold stepF; rw [if_neg h1, if_neg h2, if_neg h3]

theorem updEnt3_eq (ms : List MEnt) (a b rn : Nat) (X : Str) (hab : a ≠ b) (har : a ≠ rn) (hbr : b ≠ rn) :
    updEnt (updEnt (updEnt ms a fun e => { e with runes := X, n := rn }) b fun e => { e with runes := [] })
      rn (fun e => { e with p := some a }) = ms.map (stepF a b rn X) := by
  unfold updEnt
  rw [List.map_map, List.map_map]
  apply List.map_congr_left
  intro e _
  simp only [Function.comp]
  unfold stepF
  by_cases h1 : e.start = a
  · simp [h1, hab, har]
  · by_cases h2 : e.start = b
    · simp [h2, Ne.symm hab, hbr]
    · by_cases h3 : e.start = rn
      · simp [h3, Ne.symm har, Ne.symm hbr]
      · simp [h1, h2, h3]

theorem liveParts_step (ms : List MEnt) (a b rn : Nat) (X : Str) (hX : X ≠ []) (hab : a ≠ b)
    (hla : ∀ e ∈ ms, e.start = a → e.live = true) :
    liveParts (ms.map (stepF a b rn X)) =
      ((liveParts ms).filter (fun p => p.start != b)).map fun p =>
        if p.start = a then ({ start := a, runes := X } : Part) else p := by
  induction ms with
  | nil => rfl
  | cons e ms ih =>
    have ih' := ih (fun x hx => hla x (List.mem_cons_of_mem _ hx))
    rw [List.map_cons, liveParts_cons, liveParts_cons, ih']
    by_cases h1 : e.start = a
    · have hl := hla e (by simp) h1
      have hlive : (stepF a b rn X e).live = true := by
        rw [stepF_a h1]; simp [MEnt.live, hX]
      rw [if_pos hlive, if_pos hl, List.filter_cons_of_pos (by simp [MEnt.part]; omega), List.map_cons]
      rw [stepF_a h1]
      simp [h1, MEnt.part]
    · by_cases h2 : e.start = b
      · have hdead : ¬ (stepF a b rn X e).live = true := by rw [stepF_b h1 h2]; simp [MEnt.live]
        rw [if_neg hdead]
        by_cases hl : e.live = true
        · rw [if_pos hl, List.filter_cons_of_neg (by simpa [MEnt.part] using h2)]
        · rw [if_neg hl]
      · have hsame : (stepF a b rn X e).live = e.live ∧ (stepF a b rn X e).part = e.part := by
          by_cases h3 : e.start = rn
          · rw [stepF_rn h1 h2 h3]; exact ⟨rfl, rfl⟩
          · rw [stepF_else h1 h2 h3]; exact ⟨rfl, rfl⟩
        by_cases hl : e.live = true
        · rw [if_pos (by rw [hsame.1]; exact hl), if_pos hl,
            List.filter_cons_of_pos (by simpa [MEnt.part] using h2), List.map_cons, hsame.2,
            if_neg (by simpa [MEnt.part] using h1)]
        · rw [if_neg (by rw [hsame.1]; exact hl), if_neg hl]

/-- **one step**: on a represented state, the Go step succeeds exactly when the model's does, and the new table
    represents the new list of parts (live entries AND stored pointers) -/
theorem goJoin_sim (ok : Str → Str → Bool) {N ms ps} (R : Rep N ms ps) (a b : Nat) (hadj : AdjOk ps a b) :
    match goJoin ok ms a b with
    | none => joinAt ok ps a b = none
    | some ms' => ∃ ps', joinAt ok ps a b = some ps' ∧ Rep N ms' ps' := by
  have hsp : SortedP ps := by rw [R.parts]; exact liveParts_sorted ms R.sorted
  have hab := hadj.1
  rw [joinAt_eq_direct ok ps a b hsp hadj]
  unfold goJoin joinDirect
  rw [R.parts, getPart_liveParts ms R.sorted, getPart_liveParts ms R.sorted]
  cases hga : getEnt ms a with
  | none => simp
  | some l =>
    cases hgb : getEnt ms b with
    | none =>
      by_cases hl : l.live = true <;> simp [hl]
    | some r =>
      simp only
      by_cases hl : l.live = true
      · by_cases hr : r.live = true
        · simp only [hl, hr, Bool.true_and, if_true, MEnt.part]
          by_cases hok : ok l.runes r.runes = true
          · simp only [hok, if_true]
            obtain ⟨hlm, hls⟩ := getEnt_some ms a l hga
            obtain ⟨hrm, hrs⟩ := getEnt_some ms b r hgb
            have hrn : r.n = nextStart ps b N := by have := (R.ptr r hrm hr).2; rw [hrs] at this; exact this
            have hbN : b < N := by have := R.bound r hrm; omega
            have hbrn : b < r.n := hrn ▸ nextStart_gt ps hsp b N hbN
            have hX : l.runes ++ r.runes ≠ [] := by
              intro h
              have : l.runes = [] := (List.append_eq_nil_iff.mp h).1
              simp [MEnt.live, this] at hl
            have huniq : ∀ e ∈ ms, e.start = a → e = l := by
              intro e he hea
              have := getEnt_of_mem ms R.sorted e he
              rw [hea, hga] at this
              exact (Option.some.inj this).symm
            rw [updEnt3_eq ms a b r.n _ (by omega) (by omega) (by omega)]
            have hparts := liveParts_step ms a b r.n (l.runes ++ r.runes) hX (by omega)
              (fun e he hea => by rw [huniq e he hea]; exact hl)
            refine ⟨_, rfl, ?_⟩
            -- the model's own step, in its successor-lookup form, to get the decomposition
            have hjd : joinDirect ok ps a b = some (((liveParts ms).filter (fun p => p.start != b)).map fun p =>
                if p.start = a then ({ start := a, runes := l.runes ++ r.runes } : Part) else p) := by
              unfold joinDirect
              rw [R.parts, getPart_liveParts ms R.sorted, getPart_liveParts ms R.sorted, hga, hgb]
              simp [hl, hr, MEnt.part, hok]
            rw [← joinAt_eq_direct ok ps a b hsp hadj] at hjd
            obtain ⟨pre, p, q, rest, hps, hpa, hqb, _, hps'⟩ := joinAt_some _ _ _ _ _ hjd
            refine ⟨List.pairwise_map.mpr (R.sorted.imp fun h => by rwa [stepF_start, stepF_start]), ?_, hparts.symm, ?_⟩
            · intro e he
              simp only [List.mem_map] at he
              obtain ⟨e0, he0, rfl⟩ := he
              rw [stepF_start]; exact R.bound e0 he0
            · intro e he hlive
              simp only [List.mem_map] at he
              obtain ⟨e0, he0, rfl⟩ := he
              have h2 : e0.start ≠ b := fun h2 => by
                rw [stepF_b (by omega) h2] at hlive
                simp [MEnt.live] at hlive
              rw [stepF_start, hps',
                prevStart_join pre rest p q _ a b N hpa hqb rfl hab (hps ▸ hsp) hbN _ h2 (Nat.ne_of_lt (R.bound e0 he0)),
                nextStart_join pre rest p q _ a b N hpa hqb rfl hab (hps ▸ hsp) _ h2, ← hps, ← hrn]
              by_cases h1 : e0.start = a
              · have he0l := huniq e0 he0 h1
                subst he0l
                rw [stepF_a h1, if_pos h1, if_neg (by omega)]
                exact ⟨(R.ptr e0 he0 hl).1, rfl⟩
              · have hlive0 : e0.live = true := by
                  by_cases h3 : e0.start = r.n
                  · rw [stepF_rn h1 h2 h3] at hlive; exact hlive
                  · rw [stepF_else h1 h2 h3] at hlive; exact hlive
                have hp0 := R.ptr e0 he0 hlive0
                rw [if_neg h1]
                by_cases h3 : e0.start = r.n
                · -- the entry after `b`: its `p` becomes `a`
                  rw [stepF_rn h1 h2 h3, if_pos h3]
                  exact ⟨rfl, hp0.2⟩
                · rw [stepF_else h1 h2 h3, if_neg h3]
                  exact hp0
          · simp [hok]
        · simp [hl, hr]
      · simp [hl]


theorem Rep.no_key {N ms ps} (R : Rep N ms ps) (x : Nat) (hx : N ≤ x) : getEnt ms x = none := by
  cases h : getEnt ms x with
  | none => rfl
  | some e =>
    have h1 := getEnt_some ms x e h
    have := R.bound e h1.1
    omega

/-- **the Go loop (table + stored pointers) and the model loop run in lock step** -/
theorem goLoop_sim (cfg : Cfg) (N f : Nat) {ms : List MEnt} {ps : List Part} (h : Array Cand)
    (R : Rep N ms ps) (hi : AdjInv ps h) : liveParts (goLoop cfg f ms h) = mergeLoop cfg N f ps h := by
  induction f generalizing ms ps h with
  | zero => exact R.parts.symm
  | succ f ih =>
    unfold goLoop mergeLoop
    cases hp : heapPop cfg.less h with
    | none => exact R.parts.symm
    | some ch =>
      obtain ⟨c, h'⟩ := ch
      simp only
      have hsim := goJoin_sim (cfg.ok c) R c.a c.b (hi.2 c (heapPop_mem _ _ _ _ hp).1)
      cases hg : goJoin (cfg.ok c) ms c.a c.b with
      | none =>
        rw [hg] at hsim
        simp only at hsim ⊢
        rw [hsim]
        exact ih h' R (Inv.pop hi hp)
      | some ms' =>
        rw [hg] at hsim
        obtain ⟨ps', hj, R'⟩ := hsim
        simp only
        rw [hj]
        simp only
        obtain ⟨pre, p, q, rest, _, _, _, _, hps'⟩ := joinAt_some _ _ _ _ _ hj
        obtain ⟨ea, hea, heal, _⟩ := R'.live_of_part ⟨c.a, p.runes ++ q.runes⟩ (by rw [hps']; simp)
        simp only at hea
        rw [hea]
        simp only
        obtain ⟨heam, heas⟩ := getEnt_some ms' c.a ea hea
        have hptr := R'.ptr ea heam heal
        rw [heas] at hptr
        -- first push: follows the stored pointer `merges[a].p`
        have e1 : goPairwise cfg ms' h' ea.p c.a = (match prevStart ps' c.a with
            | some p => pushCand cfg ps' h' p c.a
            | none => h') := by
          rw [hptr.1]
          cases hpv : prevStart ps' c.a with
          | none => rfl
          | some x =>
            have hc := (prevStart_consec _ _ _ hpv).mem
            exact goPairwise_eq_pushCand cfg R' h' x c.a hc.1 hc.2
        -- second push: follows the stored pointer `merges[a].n`
        have e2 : ∀ H, goPairwise cfg ms' H (some c.a) ea.n =
            (if nextStart ps' c.a N < N then pushCand cfg ps' H c.a (nextStart ps' c.a N) else H) := by
          intro H
          rw [hptr.2]
          by_cases hlt : nextStart ps' c.a N < N
          · rw [if_pos hlt]
            have hc := (nextStart_consec ps' c.a N (by omega)).mem
            exact goPairwise_eq_pushCand cfg R' H c.a _ hc.1 hc.2
          · rw [if_neg hlt]
            unfold goPairwise
            simp only
            rw [R'.no_key (nextStart ps' c.a N) (by omega)]
            cases getEnt ms' c.a <;> rfl
        rw [e1, e2]
        exact ih _ R' ((adjInv_loop cfg).step N hi hp hj)

/-! ### the initial state: `merges[r] = merge{p: r-1, n: r+1, runes: []rune{runes[r]}}` and the first pairs -/

def goInit : Str → Nat → List MEnt
  | [], _ => []
  | r :: rs, i => ⟨i, if i = 0 then none else some (i - 1), i + 1, [r]⟩ :: goInit rs (i + 1)

/-- `for i := range len(runes) - 1 { pairwise(i, i+1) }` -/
def goInitHeap (cfg : Cfg) (ms : List MEnt) : List MEnt → Array Cand → Array Cand
  | e :: e' :: rest, h => goInitHeap cfg ms (e' :: rest) (goPairwise cfg ms h (some e.start) e'.start)
  | _, h => h

/-- the Go merge procedure on a rune string; the result is what the final loop over `merges` emits -/
def goMergeAll (cfg : Cfg) (rs : Str) : List Part :=
  let ms := goInit rs 0
  liveParts (goLoop cfg (3 * rs.length + 3) ms (goInitHeap cfg ms ms #[]))

theorem goInit_facts (rs : Str) (k : Nat) : ∀ e ∈ goInit rs k,
    e.p = (if e.start = 0 then none else some (e.start - 1)) ∧ e.n = e.start + 1 ∧ k ≤ e.start ∧
      e.start < k + rs.length ∧ e.live = true := by
  induction rs generalizing k with
  | nil => intro e he; cases he
  | cons r rs ih =>
    intro e he
    simp only [goInit, List.mem_cons] at he
    rcases he with rfl | he
    · simp [MEnt.live]
    · obtain ⟨h1, h2, h3, h4, h5⟩ := ih (k + 1) e he
      simp only [List.length_cons]
      exact ⟨h1, h2, by omega, by omega, h5⟩

theorem goInit_sorted (rs : Str) (k : Nat) : KeysSorted (goInit rs k) := by
  induction rs generalizing k with
  | nil => exact List.Pairwise.nil
  | cons r rs ih =>
    simp only [goInit]
    apply List.Pairwise.cons _ (ih (k + 1))
    intro e he
    have := (goInit_facts rs (k + 1) e he).2.2.1
    simp only; omega

theorem goInit_parts (rs : Str) (k : Nat) : liveParts (goInit rs k) = initParts rs k ∧
    (goInit rs k).map MEnt.part = initParts rs k := by
  induction rs generalizing k with
  | nil => exact ⟨rfl, rfl⟩
  | cons r rs ih =>
    simp only [goInit, initParts, liveParts_cons, List.map_cons]
    simp [MEnt.live, MEnt.part, (ih (k + 1)).1, (ih (k + 1)).2]

theorem headStart?_initParts (rs : Str) (k : Nat) :
    headStart? (initParts rs k) = if rs = [] then none else some k := by
  cases rs <;> simp [initParts, headStart?]

theorem prevStart_initParts (rs : Str) (k s : Nat) :
    prevStart (initParts rs k) s = if k < s ∧ s < k + rs.length then some (s - 1) else none := by
  induction rs generalizing k with
  | nil =>
    rw [if_neg (by simp only [List.length_nil]; omega)]
    rfl
  | cons r rs ih =>
    simp only [initParts]
    rw [prevStart_cons, headStart?_initParts, ih (k + 1)]
    simp only [List.length_cons]
    cases rs with
    | nil =>
      simp only [if_true, List.length_nil]
      have : ¬ (k < s ∧ s < k + (0 + 1)) := by omega
      have h2 : ¬ (k + 1 < s ∧ s < k + 1 + 0) := by omega
      simp [this, h2]
    | cons r2 rs =>
      simp only [List.length_cons, reduceCtorEq, if_false]
      by_cases hs : s = k + 1
      · subst hs
        simp
      · have : ¬ (some (k + 1) = some s) := by simp; omega
        rw [if_neg this]
        by_cases h3 : k + 1 < s ∧ s < k + 1 + (rs.length + 1)
        · rw [if_pos h3, if_pos (by omega)]
        · rw [if_neg h3, if_neg (by omega)]

theorem nextStart_initParts (rs : Str) (k s N : Nat) :
    nextStart (initParts rs k) s N = if k ≤ s ∧ s + 1 < k + rs.length then s + 1 else N := by
  induction rs generalizing k with
  | nil =>
    rw [if_neg (by simp only [List.length_nil]; omega)]
    rfl
  | cons r rs ih =>
    simp only [initParts]
    rw [nextStart_cons, headStart?_initParts, ih (k + 1)]
    simp only [List.length_cons]
    cases rs with
    | nil =>
      simp only [if_true, List.length_nil]
      rw [if_neg (by omega)]
    | cons r2 rs =>
      simp only [List.length_cons, reduceCtorEq, if_false]
      by_cases hs : k = s
      · subst hs
        rw [if_pos rfl, if_pos (by omega)]
      · rw [if_neg hs]
        by_cases h3 : k + 1 ≤ s ∧ s + 1 < k + 1 + (rs.length + 1)
        · rw [if_pos h3, if_pos (by omega)]
        · rw [if_neg h3, if_neg (by omega)]

theorem goInit_rep (rs : Str) : Rep rs.length (goInit rs 0) (initParts rs 0) := by
  refine ⟨goInit_sorted rs 0, ?_, (goInit_parts rs 0).1.symm, ?_⟩
  · intro e he
    have := (goInit_facts rs 0 e he).2.2.2.1
    omega
  · intro e he _
    obtain ⟨h1, h2, _, h4, _⟩ := goInit_facts rs 0 e he
    rw [prevStart_initParts, nextStart_initParts, h1, h2]
    constructor
    · by_cases h0 : e.start = 0
      · rw [if_pos h0, if_neg (by omega)]
      · rw [if_neg h0, if_pos (by omega)]
    · by_cases hl : e.start + 1 < 0 + rs.length
      · rw [if_pos ⟨by omega, hl⟩]
      · rw [if_neg (by omega)]; omega

theorem goInitHeap_eq (cfg : Cfg) {N ms ps} (R : Rep N ms ps) (l : List MEnt) (h : Array Cand)
    (hl : ∀ e ∈ l, e ∈ ms ∧ e.live = true) :
    goInitHeap cfg ms l h = initHeap cfg ps (l.map MEnt.part) h := by
  induction l generalizing h with
  | nil => rfl
  | cons e rest ih =>
    cases rest with
    | nil => rfl
    | cons e' rest =>
      simp only [goInitHeap, List.map_cons, initHeap]
      have key : ∀ x ∈ e :: e' :: rest, ∃ q ∈ ps, q.start = x.start := fun x hx =>
        ⟨x.part, by rw [R.parts]; exact List.mem_map_of_mem (List.mem_filter.mpr (hl x hx)), rfl⟩
      rw [goPairwise_eq_pushCand cfg R h e.start e'.start (key e (by simp)) (key e' (by simp))]
      exact ih _ (fun x hx => hl x (List.mem_cons_of_mem _ hx))

/-- **The Go merge procedure — array of `merge{p, n, runes}` entries, both ends of a popped pair indexed directly,
    neighbours found through the STORED pointers — leaves exactly the parts of the model's `mergeAll`**
    (either family, any vocabulary, any queue order, any input). -/
theorem goMergeAll_eq (cfg : Cfg) (rs : Str) : goMergeAll cfg rs = mergeAll cfg rs := by
  unfold goMergeAll mergeAll
  simp only
  have R := goInit_rep rs
  have hheap : goInitHeap cfg (goInit rs 0) (goInit rs 0) #[]
      = initHeap cfg (initParts rs 0) (initParts rs 0) #[] := by
    rw [goInitHeap_eq cfg R (goInit rs 0) #[] (fun e he => ⟨he, (goInit_facts rs 0 e he).2.2.2.2⟩),
      (goInit_parts rs 0).2]
  rw [hheap]
  exact goLoop_sim cfg rs.length _ _ R (adjInv_init cfg rs)

end OllamaVerif.Tok
