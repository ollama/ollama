/-
  C20: the concrete `Vocabulary` (Model/TokenizerVocab.lean) and fuel sufficiency of the merge loop.
-/
import OllamaVerif.Proofs.Tokenizer
import OllamaVerif.Model.TokenizerVocab
namespace OllamaVerif.Tok

/-! ## `Vocabulary.Encode` / `Merge` / `SpecialVocabulary` -/

theorem lastIdxFrom_spec (vs : List Str) (i : Nat) (s : Str) (j : Nat) (h : lastIdxFrom vs i s = some j) :
    i ≤ j ∧ j < i + vs.length ∧ vs[j - i]? = some s := by
  fun_induction lastIdxFrom vs i s with
  | case1 => cases h
  | case2 v vs i s k hk ih =>
    cases h
    obtain ⟨h1, h2, h3⟩ := ih hk
    refine ⟨by omega, by simp only [List.length_cons]; omega, ?_⟩
    rw [show j - i = (j - (i + 1)) + 1 by omega, List.getElem?_cons_succ]
    exact h3
  | case3 vs i s hn ih =>
    cases h
    exact ⟨Nat.le_refl _, by simp, by simp⟩
  | case4 v vs i s hn hv ih => cases h

theorem lastIdxFrom_isSome (vs : List Str) (i : Nat) (s : Str) (h : s ∈ vs) : (lastIdxFrom vs i s).isSome = true := by
  fun_induction lastIdxFrom vs i s with
  | case1 => cases h
  | case2 => rfl
  | case3 => rfl
  | case4 v vs i s hn hv ih =>
    rcases List.mem_cons.mp h with h | h
    · exact absurd h.symm hv
    · rw [hn] at ih
      exact absurd (ih h) (by simp)

/-- the LAST occurrence: no later index holds the same string -/
theorem lastIdxFrom_last (vs : List Str) (i : Nat) (s : Str) (j : Nat) (h : lastIdxFrom vs i s = some j) :
    ∀ k, j - i < k → vs[k]? ≠ some s := by
  fun_induction lastIdxFrom vs i s with
  | case1 => cases h
  | case2 v vs i s m hm ih =>
    cases h
    obtain ⟨h1, _, _⟩ := lastIdxFrom_spec vs (i + 1) s j hm
    intro k hk
    cases k with
    | zero => omega
    | succ k =>
      rw [List.getElem?_cons_succ]
      exact ih hm k (by omega)
  | case3 vs i s hn ih =>
    cases h
    intro k hk
    cases k with
    | zero => omega
    | succ k =>
      rw [List.getElem?_cons_succ]
      intro hc
      have := lastIdxFrom_isSome vs (j + 1) s (List.mem_of_getElem? hc)
      rw [hn] at this
      cases this
  | case4 v vs i s hn hv ih => cases h

/-- **`Values[values[s]] = s` and the id is in range — for EVERY `Values` slice** (duplicates included):
    the well-formedness hypothesis `Wf` of the round-trip theorems holds for the vocabulary the code builds. -/
theorem VocabData.vocab_wf (D : VocabData) : D.vocab.Wf := by
  intro t i h
  obtain ⟨_, h2, h3⟩ := lastIdxFrom_spec D.values 0 t i h
  simp only [Nat.sub_zero, Nat.zero_add] at h2 h3
  refine ⟨?_, h2⟩
  simp [VocabData.vocab, List.getD, h3]

theorem specialStringsFrom_cons_some (sk : Bool) (types : List Nat) (v : Str) (vs : List Str) (i : Nat) (l : List Str)
    (h : specialStringsFrom sk types (v :: vs) i = some l) :
    ∃ r, specialStringsFrom sk types vs (i + 1) = some r ∧
      l = if ¬ (sk = true ∧ v = []) ∧ (v = startOfTurn ∨ v = endOfTurn ∨ types[i]? = some tokenTypeControl)
        then v :: r else r := by
  simp only [specialStringsFrom] at h
  split at h
  · rename_i hskip
    exact ⟨l, h, by rw [if_neg fun c => c.1 hskip]⟩
  · rename_i hnskip
    split at h
    · rename_i hv
      obtain ⟨r, hr, rfl⟩ := Option.map_eq_some_iff.mp h
      exact ⟨r, hr, by rw [if_pos ⟨hnskip, hv.elim Or.inl fun e => Or.inr (Or.inl e)⟩]⟩
    · rename_i hv
      split at h
      · cases h
      · rename_i t ht
        obtain ⟨r, hr, rfl⟩ := Option.map_eq_some_iff.mp h
        refine ⟨r, hr, ?_⟩
        by_cases htc : t = tokenTypeControl
        · rw [if_pos htc, if_pos ⟨hnskip, Or.inr (Or.inr (by rw [ht, htc]))⟩]
        · rw [if_neg htc, if_neg fun c => c.2.elim (hv ∘ Or.inl) (·.elim (hv ∘ Or.inr) fun e => htc (by rw [ht] at e; exact Option.some.inj e))]

/-- which strings `SpecialVocabulary` returns: exactly the `Values[i]` that are a turn marker or whose
    `Types[i]` is CONTROL (when the call does not panic) — and, in the repaired variant, are not empty -/
theorem specialStringsFrom_iff (sk : Bool) (types : List Nat) (vs : List Str) (i : Nat) (l : List Str)
    (h : specialStringsFrom sk types vs i = some l) (s : Str) :
    s ∈ l ↔ ¬ (sk = true ∧ s = []) ∧
      ∃ k, vs[k]? = some s ∧ (s = startOfTurn ∨ s = endOfTurn ∨ types[i + k]? = some tokenTypeControl) := by
  induction vs generalizing i l with
  | nil => simp [specialStringsFrom] at h; subst h; simp
  | cons v vs ih =>
    obtain ⟨r, hr, rfl⟩ := specialStringsFrom_cons_some sk types v vs i l h
    have ih' := ih (i + 1) r hr
    have hidx : ∀ k, i + (k + 1) = i + 1 + k := fun k => by omega
    constructor
    · intro hs
      by_cases hmem : s ∈ r
      · obtain ⟨h1, k, hk, hp⟩ := ih'.mp hmem
        exact ⟨h1, k + 1, by rwa [List.getElem?_cons_succ], by rwa [hidx]⟩
      · split at hs
        · rename_i hK
          rcases List.mem_cons.mp hs with rfl | hs
          · exact ⟨hK.1, 0, rfl, hK.2⟩
          · exact absurd hs hmem
        · exact absurd hs hmem
    · rintro ⟨h1, k, hk, hp⟩
      cases k with
      | zero =>
        obtain rfl : v = s := by simpa using hk
        rw [if_pos ⟨h1, hp⟩]
        exact List.mem_cons_self
      | succ k =>
        rw [List.getElem?_cons_succ] at hk
        rw [hidx] at hp
        have : s ∈ r := ih'.mpr ⟨h1, k, hk, hp⟩
        split
        · exact List.mem_cons_of_mem _ this
        · exact this

theorem specialStringsFrom_mem (sk : Bool) (types : List Nat) (vs : List Str) (i : Nat) (l : List Str)
    (h : specialStringsFrom sk types vs i = some l) : ∀ s ∈ l, s ∈ vs := by
  intro s hs
  obtain ⟨_, k, hk, _⟩ := (specialStringsFrom_iff sk types vs i l h s).mp hs
  exact List.mem_of_getElem? hk

/-- the repaired loop never returns the empty string -/
theorem specialStringsFrom_skip_nonempty (types : List Nat) (vs : List Str) (i : Nat) (l : List Str)
    (h : specialStringsFrom true types vs i = some l) : [] ∉ l :=
  fun hm => ((specialStringsFrom_iff true types vs i l h []).mp hm).1 ⟨rfl, rfl⟩

/-- linear to evaluate, where `types[i]?` in the loop makes evaluation quadratic -/
theorem specialStringsFrom_eq_filter (sk : Bool) (types : List Nat) (vs : List Str) (i : Nat)
    (h : i + vs.length ≤ types.length) :
    specialStringsFrom sk types vs i = some (((vs.zip (types.drop i)).filter fun vt =>
      decide (¬ (sk = true ∧ vt.1 = []) ∧ (vt.1 = startOfTurn ∨ vt.1 = endOfTurn ∨ vt.2 = tokenTypeControl))).map (·.1)) := by
  induction vs generalizing i with
  | nil => rfl
  | cons v vs ih =>
    have hi : i < types.length := by simp only [List.length_cons] at h; omega
    have ih' := ih (i + 1) (by simp only [List.length_cons] at h; omega)
    rw [List.drop_eq_getElem_cons hi, List.zip_cons_cons, List.filter_cons, specialStringsFrom, ih',
      List.getElem?_eq_getElem hi]
    by_cases h1 : sk = true ∧ v = []
    · rw [if_pos h1, if_neg (by simp [h1])]
    · rw [if_neg h1]
      by_cases h2 : v = startOfTurn ∨ v = endOfTurn
      · rw [if_pos h2, if_pos (decide_eq_true ⟨h1, h2.elim Or.inl fun h => Or.inr (Or.inl h)⟩)]
        rfl
      · rw [if_neg h2]
        by_cases h3 : types[i] = tokenTypeControl
        · simp only [if_pos h3]
          rw [if_pos (decide_eq_true ⟨h1, Or.inr (Or.inr h3)⟩)]
          rfl
        · simp only [if_neg h3]
          rw [if_neg fun h => (of_decide_eq_true h).2.elim (h2 ∘ Or.inl) (·.elim (h2 ∘ Or.inr) h3)]
          rfl

/-- every special token `Encode` works with: its id is in range, `Values[id]` is its string, its literal is `toLit`
    of that string, and the string is one of those `SpecialVocabulary()` returned -/
theorem VocabData.specialsOf_wf (D : VocabData) (sk : Bool) (toLit : Str → Str) (sps : List Str)
    (hsp : D.specialStrings sk = some sps) :
    ∀ q ∈ D.specialsOf toLit sps, q.id < D.vocab.size ∧ D.vocab.tokStr q.id = q.runes ∧ q.lit = toLit q.runes ∧
      q.runes ∈ sps := by
  intro q hq
  simp only [VocabData.specialsOf, List.mem_map] at hq
  obtain ⟨s, hs, rfl⟩ := hq
  have hmem : s ∈ D.values := specialStringsFrom_mem _ _ _ _ _ hsp s hs
  have hsome := lastIdxFrom_isSome D.values 0 s hmem
  obtain ⟨i, hi⟩ := Option.isSome_iff_exists.mp hsome
  have hi' : D.vocab.tokId s = some i := hi
  have := D.vocab_wf s i hi'
  simp only [hi', Option.getD_some]
  exact ⟨this.2, this.1, trivial, hs⟩

theorem VocabData.specials_eq (D : VocabData) (sk : Bool) (toLit : Str → Str) (sps : List Str)
    (hsp : D.specialStrings sk = some sps) : D.specials sk toLit = D.specialsOf toLit sps := by
  simp [VocabData.specials, hsp]

/-! ## fuel sufficiency: the model's merge loop stops because the queue is empty, never because fuel ran out -/

theorem size_pushCand (cfg : Cfg) (ps : List Part) (h : Array Cand) (a b : Nat) :
    (pushCand cfg ps h a b).size ≤ h.size + 1 := by
  unfold pushCand
  split
  · split
    · rw [size_heapPush]; omega
    · omega
  · omega

theorem size_pushesAt (cfg : Cfg) (n : Nat) (ps : List Part) (h : Array Cand) (a : Nat) :
    (pushesAt cfg n ps h a).size ≤ h.size + 2 := by
  have h2 : ∀ H : Array Cand,
      (if nextStart ps a n < n then pushCand cfg ps H a (nextStart ps a n) else H).size ≤ H.size + 1 := fun H => by
    split
    · exact size_pushCand ..
    · omega
  refine Nat.le_trans (h2 _) ?_
  split
  · have := size_pushCand cfg ps h ‹_› a
    omega
  · omega

theorem length_joinAt (ok : Str → Str → Bool) (ps ps' : List Part) (a b : Nat)
    (h : joinAt ok ps a b = some ps') : ps'.length + 1 = ps.length := by
  obtain ⟨pre, p, q, rest, rfl, _, _, _, rfl⟩ := joinAt_some _ _ _ _ _ h
  simp only [List.length_append, List.length_cons]
  omega

/-- each iteration pops one entry and either discards it or removes one part and pushes at most two entries:
    `queue size + 2 · live parts` strictly decreases, so any fuel above it gives the same result -/
theorem mergeLoop_fuel (cfg : Cfg) (n f : Nat) (ps : List Part) (h : Array Cand)
    (hm : h.size + 2 * ps.length ≤ f) : ∀ g, f ≤ g → mergeLoop cfg n g ps h = mergeLoop cfg n f ps h := by
  induction f generalizing ps h with
  | zero =>
    intro g _
    have hs : h.size = 0 := by omega
    cases g with
    | zero => rfl
    | succ g => simp [mergeLoop, heapPop_none _ _ hs]
  | succ f ih =>
    intro g hg
    cases g with
    | zero => omega
    | succ g =>
      simp only [mergeLoop]
      cases hp : heapPop cfg.less h with
      | none => rfl
      | some ch =>
        obtain ⟨c, h'⟩ := ch
        have hsz := size_heapPop _ _ _ _ hp
        simp only
        cases hj : joinAt (cfg.ok c) ps c.a c.b with
        | none => exact ih ps h' (by omega) g (by omega)
        | some ps' =>
          have hl := length_joinAt _ _ _ _ _ hj
          simp only
          have := size_pushesAt cfg n ps' h' c.a
          exact ih _ (pushesAt cfg n ps' h' c.a) (by omega) g (by omega)

theorem length_initParts (rs : Str) (i : Nat) : (initParts rs i).length = rs.length := by
  induction rs generalizing i with
  | nil => rfl
  | cons r rs ih => simp [initParts, ih]

theorem size_initHeap (cfg : Cfg) (ps l : List Part) (h : Array Cand) :
    (initHeap cfg ps l h).size + 1 ≤ h.size + max l.length 1 := by
  induction l generalizing h with
  | nil => simp [initHeap]
  | cons p rest ih =>
    cases rest with
    | nil => simp [initHeap]
    | cons q rest =>
      simp only [initHeap]
      have h1 := ih (pushCand cfg ps h p.start q.start)
      have h2 := size_pushCand cfg ps h p.start q.start
      simp only [List.length_cons] at h1 ⊢
      omega

/-- **The fuel `3n+3` of `mergeAll` is sufficient**: running the loop with ANY larger fuel gives the same parts,
    i.e. the model's loop ends with an empty queue like the Go loop `for !pairs.Empty()` (both families). -/
theorem mergeAll_fuel_sufficient (cfg : Cfg) (rs : Str) (g : Nat) (hg : 3 * rs.length + 3 ≤ g) :
    mergeLoop cfg rs.length g (initParts rs 0) (initHeap cfg (initParts rs 0) (initParts rs 0) #[]) = mergeAll cfg rs := by
  unfold mergeAll
  apply mergeLoop_fuel _ _ _ _ _ _ g hg
  have h1 := size_initHeap cfg (initParts rs 0) (initParts rs 0) #[]
  rw [length_initParts] at h1 ⊢
  simp only [Array.size_empty] at h1
  omega

end OllamaVerif.Tok
