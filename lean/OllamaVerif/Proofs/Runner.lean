/-
  C07 — helper lemmas about the runner prompt-cache model (Model/Runner.lean): what each
  `kvcache.Causal` operation does to the per-sequence view of the cells, the canonical view of a
  record, the slot-selection folds, the batch of one sequence, ShiftDiscard.  Core Lean only.
-/
import OllamaVerif.Model.Runner

namespace OllamaVerif.Runner

/-! ## per-sequence view of the cells -/

/-- what a cell contributes to a sequence's view: metadata position, key-row token, key-row position -/
def Cell.key (c : Cell) : Int × Tok × Int := (c.pos, c.tok, c.dpos)

/-- the entries of sequence `s`, in location order -/
def view (cells : List Cell) (s : Nat) : List (Int × Tok × Int) :=
  (cells.filter (·.has s)).map Cell.key

theorem seqEntries_eq_view (cells : List Cell) (s : Nat) : seqEntries cells s = view cells s := rfl

/-- the view a record should have: input `k` at position `k`, key row roped to `k` -/
def canonFrom : Nat → List Tok → List (Int × Tok × Int)
  | _, [] => []
  | k, t :: ts => ((k : Int), t, (k : Int)) :: canonFrom (k + 1) ts

def canon (inputs : List Tok) : List (Int × Tok × Int) := canonFrom 0 inputs

/-- every position is a non-negative int32 below MaxInt32 -/
def PosBound (cells : List Cell) : Prop := ∀ c ∈ cells, 0 ≤ c.pos ∧ c.pos < maxI32

@[simp] theorem view_nil (s : Nat) : view [] s = [] := rfl

theorem view_cons (c : Cell) (cs : List Cell) (s : Nat) :
    view (c :: cs) s = if c.has s then c.key :: view cs s else view cs s := by
  unfold view
  by_cases h : c.has s <;> simp [h]

theorem view_append (a b : List Cell) (s : Nat) : view (a ++ b) s = view a s ++ view b s := by
  simp [view, List.filter_append]

theorem has_dropSeq (c : Cell) (s t : Nat) : (c.dropSeq s).has t = (c.has t && t != s) := by
  unfold Cell.dropSeq Cell.has
  rw [Bool.eq_iff_iff]
  simp [List.mem_filter]

theorem has_dropSeq_self (c : Cell) (s : Nat) : (c.dropSeq s).has s = false := by
  simp [has_dropSeq]

theorem has_dropSeq_other (c : Cell) (s t : Nat) (h : t ≠ s) : (c.dropSeq s).has t = c.has t := by
  simp [has_dropSeq, h]

theorem not_shared_other (c : Cell) (s t : Nat) (h : t ≠ s) (hs : c.sharedBeyond s = false) :
    c.has t = false := by
  unfold Cell.sharedBeyond at hs
  unfold Cell.has
  cases hc : c.seqs.contains t with
  | false => rfl
  | true =>
    have hm : t ∈ c.seqs := List.contains_iff_mem.mp hc
    have : c.seqs.any (· != s) = true := List.any_eq_true.mpr ⟨t, hm, by simp [h]⟩
    rw [this] at hs; cases hs

@[simp] theorem key_dropSeq (c : Cell) (s : Nat) : (c.dropSeq s).key = c.key := rfl

/-! ## Causal.Remove -/

/-- one entry of `s` under a shifting `Remove`, the cell loop and `Causal.shift` together: entries in `[b, e)` go,
    entries from `e` on move by `off`, metadata and key row alike -/
def shiftEntry (b e off : Int) (x : Int × Tok × Int) : Option (Int × Tok × Int) :=
  if b ≤ x.1 ∧ x.1 < e then none else if e ≤ x.1 then some (x.1 + off, x.2.1, x.2.2 + off) else some x

/-- Remove never changes another sequence's view — also when it returns its error half-way. -/
theorem removeGo_other (s t : Nat) (h : t ≠ s) (b e off : Int) (cells : List Cell) :
    view (removeGo s b e off cells).1 t = view cells t := by
  fun_induction removeGo s b e off cells with
  | case1 => rfl
  | case2 c cs h1 h2 r ih => simp only [view_cons, has_dropSeq_other c s t h, key_dropSeq, r, ih]
  | case3 => rfl
  | case4 c cs h1 h2 h3 h4 r ih =>
    have hct : c.has t = false := not_shared_other c s t h ((Bool.not_eq_true _).mp h4)
    simp only [view_cons, r, ih]
    rw [show Cell.has { c with pos := c.pos + off } t = c.has t from rfl, hct]
    rfl
  | case5 c cs _ _ _ r ih | case6 c cs _ r ih => simp only [view_cons, r, ih]


/-- a moved position `p ≥ e` becomes `p + off ≥ e + off ≥ 0` -/
theorem removeGo_bound (s : Nat) (b e off : Int) (hoff : off ≤ 0) (hlow : 0 ≤ e + off)
    (cells : List Cell) (hb : PosBound cells) : PosBound (removeGo s b e off cells).1 := by
  fun_induction removeGo s b e off cells with
  | case1 => exact hb
  | case3 => exact hb
  | case2 c cs _ _ r ih | case5 c cs _ _ _ r ih | case6 c cs _ r ih =>
    obtain ⟨hc, hcs⟩ := List.forall_mem_cons.mp hb
    exact List.forall_mem_cons.mpr ⟨hc, ih hcs⟩
  | case4 c cs h1 h2 h3 h4 r ih =>
    obtain ⟨hc, hcs⟩ := List.forall_mem_cons.mp hb
    exact List.forall_mem_cons.mpr ⟨by simp only; omega, ih hcs⟩

/-- `Remove(s, b, MaxInt32)` on bounded cells: no error, exactly the entries at positions `≥ b` go. -/
theorem removeGo_clear (s : Nat) (b : Int) (cells : List Cell) (hb : PosBound cells) :
    (removeGo s b maxI32 0 cells).2 = false ∧
    view (removeGo s b maxI32 0 cells).1 s = (view cells s).filter (fun x => decide (x.1 < b)) := by
  fun_induction removeGo s b maxI32 0 cells with
  | case1 => exact ⟨rfl, rfl⟩
  | case2 c cs h1 h2 r ih =>
    obtain ⟨ih1, ih2⟩ := ih (List.forall_mem_cons.mp hb).2
    have : ¬ c.key.1 < b := Int.not_lt.mpr h2.1
    simp only [r, ih1, view_cons, has_dropSeq_self, h1, ih2, List.filter_cons, this, decide_false, Bool.false_eq_true, if_false, if_true, true_and]
  | case3 c cs _ _ h3 _ | case4 c cs _ _ h3 _ r ih => have := (hb c (List.mem_cons_self ..)).2; omega
  | case5 c cs h1 h2 h3 r ih =>
    obtain ⟨ih1, ih2⟩ := ih (List.forall_mem_cons.mp hb).2
    have : c.key.1 < b := by have := (hb c (List.mem_cons_self ..)).2; show c.pos < b; omega
    simp only [r, ih1, view_cons, h1, ih2, List.filter_cons, this, decide_true, if_true, true_and]
  | case6 c cs h1 r ih =>
    obtain ⟨ih1, ih2⟩ := ih (List.forall_mem_cons.mp hb).2
    simp only [r, ih1, view_cons, h1, ih2, Bool.false_eq_true, if_false, true_and]

/-! ## Causal.shift (key rows) -/

theorem has_ropeCell (s t : Nat) (b off : Int) (c : Cell) : (ropeCell s b off c).has t = c.has t := by
  unfold ropeCell; split <;> rfl

theorem pos_ropeCell (s : Nat) (b off : Int) (c : Cell) : (ropeCell s b off c).pos = c.pos := by
  unfold ropeCell; split <;> rfl

/-- a successful cell loop of `Remove` followed by `Causal.shift`, seen from the sequence itself (a moved entry lands at
    `≥ e + off ≥ b`, so it is roped); the second part lets `Causal.shift` rope the cells of `s` without touching another
    sequence -/
theorem removeGo_ok (s : Nat) (b e off : Int) (cells : List Cell) (hoff : b ≤ e + off)
    (hok : ¬ (removeGo s b e off cells).2 = true) :
    view ((removeGo s b e off cells).1.map (ropeCell s b off)) s = (view cells s).filterMap (shiftEntry b e off) ∧
    ∀ c ∈ (removeGo s b e off cells).1, c.has s = true → b ≤ c.pos → c.sharedBeyond s = false := by
  fun_induction removeGo s b e off cells with
  | case1 => exact ⟨rfl, nofun⟩
  | case2 c cs h1 h2 r ih =>
    obtain ⟨ih1, ih2⟩ := ih hok
    refine ⟨?_, List.forall_mem_cons.mpr ⟨fun hxs => ?_, ih2⟩⟩
    · have : shiftEntry b e off c.key = none := if_pos h2
      simp only [r, List.map_cons, view_cons, has_ropeCell, has_dropSeq_self, Bool.false_eq_true, if_false, h1, if_true,
        ih1, List.filterMap_cons, this]
    · rw [has_dropSeq_self] at hxs; cases hxs
  | case3 => exact absurd rfl hok
  | case4 c cs h1 h2 h3 h4 r ih =>
    obtain ⟨ih1, ih2⟩ := ih hok
    refine ⟨?_, List.forall_mem_cons.mpr ⟨fun _ _ => (Bool.not_eq_true _).mp h4, ih2⟩⟩
    have : shiftEntry b e off c.key = some (c.pos + off, c.tok, c.dpos + off) := (if_neg h2).trans (if_pos h3)
    have hr : ropeCell s b off { c with pos := c.pos + off } = { c with pos := c.pos + off, dpos := c.dpos + off } :=
      if_pos (by simp only [show Cell.has { c with pos := c.pos + off } s = true from h1, Bool.true_and, decide_eq_true_eq]; omega)
    simp only [r, List.map_cons, hr, view_cons, show Cell.has { c with pos := c.pos + off, dpos := c.dpos + off } s = true from h1,
      h1, if_true, ih1, List.filterMap_cons, this]
    rfl
  | case5 c cs h1 h2 h3 r ih =>
    obtain ⟨ih1, ih2⟩ := ih hok
    refine ⟨?_, List.forall_mem_cons.mpr ⟨fun _ hxb => by exfalso; omega, ih2⟩⟩
    have : shiftEntry b e off c.key = some c.key := (if_neg h2).trans (if_neg h3)
    have hr : ropeCell s b off c = c := if_neg (by simp only [h1, Bool.true_and, decide_eq_true_eq]; omega)
    simp only [r, List.map_cons, hr, view_cons, h1, if_true, ih1, List.filterMap_cons, this]
  | case6 c cs h1 r ih =>
    obtain ⟨ih1, ih2⟩ := ih hok
    refine ⟨?_, List.forall_mem_cons.mpr ⟨fun hxs => absurd hxs h1, ih2⟩⟩
    simp only [r, List.map_cons, view_cons, has_ropeCell, h1, Bool.false_eq_true, if_false, ih1]

theorem rope_view_other (s t : Nat) (h : t ≠ s) (b off : Int) (cells : List Cell)
    (hex : ∀ c ∈ cells, c.has s = true → b ≤ c.pos → c.sharedBeyond s = false) :
    view (cells.map (ropeCell s b off)) t = view cells t := by
  unfold view
  rw [List.filter_map, List.map_map,
    show ((·.has t) ∘ ropeCell s b off) = (·.has t) from funext (has_ropeCell s t b off)]
  refine List.map_congr_left fun c hc => ?_
  obtain ⟨hc, ht⟩ := List.mem_filter.mp hc
  rw [Function.comp_apply, ropeCell, if_neg]
  intro hcond
  simp only [Bool.and_eq_true, decide_eq_true_eq] at hcond
  rw [not_shared_other c s t h (hex c hc hcond.1 hcond.2)] at ht
  cases ht

theorem posBound_map (f : Cell → Cell) (hf : ∀ c, (f c).pos = c.pos) (cells : List Cell) (hb : PosBound cells) :
    PosBound (cells.map f) := by
  intro c hc
  obtain ⟨x, hx, rfl⟩ := List.mem_map.mp hc
  rw [hf]; exact hb x hx

/-! ## Causal.CopyPrefix -/

theorem has_append_seq (c : Cell) (d t : Nat) :
    Cell.has { c with seqs := c.seqs ++ [d] } t = (c.has t || t == d) := by
  unfold Cell.has
  rw [Bool.eq_iff_iff]
  simp

theorem copyCell_has_other (src dst t : Nat) (n : Int) (c : Cell) (h : t ≠ dst) :
    (copyCell src dst n c).has t = c.has t := by
  unfold copyCell
  simp only
  split
  · rw [has_append_seq, has_dropSeq_other c dst t h]; simp [h]
  · exact has_dropSeq_other c dst t h

theorem copyCell_key (src dst : Nat) (n : Int) (c : Cell) : (copyCell src dst n c).key = c.key := by
  unfold copyCell; simp only; split <;> rfl

theorem copyCell_has_dst (src dst : Nat) (n : Int) (c : Cell) (h : src ≠ dst) :
    (copyCell src dst n c).has dst = (c.has src && decide (c.pos < n)) := by
  unfold copyCell
  simp only
  have h1 : (c.dropSeq dst).has src = c.has src := has_dropSeq_other c dst src h
  have h2 : (c.dropSeq dst).pos = c.pos := rfl
  split
  · next hc => rw [has_append_seq]; rw [h1, h2] at hc; simp [hc]
  · next hc => rw [has_dropSeq_self]; rw [h1, h2] at hc; simp at hc ⊢; exact hc

theorem copy_view_other (src dst t : Nat) (n : Int) (h : t ≠ dst) (cells : List Cell) :
    view (copyPrefix cells src dst n) t = view cells t := by
  unfold copyPrefix
  induction cells with
  | nil => rfl
  | cons c cs ih => simp only [List.map_cons, view_cons, copyCell_has_other src dst t n c h, copyCell_key, ih]

theorem copy_view_dst (src dst : Nat) (n : Int) (h : src ≠ dst) (cells : List Cell) :
    view (copyPrefix cells src dst n) dst = (view cells src).filter (fun x => decide (x.1 < n)) := by
  unfold copyPrefix view
  rw [List.filter_map, List.map_map, List.filter_map, List.filter_filter,
    show (Cell.key ∘ copyCell src dst n) = Cell.key from funext (copyCell_key src dst n)]
  congr 2
  funext c
  exact (copyCell_has_dst src dst n c h).trans (Bool.and_comm ..)

theorem copy_bound (src dst : Nat) (n : Int) (cells : List Cell) (hb : PosBound cells) :
    PosBound (copyPrefix cells src dst n) :=
  posBound_map _ (fun x => by unfold copyCell; simp only; split <;> rfl) cells hb

/-! ## StartForward + Put -/

theorem view_free (cells : List Cell) (s : Nat) (h : ∀ c ∈ cells, c.seqs = []) : view cells s = [] := by
  induction cells with
  | nil => rfl
  | cons c cs ih =>
    have hc : c.has s = false := by simp [Cell.has, h c (List.mem_cons_self ..)]
    simp [view_cons, hc, ih (fun x hx => h x (List.mem_cons_of_mem _ hx))]

/-- storing a batch into free cells appends its entries to each sequence's view (up to order) -/
theorem store_view (cells : List Cell) (loc : Nat) (batch : List BTok) (s : Nat)
    (hfree : ∀ c ∈ (cells.drop loc).take batch.length, c.seqs = []) :
    (view (store cells loc batch) s).Perm (view cells s ++ view (batch.map BTok.cell) s) := by
  have hsplit : cells = cells.take loc ++ ((cells.drop loc).take batch.length ++ cells.drop (loc + batch.length)) := by
    rw [← List.drop_drop, List.take_append_drop, List.take_append_drop]
  have hv : view cells s = view (cells.take loc) s ++ view (cells.drop (loc + batch.length)) s := by
    conv => lhs; rw [hsplit]
    simp [view_append, view_free _ s hfree]
  unfold store
  rw [view_append, view_append, hv, List.append_assoc, List.append_assoc]
  exact List.Perm.append_left _ List.perm_append_comm

theorem store_bound (cells : List Cell) (loc : Nat) (batch : List BTok) (hb : PosBound cells)
    (hp : ∀ t ∈ batch, (t.pos : Int) < maxI32) : PosBound (store cells loc batch) := by
  intro c hc
  unfold store at hc
  rcases List.mem_append.mp hc with hc | hc
  · rcases List.mem_append.mp hc with hc | hc
    · exact hb c (List.mem_of_mem_take hc)
    · obtain ⟨t, ht, rfl⟩ := List.mem_map.mp hc
      exact ⟨Int.natCast_nonneg _, hp t ht⟩
  · exact hb c (List.mem_of_mem_drop hc)

/-! ## the canonical view -/

theorem canonFrom_append (k : Nat) (a b : List Tok) :
    canonFrom k (a ++ b) = canonFrom k a ++ canonFrom (k + a.length) b := by
  induction a generalizing k with
  | nil => simp [canonFrom]
  | cons x xs ih => simp [canonFrom, ih, Nat.add_assoc, Nat.add_comm 1]

theorem canonFrom_mem (k : Nat) (l : List Tok) :
    ∀ x ∈ canonFrom k l, (k : Int) ≤ x.1 ∧ x.1 < (k : Int) + l.length := by
  fun_induction canonFrom k l with
  | case1 => nofun
  | case2 k t ts ih =>
    refine List.forall_mem_cons.mpr ⟨?_, fun x hx => ?_⟩
    · simp only [List.length_cons]; omega
    · have := ih x hx; simp only [List.length_cons]; omega

theorem canonFrom_eq_nil (k : Nat) (l : List Tok) (h : canonFrom k l = []) : l = [] := by
  cases l with
  | nil => rfl
  | cons a as => simp [canonFrom] at h

theorem canonFrom_filter_lt (k m : Nat) (l : List Tok) :
    (canonFrom k l).filter (fun x => decide (x.1 < ((k + m : Nat) : Int))) = canonFrom k (l.take m) := by
  induction l generalizing k m with
  | nil => rw [List.take_nil]; rfl
  | cons t ts ih =>
    cases m with
    | zero =>
      exact List.filter_eq_nil_iff.mpr fun x hx => by
        have := canonFrom_mem k _ x hx
        simp only [decide_eq_true_eq]; omega
    | succ m =>
      rw [List.take_succ_cons, canonFrom, canonFrom, List.filter_cons, if_pos (by simp only [decide_eq_true_eq]; omega),
        show k + (m + 1) = k + 1 + m by omega, ih]

theorem canon_filter_lt (l : List Tok) (m : Nat) :
    (canon l).filter (fun x => decide (x.1 < (m : Int))) = canon (l.take m) := by
  have := canonFrom_filter_lt 0 m l
  rwa [Nat.zero_add] at this

theorem shift_low (b e off : Int) (hbe : b ≤ e) (k : Nat) (l : List Tok) (h : (k : Int) + l.length ≤ b) :
    (canonFrom k l).filterMap (shiftEntry b e off) = canonFrom k l := by
  induction l generalizing k with
  | nil => rfl
  | cons t ts ih =>
    simp only [List.length_cons] at h
    have h1 : shiftEntry b e off ((k : Int), t, (k : Int)) = some ((k : Int), t, (k : Int)) :=
      (if_neg (by simp only; omega)).trans (if_neg (by simp only; omega))
    rw [canonFrom, List.filterMap_cons, h1, ih (k + 1) (by omega)]

theorem shift_mid (b e off : Int) (k : Nat) (l : List Tok) (h1 : b ≤ (k : Int))
    (h2 : (k : Int) + l.length ≤ e) : (canonFrom k l).filterMap (shiftEntry b e off) = [] := by
  rw [List.filterMap_eq_nil_iff]
  intro x hx
  have := canonFrom_mem k l x hx
  rw [shiftEntry, if_pos (by omega)]

theorem shift_high (b e : Int) (d : Nat) (k : Nat) (l : List Tok) (h1 : e ≤ (k : Int)) (hd : d ≤ k) :
    (canonFrom k l).filterMap (shiftEntry b e (-(d : Int))) = canonFrom (k - d) l := by
  induction l generalizing k with
  | nil => rfl
  | cons t ts ih =>
    have h3 : shiftEntry b e (-(d : Int)) ((k : Int), t, (k : Int)) = some (((k - d : Nat) : Int), t, ((k - d : Nat) : Int)) := by
      rw [show ((k - d : Nat) : Int) = (k : Int) + -(d : Int) by omega]
      exact (if_neg (by simp only; omega)).trans (if_pos h1)
    rw [canonFrom, List.filterMap_cons, h3, ih (k + 1) (by omega) (by omega), show k + 1 - d = k - d + 1 by omega]
    rfl

/-- a successful context shift maps the canonical view of the record to the canonical view of the
    shifted record -/
theorem canon_shift (l : List Tok) (keep d : Nat) (h : keep + d ≤ l.length) :
    (canon l).filterMap (shiftEntry (keep : Int) ((keep : Int) + d) (-(d : Int)))
      = canon (l.take keep ++ l.drop (keep + d)) := by
  unfold canon
  have hsplit : l = l.take keep ++ ((l.drop keep).take d ++ l.drop (keep + d)) := by
    rw [← List.drop_drop, List.take_append_drop, List.take_append_drop]
  have hA : (l.take keep).length = keep := by rw [List.length_take]; omega
  have hM : ((l.drop keep).take d).length = d := by rw [List.length_take, List.length_drop]; omega
  conv => lhs; rw [hsplit]
  rw [canonFrom_append, canonFrom_append, List.filterMap_append, List.filterMap_append, canonFrom_append]
  rw [shift_low _ _ _ (by omega) 0 _ (by omega)]
  rw [shift_mid _ _ _ _ _ (by omega) (by omega)]
  rw [shift_high _ _ d _ _ (by omega) (by omega)]
  simp only [List.nil_append, hA, hM]
  congr 2
  omega


/-! ## Remove as a whole -/

theorem view_pos_bound (cells : List Cell) (s : Nat) (hb : PosBound cells) :
    ∀ x ∈ view cells s, 0 ≤ x.1 ∧ x.1 < maxI32 := by
  intro x hx
  unfold view at hx
  obtain ⟨c, hc, rfl⟩ := List.mem_map.mp hx
  exact hb c (List.mem_filter.mp hc).1

theorem remove_other (cs : Bool) (cells : List Cell) (s t : Nat) (h : t ≠ s) (b e : Int) :
    view (remove cs cells s b e).1 t = view cells t := by
  fun_cases remove cs cells s b e with
  | case1 | case2 | case3 | case4 => exact removeGo_other s t h ..
  | case5 off r h1 _ he =>
    exact (rope_view_other s t h _ _ _ (removeGo_ok s b e off cells (by simp only [off, if_neg he]; omega) h1).2).trans
      (removeGo_other s t h ..)

theorem remove_bound (cs : Bool) (cells : List Cell) (s : Nat) (b e : Int) (hb : PosBound cells)
    (h0 : 0 ≤ b) (hbe : e = maxI32 ∨ b ≤ e) : PosBound (remove cs cells s b e).1 := by
  have hg : PosBound (removeGo s b e (if e = maxI32 then 0 else b - e) cells).1 := by
    apply removeGo_bound _ _ _ _ _ _ _ hb <;> split <;> (try unfold maxI32 at *) <;> omega
  fun_cases remove cs cells s b e with
  | case1 | case2 | case3 | case4 => exact hg
  | case5 => exact posBound_map _ (pos_ropeCell _ _ _) _ hg

/-- `Remove(s, b, MaxInt32)`: never fails on bounded cells and cuts the view at `b` -/
theorem remove_clear (cs : Bool) (cells : List Cell) (s : Nat) (b : Int) (hb : PosBound cells) :
    (remove cs cells s b maxI32).2 = none ∧
    view (remove cs cells s b maxI32).1 s = (view cells s).filter (fun x => decide (x.1 < b)) := by
  obtain ⟨h1, h2⟩ := removeGo_clear s b cells hb
  unfold remove
  simp only [if_true, h1, Bool.false_eq_true, if_false]
  split
  · exact ⟨rfl, h2⟩
  · exact ⟨rfl, h2⟩

/-- a successful shifting Remove: the own view is shifted (metadata and key rows together) -/
theorem remove_shift_self (cs : Bool) (cells : List Cell) (s : Nat) (b e : Int) (he : e ≠ maxI32)
    (hok : (remove cs cells s b e).2 = none) :
    view (remove cs cells s b e).1 s = (view cells s).filterMap (shiftEntry b e (b - e)) := by
  revert hok
  fun_cases remove cs cells s b e with
  | case1 | case4 => nofun
  | case3 _ _ _ _ he' => exact absurd he' he
  | case2 off r h1 h2 =>
    -- no cell of `s` is left: both sides are empty
    intro _
    simp only [r, off, if_neg he] at h1 h2 ⊢
    rw [← (removeGo_ok s b e (b - e) cells (by omega) h1).1]
    generalize (removeGo s b e (b - e) cells).1 = r1 at h2 ⊢
    have : r1.filter (·.has s) = [] := List.filter_eq_nil_iff.mpr fun c hc hcs => by
      have : r1.any (·.has s) = true := List.any_eq_true.mpr ⟨c, hc, hcs⟩
      simp [this] at h2
    simp only [view, List.filter_map, show ((·.has s) ∘ ropeCell s b (b - e)) = (·.has s) from funext (has_ropeCell s s b (b - e)),
      this, List.map_nil]
  | case5 off r h1 =>
    intro _
    simp only [r, off, if_neg he] at h1 ⊢
    exact (removeGo_ok s b e (b - e) cells (by omega) h1).1

/-! ## slot selection folds -/

theorem getSlot_eq {l : List Slot} {i : Nat} (h : i < l.length) : getSlot l i = l[i] := by
  simp [getSlot, List.getD_eq_getElem?_getD, h]

theorem setSlot_length (l : List Slot) (i : Nat) (f : Slot → Slot) : (setSlot l i f).length = l.length := by
  simp [setSlot]

theorem getSlot_setSlot_same {l : List Slot} {i : Nat} {f : Slot → Slot} (h : i < l.length) :
    getSlot (setSlot l i f) i = f (getSlot l i) := by
  rw [getSlot_eq (by rwa [setSlot_length]), getSlot_eq h]
  simp [setSlot]

theorem getSlot_setSlot_other {l : List Slot} {i j : Nat} {f : Slot → Slot} (h : j ≠ i) :
    getSlot (setSlot l i f) j = getSlot l j := by
  unfold getSlot setSlot
  rw [List.getD_eq_getElem?_getD, List.getD_eq_getElem?_getD, List.getElem?_modify]
  have : ¬ i = j := fun e => h e.symm
  cases l[j]? <;> simp [this]

theorem getSlot_setSlot (l : List Slot) (i j : Nat) (f : Slot → Slot) (hi : i < l.length) :
    getSlot (setSlot l i f) j = if j = i then f (getSlot l i) else getSlot l j := by
  by_cases h : j = i
  · subst h; simp only [if_true]; exact getSlot_setSlot_same hi
  · simp only [h, if_false]; exact getSlot_setSlot_other h

theorem ccp_le (a b : List Tok) : countCommonPrefix a b ≤ a.length ∧ countCommonPrefix a b ≤ b.length := by
  fun_induction countCommonPrefix a b with
  | case1 as b bs ih => simp only [List.length_cons]; omega
  | case2 | case3 => exact ⟨Nat.zero_le _, Nat.zero_le _⟩

theorem ccp_take (a b : List Tok) (k : Nat) (h : k ≤ countCommonPrefix a b) : a.take k = b.take k := by
  fun_induction countCommonPrefix a b generalizing k with
  | case1 as b bs ih =>
    cases k with
    | zero => rfl
    | succ k => rw [List.take_succ_cons, List.take_succ_cons, ih k (by omega)]
  | case2 | case3 => rw [Nat.le_zero.mp h]; rfl

/-- what a slot scan started at index `k` reports when it settles on an element of `ss` -/
def Found {γ : Type} (mk : Nat → Slot → γ) (P : Slot → Prop) (ss : List Slot) (k : Nat) (r : Option γ) : Prop :=
  ∃ j, ∃ hj : j < ss.length, r = some (mk (k + j) ss[j]) ∧ P ss[j]

theorem Found.tail {γ : Type} {mk : Nat → Slot → γ} {P : Slot → Prop} {ss : List Slot} {k : Nat} {r b : Option γ}
    (s : Slot) (h : r = b ∨ Found mk P ss (k + 1) r) : r = b ∨ Found mk P (s :: ss) k r :=
  h.imp id fun ⟨j, hj, h1, h2⟩ =>
    ⟨j + 1, Nat.succ_lt_succ hj, by rw [h1, Nat.add_assoc, Nat.add_comm 1 j]; rfl, h2⟩

/-- the scan took the head as its candidate (`b` is free, to fit the `_spec` goals) -/
theorem Found.took {γ : Type} {mk : Nat → Slot → γ} {P : Slot → Prop} {s : Slot} {ss : List Slot} {k : Nat}
    {r b : Option γ} (hP : P s) (h : r = some (mk k s) ∨ Found mk P (s :: ss) k r) :
    r = b ∨ Found mk P (s :: ss) k r :=
  Or.inr (h.elim (fun e => ⟨0, Nat.zero_lt_succ _, e, hP⟩) id)

theorem longestGo_spec (prompt : List Tok) (ss : List Slot) (k : Nat) (best r : Option (Nat × Nat))
    (h : longestGo prompt ss k best = r) :
    r = best ∨ Found (fun i s => (i, countCommonPrefix s.inputs prompt)) (·.inUse = false) ss k r := by
  fun_induction longestGo prompt ss k best with
  | case1 => exact Or.inl h.symm
  | case2 s ss k best hu ih | case5 s ss k hu count bi bc hgt ih => exact Found.tail s (ih h)
  | case3 s ss k hu count ih | case4 s ss k hu count bi bc hgt ih =>
    exact Found.took (by simpa using hu) (Found.tail s (ih h))

theorem bestLongestGo_eq (prompt : List Tok) (ss : List Slot) (k : Nat) (best : Option (Nat × Nat)) :
    bestLongestGo prompt ss k best = longestGo prompt (ss.map fun s => { s with inUse := false }) k best := by
  induction ss generalizing k best with
  | nil => rfl
  | cons s ss ih =>
    unfold bestLongestGo
    rw [List.map_cons, longestGo]
    simp only [Bool.false_eq_true, if_false]
    cases best with
    | none => exact ih ..
    | some bb => simp only; split <;> exact ih ..

theorem bestLongestGo_spec (prompt : List Tok) (ss : List Slot) (k : Nat) (best r : Option (Nat × Nat))
    (h : bestLongestGo prompt ss k best = r) :
    r = best ∨ Found (fun i s => (i, countCommonPrefix s.inputs prompt)) (fun _ => True) ss k r := by
  rw [bestLongestGo_eq] at h
  exact (longestGo_spec prompt _ k best r h).imp id fun ⟨j, hj, hr, _⟩ =>
    ⟨j, by simpa using hj, by simpa using hr, trivial⟩

theorem oldestGo_spec (ss : List Slot) (k oldest : Nat) (best r : Option Nat)
    (h : oldestGo ss k oldest best = r) :
    r = best ∨ Found (fun i _ => i) (·.inUse = false) ss k r := by
  fun_induction oldestGo ss k oldest best with
  | case1 => exact Or.inl h.symm
  | case2 s ss k oldest best hc ih =>
    exact Found.took (by simp at hc; exact hc.2) (Found.tail s (ih h))
  | case3 s ss k oldest best hc ih => exact Found.tail s (ih h)

theorem Found.from_start {γ : Type} {mk : Nat → Slot → γ} {P : Slot → Prop} {ss : List Slot} {x : γ}
    (h : some x = none ∨ Found mk P ss 0 (some x)) : ∃ j, ∃ hj : j < ss.length, x = mk j ss[j] ∧ P ss[j] := by
  obtain hh | ⟨j, hj, hr, hP⟩ := h
  · cases hh
  · rw [Nat.zero_add] at hr
    exact ⟨j, hj, Option.some.inj hr, hP⟩

/-! ## batches of one sequence -/

/-- the batch processBatch assembles for one sequence: `new` at positions `start, start+1, …` -/
def mkBatch (id : Nat) : Nat → List Tok → List BTok
  | _, [] => []
  | start, t :: ts => ⟨t, start, id⟩ :: mkBatch id (start + 1) ts

theorem mkBatch_length (id start : Nat) (l : List Tok) : (mkBatch id start l).length = l.length := by
  induction l generalizing start with
  | nil => rfl
  | cons t ts ih => simp [mkBatch, ih]

theorem mkBatch_view (id start : Nat) (l : List Tok) (t : Nat) :
    view ((mkBatch id start l).map BTok.cell) t = if t = id then canonFrom start l else [] := by
  induction l generalizing start with
  | nil => simp [mkBatch, canonFrom]
  | cons x xs ih =>
    simp only [mkBatch, List.map_cons, view_cons, ih]
    by_cases h : t = id
    · subst h; simp [BTok.cell, Cell.has, Cell.key, canonFrom]
    · have : (BTok.cell ⟨x, start, id⟩).has t = false := by
        simp [BTok.cell, Cell.has]; exact h
      simp [this, h]

theorem mkBatch_pos (id start : Nat) (l : List Tok) : ∀ b ∈ mkBatch id start l, b.pos < start + l.length := by
  fun_induction mkBatch id start l with
  | case1 => nofun
  | case2 start t ts ih =>
    refine List.forall_mem_cons.mpr ⟨?_, fun b hb => ?_⟩
    · simp
    · have := ih b hb; simp only [List.length_cons]; omega

/-! ## ShiftDiscard -/

theorem shiftDiscard_le {numCtx len keep d : Nat} (h : keep < numCtx) (hd : shiftDiscard numCtx len keep = d)
    (hd0 : d ≠ 0) : keep + d ≤ len := by
  unfold shiftDiscard at hd
  simp only at hd
  omega

theorem shiftDiscard_full (numCtx len keep : Nat) (hk : keep < numCtx) (hfull : numCtx ≤ len) :
    0 < shiftDiscard numCtx len keep ∧ keep + shiftDiscard numCtx len keep ≤ len ∧
      len - shiftDiscard numCtx len keep + 1 ≤ numCtx := by
  unfold shiftDiscard
  simp only
  omega

end OllamaVerif.Runner
