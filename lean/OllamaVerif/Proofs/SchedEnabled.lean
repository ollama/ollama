/-
  When an action of the scheduler model is enabled.
-/
import OllamaVerif.Model.Sched
namespace OllamaVerif.Sched

/-- The guard of an action: the program counter or queue condition of its region, and that the runner whose refMu
    the region takes is not locked.  Whether an action is enabled depends neither on the variant nor on the branch
    the action then takes (`step_isSome`). -/
def Enabled (s : State) : Act → Prop
  | .submit .. | .explicitUnload _ => True
  | .done q => q < s.nReqs ∧ (s.reqs q).done = false
  | .loadDone r _ => r < s.nRunners ∧ (s.runners r).refMuHeld = true
  | .timerFire r => r < s.nRunners ∧ (s.runners r).timerArmed = true
  | .setPing r _ | .setPingBlock r | .setPingOpen r => r < s.nRunners
  | .pingDone r _ => ∃ q, s.ppc = .pinging q r
  | .pTake => s.ppc = .idle ∧ ∃ q rest, s.pendingQ = q :: rest
  | .pDrainUnloaded => s.ppc = .idle ∧ 0 < s.unloadedQ
  | .pLookup fit => (∃ q, s.ppc = .eval q) ∧ fit.ngpus ≠ 0
  | .pNeedsReload => ∃ q r, s.ppc = .needsReload q r ∧ (s.runners r).locked = false
  | .pUse => ∃ q r, s.ppc = .use q r ∧ (s.runners r).locked = false
  | .pExpire => ∃ q r, s.ppc = .expire q r ∧ (s.runners r).locked = false
  | .pWaitUnload => (∃ q r, s.ppc = .waitUnload q r) ∧ 0 < s.unloadedQ
  | .pLoad _ => ∃ q, s.ppc = .load q
  | .cTakeFinished => s.cpc = .idle ∧ ∃ q rest, s.finishedQ = q :: rest
  | .cFin => ∃ q r, s.cpc = .fin q r ∧ (s.runners r).locked = false
  | .cTakeExpired => s.cpc = .idle ∧ ∃ r rest, s.expiredQ = r :: rest
  | .cExp => ∃ r, s.cpc = .exp r ∧ (s.runners r).locked = false
  | .cVram => ∃ r, s.cpc = .vram r
  | .requeue r => r ∈ s.requeuers
  | .delayedRequeue q => q ∈ s.delayed ∧ s.pendingQ.length < s.maxQueue
  | .finishSend q => q ∈ s.finishWaiters ∧ (s.reqs q).done = true
  | .timerCb r => r ∈ s.timerCbs ∧ (s.runners r).locked = false
  | .unloadRun r => r ∈ s.unloaders ∧ (s.runners r).locked = false
  | .unloadBind m => m ∈ s.unloadCalls

theorem step_isSome {v : Variant} {s : State} {a : Act} : (step v s a).isSome = true ↔ Enabled s a := by
  cases a <;> simp only [step, Enabled]
  -- `isSome` goes through the `if`s before they are split: no post-state is looked at
  all_goals (try split)
  all_goals try simp only [apply_ite Option.isSome, Option.isSome_some, Option.isSome_none, ite_self]
  all_goals (try split)
  all_goals try simp only [apply_ite Option.isSome, Option.isSome_some, ite_self]
  all_goals (repeat' split)
  all_goals simp_all
  all_goals exact ⟨_, _, ⟨rfl, rfl⟩, ‹_›⟩

theorem step_eq_none {v : Variant} {s : State} {a : Act} : step v s a = none ↔ ¬ Enabled s a := by
  rw [← step_isSome (v := v), Option.not_isSome_iff_eq_none]

theorem Enabled.of_step {v : Variant} {s s' : State} {a : Act} (h : step v s a = some s') : Enabled s a :=
  (step_isSome (v := v)).mp (by rw [h]; rfl)

end OllamaVerif.Sched
