/-
  C07 — Tie 1: the one source fact the model is parameterised by, re-extracted from
  runner/ollamarunner/cache.go on every run (Generated/C07_Flags.lean): the end index that the failure
  path of ShiftCacheSlot passes to `Remove(slot.Id, 0, ·)`.
-/
import OllamaVerif.Properties.C07
import OllamaVerif.Properties.C07Batch
import OllamaVerif.Generated.C07_Flags

namespace OllamaVerif.Tie.C07
open OllamaVerif.Runner

/-- The tree's reset call is one of the two variants the property file speaks about: the pinned `-1`
    (finding F3: `coherent_invariant_partial` + witness apply) or the repaired `math.MaxInt32`
    (`coherent_invariant` applies; `tree_reset_end_repaired` below says it is this one).  Any third value fails this
    theorem and the check. -/
theorem tree_reset_end_known :
    Generated.C07.resetEnd = -1 ∨ Generated.C07.resetEnd = maxI32 := by decide

/-- the witness trace evaluated for the tree's own value: stale entries iff the pinned value -/
theorem tree_trace :
    (OllamaVerif.C07.f3Trace Generated.C07.resetEnd).1.length =
      if Generated.C07.resetEnd = maxI32 then 2 else 3 := by decide +kernel

/-- The tree's failure path clears the sequence (commit f8dfba76a): its reset value is `MaxInt32`.  Any
    other value fails this theorem (and the L2 monitors). -/
theorem tree_reset_end_repaired : Generated.C07.resetEnd = maxI32 := by decide

/-- **The full-strength invariant applies to the tree.**  For the reset value extracted from the
    tree's `ShiftCacheSlot`, every configuration of a new runner and every finite history of loads,
    forwards, successful and failed context shifts, request ends and relocations: the cache stays
    coherent. -/
theorem tree_coherent_invariant (parallel ctx batch : Nat) (multi canShift : Bool) (vocab eosMod : Nat)
    (c : Cache)
    (hs : OllamaVerif.C07.Steps true
      (mkServer Generated.C07.resetEnd parallel ctx batch multi canShift vocab eosMod).cache c) :
    OllamaVerif.C07.Coherent c :=
  OllamaVerif.C07.coherent_invariant _ c (OllamaVerif.C07.coherent_init ..) tree_reset_end_repaired hs

/-- **The executable model, for the tree's reset value.**  A new runner built with the reset value extracted
    from the tree's `ShiftCacheSlot`, any configuration with a context below `MaxInt32` = 2^31 − 1, any history of events run by
    `runEvents` (the function the oracle folds over a `hist` line; a layout observed after a defrag is adopted only
    if the model's own check `relocOK` accepts it): in the state
    reached every slot's cached contents are its record (`Coherent`) and live sequences own their slots exclusively. -/
theorem tree_reachable_coherent_owned (parallel ctx batch : Nat) (multi canShift : Bool) (vocab eosMod : Nat)
    (se cc : Bool) (hctx : (ctx : Int) < maxI32) (evs : List Event) (sv : Server)
    (hr : runEvents { mkServer Generated.C07.resetEnd parallel ctx batch multi canShift vocab eosMod with
      stopEarliest := se, crCounted := cc } evs 1 = some sv) :
    OllamaVerif.C07.Coherent sv.cache ∧ OllamaVerif.C07.Owned sv := by
  rw [tree_reset_end_repaired] at hr
  exact OllamaVerif.C07.reachable_coherent_owned parallel ctx batch multi canShift vocab eosMod se cc hctx evs sv hr

end OllamaVerif.Tie.C07
