/-
  C16, Tie 1 (a fact regenerated from the tree under test on every run, consumed by `decide`):

  `Generated/C16_Variant.lean` `overheadSubtracted`: the answer of the REAL `EstimateGPULayers` to a probe input
  of the W1 kind (OLLAMA_GPU_OVERHEAD = 2^64-1, one GPU with 1 GiB free): nothing offloaded ⇒ the overhead is
  subtracted from the free memory (fix cdbdf6013), layers offloaded ⇒ the pinned, wrapping sums are back.
  The theorems below are stated for the variant found in the tree and compile only while the tree has the fix:
  if it is lost, `overheadSubtracted` regenerates to `false`, they stop type-checking and the check reports the
  lost obligations — next to the L2 replay of W1 itself (the drivers keep running the model at the fixed
  variant, so the regression also shows as L1 disagreements and `alloc-exceeds-free … wraps=none`).
-/
import OllamaVerif.Properties.C16
import OllamaVerif.Generated.C16_Variant
namespace OllamaVerif.Tie.C16
open OllamaVerif.Memory OllamaVerif.C16 OllamaVerif.Generated.C16

/-- the tree's estimator is the fixed one (finding W1 stays fixed) -/
theorem tree_subtracts_overhead : overheadSubtracted = true := by decide

/-- **The allocation clause for the tree's estimator, for EVERY value of `OLLAMA_GPU_OVERHEAD`**: if the
    estimator's own sums (none of which contains the overhead) stay below 2^64, each reported size is 0 or
    `size + overhead ≤ free`, strictly below for a GPU that received a layer. -/
theorem tree_alloc_le_free (inp : Inp) (hv : inp.ovSafe = overheadSubtracted)
    (hnw : NoWrap { inp with overhead := 0 }) (i : Nat) (g : Gpu) (a : Nat)
    (hg : inp.gpus[i]? = some g) (ha : (estimate inp).sizes[i]? = some a) :
    (a = 0 ∨ a + inp.overhead ≤ g.free) ∧
    (∀ n, (planCounts inp)[i]? = some n → 0 < n → a + inp.overhead < g.free) :=
  alloc_le_free_fixed inp (by rw [hv]; exact tree_subtracts_overhead) hnw i g a hg ha

/-- the W1 input on the tree's estimator: nothing is planned -/
theorem tree_W1_input_plans_nothing :
    (estimate { w1 18446744073709551606 with ovSafe := overheadSubtracted }).layers = 0 ∧
    (estimate { w1 18446744073709551606 with ovSafe := overheadSubtracted }).sizes = [] := by decide

end OllamaVerif.Tie.C16
