/-
  C19, Tie 1: the template trees the property theorems talk about (`C19.tLegacy`, `C19.tInPlace`,
  `C19.tHeader`) are exactly the trees the REAL `template.Parse` builds for the harness template
  sources.  `Generated/C19_Trees.lean` is rewritten on every run of the check from the tree under
  test (driver `TestVerifC19Trees`); these `rfl` proofs then fail if Parse (trimming, touch-up,
  node structure) ever produces something else.

  `Generated/C19_Consts.lean` holds facts obtained on every run by EXECUTING the real chatPrompt /
  template.Execute on probe inputs (driver `c19WriteConsts`): the smallest context length that keeps both
  messages of a two-message probe with one image, per model kind; tokenizer calls at a negative context
  length; rendered separators.  The theorems below (`decide`) say that the MODEL, run on the same probes,
  switches at the same context length and renders the same bytes — i.e. the constants `768` / `1`, the
  `ProjectorPaths != nil` test, the direction of `ctxLen > opts.NumCtx`, `if i == n { continue }`, the
  `"\n\n"` of collate / strings.Join / the legacy join, and the flush rule of the legacy loop are the
  code's.
-/
import OllamaVerif.Properties.C19
import OllamaVerif.Generated.C19_Trees
import OllamaVerif.Generated.C19_Consts

namespace OllamaVerif.Tie.C19
open OllamaVerif OllamaVerif.Prompt

theorem legacy_tree_is_parsed : OllamaVerif.C19.tLegacy = Generated.C19.legacy := rfl
theorem inPlace_tree_is_parsed : OllamaVerif.C19.tInPlace = Generated.C19.inPlace := rfl
theorem header_tree_is_parsed : OllamaVerif.C19.tHeader = Generated.C19.header := rfl

/-- Parse's touch-up on the default template `{{ .Prompt }}`: the model's `parseTouchUp` gives the
    tree the real Parse gives -/
theorem default_tree_touch_up :
    parseTouchUp [Node.action (.field .prompt)] = Generated.C19.dflt := rfl

/-! ### constants and guards, regenerated by execution -/

/-- the probe conversation of `c19Threshold`: a user message with one image, then an assistant message -/
def probeConv (src : Nat) : List Msg :=
  [⟨.user, [Piece.lit [109]], [⟨src, true⟩]⟩, ⟨.assistant, [Piece.lit [110]], []⟩]

def cutG : Outcome → Option Nat
  | .ok _ n _ _ _ => some n
  | _ => none

def callsG : Outcome → Option Nat
  | .ok q _ _ _ _ => some q
  | _ => none

/-- model run of the probe at context length `lim` -/
def probeCut (mllama : Bool) (proj : Nat) (src : Nat) (cost0 : Nat) (lim : Int) : Option Nat :=
  cutG (chatPrompt ⟨true, mllama, proj, lim⟩ (fun _ => cost0) (fun _ => false) (probeConv src))

/-- **768 tokens per image, charged iff `ProjectorPaths != nil`, and `ctxLen > NumCtx` breaks** (plain model with a
    projector): the model keeps both probe messages from exactly the context length from which the real
    code does, and only the latest one below it -/
theorem image_tokens_and_guard_plain :
    probeCut false 2 1 Generated.C19.cost0Plain Generated.C19.thresholdPlain = some 0 ∧
    probeCut false 2 1 Generated.C19.cost0Plain (Generated.C19.thresholdPlain - 1) = some 1 ∧
    Generated.C19.thresholdPlain = Generated.C19.cost0Plain + imageNumTokens ⟨true, false, 2, 0⟩ := by decide +kernel

/-- mllama: one token per image (preprocessed, or raw with an empty projector list) -/
theorem image_tokens_and_guard_mllama :
    probeCut true 2 1000 Generated.C19.cost0Mllama Generated.C19.thresholdMllama = some 0 ∧
    probeCut true 2 1000 Generated.C19.cost0Mllama (Generated.C19.thresholdMllama - 1) = some 1 ∧
    probeCut true 1 1 Generated.C19.cost0MllamaRaw Generated.C19.thresholdMllamaRaw = some 0 ∧
    probeCut true 1 1 Generated.C19.cost0MllamaRaw (Generated.C19.thresholdMllamaRaw - 1) = some 1 ∧
    Generated.C19.thresholdMllama = Generated.C19.cost0Mllama + imageNumTokens ⟨true, true, 2, 0⟩ := by decide +kernel

/-- `m.ProjectorPaths != nil`: a nil projector list charges nothing, an empty non-nil one charges -/
theorem image_tokens_projector_nil_vs_empty :
    probeCut false 0 1 Generated.C19.cost0NilProjector Generated.C19.thresholdNilProjector = some 0 ∧
    probeCut false 0 1 Generated.C19.cost0NilProjector (Generated.C19.thresholdNilProjector - 1) = some 1 ∧
    Generated.C19.thresholdNilProjector = Generated.C19.cost0NilProjector ∧
    probeCut false 1 1 Generated.C19.cost0EmptyProjector Generated.C19.thresholdEmptyProjector = some 0 ∧
    probeCut false 1 1 Generated.C19.cost0EmptyProjector (Generated.C19.thresholdEmptyProjector - 1) = some 1 := by decide +kernel

/-- `if i == n { continue }`: the latest message is kept without being measured (negative context length:
    one tokenizer call for two messages, none for one; one message kept) -/
theorem latest_never_measured :
    callsG (chatPrompt ⟨true, false, 0, -5⟩ (fun _ => 3) (fun _ => false) (probeConv 1)) = some Generated.C19.negLimitCalls ∧
    (cutG (chatPrompt ⟨true, false, 0, -5⟩ (fun _ => 3) (fun _ => false) (probeConv 1))).map (2 - ·) = some Generated.C19.negLimitKept ∧
    callsG (chatPrompt ⟨true, false, 0, -5⟩ (fun _ => 3) (fun _ => false) [⟨.user, [Piece.lit [109]], []⟩]) = some Generated.C19.singleCalls := by
  decide +kernel

/-- the separators of collate (adjacent messages of one role) and of the `.System` string -/
theorem collate_separators :
    execute ⟨2, true⟩ OllamaVerif.C19.tInPlace [(.user, [97]), (.user, [98])] = .ok Generated.C19.collateProbe ∧
    execute ⟨2, true⟩ OllamaVerif.C19.tHeader [(.system, [97]), (.user, [120]), (.system, [98])] = .ok Generated.C19.systemJoinProbe := by
  decide +kernel

/-- the legacy loop of the tree under test is the join-repaired one (the variant `legacy_join_*` and
    `prompt_in_order_legacy` are about) and flushes a turn at a system message that follows an unanswered
    user message (the order `prompt_in_order_legacy` states) -/
theorem legacy_loop_is_join_repaired :
    execute ⟨2, true⟩ OllamaVerif.C19.tLegacy [(.user, [97]), (.tool, [120]), (.user, [98])] = .ok Generated.C19.legacyJoinProbe ∧
    execute ⟨2, true⟩ OllamaVerif.C19.tLegacy [(.user, [97]), (.system, [115]), (.user, [98]), (.assistant, [99]), (.system, [116])]
      = .ok Generated.C19.legacyOrderProbe := by
  decide +kernel

/-- **The tree under test is the variant the full-strength theorems are about** (`cfg.fixed = true`: F4 repaired;
    legacy loop in join mode; `deleteNode` else-list repaired) — the driver's probes, regenerated on every run, and two
    of them re-executed by the model: the F4 probe (`[user long…, system SYS, user hi]`, context length 1, legacy
    template: the system message at the cut is kept) and the F4c probe (`.Response` in an `if` with `else`: rendered,
    no panic).  `variantBits` = F4 + 2·`lmode` + 8·`efix` + 16·F5; bit 16 (F5 repaired) is free: both values are supported. -/
theorem tree_is_current_variant :
    Generated.C19.variantBits % 16 = 13 ∧
    (match chatPromptT ⟨true, false, 0, 1⟩ ⟨2, true⟩ OllamaVerif.C19.tLegacy 0 OllamaVerif.C19.f4conv with
      | .ok _ _ _ _ _ p => p | _ => []) = Generated.C19.f4Probe ∧
    execute ⟨2, true⟩ OllamaVerif.C19.tElse [(.user, OllamaVerif.C19.bHi)] = .ok Generated.C19.cutElseProbe := by
  decide +kernel

end OllamaVerif.Tie.C19
