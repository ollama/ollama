/-
  C10 tie (completeness side of `Safe`): `decode_safe_tree` says the decoder MODEL reaches none of its panic /
  allocation outcomes; the model has one outcome per risky site it knows.  This file ties the list of sites to the
  source: harness/cmd/ggufsites (go/ast) counts, in everything reachable from the functions named `Decode` and from
  `keyValue` in fs/ggml, the unchecked type assertions, divisions by a non-constant, non-constant indexes (maps and
  loop-bounded indexes excluded), `make`s with a size that is neither constant nor `min(…, constant)`, slice expressions
  with a non-constant bound and `Truncate` calls.  Each count must not exceed what the model accounts for:

    assert-unchecked 0   (`keyValue` and the alignment check use `v, ok := x.(T)`: Guards.accessorType / alignType)
    div-nonconst     3   (`offset % align`, `(align - …) % align` in ggufPadding: Guards.alignZero;
                          `… / t.blockSize()` in Tensor.Size: blockSize ∈ {1, 32, 256}, Tie.C05.type_table_matches)
    index-nonconst   0   (the v1 array store `a.values[i] = e` would be one: Guards.v1ArrIndex; the tree appends)
    make-unbounded   0   (string / array / shape buffers grow with the data read: Guards.strHuge / arrHuge / arrNeg / dimsHuge)
    slice-nonconst   1   (`llm.scratch[:length]` in readGGUFString: Guards.strNeg + the 16 KiB test)
    truncate         1   (`b.Truncate(b.Len() - 1)` in readGGUFV1String: Guards.v1StrLen)

  A new site of one of these kinds in the decode path makes the regenerated count exceed the bound and this file fails
  to build (the check reports `tie-risky-sites` with the site list); removing or merging sites (helper extraction) passes.
-/
import OllamaVerif.Generated.C10_Sites

namespace OllamaVerif.Tie.C10

/-- sites the decoder model accounts for, same order as `riskyCounts` -/
def modelled : List Nat := [0, 3, 0, 0, 1, 1]

def leAll : List Nat → List Nat → Bool
  | [], [] => true
  | a :: as, b :: bs => decide (a ≤ b) && leAll as bs
  | _, _ => false

theorem risky_sites_accounted : leAll OllamaVerif.Generated.C10.riskyCounts modelled = true := by decide

end OllamaVerif.Tie.C10
