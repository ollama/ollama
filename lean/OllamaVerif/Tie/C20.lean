/-
  C20 tie: the byte<->rune maps, the SentencePiece tables, the constants and the variant flags of the model are
  those of the working tree's `Encode` / `Decode` (tables regenerated by executing the real
  functions on every run; see vlib/checks/c20.py and `verifByteMap` in the Go driver).
-/
import OllamaVerif.Model.Tokenizer
import OllamaVerif.Model.TokenizerVocab
import OllamaVerif.Generated.C20_ByteMap
import OllamaVerif.Generated.C20_SpmTables

namespace OllamaVerif.Tie.C20
open OllamaVerif.Tok OllamaVerif.Generated.C20

/-- the table covers exactly the byte values that occur in valid UTF-8 -/
theorem enc_table_complete :
    encTable.map (·.1) = (List.range 256).filter (fun b => b != 0xC0 && b != 0xC1 && b < 0xF5) := by
  decide +kernel

/-- the model's `encByte` (with the variant the tree has) is the real byte -> rune map -/
theorem enc_table_matches :
    encTable.all (fun e => encByte pinned e.1 == e.2) = true := by decide +kernel

/-- the model's `decRune` is the real rune -> byte map for every rune below 0x180 -/
theorem dec_table_matches :
    decTable.map (·.1) = List.range 0x180 ∧
    decTable.all (fun e => decRune e.1 == e.2) = true := by
  constructor <;> decide +kernel

/-! ### SentencePiece: facts obtained by executing the real code over finite domains (Generated/C20_SpmTables.lean) -/

/-- every byte value that can reach the byte fallback was observed (all bytes of valid UTF-8 except the space,
    which is replaced by U+2581 before) -/
theorem spm_byte_table_complete :
    spmByteTable.map (·.1) =
      (List.range 256).filter (fun b => b != 0x20 && b != 0xC0 && b != 0xC1 && b < 0xF5) := by
  decide +kernel

/-- the token the real byte fallback looks up for byte `b` is the model's `byteTok b` (`<0x%02X>`) -/
theorem spm_byte_table_matches :
    spmByteTable.all (fun e => byteTok e.1 == e.2) = true := by decide +kernel

/-- what `Decode` makes of one token, as a code: the byte, 256 = error, 257 = written verbatim -/
def decTokCode (tokRunes : Str) : Nat :=
  match parseByteTok (utf8s (tokRunes.map sepToSpace)) with
  | none => 257
  | some none => 256
  | some (some b) => b

/-- the model's byte-token test + `ParseUint(.., 0, 8)` agrees with the real `Decode` on every row of the table (the
    check generates it for `<0x` c1 c2 `>`, c1, c2 over hex digits of both cases, `_`, `x`, `X`, `g`, `G`, `+`, `-`,
    `.`, space, `o`, `O`; the theorem does not fix that domain) -/
theorem spm_dec_table_matches :
    spmDecTable.all (fun e => decTokCode [60, 48, 120, e.1, e.2.1, 62] == e.2.2) = true := by decide +kernel

/-- … and on every row of the table of other shapes (generated for 5 / 7 bytes, other brackets, other prefixes,
    multi-byte characters, `▁`) -/
theorem spm_shape_table_matches :
    spmShapeTable.all (fun e => decTokCode e.1 == e.2) = true := by decide +kernel

def nullVocab : Vocab := ⟨fun _ => none, fun _ => [], fun _ _ => none, fun _ => 0, 0⟩

/-- the model's queue order is the real `queue.Less` (score descending, then position ascending) -/
theorem spm_less_table_matches :
    spmLessTable.all (fun e =>
      (spmCfg nullVocab).less ⟨e.2.1, 0, e.1, 0, []⟩ ⟨e.2.2.2.1, 0, e.2.2.1, 0, []⟩ == e.2.2.2.2) = true ∧
    spmLessTable.length = 81 := by
  constructor <;> decide +kernel

/-- `spmWhitespaceSep` and `TOKEN_TYPE_CONTROL` -/
theorem spm_constants_match :
    spmSep = [sepRune] ∧ OllamaVerif.Generated.C20.tokenTypeControl = OllamaVerif.Tok.tokenTypeControl := by
  decide

/-- **The tree has every repaired variant** (findings F2 and empty-special-hang are FIXED in /repo): the byte switch's
    third range starts at 0x7f and `SpecialVocabulary()` skips empty strings.  A tree that regresses either one makes
    this theorem false, so the check fails in the proof step as well as in L2. -/
theorem variant_is_repaired : pinned = false ∧ specialVocabSkipsEmpty = true := by decide

end OllamaVerif.Tie.C20
