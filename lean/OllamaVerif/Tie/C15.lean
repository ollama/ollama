/-
  C15 tie: the general theorems of `Properties/C15.lean` applied to the access facts regenerated from
  the working tree (Generated/C15_Accesses.lean, emitted by harness/cmd/lockset on every run).

  The two static rules are evaluated on the table once each (`violations_exact`, `stale_exact`); what
  is said about the tree's classes, its races, its stale reads and its torn-down runners follows
  from those two values.  The lock-order part evaluates the rank of the regenerated acquisition
  order; the `lookup` guard and the holder ordering of the life-cycle semantics are C01's theorems
  for the scheduler variant extracted from the tree.
-/
import OllamaVerif.Properties.C15
import OllamaVerif.Generated.C15_Accesses
import OllamaVerif.Tie.C01

namespace OllamaVerif.Tie.C15
open OllamaVerif.Lockset OllamaVerif.Generated.C15

theorem violations_exact : violatingPairs accesses = expectedViolations := by
  rw [violatingPairs, violatingPairsFrom_eq_sorted accesses accesses (by decide +kernel)]
  decide +kernel

/-- the rule is symmetric, so the pairs listed once each account for every failure of `checkClass` -/
theorem discipline_holds : goodClassIds.all (checkClass accesses) = true := by
  have h : ∀ c ∈ goodClassIds, ∀ p ∈ expectedViolations, p.1 ≠ c := by decide +kernel
  exact List.all_eq_true.mpr fun c hc =>
    checkClass_of_no_violatingPair accesses c (violations_exact ▸ h c hc)

theorem classes_partition :
    (List.range classNames.length).all
      (fun c => goodClassIds.contains c != badClassIds.contains c) = true ∧
    (goodClassIds ++ badClassIds).all (· < classNames.length) = true := by
  constructor <;> decide +kernel

theorem bad_classes_exact :
    (badClasses accesses).all (badClassIds.contains ·) = true ∧
    badClassIds.all ((badClasses accesses).contains ·) = true := by
  rw [badClasses, violations_exact]
  decide

/-- location classes for which the tree is known NOT to follow the discipline, with the finding
    that explains each (KNOWN_FINDINGS.jsonl, property C15):
    * F13e `PsHandler` reads `expiresAt`/`sessionDuration` under `loadedMu` only; they are written
      under `refMu` only (what is left of F13a after fix fd9f01440);
    * F13b `runnerRef.loading` written under `refMu` only, read under `loadedMu` only;
    * F13c `ByDurationAndName.Less` reads `sessionDuration` with no lock (writer: `expireRunner`);
    * F21b a transfer is published in the sync.Map before `Prepare` fills `Total`/`done`, and
      `blobUpload.done/err` are plain fields polled by `Wait`.
    `Scheduler.loaded`, `runnerRef.model/estimatedTotal/estimatedVRAM` (F13a, fixed fd9f01440) and
    `blobDownload/blobUpload.CancelFunc` (F21a, fixed 1b1f19392) are not listed: a change that re-opens them fails `bad_classes_known`. -/
def knownBadClasses : List String :=
  [ "runnerRef.expiresAt", "runnerRef.sessionDuration",            -- F13e (+ F13c on sessionDuration)
    "runnerRef.loading",                                           -- F13b
    "blobDownload.Total", "blobDownload.done", "blobUpload.Total", "blobUpload.done", "blobUpload.err" ] -- F21b

theorem bad_classes_known : badClassNames.all (knownBadClasses.contains ·) = true := by decide +kernel

theorem bad_class_names : badClassIds.map (fun c => classNames.getD c "?") = badClassNames := by decide +kernel

/-- **C15 for the working tree, lock part.**  For every location class that passes the check
    on the regenerated facts, every well-formed interleaving whose accesses instantiate the facts
    has no two conflicting accesses to one location by different threads that are not ordered by
    a mutex hand-over or by one of the table's named non-lock orderings. -/
theorem race_free_good_classes (c : Nat) (hc : c ∈ goodClassIds) (tc : Thread → Nat)
    (pre mid post : List Ev) (t1 t2 : Thread) (o f1 f2 : Nat)
    (hsingle : SingletonThreads accesses tc
      (pre ++ Ev.acc t1 (c, o) f1 :: (mid ++ Ev.acc t2 (c, o) f2 :: post)) (c, o))
    (hwf : WF (pre ++ Ev.acc t1 (c, o) f1 :: (mid ++ Ev.acc t2 (c, o) f2 :: post)))
    (hconf : Conforms accesses tc (pre ++ Ev.acc t1 (c, o) f1 :: (mid ++ Ev.acc t2 (c, o) f2 :: post)))
    (hne : t1 ≠ t2) :
    ∃ a b, accesses[f1]? = some a ∧ accesses[f2]? = some b ∧
      ((isWrite accesses a = false ∧ isWrite accesses b = false) ∨
       LockOrdered pre (Ev.acc t1 (c, o) f1) mid t1 t2 ∨
       exempt a b = true) :=
  lockset_discipline_race_free accesses tc c (List.all_eq_true.mp discipline_holds c hc)
    pre mid post t1 t2 o f1 f2 hsingle hwf hconf hne

/-- the same with spawn order discharged (`lockset_discipline_race_free_fork`): given Go's spawn
    semantics and the meaning of the `pre`/`post` tags, what remains hypothetical for a good class of
    the tree is `exemptNoFork` (fresh object, atomics, both before the same once-spawn, holder /
    doneclose) -/
theorem race_free_good_classes_fork (c : Nat) (hc : c ∈ goodClassIds) (tc : Thread → Nat)
    (pre mid post : List Ev) (t1 t2 : Thread) (o f1 f2 : Nat)
    (hsingle : SingletonThreads accesses tc
      (pre ++ Ev.acc t1 (c, o) f1 :: (mid ++ Ev.acc t2 (c, o) f2 :: post)) (c, o))
    (hwf : WF (pre ++ Ev.acc t1 (c, o) f1 :: (mid ++ Ev.acc t2 (c, o) f2 :: post)))
    (hconf : Conforms accesses tc (pre ++ Ev.acc t1 (c, o) f1 :: (mid ++ Ev.acc t2 (c, o) f2 :: post)))
    (hfwf : ForkWF (pre ++ Ev.acc t1 (c, o) f1 :: (mid ++ Ev.acc t2 (c, o) f2 :: post)))
    (hfc : ForkConforms accesses (pre ++ Ev.acc t1 (c, o) f1 :: (mid ++ Ev.acc t2 (c, o) f2 :: post)))
    (hne : t1 ≠ t2) :
    ∃ a b, accesses[f1]? = some a ∧ accesses[f2]? = some b ∧
      ((isWrite accesses a = false ∧ isWrite accesses b = false) ∨
       LockOrdered pre (Ev.acc t1 (c, o) f1) mid t1 t2 ∨
       (∃ (j : Nat) (t t' : Thread) (s : Nat), pre.length < j ∧ j < pre.length + 1 + mid.length ∧
          (pre ++ Ev.acc t1 (c, o) f1 :: (mid ++ Ev.acc t2 (c, o) f2 :: post))[j]? = some (Ev.fork t t' s) ∧
          Desc (pre ++ Ev.acc t1 (c, o) f1 :: (mid ++ Ev.acc t2 (c, o) f2 :: post)) s t2) ∨
       exemptNoFork a b = true) :=
  lockset_discipline_race_free_fork accesses tc c (List.all_eq_true.mp discipline_holds c hc)
    pre mid post t1 t2 o f1 f2 hsingle hwf hconf hfwf hfc hne

/-- spawn order AND publication order discharged (`lockset_discipline_race_free_ordered`): for a good
    class of the tree what remains hypothetical is `exemptRest` (atomics / sync.Map, both before the
    same once-spawn, holder / doneclose) -/
theorem race_free_good_classes_ordered (c : Nat) (hc : c ∈ goodClassIds) (tc : Thread → Nat) (creator : Nat → Thread)
    (pre mid post : List Ev) (t1 t2 : Thread) (o f1 f2 : Nat)
    (hsingle : SingletonThreads accesses tc
      (pre ++ Ev.acc t1 (c, o) f1 :: (mid ++ Ev.acc t2 (c, o) f2 :: post)) (c, o))
    (hwf : WF (pre ++ Ev.acc t1 (c, o) f1 :: (mid ++ Ev.acc t2 (c, o) f2 :: post)))
    (hconf : Conforms accesses tc (pre ++ Ev.acc t1 (c, o) f1 :: (mid ++ Ev.acc t2 (c, o) f2 :: post)))
    (hfwf : ForkWF (pre ++ Ev.acc t1 (c, o) f1 :: (mid ++ Ev.acc t2 (c, o) f2 :: post)))
    (hfc : ForkConforms accesses (pre ++ Ev.acc t1 (c, o) f1 :: (mid ++ Ev.acc t2 (c, o) f2 :: post)))
    (hpw : PublishWF creator (pre ++ Ev.acc t1 (c, o) f1 :: (mid ++ Ev.acc t2 (c, o) f2 :: post)))
    (hic : InitConforms accesses creator (pre ++ Ev.acc t1 (c, o) f1 :: (mid ++ Ev.acc t2 (c, o) f2 :: post)))
    (hne : t1 ≠ t2) :
    ∃ a b, accesses[f1]? = some a ∧ accesses[f2]? = some b ∧
      ((isWrite accesses a = false ∧ isWrite accesses b = false) ∨
       LockOrdered pre (Ev.acc t1 (c, o) f1) mid t1 t2 ∨
       (∃ (j : Nat) (t t' : Thread) (s : Nat), pre.length < j ∧ j < pre.length + 1 + mid.length ∧
          (pre ++ Ev.acc t1 (c, o) f1 :: (mid ++ Ev.acc t2 (c, o) f2 :: post))[j]? = some (Ev.fork t t' s) ∧
          Desc (pre ++ Ev.acc t1 (c, o) f1 :: (mid ++ Ev.acc t2 (c, o) f2 :: post)) s t2) ∨
       (∃ (j : Nat) (u : Thread), pre.length < j ∧ j < pre.length + 1 + mid.length ∧
          (pre ++ Ev.acc t1 (c, o) f1 :: (mid ++ Ev.acc t2 (c, o) f2 :: post))[j]? = some (Ev.publish u o)) ∨
       exemptRest a b = true) :=
  lockset_discipline_race_free_ordered accesses tc creator c (List.all_eq_true.mp discipline_holds c hc)
    pre mid post t1 t2 o f1 f2 hsingle hwf hconf hfwf hfc hpw hic hne

/-! ## No use of a torn-down runner ("stale pointer") -/

/-- Lean's evaluation of the stale-read rule over the regenerated table = the translator's -/
theorem stale_exact :
    staleReads accesses clearedClassIds 1 registryLockRef objectLockRef = expectedStale := by
  decide +kernel

/-- **No handler or scheduler path uses a cleared runner field through a stale pointer**: every
    use of `model` / `llama` / `Options` / `expireTimer` is through a pointer that is still live
    (registry lock held since the lookup), re-validated under `refMu`, fresh, or held (C01).
    A `PsHandler` that snapshots under `loadedMu` and reads under `refMu` fails here: `stale_exact`
    has this type only while the translator's `expectedStale` is `[]`. -/
theorem no_stale_reads :
    staleReads accesses clearedClassIds 1 registryLockRef objectLockRef = [] := stale_exact

/-- **C15 for the working tree, life-cycle part, every history.**  The rule-level soundness theorem
    applied to the regenerated table: in every enabled history whose `use` events instantiate the
    tree's facts (a `live` fact's use follows a lookup under `loadedMu` kept since, a `valid` fact's
    use follows a nil re-check under `refMu` kept since; fresh runners and the C01 holder ordering
    as the hypothesis `Other`), no handler or scheduler path uses `model` / `llama` / `Options` /
    `expireTimer` of a runner that `unload` has torn down.  The semantics' `clear` guard is `teardown_locks`.
    Its `lookup` guard ("only runners that are not torn down are in the registry") corresponds to
    `registry_entries_are_open` below and `hother`'s holder half to `holder_runner_not_closed_while_used`,
    by reading only: those speak of C01's `Sched.State`, no Lean statement relates it to `LState`, and
    `hother` stays a hypothesis whole.  Not modelled:
    `unloadAllRunners` closes `llama` at server shutdown without clearing the field (no `clear` event). -/
theorem no_use_of_torn_down_runner (G : Lock) (S : Nat → Lock) (Other : List LEv → Thread → Nat → Prop)
    (hother : ∀ pre t o s, lrun G S LState.init pre = some s → Other pre t o → s.cleared o = false)
    (tr : List LEv) (hconf : UseConforms accesses clearedClassIds 1 G S Other tr)
    (pre post : List LEv) (t : Thread) (o f : Nat) (htr : tr = pre ++ LEv.use t o f :: post)
    (s : LState) (hrun : lrun G S LState.init pre = some s) :
    s.cleared o = false :=
  stale_rule_sound accesses clearedClassIds 1 registryLockRef objectLockRef G S Other no_stale_reads hother
    tr hconf pre post t o f htr s hrun

/-- the panic clause for the tree, as far as the teardown can cause it: no step of a conforming
    history dereferences a field `unload` has set to nil (`no_nil_deref_panic` for the tree's table) -/
theorem no_panic_on_torn_down_runner (G : Lock) (S : Nat → Lock) (Other : List LEv → Thread → Nat → Prop)
    (hother : ∀ pre t o s, lrun G S LState.init pre = some s → Other pre t o → s.cleared o = false)
    (tr : List LEv) (hconf : UseConforms accesses clearedClassIds 1 G S Other tr)
    (pre post : List LEv) (e : LEv) (htr : tr = pre ++ e :: post)
    (s : LState) (hrun : lrun G S LState.init pre = some s) :
    panicsAt s e = false :=
  no_nil_deref_panic accesses clearedClassIds 1 registryLockRef objectLockRef G S Other no_stale_reads hother
    tr hconf pre post e htr s hrun

/-- the guards of the life-cycle semantics' `clear` step hold in the tree: every clearing write
    holds the runner's own lock, the registry's insert/delete hold the registry lock, and the three
    pointer fields `PsHandler` and the scheduler dereference (`llama`, `model`, `Options`) are cleared
    classes ALL of whose writes hold `loadedMu` (so `live` protects them; `expireTimer` is protected
    by `valid` only) -/
theorem teardown_locks :
    clearedClassIds.all (fun c => writesHold accesses c objectLockRef) = true ∧
    writesHold accesses registryClassId registryLockRef = true ∧
    hasInsert accesses registryClassId = true ∧
    (["runnerRef.llama", "runnerRef.model", "runnerRef.Options"].all (fun n =>
      clearedClassIds.contains (classNames.idxOf n) &&
      writesHold accesses (classNames.idxOf n) registryLockRef)) = true := by
  refine ⟨by decide +kernel, by decide +kernel, by decide +kernel, by decide +kernel⟩

/-! ## Lock order: the tree's acquisition order has a rank function, hence no AB-BA deadlock

  `lockOrderEdges` = (held, acquired) for every site of package server that takes one of the tracked
  mutexes while holding another one (call-graph resolved, regenerated on every run).  On the current
  tree: `loadedMu` → `refMu` (expireRunner, the expired handler of processCompleted, updateFreeSpace).
  `Scheduler.load` takes `loadedMu` while holding the `refMu` of the runner it has just created; that
  object is not published yet, nobody can wait for or hold its mutex: listed under
  `lockOrderFreshEdges`, outside the relation.  Not in the relation: blocking channel operations
  performed while a mutex is held. -/

/-- the translator's topological rank is a rank function for the regenerated relation -/
theorem lock_order_ranked :
    lockOrderEdges.all (fun e => lockRank.getD e.1 0 < lockRank.getD e.2 0) = true := by decide

/-- hence the relation is acyclic: no mutex class is (transitively) taken while held -/
theorem lock_order_acyclic : ∃ rank : Nat → Nat, ∀ e ∈ lockOrderEdges, rank e.1 < rank e.2 := by
  exact ⟨fun i => lockRank.getD i 0, fun e he => by
    simpa using List.all_eq_true.mp lock_order_ranked e he⟩

theorem no_deadlock_among_tracked_mutexes (cls : Lock → Nat) (h : Holder) (a : Wait) (rest : List Wait)
    (hconf : LockOrderConforms lockOrderEdges cls h (a :: rest)) (hc : chainOK h (a :: rest))
    (hclose : h ((a :: rest).getLast (by simp)).m = some a.t) : False :=
  lock_order_acyclic.elim fun rank hr =>
    ranked_lock_order_no_deadlock lockOrderEdges cls rank hr h a rest hconf hc hclose

/-! ## The `lookup` guard of the life-cycle semantics corresponds to C01's invariant

  `lstep (.lookup t o)` is enabled only for objects that are not torn down: "the registry never holds
  a torn-down runner".  For the scheduler variant the tree implements that reads as invariant Inv3.wf of the
  C01 model (`closed` there, `cleared` here), for every reachable state (C01's own correspondence check ties that model to sched.go;
  `Tie.C01.expired_region_is_atomic` ties "unload and delete in one loadedMu section"). -/

open OllamaVerif.Sched in
theorem registry_entries_are_open {mr mq ds : Nat} {s : State}
    (h : Reach OllamaVerif.Generated.C01.treeVariant (Sched.init mr mq ds) s) {p} (hp : p ∈ s.loaded) :
    (s.runners p.2).closed = false := by
  rw [OllamaVerif.Tie.C01.tree_variant_good] at h
  exact ((OllamaVerif.Sched.reach_inv (OllamaVerif.Sched.inv_init mr mq ds) h).i3.wf p hp).2.2

/-! ## The holder hypothesis (hb 1) corresponds to a theorem for the tree's scheduler variant

  Accesses tagged `holder` (the handler's read of `runner.llama` after receiving the runner from
  `GetRunner`'s channel, vs `unload`) are exempt from the lockset rule under the hypothesis "no
  unload between the hand-over and the end of the request".  For the variant of the scheduler
  the working tree implements (`Generated.C01.treeVariant`, regenerated from sched.go and pinned
  to `Variant.good` by `Tie.C01.tree_variant_good`) that reads as C01's theorem. -/

open OllamaVerif.Sched in
/-- a runner handed to a request is open at the hand-over -/
theorem holder_granted_runner_is_open {mr mq ds : Nat} {s s' : State}
    (h : Reach OllamaVerif.Generated.C01.treeVariant (Sched.init mr mq ds) s) (a : Act)
    (hs : step OllamaVerif.Generated.C01.treeVariant s a = some s')
    (q : ReqId) (r : Rid) (hq : q < s.nReqs) (hbefore : (s.reqs q).gotRunner = none)
    (hafter : (s'.reqs q).gotRunner = some r) : (s'.runners r).closed = false := by
  rw [OllamaVerif.Tie.C01.tree_variant_good] at h hs
  exact OllamaVerif.C01.granted_runner_is_open h a hs q r hq hbefore hafter

open OllamaVerif.Sched in
/-- and it is not shut down while the request uses it -/
theorem holder_runner_not_closed_while_used {mr mq ds : Nat} {s : State}
    (h : Reach OllamaVerif.Generated.C01.treeVariant (Sched.init mr mq ds) s) (r : Rid)
    (hr : r < s.nRunners) (q : ReqId) (hu : OllamaVerif.C01.uses s q r) :
    (s.runners r).closed = false := by
  cases hc : (s.runners r).closed with
  | false => rfl
  | true => exact absurd hu (OllamaVerif.Tie.C01.tree_closed_runner_has_no_user h r hr hc q)

end OllamaVerif.Tie.C15
