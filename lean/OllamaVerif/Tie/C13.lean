/-
  C13 tie: the character classes and length limits of the model's `validPartM` / `validPartN` are the ones
  the working tree's `isValidPart` (types/model and server/internal/internal/names) implement.  The table
  is regenerated on every run by executing the real functions on every 1-byte string, every 2-byte
  string (checked to be exactly first-set × rest-set, and position-independent) and on `a`^n for
  n ≤ 1200 (see vlib/checks/c13.py, TestVerifC13Table in both packages).  From the same run: the UTF-8 probe (`no_odd_strings`),
  `IsValid` on the N1 strings (`n1_variant_is_repaired`), the default parts and `MaxNameLength` (`constants_match`).
-/
import OllamaVerif.Model.Names
import OllamaVerif.Generated.C13_NameTable

namespace OllamaVerif.Tie.C13
open OllamaVerif.Names OllamaVerif.Generated.C13

def bytesWhere (p : UInt8 → Bool) : List Nat := (List.range 256).filter fun b => p (UInt8.ofNat b)

/-- the `names` rows are the first four `types/model` rows -/
theorem range4_map {α : Type} (f : Nat → α) : (List.range 4).map f = ((List.range 5).map f).take 4 := rfl

/-- first-byte sets: exactly `isAlphanumericOrUnderscore`, for every kind of both packages -/
theorem first_sets_match :
    firstM = (List.range 5).map (fun k => (k, bytesWhere isAlnumU)) ∧
    firstN = (List.range 4).map (fun k => (k, bytesWhere isAlnumU)) := by
  have hM : firstM = (List.range 5).map (fun k => (k, bytesWhere isAlnumU)) := by decide +kernel
  have hN : firstN = firstM.take 4 := by decide +kernel
  exact ⟨hM, by rw [hN, hM, range4_map]⟩

/-- rest-byte sets: exactly the model's `restOk` per kind -/
theorem rest_sets_match :
    restM = (List.range 5).map (fun k => (k, bytesWhere (restOk (Kind.ofIdx k)))) ∧
    restN = (List.range 4).map (fun k => (k, bytesWhere (restOk (Kind.ofIdx k)))) := by
  have hM : restM = (List.range 5).map (fun k => (k, bytesWhere (restOk (Kind.ofIdx k)))) := by decide +kernel
  have hN : restN = restM.take 4 := by decide +kernel
  exact ⟨hM, by rw [hN, hM, range4_map]⟩

/-- length limits: [1, maxLen] in types/model, [0, maxLen] in names; accepted lengths are an interval and the
    2-byte acceptance relation is the product of the two sets -/
theorem length_limits_match :
    lenM = (List.range 5).map (fun k => (k, 1, maxLen (Kind.ofIdx k), 1, 1)) ∧
    lenN = (List.range 4).map (fun k => (k, 0, maxLen (Kind.ofIdx k), 1, 1)) := by
  constructor <;> decide

/-- no byte the real code accepts anywhere in a part is `/`, `\`, NUL or `@`; none accepted first is `.` -/
theorem accepted_bytes_safe :
    (restM ++ restN ++ firstM ++ firstN).all (fun e => e.2.all fun b => b != 47 && b != 92 && b != 0 && b != 64) = true ∧
    (firstM ++ firstN).all (fun e => e.2.all fun b => b != 46) = true := by
  constructor <;> decide +kernel

/-- `:` is accepted only inside hosts (and digests) -/
theorem colon_only_in_hosts :
    (restM ++ restN).all (fun e => e.1 == 0 || e.1 == 4 || e.2.all fun b => b != 58) = true := by
  decide +kernel

/-- no probed string (all 2-byte strings, 3-byte spot checks, valid 2/3/4-byte UTF-8 encodings of code points of every
    low-byte class, alone / after / before / inside ASCII) is treated by the real `isValidPart` other than byte-wise -/
theorem no_odd_strings :
    oddM = (List.range 5).map (fun k => (k, [])) ∧ oddN = (List.range 4).map (fun k => (k, [])) := by
  constructor <;> decide

/-- **Finding N1 stays repaired**: on the three witness strings (`h//m`, `h//m:t`, `h:80//m`) the real
    `names.Parse(w).IsValid()` of the working tree is what the model of the CURRENT tree (`isValidNCur`, under which
    `roundtrip_names_bare` is proved) says: invalid.  A tree in which the repair is reverted fails this `decide`. -/
theorem n1_variant_is_repaired :
    n1Probe = [[104, 47, 47, 109], [104, 47, 47, 109, 58, 116], [104, 58, 56, 48, 47, 47, 109]].map
      (fun w => isValidNCur (parseN w)) ∧ n1Probe = [false, false, false] := by
  constructor <;> decide

/-- the defaults merged into every abbreviated name, the `!MISSING!` marker and `MaxNameLength` are, in the working tree,
    the values the model uses -/
theorem constants_match :
    constM = [sDefaultHost, sLibrary, sLatest, sMissing].map (fun s => s.map UInt8.toNat) ∧
    maxNameLengthN = maxNameLength := by
  constructor <;> decide

end OllamaVerif.Tie.C13
