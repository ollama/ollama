/-
  C03 tie: WHICH variant of the pull model the tree under test is.

  `Generated/C03_Variant.lean` is rewritten on every run: the real `getValue`, `downloadBlob` and `PullModel` of the
  tree are EXECUTED on the witness inputs of the findings (F5: a header ending in `realm=`; C03-emptydigest: digest
  `""`; F6: layer A answered by an error page, layer B's HEAD 404; C03-dupdigest: a digest listed twice with one
  flipped byte; C03-verifywindow: a single corrupt layer, is "verifying sha256 digest" still announced?).

  Here the variant flags of the model are COMPUTED from those observations (`treeFlags`), the kernel decides that the
  model under these flags gives the observed outcome on five of the six probes (`model_reproduces_probes`, toy hash) and
  that the flags are the repaired ones (`tree_is_repaired`); the property theorems that need a repaired variant are
  then instantiated for every configuration that carries the tree's flags.  A regression of one of the repairs
  flips an observation, and the theorems below stop checking.
-/
import OllamaVerif.Generated.C03_Variant
import OllamaVerif.Properties.C03

namespace OllamaVerif.Tie.C03
open OllamaVerif OllamaVerif.Pull OllamaVerif.C03

def obs (k : String) : String := ((Generated.C03.probes.find? fun r => r.1 == k).map (·.2)).getD "?"

/-- the model's variant flags, read off what the tree did -/
structure Flags where
  fixedChallenge : Bool
  fixedEmpty : Bool
  fixedDup : Bool
  verifyEarly : Bool
  verifyBeforeRename : Bool
deriving DecidableEq, Repr

def treeFlags : Flags :=
  { fixedChallenge := obs "getvalue-realm" == "ok"
    fixedEmpty := obs "empty-digest" == "err"
    fixedDup := obs "dup-digest-flip" == "err:digest-mismatch"
    verifyEarly := obs "f6-errorpage-then-404" == "err:digest-mismatch"
    verifyBeforeRename := obs "flip-single" == "err:digest-mismatch" && obs "flip-single-verifying-announced" == "no" }

/-- a configuration of the tree: any plan constants, the tree's flags -/
def IsTree (cfg : Cfg) : Prop :=
  cfg.fixedChallenge = treeFlags.fixedChallenge ∧ cfg.fixedEmpty = treeFlags.fixedEmpty ∧
  cfg.fixedDup = treeFlags.fixedDup ∧ cfg.verifyEarly = treeFlags.verifyEarly ∧
  cfg.verifyBeforeRename = treeFlags.verifyBeforeRename

def treeCfg : Cfg :=
  { cfgW with fixedChallenge := treeFlags.fixedChallenge, fixedEmpty := treeFlags.fixedEmpty,
              fixedDup := treeFlags.fixedDup, verifyEarly := treeFlags.verifyEarly,
              verifyBeforeRename := treeFlags.verifyBeforeRename }

def showO : Outcome → String
  | .ok _ => "ok"
  | .err .digestMismatch => "err:digest-mismatch"
  | .err .notfound => "err:notfound"
  | .err .digestFormat => "err"
  | .err _ => "err:other"
  | .panic _ => "panic"

/-- every repair the model knows is present in the tree (the transfer-side verification, C03-verifywindow, is a
    proposed patch that is NOT applied: known finding); a missing probe fails the first conjunct -/
theorem tree_is_repaired :
    Generated.C03.probes.length = 6 ∧
    treeFlags = ⟨true, true, true, true, false⟩ := by decide +kernel

/-- the model under the tree's flags gives, on five of the six probes (toy hash), what the real code did; the sixth
    only feeds `treeFlags.verifyBeforeRename` -/
theorem model_reproduces_probes :
    (match parseChallenge treeFlags.fixedChallenge (kRealm ++ [61]) with
      | none => "panic" | some _ => "ok") = obs "getvalue-realm" ∧
    showO (pull treeCfg toyHash 0 ⟨⟨[⟨.empty, 0, 0⟩], ⟨.empty, 0, 0⟩⟩, [], [0]⟩ Scripts.honest st0).1 = obs "empty-digest" ∧
    showO (pull treeCfg toyHash 0 regAB scF6 st0).1 = obs "f6-errorpage-then-404" ∧
    showO (pull treeCfg toyHash 0 ⟨⟨[⟨.ok dA, 2, 0⟩, ⟨.ok dA, 2, 0⟩], ⟨.empty, 0, 0⟩⟩, [(dA, cA)], [0]⟩
      ⟨[], [], [(dA, ⟨[], [], [[.body (.flip 0) none .eof]]⟩)], none⟩ st0).1 = obs "dup-digest-flip" ∧
    showO (pull treeCfg toyHash 0 regA ⟨[], [], [(dA, ⟨[], [], [[.body (.flip 0) none .eof]]⟩)], none⟩ st0).1 = obs "flip-single" := by
  decide +kernel

theorem isTree_treeCfg : IsTree treeCfg := by
  simp only [IsTree, treeCfg, and_self]

theorem IsTree.verifyEarly {cfg : Cfg} (ht : IsTree cfg) : cfg.verifyEarly = true := by
  rw [ht.2.2.2.1, tree_is_repaired.2]

/-- **Success, for the tree**: with the tree's flags, a pull that reports success leaves every layer of the
    served manifest stored and hashing to its digest (no condition on the manifest) and the name resolving to the
    served manifest. -/
theorem tree_pull_success_complete (cfg : Cfg) (ht : IsTree cfg) (hash : Bytes → Digest) (name : Name) (reg : Registry)
    (sc : Scripts) (st st' : Store) (log : Log) (hinv : BlobInv hash st)
    (h : pull cfg hash name reg sc st = (.ok (), st', log)) :
    (∀ l ∈ reg.manifest.all, ∃ d c, l.digest = .ok d ∧ st'.blobs d = some c ∧ hash c = d) ∧
    lookupM name st'.manifests = some (.readable reg.manifest) :=
  pull_success_complete_fixed cfg hash name reg sc st st' log ht.verifyEarly hinv h

theorem tree_history_every_state_intact (cfg : Cfg) (ht : IsTree cfg) (hash : Bytes → Digest) (steps : List HStep)
    (st : Store) (hb : BlobInv hash st) (hn : NameInv hash st) :
    ∀ r ∈ runHistory cfg hash steps st, BlobInv hash r.2.1 ∧ NameInv hash r.2.1 :=
  history_every_state_intact cfg hash ht.verifyEarly steps st hb hn

/-- **No crash, for the tree**: no reply script makes the tree's pull panic (model panic sites) -/
theorem tree_pull_no_panic (cfg : Cfg) (ht : IsTree cfg) (hash : Bytes → Digest) (name : Name) (reg : Registry)
    (sc : Scripts) (st : Store) (p : PanicSite) : (pull cfg hash name reg sc st).1 ≠ .panic p :=
  pull_no_panic_fixed cfg hash name reg sc st p
    (by rw [ht.1, tree_is_repaired.2]) (by rw [ht.2.1, tree_is_repaired.2])

/-- non-vacuity: `treeCfg` is a configuration of the tree, and an honest pull succeeds under it -/
example : IsTree treeCfg ∧ (pull treeCfg toyHash 0 regAB Scripts.honest st0).1 = .ok () :=
  ⟨isTree_treeCfg, by decide +kernel⟩

end OllamaVerif.Tie.C03
