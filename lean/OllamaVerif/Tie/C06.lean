/-
  C06 Tie 1 — the cell-level decisions of the model agree with the tree under test.

  `Generated/C06_Tables.lean` is rewritten on every run from the output of `TestVerifC06Tables`, which
  executes the REAL kvcache.Causal (public methods only) over the whole of a small finite domain for each
  decision the property hinges on: the mask element (sequence / causality / window / Except), the window
  eviction threshold, Remove's per-cell outcome (keep / drop / refuse / shift and the new position),
  CopyPrefix's owner update, StartForward's placement for every occupancy of a 5-cell
  cache (direct fit, defrag-and-retry, ErrKvCacheFull), CanResume, EncoderCached.  Each theorem says: on every row the
  Lean model takes the decision the real code took (`decide`, kernel-checked).  A tree in which one of
  these comparisons, thresholds or orders is changed no longer builds this module.
-/
import OllamaVerif.Model.Causal
import OllamaVerif.Generated.C06_Tables

namespace OllamaVerif.Tie.C06
open OllamaVerif.KV OllamaVerif.Causal OllamaVerif.Generated.C06

def variant : Variant :=
  { fixDefrag := variantBits % 2 = 1, fixResume := (variantBits / 2) % 2 = 1,
    fixDiv := (variantBits / 4) % 2 = 1, perSeqBatch := (variantBits / 8) % 2 = 1,
    atomicRemove := (variantBits / 16) % 2 = 1, atomicWrapperRemove := (variantBits / 32) % 2 = 1 }

/-- **The tree carries every repair that has been applied** (F14, F15b, F23, SWA capacity, F28 = bits 1..16;
    bit 32 = the proposed F29 repair may or may not be present): a tree that lost one no longer builds this module
    (and the check reports `variant-regression` with the finding's witness history as input). -/
theorem variant_is_all_fixed : variantBits % 32 = 31 := by decide

def win (w : Nat) : Option Int := if w = 0 then none else some (w : Int)

/-- a cache with the given cells (no layers yet), `cellRanges` as the driver sets them up: exact
    min/max location per owning sequence -/
def mk (w : Option Int) (cells : List Cell) : Cache :=
  { Causal.init variant w 1 1 1 1 1 true with
    cells := cells, rows := List.replicate cells.length default,
    ranges := fun s => if cells.any (fun c => decide (s ∈ c.seqs)) then some (rangeOf (hasSeq s) cells) else none }

theorem mask_table :
    maskRows.all (fun (w, mem, en, cp, tp, bit) =>
      maskBitE en (mk (win w) [⟨cp, if mem then [0] else [1]⟩]) ⟨0, tp⟩ 0 == bit) = true := by
  decide +kernel

theorem evict_table :
    evictRows.all (fun (w, cp, low, gone) =>
      let c := (startForward (mk (win w) [⟨cp, [0]⟩, Cell.empty]) [⟨0, low⟩]).1
      (c.curLoc == 0 || decide ((c.cells.getD 0 Cell.empty).seqs = [])) == gone) = true := by
  decide +kernel

/-- outcome code of `Remove` on a one-cell cache -/
def rmOutcome (b e cp : Int) (shared : Bool) : Nat × Int :=
  let e' := if e = -1 then maxInt32 else e
  let r := Causal.removeV (mk none [⟨cp, if shared then [0, 1] else [0]⟩]) 0 b e'
  let cell := r.1.cells.getD 0 Cell.empty
  if r.2 = .shared then (2, cell.pos)
  else if 0 ∉ cell.seqs then (1, cell.pos)
  else if cell.pos ≠ cp then (3, cell.pos)
  else (0, cell.pos)

theorem remove_table :
    removeRows.all (fun (b, e, cp, shared, outcome, np) => rmOutcome b e cp shared == (outcome, np)) = true := by
  decide +kernel

theorem copy_table :
    copyRows.all (fun (n, cp, src, dst, owners) =>
      let seqs := if !src && !dst then [2] else (if dst then [1] else []) ++ (if src then [0] else [])
      ((copyPrefix (mk none [⟨cp, seqs⟩]) 0 1 n).cells.getD 0 Cell.empty).seqs == owners) = true := by
  decide +kernel

def occCells (occ : List Bool) : List Cell :=
  (List.range occ.length).map (fun i => if occ.getD i false then ⟨(i : Int), [0]⟩ else Cell.empty)

def placeOutcome (occ : List Bool) (k : Nat) : Nat :=
  match startForward (mk none (occCells occ)) ((List.range k).map (fun i => ⟨1, (10 + i : Nat)⟩)) with
  | (c, .ok) => c.curLoc
  | (_, .full) => 100
  | (_, .panic) => 101

theorem place_table :
    placeRows.all (fun (occ, k, outcome) => placeOutcome occ k == outcome) = true := by
  decide +kernel

theorem resume_table :
    resumeRows.all (fun (w, occ, pos, res) => canResume (mk (win w) (occCells occ)) 0 pos == res) = true := by
  decide +kernel

theorem encoder_table :
    encoderRows.all (fun (reserve, p, b, e, cached) =>
      let e' := if e = -1 then maxInt32 else e
      ([EOp.start (some p) reserve, .put 0 1, .remove b e'].foldl encStep {}).cached == cached) = true := by
  decide +kernel

end OllamaVerif.Tie.C06
