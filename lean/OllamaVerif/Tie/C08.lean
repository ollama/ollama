/-
  C08, Tie 1 (facts regenerated from the tree under test on every run, consumed by `decide`):

  * `Generated/C08_LinkVariant.lean`: which `Link` the tree contains (`linkFixed`: temp + rename, fix 834f6be9a;
    `linkZeroCheck`: zero-length refusal of proposed_fixes/C08-F8-zero.patch).  The Link/Resolve theorems below are
    instantiated at that variant and compile only while the tree has the repaired `Link`: if the in-place copy comes
    back, `linkFixed` regenerates to `false`, they stop type-checking and the check reports the lost obligation
    (next to the L2 replay of F8 itself).
  * `Generated/C08_NameChars.lean`: the bytes the real `names.isValidPart` accepts first / later in a part of each
    kind, its length limits, position independence — obtained by executing it (TestVerifC08NameTable).  They must be
    exactly the model's `isAlnumU` / `restC` / `Part.maxLen`, which is what `nameToPath_safe` (⇒ `link_confined`:
    a name never denotes a file outside manifests/<h>/<n>/<m>/<t>) is proved from.
  * `Generated/C08_ReadLimit.lean`: the limits `Resolve` and `Link` pass to `readAndSum` (found by bisection on
    real `Resolve` / `Link` calls), whether `readAndSum` refuses a longer file
    (proposed_fixes/C08-F28.patch) and whether `copyNamedFile` refuses a negative size (C08-F29.patch).
-/
import OllamaVerif.Properties.C08Hist
import OllamaVerif.Generated.C08_LinkVariant
import OllamaVerif.Generated.C08_NameChars
import OllamaVerif.Generated.C08_ReadLimit
namespace OllamaVerif.Tie.C08
open OllamaVerif OllamaVerif.BlobCache OllamaVerif.Generated.C08

/-- the tree's `Link` is the repaired one -/
theorem tree_link_is_fixed : linkFixed = true := by decide

/-- the tree's `Link` refuses a zero-length blob file whose digest is not that of the empty string (fix 892890804; the
    all-fixed variant is the EXPECTED one: if the probe finds the refusal gone, this stops compiling) -/
theorem tree_link_zero_checked : linkZeroCheck = true := by decide

/-- **Link then Resolve, for the tree's `Link`** — no guard on what the name was linked to before -/
theorem tree_link_then_resolve (hash : Bytes → Digest) (k : Disk) (name : Bytes) (d : Digest)
    (f : Bytes) (want : MPath)
    (hat : splitNameDigest name = (name, []))
    (hp : nameToPath name = some want)
    (hb : k.blob d = some f) (hh : hash f = d) :
    (linkZ hash linkZeroCheck linkFixed k name d).2 = .ok ∧
    (resolve hash (linkZ hash linkZeroCheck linkFixed k name d).1 name).2 = .digest d := by
  rw [tree_link_is_fixed]
  exact OllamaVerif.C08.linkZ_then_resolve_fixed hash linkZeroCheck k name d f want hat hp hb hh

/-- **Link links only verified bytes, for the tree's `Link`** (in the form that also holds without the zero-length
    refusal; with it, `C08.link_requires_blob_zero_checked`) -/
theorem tree_link_requires_blob (hash : Bytes → Digest) (k : Disk) (name : Bytes) (d : Digest)
    (hok : (linkZ hash linkZeroCheck linkFixed k name d).2 = .ok) :
    ∃ f, k.blob d = some f ∧
      (f = [] ∨ hash f = d ∨
        ∃ want g, nameToPath name = some want ∧ manGet k.mans (manifestPathOf k.mans want) = some g ∧ hash g = d) := by
  rw [tree_link_is_fixed] at hok
  exact OllamaVerif.C08.link_requires_blob_fixed hash k name d
    (OllamaVerif.C08.linkZ_ok hash linkZeroCheck true k name d hok).2

/-- the F8 history on the tree's `Link`: the second Link takes effect -/
theorem tree_relink_same_size_takes_effect :
    let A : Bytes := [1, 1, 1]
    let B : Bytes := [2, 2, 2]
    (runOps OllamaVerif.C08.idh linkFixed linkZeroCheck
      [.put A 3 ⟨[A], .eof⟩, .put B 3 ⟨[B], .eof⟩, .link OllamaVerif.C08.nm A, .link OllamaVerif.C08.nm B,
       .resolve OllamaVerif.C08.nm] Disk.empty).2
      = [.res .ok, .res .ok, .res .ok, .res .ok, .digest B] := by decide

def bytesWhere (p : UInt8 → Bool) : List Nat := (List.range 256).filter fun b => p (UInt8.ofNat b)

/-- first bytes the real `isValidPart` accepts = the model's `isAlnumU`, for all four kinds -/
theorem name_first_chars_match :
    firstChars = (List.range 4).map (fun k => (k, bytesWhere isAlnumU)) := by decide +kernel

/-- later bytes the real `isValidPart` accepts = the model's `restC kind` -/
theorem name_rest_chars_match :
    restChars = (List.range 4).map (fun k => (k, bytesWhere (restC (Part.ofIdx k)))) := by decide +kernel

/-- length limits (accepted lengths are the interval [0, max]) and position independence of the later bytes -/
theorem name_len_limits_match :
    lenLimits = (List.range 4).map (fun k => (k, (Part.ofIdx k).maxLen, 1, 1)) := by decide

/-- read off the regenerated table itself: the real code accepts no `/` anywhere and no `.` first -/
theorem name_accepted_bytes_safe :
    (firstChars ++ restChars).all (fun e => e.2.all fun b => b != 47) = true ∧
    firstChars.all (fun e => e.2.all fun b => b != 46) = true := by
  constructor <;> decide +kernel

/-! ## the read limit -/

/-- `Resolve` and `Link` read a manifest under the same limit, and it was found (not 0): what Link's
    already-linked test sees is what Resolve would answer -/
theorem read_limits_agree : resolveReadLimit = linkReadLimit ∧ 0 < resolveReadLimit := by decide

/-- the tree's `readAndSum` refuses a file longer than the limit (fix dd73d5483, finding F28) and its `copyNamedFile` refuses
    a negative size (fix 9e5c18b2f, finding F29): the all-fixed variant is the EXPECTED one; if a probe finds either gone,
    this stops compiling (next to `variant-regression`) -/
theorem tree_read_strict_and_neg_refused : readStrict = true ∧ negRefused = true := by decide

/-- **Resolve returns the digest of exactly the bytes linked, for the tree's `Resolve`, for EVERY manifest size**: whatever
    digest it answers is the hash of the whole manifest file (an oversize manifest is an error, not a prefix digest) -/
theorem tree_resolve_hash_of_whole_file (hash : Bytes → Digest) (k : Disk) (name : Bytes) (d' : Digest)
    (hnd : (splitNameDigest name).2 = [])
    (h : (resolveL hash readStrict resolveReadLimit k name).2 = .digest d') :
    ∃ want file, nameToPath (splitNameDigest name).1 = some want ∧
      manGet k.mans (manifestPathOf k.mans want) = some file ∧ d' = hash file := by
  rw [tree_read_strict_and_neg_refused.1] at h
  exact OllamaVerif.C08.resolveL_strict_hash_of_whole_file hash resolveReadLimit k name d' hnd h

/-- a negative-size `Put` touches nothing in the tree's cache -/
theorem tree_putNeg_noop (k : Disk) (d : Digest) (s : Script) :
    (putNeg negRefused k d s).1.blob d = k.blob d ∧ (putNeg negRefused k d s).2 = .negSize := by
  rw [tree_read_strict_and_neg_refused.2]
  simp [putNeg, copyNamedNegEffs, run, OllamaVerif.C08.setBlob_same]

/-- **Link then Resolve for the tree's `Link` AND the tree's `Resolve`** (with its read limit, at the variant and the
    constant found in the source): holds whenever the manifests on the disk after the `Link` are within the limit. -/
theorem tree_link_then_resolve_limited (hash : Bytes → Digest) (k : Disk) (name : Bytes) (d : Digest)
    (f : Bytes) (want : MPath)
    (hat : splitNameDigest name = (name, []))
    (hp : nameToPath name = some want)
    (hb : k.blob d = some f) (hh : hash f = d)
    (hsmall : ∀ e ∈ (linkZ hash linkZeroCheck linkFixed k name d).1.mans, e.2.length ≤ resolveReadLimit) :
    (resolveL hash readStrict resolveReadLimit (linkZ hash linkZeroCheck linkFixed k name d).1 name).2 = .digest d := by
  rw [OllamaVerif.C08.resolveL_eq_resolve_of_small hash _ _ _ name hsmall]
  exact (tree_link_then_resolve hash k name d f want hat hp hb hh).2

end OllamaVerif.Tie.C08
