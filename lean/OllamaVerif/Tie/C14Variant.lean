/-
  C14 tie: WHICH `FindStop` the tree has.  `Generated/C14_Variant.lean` is rewritten on every run: the real
  `common.FindStop` (and `TruncateStop` on its result) of the tree under test are EXECUTED on inputs that tell
  the two variants of the model apart (`findStopV true` = first listed stop, finding F7; `findStopV false` =
  earliest occurrence, the repair), on ties, on the empty stop and on a miss
  (harness/overlay/runner_common/zz_verif_c14_extract_test.go `TestVerifC14Variant`).

  `tree_findstop_repaired` decides in the kernel that the repaired variant reproduces every answer of the tree and
  the first-listed variant does not; `treePinned` is COMPUTED from the probe, and the tree-level theorem `c14_tree` is the
  property for `run treePinned …`.  A regression of the F7 fix flips `treePinned`, and both theorems stop checking.
  The oracle of the L1 comparison is asked for the same variant (vlib/checks/c14.py `regenerate_variant`).
-/
import OllamaVerif.Generated.C14_Variant
import OllamaVerif.Properties.C14

namespace OllamaVerif.Tie.C14
open OllamaVerif OllamaVerif.Stop OllamaVerif.C14

/-- does the model variant reproduce what the tree's `FindStop` / `TruncateStop` answered on every probe? -/
def agreesWithTree (pinned : Bool) : Bool :=
  Generated.C14.findStopProbe.all fun r =>
    findStopV pinned r.1 r.2.1 == r.2.2.1 &&
    (match r.2.2.1 with
     | none => true
     | some stop => (truncateStop [r.1] stop).1.flatten == r.2.2.2)

/-- the variant of the tree, computed from the probe (true = first listed stop, F7) -/
def treePinned : Bool := !agreesWithTree false

/-- the probe is not empty and tells the variants apart: the repaired model agrees with the tree on every row,
    the pinned model does not -/
theorem tree_findstop_repaired :
    Generated.C14.findStopProbe.length ≥ 8 ∧ agreesWithTree false = true ∧ agreesWithTree true = false ∧
    treePinned = false := by decide +kernel

/-- **C14 for the tree**: `c14_script` for the variant the tree was measured to have. -/
theorem c14_tree (limit : Int) (stops : List Bytes) (evs : List Ev) (hok : StopsOk stops)
    (cap tail : Nat) (sched : List Nat) (hscript : ValidPrefix (scriptText evs)) :
    let f := run treePinned limit stops init evs
    ((∀ c ∈ f.out, validUtf8 c = true ∧ c ≠ []) ∧ f.outText <+: f.genText) ∧
    (∀ t ∈ stops, ¬ Occurs t f.outText) ∧
    ((∃ t ∈ stops, Occurs t f.genText) →
      f.done = some .stop ∧ ∃ s ∈ stops, ∃ idx, indexOf s f.genText = some idx ∧
        (∀ t ∈ stops, ∀ j, indexOf t f.genText = some j → idx ≤ j) ∧ f.outText = f.genText.take idx) ∧
    ((∀ t ∈ stops, ¬ Occurs t f.genText) →
      (f.done = some .stop → f.cause = some .eos ∧ f.outText = trimValid f.genText) ∧
      (f.done = some .length → f.cause = some .limit ∧ f.outText = trimValid f.genText) ∧
      (f.done = none → f.outText ++ f.pending.flatten = f.genText)) ∧
    (f.done.isSome = true → (runSched treePinned limit stops cap tail init {} sched evs).2.recv = f.out) := by
  have h : treePinned = false := tree_findstop_repaired.2.2.2
  rw [h]
  exact c14_script limit stops evs hok cap tail sched hscript

end OllamaVerif.Tie.C14
