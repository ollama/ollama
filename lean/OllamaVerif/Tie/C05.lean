/-
  C05 tie: the per-kind element/block sizes the model uses are the ones the working tree's
  `Tensor.typeSize` / `Tensor.blockSize` return (table regenerated by executing the real
  methods for kinds 0..63 on every run; see vlib/checks/c05.py); likewise `padding` against `ggufPadding`.
-/
import OllamaVerif.Model.Gguf
import OllamaVerif.Generated.C05_TypeTable

namespace OllamaVerif.Tie.C05
open OllamaVerif.Gguf

theorem type_table_complete :
    OllamaVerif.Generated.C05.typeTable.map (·.1) = List.range 64 := by decide +kernel

theorem type_table_matches :
    OllamaVerif.Generated.C05.typeTable.all
      (fun e => typeSize e.1 == e.2.1 && blockSize e.1 == e.2.2) = true := by decide +kernel

/-- the model's `padding` is the working tree's `ggufPadding` on every (offset, alignment) pair executed this run
    (offsets 0..99 and a few large ones x alignments 1..40, 64, 100, 128, 4096) -/
theorem padding_table_matches :
    OllamaVerif.Generated.C05.paddingTable.all (fun e => padding e.1 e.2.1 == e.2.2) = true := by
  -- a left-nested `++` of chunks: evaluated as it stands it is quadratic
  unfold OllamaVerif.Generated.C05.paddingTable
  simp only [List.all_append]
  decide +kernel

theorem padding_table_nonempty : 4000 ≤ OllamaVerif.Generated.C05.paddingTable.length := by
  unfold OllamaVerif.Generated.C05.paddingTable
  simp only [List.length_append]
  decide +kernel

end OllamaVerif.Tie.C05
