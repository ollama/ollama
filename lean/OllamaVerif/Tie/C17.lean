/-
  C17 — Tie 1: facts regenerated from /repo's working tree on every run by vlib/checks/c17.py (reason
  strings and error texts, api.Client's buffer size, the repairs the tree shows), re-checked by `decide`.
-/
import OllamaVerif.Model.Stream
import OllamaVerif.Generated.C17_Reasons
import OllamaVerif.Generated.C17_Client
import OllamaVerif.Generated.C17_Variant
namespace OllamaVerif.Tie.C17
open OllamaVerif OllamaVerif.Stream OllamaVerif.Generated.C17

/-- the table covers the enum values 0..7 (3 defined reasons + out-of-range values) -/
theorem reason_table_complete : reasonTable.map (·.1) = List.range 8 := by decide

/-- the model's `reasonStr` is the real `DoneReason.String()` on every tabulated value -/
theorem reason_table_matches : ∀ p ∈ reasonTable, reasonStr p.1 = p.2 := by decide

/-- api.Client's scanner buffer is the documented 512 * format.KiloByte: a reply line shorter than
    that is delivered (`client_view_fits`), one of that length or more is F17e (`client_long_line`) -/
theorem client_limit_documented : clientMaxLine = 512000 := by decide

/-- the error text the model's handlers send for a run that ends without a done chunk (`sIncomplete`,
    used by `one_final_*_fixedD`) is the real `errIncompleteResponse`, and the client's refusal of an
    over-long line (`sTooLong`, `client_long_line`) is the real `bufio.ErrTooLong` -/
theorem error_texts_match : incompleteMsg = sIncomplete ∧ tooLongMsg = sTooLong := by decide

/-- **the variant the theorems are read for is the variant of the tree**: probed on the real handlers,
    writers and client with the findings' own inputs on every run — the streaming tool path still loses a
    call after a parsable boundary prefix (F17a present), the non-streamed reply numbers its calls (F17b
    repaired), a runner error is an OpenAI error event (F17c repaired), a run without a done chunk is
    reported (F17d repaired), api.Client returns the scanner's error (F17e repaired), a tool call delivered by the
    done message itself ends the OpenAI stream with `tool_calls` (F17f repaired, 9e8f7fa39).  When a fix for F17a is
    applied (or a repair regresses) this theorem stops checking and the THEOREMS_TREE / HISTORICAL split in
    vlib/checks/c17.py has to be redone. -/
theorem tree_variant : treeVariant = ⟨false, true, true, true⟩ ∧ treeClientFixed = true ∧ treeFinishFixed = true := by decide

end OllamaVerif.Tie.C17
