/-
  C18 — Tie 1: how the request options reach the sampler, re-extracted from the tree on every run
  (Generated/C18_CallSites.lean, harness/cmd/c18facts: go/ast over every non-test file that calls
  `sample.NewSampler`).  The sampler package itself is tied behaviourally (L1 ops `newsampler`, `newrng`
  call `NewSampler` positionally); the production call site is in runner/ollamarunner, which no C18 driver
  executes.  The facts: at every call site argument i carries the request option of role i, and the
  sampler is a local of the request handler (owned by one sequence).  Then the variant the tree
  runs (`tree_is_fixed`; `treeSample`).
-/
import OllamaVerif.Properties.C18
import OllamaVerif.Generated.C18_CallSites
import OllamaVerif.Generated.C18_Variant

namespace OllamaVerif.Tie.C18
open OllamaVerif OllamaVerif.Sampler

/-- the option fields in the order `NewSampler(temperature, topK, topP, minP, seed, grammar)` takes them -/
def roles : List String := ["Temperature", "TopK", "TopP", "MinP", "Seed"]

/-- the sampling options of a request (`api.Options`) -/
structure Options (α : Type) where
  Temperature : α
  TopK : Int
  TopP : α
  MinP : α
  Seed : Int

inductive Arg (α : Type) where
  | f (x : α)
  | i (n : Int)
  | unknown

/-- the value an argument carries, given the option field the extractor resolved it to -/
def argOf {α : Type} (opts : Options α) : String → Arg α
  | "Temperature" => .f opts.Temperature
  | "TopK" => .i opts.TopK
  | "TopP" => .f opts.TopP
  | "MinP" => .f opts.MinP
  | "Seed" => .i opts.Seed
  | _ => .unknown

/-- the sampler the model builds for `NewSampler(a₁, …, a₅, grammar)`: clamped parameters + generator -/
def samplerOfArgs {α : Type} (o : Ops α) (opts : Options α) (names : List String) :
    Option (Params α × Option Pcg) :=
  match names.map (argOf opts) with
  | [.f t, .i k, .f p, .f mp, .i s] => some (newParams o t k p mp, newRng s)
  | _ => none

/-- **the tree's call sites are wired role by role**: there is at least one, each passes the five
    options in the order of their roles (and a sixth argument, the grammar), and the sampler it builds
    is a local of the handler.  Swapping two options, passing a constant, or sharing one sampler
    between requests fails this `decide`. -/
theorem callsites_wired :
    Generated.C18.callSites ≠ [] ∧
    Generated.C18.callSites.all (fun s => s.2.1 == roles && s.2.2.1 == 6 && s.2.2.2 == "local") = true := by
  decide

/-- **what the property's theorems quantify over is what a request gets**: for every call site of the
    tree and every request options, the model's sampler is `newParams` of (Temperature, TopK, TopP,
    MinP) with the generator `newRng Seed` — the `P` and the seed of `sample_admissible_*`,
    `sample_in_topk`, `greedy_admissible`, `hist_nth`, `deterministic`. -/
theorem tree_request_sampler {α : Type} (o : Ops α) (opts : Options α) :
    ∀ s ∈ Generated.C18.callSites,
      samplerOfArgs o opts s.2.1 =
        some (newParams o opts.Temperature opts.TopK opts.TopP opts.MinP, newRng opts.Seed) := by
  intro s hs
  have h := List.all_eq_true.1 callsites_wired.2 s hs
  simp only [Bool.and_eq_true, beq_iff_eq] at h
  rw [h.1.1]
  rfl

/-- **the tree implements the repaired variant** (probed on every run on the witness inputs of F18 and
    F18c by the driver, `c18ProbeFix`): max-shift before scaling, and the greedy branch reports
    "all logits are -Inf".  The theorems that speak about the tree are therefore the `fix = true`
    ones (`sample_admissible_fixed_partial`, `_fixed_on`, `_all_fixed`, `_lawful`, `_from_input`,
    `sample_never_panics_fixed`, `sample_fixed_no_allNegInf(_on)`, `sample_fixed_token_or_nan`,
    `grammar_retry_admissible_fixed_partial`, `_fixed_on`)
    and the variant-independent ones; the `fix = false` statements describe the upstream code before
    e3725cd97.  A regression of either repair fails this `decide`. -/
theorem tree_is_fixed : Generated.C18.fixShift = true ∧ Generated.C18.fixGreedyErr = true := by decide

/-- `Sample` as the tree runs it -/
def treeSample {α : Type} (o : Ops α) (P : Params α) (r : α) (logits : List α) : Except Err Nat :=
  Sample o Generated.C18.fixShift { P with greedyErr := Generated.C18.fixGreedyErr } r logits

theorem treeSample_eq {α : Type} (o : Ops α) (P : Params α) (r : α) (logits : List α) :
    treeSample o P r logits = Sample o true { P with greedyErr := true } r logits := by
  unfold treeSample
  rw [tree_is_fixed.1, tree_is_fixed.2]

/-- the totality clause for the tree's own variant, on an IEEE-like carrier: NaN-free logits, some
    logit above `-Inf` ⇒ never the "all -Inf" error — at any temperature -/
theorem tree_no_spurious_allNegInf {α : Type} {o : Ops α} (h : OrdLawsOn o) (hb : BeqLawOn o)
    (P : Params α) (r : α) (logits : List α) (hn : C18.noNaN o logits = true)
    (hsome : ∃ w ∈ logits, o.lt o.negInf w = true) :
    treeSample o P r logits ≠ .error .allNegInf := by
  rw [treeSample_eq]
  cases ht : o.beq P.temp o.zero with
  | false => exact C18.sample_fixed_no_allNegInf_on h hb _ r logits ht hn hsome
  | true =>
    obtain ⟨id, v, hS, _⟩ := C18.greedy_admissible_on h hb true { P with greedyErr := true } r logits ht hn hsome
    rw [hS]; intro e; cases e

/-- **the sampler a request gets has its filters in range**: for every call site of the tree and every
    request whose `top_p` / `min_p` are not NaN (JSON cannot express NaN), the stored `top_p` and
    `min_p` lie in `[0, 1]` and the stored temperature is not negative — `NewSampler`'s clamping
    (`C18.newParams_in_range`) composed with the call-site wiring -/
theorem tree_request_params_in_range {α : Type} {o : Ops α} (h : OrdLawsOn o) (hc : C18.ClampLawsOn o)
    (opts : Options α) (hp : o.isNaN opts.TopP = false) (hmp : o.isNaN opts.MinP = false) :
    ∀ s ∈ Generated.C18.callSites, ∃ P rng, samplerOfArgs o opts s.2.1 = some (P, rng) ∧
      o.lt P.temp o.zero = false ∧ P.topK = opts.TopK ∧
      o.lt P.topP o.zero = false ∧ o.lt o.one P.topP = false ∧
      o.lt P.minP o.zero = false ∧ o.lt o.one P.minP = false ∧
      (rng = none ↔ opts.Seed = -1) := by
  intro s hs
  have hr := C18.newParams_in_range h hc opts.Temperature opts.TopK opts.TopP opts.MinP hp hmp
  simp only at hr
  exact ⟨_, _, tree_request_sampler o opts s hs, hr.1, hr.2.1, hr.2.2.1, hr.2.2.2.1, hr.2.2.2.2.2.1,
    hr.2.2.2.2.2.2.1, C18.newRng_none_iff opts.Seed⟩

/-- non-vacuity / sensitivity: a call site that swaps top-p and min-p builds another sampler -/
example :
    (samplerOfArgs C18.zOps (⟨1, 40, 0, 1, 7⟩ : Options Int) ["Temperature", "TopK", "MinP", "TopP", "Seed"]).map
      (fun x => (x.1.topP, x.1.minP)) = some (1, 0) ∧
    (samplerOfArgs C18.zOps (⟨1, 40, 0, 1, 7⟩ : Options Int) roles).map
      (fun x => (x.1.topP, x.1.minP, x.2)) = some (0, 1, some ⟨7, Nat.xor 7 0x9E3779B9⟩) ∧
    (samplerOfArgs C18.zOps (⟨1, 40, 0, 1, -1⟩ : Options Int) roles).map (·.2) = some none := by
  decide

end OllamaVerif.Tie.C18
