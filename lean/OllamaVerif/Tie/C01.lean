/-
  Scheduler tie (C01 / C02 / C11): which variant of the model /repo's working tree implements.
  `Generated/C01_SchedFacts.lean` is regenerated on every run (vlib/checks/sched_common.py):
  * `treeVariant`: each flag is true iff the REAL scheduler of the tree stays inside the property on the
    F12a (duplicate expired event) resp. F12b (grant after unload) witness schedules — a behavioural probe,
    insensitive to how the guard is written — AND harness/cmd/schedfacts (go/ast over server/sched.go, helper
    calls inlined, conditions evaluated for what they imply) does not find an unguarded `delete(s.loaded, …)`
    resp. a refCount increment that is not preceded by the `llama == nil` re-check;
  * the structural facts that cannot be probed (atomicity of the expired / make-room regions, the delete
    sites, the non-blocking enqueue, the purity of the unloaded arms, channel capacities) by go/ast.
  If a change removes one of the guards, `tree_variant_good` stops compiling (`decide` fails), the
  theorems below no longer apply to the tree, and the check reports the broken obligation together with the
  monitors that fired on the witness schedule (a concrete failing input).
-/
import OllamaVerif.Properties.C11
import OllamaVerif.Properties.C02
import OllamaVerif.Properties.C02Chan
import OllamaVerif.Properties.C01Bridge
import OllamaVerif.Generated.C01_SchedFacts

namespace OllamaVerif.Tie.C01
open OllamaVerif.Sched OllamaVerif.SchedChan OllamaVerif.Generated.C01

theorem tree_variant_good : treeVariant = Variant.good := by decide

/-- every `delete` on the loaded map is inside processCompleted (the model has no other) -/
theorem no_other_delete_site : deletesElsewhere = 0 := by decide

/-- The model's `cExp` action is ONE atomic region: the refCount test, Close, and the removal from
    `loaded` cannot be separated by another action.  That is true of the tree iff the expired
    handler keeps refMu from the test to unload() and keeps loadedMu across unload() and the delete. -/
theorem expired_region_is_atomic : expiredAtomic = true ∧ unloadUnderLoadedMu = true := by decide

/-- The model's `pExpire` action is ONE atomic region: marking the eviction victim (`sessionDuration = 0`) and
    deciding whether it is idle.  True of the tree iff processPending does both under one hold of the victim's
    refMu (otherwise a victim whose last user finishes in between is never expired and the waiting request, and
    everything queued behind it, is never answered: C02). -/
theorem evict_region_is_atomic : evictAtomic = true := by decide

/-- The model's `submit` never blocks (full queue ⇒ busy error in the same step): GetRunner's enqueue is a
    non-blocking send in the tree. -/
theorem submit_never_blocks : enqueueNonBlocking = true := by decide

/-- `pDrainUnloaded` / `pWaitUnload` consume an unload event and change nothing else (in particular not `loaded`) -/
theorem wait_unload_is_pure : waitUnloadPure = true := by decide

/-- "A runner is shut down at most once" (`closed_at_most_once`) holds in the model because `cExp` closes only a runner
    that is not closed yet; that mirrors `unload()`: `Close()` only where `llama != nil`, then `llama = nil`, and no other
    Close() site but unloadAllRunners (shutdown, outside the model).  Regenerated from the source. -/
theorem close_is_guarded : unloadClosesOnce = true := by decide

/-! ### the bounded model's parameters (Model/SchedChan.lean) -/

/-- the tree takes loadedMu before refMu in the expired case and drains unloadedCh in the idle select -/
theorem tree_cfg_repo : treeCfg = Cfg.repo := by decide

/-- all four scheduler channels are made with capacity OLLAMA_MAX_QUEUE (`full`) -/
theorem chan_caps_are_max_queue : chanCapsAreMaxQueue = true := by decide

/-- the (channel, mutexes held) pairs the bounded model assumes (`profile`, with the holds it leaves to the base state: the
    load goroutine's refMu, a parked expireRunner call's loadedMu): expired events are sent holding nothing (10 ms
    re-queuer), the runner's refMu (make-room block, finished case, timer callback, failed load) or loadedMu + refMu
    (expireRunner); every other blocking send holds nothing -/
def modelSendSites : List (String × List String) :=
  [("expiredCh", []), ("expiredCh", ["loadedMu", "refMu"]), ("expiredCh", ["refMu"]),
   ("finishedReqCh", []), ("pendingReqCh", []), ("unloadedCh", [])]

/-- the tree sends on its channels holding exactly the mutexes listed in `modelSendSites` -/
theorem send_sites_match : sendSites = modelSendSites := by decide

/-- two rows of `modelSendSites` against what `profile` computes (sample states) -/
theorem profile_expireRunner_idle :
    profile Cfg.repo { (Sched.init 0 1 1) with loaded := [(0, 0)], nRunners := 1 } (.unloadBind 0) =
      ([.loadedMu, .refMu 0], some .expired) := by decide
theorem profile_cVram : profile Cfg.repo (Sched.init 0 1 1) .cVram = ([], some .unloaded) := by decide

/-- the tree's lock order admits no hold-and-wait on loadedMu, in every reachable state of the bounded model -/
theorem tree_no_hold_and_wait_on_loadedMu {v : Variant} {mr mq ds : Nat} {b : BState}
    (h : ReachB v treeCfg (initB mr mq ds) b) :
    ∀ p, p ∈ b.parked → p.wait = .lock .loadedMu → p.holds = [] := by
  rw [tree_cfg_repo] at h
  exact OllamaVerif.C02Chan.repo_no_hold_and_wait_on_loadedMu h

/-- C01 for the tree's variant -/
theorem tree_closed_runner_has_no_user {mr mq ds : Nat} {s : State}
    (h : Reach treeVariant (Sched.init mr mq ds) s) (r : Rid) (hr : r < s.nRunners)
    (hc : (s.runners r).closed = true) : ∀ q, ¬ OllamaVerif.C01.uses s q r := by
  rw [tree_variant_good] at h
  exact OllamaVerif.C01.closed_runner_has_no_user h r hr hc

/-- C01, ghost-free, for the tree's variant: a request in progress holds a runner that is neither shut down nor unloaded -/
theorem tree_in_progress_runner_is_loaded_and_open {mr mq ds : Nat} {s : State}
    (h : Reach treeVariant (Sched.init mr mq ds) s) (q : ReqId) (r : Rid)
    (hg : (s.reqs q).gotRunner = some r) (hd : (s.reqs q).done = false) :
    (s.runners r).closed = false ∧ lookup s.loaded (s.runners r).model = some r := by
  rw [tree_variant_good] at h
  exact OllamaVerif.C01.in_progress_runner_is_loaded_and_open h q r hg hd

/-- C11 for the tree's variant -/
theorem tree_one_runner_per_model {mr mq ds : Nat} {s : State}
    (h : Reach treeVariant (Sched.init mr mq ds) s) (r r' : Rid)
    (hl : OllamaVerif.C11.live s r) (hl' : OllamaVerif.C11.live s r')
    (hm : (s.runners r).model = (s.runners r').model) : r = r' := by
  rw [tree_variant_good] at h
  exact OllamaVerif.C11.one_runner_per_model h r r' hl hl' hm

theorem tree_live_count_le_max {mr mq ds : Nat} {s : State}
    (h : Reach treeVariant (Sched.init mr mq ds) s) (l : List Rid) (hn : l.Nodup)
    (hl : ∀ r, r ∈ l → OllamaVerif.C11.live s r) : l.length ≤ s.maxRunners := by
  rw [tree_variant_good] at h
  exact OllamaVerif.C11.live_count_le_max h l hn hl

end OllamaVerif.Tie.C01
