/-
  C12 — source facts regenerated from the tree under test on every run (go/ast over func Serve in
  server/routes.go, `TestVerifC12Facts` in the driver), consumed here by `decide`.

  The model's `restartWith` (and the driver's synchronous transcription of it) is the start-up store
  repair of Serve.  What makes it a *start-up* repair is its POSITION: every repair call is a plain
  statement of Serve executed before the call that starts serving — not inside a `go` statement, a
  function literal or a `defer` — so no request can observe (or race with) a store the repair has not
  finished with.  `crash_safe` / `rerun_converges*` compose "crash; restart; operation" sequentially;
  that composition is only the real behaviour if this holds.
-/
import OllamaVerif.Generated.C12_Serve
namespace OllamaVerif.Tie.C12
open OllamaVerif.Generated.C12

def isPrefixL : List Char → List Char → Bool
  | [], _ => true
  | _ :: _, [] => false
  | a :: as, b :: bs => a == b && isPrefixL as bs

def containsL (pat : List Char) : List Char → Bool
  | [] => pat.isEmpty
  | c :: t => isPrefixL pat (c :: t) || containsL pat t

def contains (s pat : String) : Bool := containsL pat.toList s.toList

def is (s name : String) : Bool := s.toList == name.toList

/-- the repair calls and the serving call, in source order -/
def isRepairOrServe (n : String) : Bool :=
  is n "fixBlobs" || is n "Manifests" || is n "PruneLayers" || is n "PruneDirectory" ||
  is n "srvr.Serve" || is n "http.Serve"

def sequence : List String := (serveCalls.filter (fun c => isRepairOrServe c.1)).map (·.1)

/-- every repair call is there, in the order the model's `restartWith` applies them, and the call that
starts serving comes after all of them -/
theorem serve_repair_order :
    sequence.map String.toList =
      ["fixBlobs", "Manifests", "PruneLayers", "PruneDirectory", "srvr.Serve"].map String.toList := by
  decide +kernel

/-- none of them (nor the NoPrune test) is inside a `go` statement, a function literal or a `defer`:
the repair is complete before Serve starts to serve -/
theorem serve_repair_is_synchronous : serveCalls.all (fun c => !c.2.1) = true := by decide +kernel

def hasPrefix (s pre : String) : Bool := isPrefixL pre.toList s.toList

/-- the gating the model's `restartWith`/`restart` has, stated on NORMALISED guards (the text of the
conditions, the names of the error variables, `if c {…} else {…}` versus an early return, and whether the repair
sits in Serve itself or in a helper it calls are not facts the property depends on): `fixBlobs` runs
unconditionally; the manifest check and the prune are reached only when OLLAMA_NOPRUNE is not set; the prune is
reached under strictly more conditions than the manifest check (it depends on its outcome — WHICH outcome is
compared by behaviour: L1 `restarted` lines on stores with an unparseable manifest, and the crash states that go
through the real Serve). -/
theorem serve_repair_gating :
    serveCalls.all (fun c =>
      (!(is c.1 "Manifests" || is c.1 "PruneLayers" || is c.1 "PruneDirectory") ||
        c.2.2.any (fun g => hasPrefix g "noprune-off:")) &&
      (!(is c.1 "PruneLayers" || is c.1 "PruneDirectory") ||
        serveCalls.all (fun m => !is m.1 "Manifests" || decide (m.2.2.length < c.2.2.length))) &&
      (!is c.1 "fixBlobs" || c.2.2.isEmpty)) = true := by
  decide +kernel

end OllamaVerif.Tie.C12
