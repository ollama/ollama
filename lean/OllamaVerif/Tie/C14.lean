/-
  C14 tie (regenerated structural facts).  `Generated/C14_Skeleton.lean` is rewritten on every run
  from the working tree by a go/ast pass (harness/overlay/runner_common/zz_verif_c14_extract_test.go):
  for `processBatch`, `removeSequence` and `flushPending` of BOTH runners it lists every statement
  that touches the output state, in source order, with the enclosing if/for structure.

  The lists below are the skeleton `Model/Stop.lean` mirrors:
    * `limitCheck`   ↔ the first `if` of `run`            (→ `St.finish .length`)
    * `…Head`        ↔ `numPredicted + 1`, the EOS branch (→ `St.finish .stop`)
    * `outputTail`   ↔ `stepPiece` (append, join, FindStop → TruncateStop → removeSequence(Stop);
                        ContainsStopSuffix hold; IncompleteUnicode hold; flushPending)
    * `fns`          ↔ `St.finish` (flush, then the reason) and `flushChunk`/`trimValid`
    * `…Handler`     ↔ `handlerLines` (one `content` line per chunk; on close ONE final object with
                        `DoneReason: seq.doneReason` verbatim, `PromptEvalCount: seq.numPromptInputs`,
                        `EvalCount`; on a cancelled request `close(seq.quit)` and no final object) and the
                        request mapping `numPredict: req.Options.NumPredict, stop: req.Options.Stop`.
  The two runners differ only in the head (where `numPredicted++` sits and how EOS/piece are obtained) and in the
  handler (the `NewSequence` parameters; llamarunner reports `EvalCount: seq.numDecoded`, incremented once per
  sampled token, like `numPredicted`); `outputTail` and the two helper functions are literally the same statements.
  Both loops and both handlers are also *executed* against the model (L1; the llamarunner loop on the real
  llama.cpp context behind a generated GGUF model), so this skeleton is the second, structural tie.
  A change of the call order, of a condition, of a reason, or a new statement touching the output
  state in either runner makes these theorems fail.
-/
import OllamaVerif.Generated.C14_Skeleton

namespace OllamaVerif.Tie.C14

def limitCheck : List String := [
  "processBatch: range s.seqs {",
  "processBatch: if seq.numPredict > 0 && seq.numPredicted >= seq.numPredict {",
  "processBatch: s.removeSequence(seqIdx, llm.DoneReasonLength)",
  "processBatch: continue",
  "processBatch: }",
  "processBatch: }"]

def ollamaHead : List String := [
  "processBatch: range s.seqs {",
  "processBatch: seq.numPredicted++",
  "processBatch: if seq.numPredicted == 1 {",
  "processBatch: }",
  "processBatch: if seq.embeddingOnly {",
  "processBatch: s.removeSequence(i, llm.DoneReasonStop)",
  "processBatch: continue",
  "processBatch: }",
  "processBatch: if s.model.(model.TextProcessor).Is(token, model.SpecialEOS) {",
  "processBatch: s.removeSequence(i, llm.DoneReasonStop)",
  "processBatch: continue",
  "processBatch: }",
  "processBatch: piece, err := s.model.(model.TextProcessor).Decode([]int32{token})"]

def llamaHead : List String := [
  "processBatch: range s.seqs {",
  "processBatch: seq.numDecoded += 1",
  "processBatch: if seq.numDecoded == 1 {",
  "processBatch: }",
  "processBatch: if seq.embeddingOnly {",
  "processBatch: s.removeSequence(i, llm.DoneReasonStop)",
  "processBatch: continue",
  "processBatch: }",
  "processBatch: piece := s.model.TokenToPiece(token)",
  "processBatch: seq.numPredicted++",
  "processBatch: if s.model.TokenIsEog(token) {",
  "processBatch: s.removeSequence(i, llm.DoneReasonStop)",
  "processBatch: continue",
  "processBatch: }"]

def outputTail : List String := [
  "processBatch: seq.pendingResponses = append(seq.pendingResponses, piece)",
  "processBatch: sequence := strings.Join(seq.pendingResponses, \"\")",
  "processBatch: if ok, stop := common.FindStop(sequence, seq.stop); ok {",
  "processBatch: seq.pendingResponses, tokenTruncated = common.TruncateStop(seq.pendingResponses, stop)",
  "processBatch: s.removeSequence(i, llm.DoneReasonStop)",
  "processBatch: continue",
  "processBatch: }",
  "processBatch: if common.ContainsStopSuffix(sequence, seq.stop) {",
  "processBatch: continue",
  "processBatch: }",
  "processBatch: if common.IncompleteUnicode(sequence) {",
  "processBatch: continue",
  "processBatch: }",
  "processBatch: if !flushPending(seq) {",
  "processBatch: s.removeSequence(i, llm.DoneReasonConnectionClosed)",
  "processBatch: }",
  "processBatch: }",
  "processBatch: return nil"]

def fns : List String := [
  "removeSequence: flushPending(seq)",
  "removeSequence: seq.doneReason = reason",
  "removeSequence: close(seq.responses)",
  "flushPending: joined := strings.Join(seq.pendingResponses, \"\")",
  "flushPending: seq.pendingResponses = []string{}",
  "flushPending: for !utf8.ValidString(joined) {",
  "flushPending: joined = joined[:len(joined)-1]",
  "flushPending: }",
  "flushPending: if len(joined) == 0 {",
  "flushPending: return true",
  "flushPending: }",
  "flushPending: select {",
  "flushPending: case seq.responses <- joined:",
  "flushPending: return true",
  "flushPending: case <-seq.quit:",
  "flushPending: return false",
  "flushPending: }"]

/-- the request → Sequence mapping of the ollamarunner handler -/
def ollamaHandlerOpen : List String := [
  "completion: seq, err := s.NewSequence(req.Prompt, req.Images, NewSequenceParams{ numPredict: req.Options.NumPredict, stop: req.Options.Stop, numKeep: int32(req.Options.NumKeep), sampler: sampler, embedding: false, })"]

/-- the request → Sequence mapping of the llamarunner handler -/
def llamaHandlerOpen : List String := [
  "completion: seq, err := s.NewSequence(req.Prompt, req.Images, NewSequenceParams{ numPredict: req.Options.NumPredict, stop: req.Options.Stop, numKeep: req.Options.NumKeep, samplingParams: &samplingParams, embedding: false, })"]

/-- shared by both handlers: error replies, the read loop, one `content` line per chunk, cancel ⇒ quit -/
def handlerLoop : List String := [
  "completion: if err != nil {",
  "completion: http.Error(w, fmt.Sprintf(\"Failed to create new sequence: %v\", err), http.StatusInternalServerError)",
  "completion: return",
  "completion: }",
  "completion: if !found {",
  "completion: http.Error(w, \"could not find an available sequence\", http.StatusInternalServerError)",
  "completion: return",
  "completion: }",
  "completion: for  {",
  "completion: select {",
  "completion: case <-r.Context().Done():",
  "completion: close(seq.quit)",
  "completion: return",
  "completion: case content, ok := <-seq.responses:",
  "completion: if ok {",
  "completion: if err := json.NewEncoder(w).Encode(&llm.CompletionResponse{ Content: content, }); err != nil {",
  "completion: close(seq.quit)",
  "completion: return",
  "completion: }"]

def ollamaHandlerFinal : List String := [
  "completion: } else {",
  "completion: if err := json.NewEncoder(w).Encode(&llm.CompletionResponse{ Done: true, DoneReason: seq.doneReason, PromptEvalCount: seq.numPromptInputs, PromptEvalDuration: seq.startGenerationTime.Sub(seq.startProcessingTime), EvalCount: seq.numPredicted, EvalDuration: time.Since(seq.startGenerationTime), }); err != nil {",
  "completion: }",
  "completion: return",
  "completion: }",
  "completion: }",
  "completion: }"]

def llamaHandlerFinal : List String := [
  "completion: } else {",
  "completion: if err := json.NewEncoder(w).Encode(&llm.CompletionResponse{ Done: true, DoneReason: seq.doneReason, PromptEvalCount: seq.numPromptInputs, PromptEvalDuration: seq.startGenerationTime.Sub(seq.startProcessingTime), EvalCount: seq.numDecoded, EvalDuration: time.Since(seq.startGenerationTime), }); err != nil {",
  "completion: }",
  "completion: return",
  "completion: }",
  "completion: }",
  "completion: }"]

/- By `rfl` the lists are appended and the strings compared as literals; deciding the equality would take every
   string apart into its characters. -/
theorem ollama_skeleton_matches :
    OllamaVerif.Generated.C14.ollama =
      limitCheck ++ ollamaHead ++ outputTail ++ fns ++ ollamaHandlerOpen ++ handlerLoop ++ ollamaHandlerFinal := by
  rfl

theorem llama_skeleton_matches :
    OllamaVerif.Generated.C14.llama =
      limitCheck ++ llamaHead ++ outputTail ++ fns ++ llamaHandlerOpen ++ handlerLoop ++ llamaHandlerFinal := by
  rfl

end OllamaVerif.Tie.C14
