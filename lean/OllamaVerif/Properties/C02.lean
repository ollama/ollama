/-
  C02 — Every runner request is answered exactly once and the scheduler drains.

  Model: `Model/Sched.lean` (see Properties/C01.lean for what `Reach` quantifies over).
  Proved here, for EVERY variant of the code (the two guards do not matter for these):
    * `at_most_one_reply`      – no request ever receives two replies;
    * `reply_is_runner_xor_error`;
    * `never_lost`             – every accepted request is, at all times, in exactly one of:
                                 answered (once) / skipped because it was already cancelled when the
                                 pending loop reached it / still tracked in exactly one place
                                 (pending queue, re-queue sleeper, load in flight, pending loop);
    * `full_queue_is_busy_error` – a submit on a full queue is answered "busy" in the same step and
                                 changes nothing else (it cannot block).
  `never_lost` is the safety half of "exactly one reply": a request can only stay unanswered by
  staying tracked.  The liveness half (in a stuck state every request that can be answered has been:
  `all_answered`; the scheduler drains: `drain`) is in Properties/C02Drain.lean, for the good variant.
-/
import OllamaVerif.Properties.C01

namespace OllamaVerif.C02
open OllamaVerif.Sched

/-- **No request is answered twice**, in any reachable state of any variant. -/
theorem at_most_one_reply {v : Variant} {mr mq ds : Nat} {s : State}
    (h : Reach v (Sched.init mr mq ds) s) (q : ReqId) : (s.reqs q).replies ≤ 1 := by
  have := (reach_invV h).i2.cnt q
  omega

/-- a reply is either a runner or an error, never both -/
theorem reply_is_runner_xor_error {v : Variant} {mr mq ds : Nat} {s : State}
    (h : Reach v (Sched.init mr mq ds) s) (q : ReqId) :
    ¬ ((s.reqs q).gotRunner.isSome = true ∧ (s.reqs q).gotErr = true) := by
  have h1 := at_most_one_reply h q
  have h3 := (reach_invV h).i5.n3 q
  intro ⟨ha, hb⟩
  rw [ha, hb] at h3
  simp at h3
  omega

/-- **No accepted request is ever lost.** -/
theorem never_lost {v : Variant} {mr mq ds : Nat} {s : State}
    (h : Reach v (Sched.init mr mq ds) s) (q : ReqId) (hq : q < s.nReqs) :
    ((s.reqs q).replies = 1 ∧ (pendingSet s).count q = 0 ∧ (s.reqs q).dropped = false) ∨
    ((s.reqs q).replies = 0 ∧ (pendingSet s).count q = 0 ∧ (s.reqs q).dropped = true ∧ (s.reqs q).done = true) ∨
    ((s.reqs q).replies = 0 ∧ (pendingSet s).count q = 1 ∧ (s.reqs q).dropped = false) := by
  have hi := (reach_invV h).i5
  have h1 := hi.n1 q hq
  cases hd : (s.reqs q).dropped with
  | true =>
    have := hi.n2 q hd
    simp [hd] at h1
    right; left
    exact ⟨by omega, by omega, rfl, this⟩
  | false =>
    simp [hd] at h1
    by_cases hr : (s.reqs q).replies = 1
    · left; exact ⟨hr, by omega, rfl⟩
    · right; right; exact ⟨by omega, by omega, rfl⟩

/-- **A full queue answers "busy" at once**: the submit step itself delivers the error reply and
    leaves the pending queue, both loops, every runner and `loaded` untouched. -/
theorem full_queue_is_busy_error {v : Variant} {s s' : State} {m : ModelId} {o : Nat} {se : Option Nat}
    (hfull : s.maxQueue ≤ s.pendingQ.length) (hs : step v s (.submit m o se) = some s') :
    (s'.reqs s.nReqs).gotErr = true ∧ (s'.reqs s.nReqs).replies = 1 ∧ s'.nReqs = s.nReqs + 1 ∧
    s'.pendingQ = s.pendingQ ∧ s'.ppc = s.ppc ∧ s'.cpc = s.cpc ∧ s'.runners = s.runners ∧ s'.loaded = s.loaded := by
  cases Step.of_step hs
  · omega
  · simp [upd]

theorem queue_with_room_accepts {v : Variant} {s s' : State} {m : ModelId} {o : Nat} {se : Option Nat}
    (hroom : s.pendingQ.length < s.maxQueue) (hs : step v s (.submit m o se) = some s') :
    s'.pendingQ = s.pendingQ ++ [s.nReqs] ∧ (s'.reqs s.nReqs).replies = 0 := by
  cases Step.of_step hs
  · simp [upd]
  · omega

/-- non-vacuity: the witness trace of C01 reaches a state in which request 0 has its single reply -/
example : ∃ s, Reach Variant.pinned (Sched.init 0 512 1) s ∧ (s.reqs 0).replies = 1 :=
  ⟨_, OllamaVerif.C01.reach_run_getD (OllamaVerif.C01.dupExpiredTrace.take 5) (by decide), by decide⟩

end OllamaVerif.C02
