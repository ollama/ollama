/-
  C10 — Untrusted model files produce an error, never a crash or runaway allocation.

  The decoder model (`Model/Gguf.lean: decode`) has every Go panic site (`Err.panic`) and every allocation sized by an
  unchecked input field that exceeds the budget (`Err.alloc`) among its outcomes.

  * safety: with every guard on the decoder is safe for EVERY input (`decode_safe_tree`); the pinned decoder wherever
    it agrees with the hardened one (`decode_safe_partial`);
  * witnesses: for every guard but `arrHuge` a concrete file (< 70 bytes) on which the pinned decoder model
    panics / over-allocates / returns an end offset before its start; the same files are the
    corpus replayed against the real decoder by the check (KNOWN_FINDINGS F11a..F11k);
  * running time and size of the result as functions of the input length (`decode_total_tree`);
  * the handlers: create on an upload terminates and is safe (`create_*_tree`), create-from and show are safe.
-/
import OllamaVerif.Proofs.GgufSafe
import OllamaVerif.Proofs.GgufCreate
import OllamaVerif.Proofs.GgufSteps
import OllamaVerif.Proofs.GgufApi
import OllamaVerif.Proofs.GgufBytes

namespace OllamaVerif.C10
open OllamaVerif OllamaVerif.Gguf

/-- Full-strength statement for the hardened decoder: for every byte string, every
    `maxArraySize`, every per-allocation budget of at least ONE byte per input byte (with the validations on,
    every size the decoder still allocates in one piece is bounded by the input that is left). -/
theorem decode_safe_hardened (bs : Bytes) (maxArraySize : Int) (B : Nat) (hB : bs.length ≤ B) :
    Safe (decode bs maxArraySize (some B) Guards.all) :=
  decode_safe_all bs maxArraySize B hB

/-- **The property for the working tree's decoder** (`Guards.tree`, the variant the L1
    correspondence checks against /repo on every run): for every byte string the decoder model
    ends in `ok` or an error that is neither a panic nor an over-budget allocation.
    Termination for every input holds by construction (total structural recursion). -/
theorem decode_safe_tree (bs : Bytes) (maxArraySize : Int) (B : Nat) (hB : bs.length ≤ B) :
    Safe (decode bs maxArraySize (some B)) :=
  decode_safe_all bs maxArraySize B hB

/-- Partial statement for the pinned decoder: safe wherever it agrees with the hardened one. -/
theorem decode_safe_partial (bs : Bytes) (maxArraySize : Int) (B : Nat) (hB : bs.length ≤ B)
    (hagree : decode bs maxArraySize (some B) Guards.pinned = decode bs maxArraySize (some B) Guards.all) :
    Safe (decode bs maxArraySize (some B) Guards.pinned) := by
  rw [hagree]; exact decode_safe_all bs maxArraySize B hB

/-! ### witnesses (the crafted corpus of harness/overlay/fs_ggml/zz_verif_c10_test.go) -/

def budget : Nat := 1048576 + 64 * 64

/-- outcome test usable with `decide` -/
def failsWith (x : Except Err Decoded) (e : Err) : Bool :=
  match x with
  | .error e' => e' == e
  | .ok _ => false

def wAlignZero : Bytes := [71, 71, 85, 70, 3, 0, 0, 0, 0, 0, 0, 0, 0, 0, 0, 0, 1, 0, 0, 0, 0, 0, 0, 0, 17, 0, 0, 0, 0, 0, 0, 0, 103, 101, 110, 101, 114, 97, 108, 46, 97, 108, 105, 103, 110, 109, 101, 110, 116, 4, 0, 0, 0, 0, 0, 0, 0]
def wAlignType : Bytes := [71, 71, 85, 70, 3, 0, 0, 0, 0, 0, 0, 0, 0, 0, 0, 0, 1, 0, 0, 0, 0, 0, 0, 0, 17, 0, 0, 0, 0, 0, 0, 0, 103, 101, 110, 101, 114, 97, 108, 46, 97, 108, 105, 103, 110, 109, 101, 110, 116, 8, 0, 0, 0, 1, 0, 0, 0, 0, 0, 0, 0, 120]
def wStrNeg : Bytes := [71, 71, 85, 70, 3, 0, 0, 0, 0, 0, 0, 0, 0, 0, 0, 0, 1, 0, 0, 0, 0, 0, 0, 0, 0, 0, 0, 0, 0, 0, 0, 128]
def wStrHuge : Bytes := [71, 71, 85, 70, 3, 0, 0, 0, 0, 0, 0, 0, 0, 0, 0, 0, 1, 0, 0, 0, 0, 0, 0, 0, 0, 0, 0, 0, 0, 1, 0, 0]
def wArrNeg : Bytes := [71, 71, 85, 70, 3, 0, 0, 0, 0, 0, 0, 0, 0, 0, 0, 0, 1, 0, 0, 0, 0, 0, 0, 0, 1, 0, 0, 0, 0, 0, 0, 0, 97, 9, 0, 0, 0, 4, 0, 0, 0, 0, 0, 0, 0, 0, 0, 0, 128]
def wDims : Bytes := [71, 71, 85, 70, 3, 0, 0, 0, 1, 0, 0, 0, 0, 0, 0, 0, 0, 0, 0, 0, 0, 0, 0, 0, 1, 0, 0, 0, 0, 0, 0, 0, 116, 255, 255, 255, 255]
def wV1Str : Bytes := [71, 71, 85, 70, 1, 0, 0, 0, 0, 0, 0, 0, 1, 0, 0, 0, 0, 0, 0, 0, 0, 0, 0, 0]
def wV1Arr : Bytes := [71, 71, 85, 70, 1, 0, 0, 0, 0, 0, 0, 0, 1, 0, 0, 0, 2, 0, 0, 0, 0, 0, 0, 0, 97, 0, 9, 0, 0, 0, 4, 0, 0, 0, 1, 0, 0, 0, 7, 0, 0, 0]
def wNegSeek : Bytes := [71, 71, 85, 70, 3, 0, 0, 0, 1, 0, 0, 0, 0, 0, 0, 0, 0, 0, 0, 0, 0, 0, 0, 0, 1, 0, 0, 0, 0, 0, 0, 0, 116, 1, 0, 0, 0, 240, 255, 255, 255, 255, 255, 255, 63, 0, 0, 0, 0, 0, 0, 0, 0, 0, 0, 0, 0]

theorem witness_alignment_zero :
    failsWith (decode wAlignZero 0 (some budget) Guards.pinned) (.panic "alignment-zero") = true := by decide +kernel
theorem witness_alignment_type :
    failsWith (decode wAlignType 0 (some budget) Guards.pinned) (.panic "alignment-type") = true := by decide +kernel
theorem witness_string_negative :
    failsWith (decode wStrNeg 0 (some budget) Guards.pinned) (.panic "string-slice-negative") = true := by decide +kernel
theorem witness_string_huge :
    failsWith (decode wStrHuge 0 (some budget) Guards.pinned) (.alloc "string" 1099511627776) = true := by decide +kernel
theorem witness_array_negative :
    failsWith (decode wArrNeg 0 (some budget) Guards.pinned) (.panic "array-make-negative") = true := by decide +kernel
theorem witness_dims_huge :
    failsWith (decode wDims 0 (some budget) Guards.pinned) (.alloc "shape" 34359738360) = true := by decide +kernel
theorem witness_v1_string_zero :
    failsWith (decode wV1Str 0 (some budget) Guards.pinned) (.panic "v1-string-truncate") = true := by decide +kernel
theorem witness_v1_array_index :
    failsWith (decode wV1Arr 0 (some budget) Guards.pinned) (.panic "v1-array-index") = true := by decide +kernel
/-- the decoder "succeeds" on a 57-byte file and reports an end offset of 0: a caller that loops
    `for offset < size { _, n := Decode(..); offset = n }` (server/create.go ggufLayers) never advances -/
theorem witness_end_before_start :
    (decode wNegSeek 0 (some budget) Guards.pinned).toOption.map (·.endOffset) = some 0 := by decide +kernel

/-- non-vacuity of `decode_safe_partial`: a well-formed file meets its hypotheses -/
def wGood : Bytes := [71, 71, 85, 70, 3, 0, 0, 0, 0, 0, 0, 0, 0, 0, 0, 0, 0, 0, 0, 0, 0, 0, 0, 0]
deriving instance DecidableEq for Except
example : wGood.length ≤ budget ∧
    decode wGood 0 (some budget) Guards.pinned = decode wGood 0 (some budget) Guards.all ∧
    (decode wGood 0 (some budget)).isOk = true := ⟨by decide +kernel, by decide +kernel, by decide +kernel⟩

/-! ### running time and result size as functions of the input length (Proofs/GgufSteps.lean, Proofs/GgufSafe.lean)

  Lean's termination checker accepts `decode` because its loops recurse structurally on a count — but the count
  is READ FROM THE FILE (up to 2^64).  `decodeFromT` is `decodeFrom` with an iteration counter on every loop. -/

/-- **The decoder is total, fast and frugal on EVERY byte string**: with the working tree's validations, every
    `maxArraySize` and a per-allocation budget of one byte per input byte,
    * the instrumented decoder is the decoder (the counter is an annotation),
    * it executes at most `len + 1` loop iterations (array elements, key/values, dimensions, tensor infos, seeks),
      whatever counts the file declares,
    * it ends in a value or an error that is neither a panic nor an allocation above the budget,
    * a returned value retains at most `len + 24` bytes / cells (keys, strings, array cells, names, dimensions;
      24 = the `general.parameter_count` entry the decoder adds), i.e. at most `128·len + 3072` BYTES of Go memory with the
      sizes of string headers, interface words, boxed scalars, map slots and tensor structs made explicit
      (`Decoded.goBytes`, Proofs/GgufBytes.lean). -/
theorem decode_total_tree (bs : Bytes) (maxArraySize : Int) (B : Nat) (hB : bs.length ≤ B) :
    (decodeFromT ⟨bs, 0⟩ maxArraySize (some B) Guards.tree).1 = decode bs maxArraySize (some B) ∧
    (decodeFromT ⟨bs, 0⟩ maxArraySize (some B) Guards.tree).2 ≤ bs.length + 1 ∧
    Safe (decode bs maxArraySize (some B)) ∧
    ∀ d, decode bs maxArraySize (some B) = .ok d → d.weight ≤ bs.length + 24 ∧ d.goBytes ≤ 128 * bs.length + 3072 :=
  ⟨decodeFromT_fst _ _ _ _, decodeFromT_steps _ _ _ _, decode_safe_all bs maxArraySize B hB,
   fun d h => ⟨decodeFrom_weight ⟨bs, 0⟩ maxArraySize (some B) Guards.tree d h,
               decodeFrom_goBytes ⟨bs, 0⟩ maxArraySize (some B) Guards.tree d h⟩⟩

/-- the allocation half of `Safe` is not empty: the SAME 32-byte file (a key length of 2^40) makes upstream's decoder ask for
    1 TiB in one piece under any budget below that, and is answered with io.EOF by the tree under a budget of 0 -/
theorem alloc_clause_bites :
    failsWith (decode wStrHuge 0 (some 1099511627775) Guards.pinned) (.alloc "string" 1099511627776) = true ∧
    failsWith (decode wStrHuge 0 (some 0)) .eof = true := by decide +kernel

/-- **Progress** (`decodeFrom_progress` at the tree's guards; the L2 monitor `end-not-after-start` is its run-time twin): a
    decode that succeeds from file position `p` ends at least 4 bytes later — what makes create's `for offset < size` loop advance. -/
theorem decode_progress (r : Rd) (maxArraySize : Int) (budget : Option Nat) (d : Decoded)
    (h : decodeFrom r maxArraySize budget Guards.tree = .ok d) : r.pos + 4 ≤ d.endOffset :=
  decodeFrom_progress r maxArraySize budget Guards.tree rfl d h

/-- the two bounds do not depend on the validations: upstream's pinned decoder, when it does not panic, is as fast
    and as frugal (its defects are the panics, the single huge `make`s and create's loop, not its own loops) -/
theorem decode_steps_any_guards (r : Rd) (maxArraySize : Int) (budget : Option Nat) (g : Guards) :
    (decodeFromT r maxArraySize budget g).1 = decodeFrom r maxArraySize budget g ∧
    (decodeFromT r maxArraySize budget g).2 ≤ r.rest.length + 1 ∧
    ∀ d, decodeFrom r maxArraySize budget g = .ok d → d.weight ≤ r.rest.length + 24 :=
  ⟨decodeFromT_fst _ _ _ _, decodeFromT_steps _ _ _ _, fun d h => decodeFrom_weight r maxArraySize budget g d h⟩

/-- non-vacuity: one key `a` = `[]uint32{1, 2}`: 1 key/value iteration + 2 element iterations; weight = key 1 + array
    1 + 2 cells, + the parameter count's 24 -/
def wArr2 : Bytes := [71, 71, 85, 70, 3, 0, 0, 0, 0, 0, 0, 0, 0, 0, 0, 0, 1, 0, 0, 0, 0, 0, 0, 0, 1, 0, 0, 0, 0, 0, 0, 0, 97,
  9, 0, 0, 0, 4, 0, 0, 0, 2, 0, 0, 0, 0, 0, 0, 0, 1, 0, 0, 0, 2, 0, 0, 0]
example : (decodeFromT ⟨wArr2, 0⟩ 0 (some budget)).2 = 3 ∧
    (decode wArr2 0 (some budget)).toOption.map (·.weight) = some 28 := by decide +kernel
/-- … and the same file declaring 2^40 elements: the loop stops after the two elements that are there (3rd iteration
    fails), not after 2^40 -/
def wArrMany : Bytes := [71, 71, 85, 70, 3, 0, 0, 0, 0, 0, 0, 0, 0, 0, 0, 0, 1, 0, 0, 0, 0, 0, 0, 0, 1, 0, 0, 0, 0, 0, 0, 0, 97,
  9, 0, 0, 0, 4, 0, 0, 0, 0, 0, 0, 0, 0, 1, 0, 0, 1, 0, 0, 0, 2, 0, 0, 0]
example : (decodeFromT ⟨wArrMany, 0⟩ 0 (some budget)).2 = 4 ∧
    failsWith (decode wArrMany 0 (some budget)) .eof = true := by decide +kernel

/-! ### `POST /api/create` on an uploaded file: `server/create.go ggufLayers`

  The handler decodes the upload model after model (`for offset < size { _, n := Decode(blob); offset = n }`).
  The model makes non-termination an explicit outcome (`none`). -/

/-- **create terminates on every upload** (working tree's decoder, every budget) -/
theorem create_terminates_tree (bs : Bytes) (budget : Option Nat) (maxSeek : Nat) :
    (ggufLayers bs budget Guards.tree maxSeek).isSome = true :=
  ggufLayers_terminates bs budget Guards.tree rfl maxSeek

/-- **create is safe on every upload**: no panic site, no allocation above the budget, however many
    models the upload holds and wherever it is cut -/
theorem create_safe_tree (bs : Bytes) (B : Nat) (hB : bs.length ≤ B) (maxSeek : Nat) :
    SafeL (ggufLayers bs (some B) Guards.tree maxSeek) :=
  ggufLayers_safe bs B hB maxSeek

/-- the layers create produces lie inside the upload -/
theorem create_layers_within (bs : Bytes) (budget : Option Nat) (maxSeek : Nat) (out : List GLayer)
    (h : ggufLayers bs budget Guards.tree maxSeek = some (.ok out)) : Within bs.length out :=
  ggufLayers_within bs budget Guards.tree maxSeek out h

/-- **The whole metadata side of create** (`ggufLayers` + every typed accessor `detectChatTemplate` and
    `createModel` call on the decoded key/values: ChatTemplate, Architecture, Kind, FileType, ParameterCount):
    terminates and is safe on every byte string; with type mismatches treated as missing keys the accessors
    never fail, so it is `ggufLayers`. -/
theorem create_upload_terminates_tree (bs : Bytes) (budget : Option Nat) (maxSeek : Nat) :
    (createUpload bs budget Guards.tree maxSeek).isSome = true := by
  rw [show Guards.tree = Guards.all from rfl, createUpload_eq_ggufLayers]
  exact ggufLayers_terminates bs budget Guards.all rfl maxSeek

theorem create_upload_safe_tree (bs : Bytes) (B : Nat) (hB : bs.length ≤ B) (maxSeek : Nat) :
    SafeL (createUpload bs (some B) Guards.tree maxSeek) := by
  rw [show Guards.tree = Guards.all from rfl, createUpload_eq_ggufLayers]
  exact ggufLayers_safe bs B hB maxSeek

/-- `general.architecture` stored as a uint32 in an otherwise well-formed 60-byte file -/
def wArchType : Bytes :=
  [71, 71, 85, 70, 3, 0, 0, 0, 0, 0, 0, 0, 0, 0, 0, 0, 1, 0, 0, 0, 0, 0, 0, 0, 20, 0, 0, 0, 0, 0, 0, 0] ++
  bytesOf "general.architecture" ++ [4, 0, 0, 0, 7, 0, 0, 0]

/-- **Witness (upstream's accessors)**: `keyValue[T]` asserts the stored type unchecked; on this file create's
    goroutine — outside the HTTP recovery middleware — panics and takes the server down (finding F11k; repaired by
    `fix: treat a metadata key stored with another type as missing`). -/
theorem witness_pinned_accessor_panics :
    (createUpload wArchType (some budget) { Guards.all with accessorType := false }).map
        (fun r => match r with | .error e => some e | .ok _ => none)
      = some (some (.panic "interface-conversion")) := by decide +kernel

/-- … the working tree's accessors take the default instead: one model layer -/
example : (createUpload wArchType (some budget)).map (fun r => r.toOption.map (fun ls => ls.map (fun l => (l.size, l.media))))
    = some (some [(60, 0)]) := by decide +kernel

/-- **Witness (pinned decoder)**: on the 57-byte file of `witness_end_before_start` upstream's
    create never answers: the decode "succeeds" with end offset 0 and the loop starts over, for ever
    (KNOWN_FINDINGS C10 F11i; repaired by `fix: reject GGUF tensors whose size does not fit an int64 offset`). -/
theorem witness_pinned_create_never_answers :
    ggufLayers wNegSeek (some budget) Guards.pinned = none := by
  have key : (match decodeFrom ⟨wNegSeek, 0⟩ 0 (some budget) Guards.pinned with
      | .ok d => d.endOffset == 0 && mediaType Guards.pinned d.kvs == .ok 0
      | .error _ => false) = true := by decide +kernel
  cases h : decodeFrom ⟨wNegSeek, 0⟩ 0 (some budget) Guards.pinned with
  | error e => rw [h] at key; cases key
  | ok d =>
    rw [h] at key
    simp only [Bool.and_eq_true, beq_iff_eq] at key
    rw [ggufLayers_of_decode wNegSeek (some budget) Guards.pinned _ h]
    exact ggufLayersLoop_stuck (bs := wNegSeek) (offset := 0) (by decide) h key.1 (Nat.zero_le _) key.2 _ _

/-- … and the working tree's decoder rejects that file: create answers with an error -/
theorem tree_rejects_negative_seek_file :
    (ggufLayers wNegSeek (some budget)).map (fun r => match r with | .error e => some e | .ok _ => none)
    = some (some (.invalid "tensor size")) := by decide +kernel

/-- non-vacuity: two header-only models back to back give two layers of 24 bytes each, a trailing
    bare magic ends the loop quietly (clean EOF), a trailing partial magic is an error -/
example : (ggufLayers (wGood ++ wGood)).map (fun r => r.toOption.map (fun ls => ls.map (fun l => (l.start, l.size, l.whole))))
    = some (some [(0, 24, false), (24, 24, false)]) := by decide +kernel
example : (ggufLayers wGood).map (fun r => r.toOption.map (fun ls => ls.map (fun l => (l.start, l.size, l.whole))))
    = some (some [(0, 24, true)]) := by decide +kernel
example : (ggufLayers (wGood ++ [71, 71, 85, 70])).map (fun r => r.toOption.map (fun ls => ls.map (fun l => (l.start, l.size))))
    = some (some [(0, 24)]) := by decide +kernel
example : (ggufLayers (wGood ++ [71, 71, 85])).map (fun r => r.toOption.isSome) = some false := by decide +kernel

/-! ### the other handlers that decode an installed (pulled, hence untrusted) model file: Model/GgufApi.lean -/

/-- **`POST /api/create {"from": m}`** (`server/model.go parseFromModel` decodes every model layer of the installed model,
    `createModel` reads the metadata through the typed accessors): for every list of blobs, no panic site and no
    allocation above the budget — the request ends in success or an error answer -/
theorem create_from_safe_tree (blobs : List Bytes) (B : Nat) (hB : ∀ b ∈ blobs, b.length ≤ B) (maxSeek : Nat) :
    Safe (createFrom blobs (some B) Guards.tree maxSeek) :=
  createFrom_safe blobs B hB maxSeek

/-- **`POST /api/show`** (`Model.Capabilities`: decode with the default array limit, failure tolerated, architecture-
    prefixed look-ups; `getModelData`: decode without array limit when verbose): safe on every blob -/
theorem show_safe_tree (blob : Bytes) (verbose : Bool) (B : Nat) (hB : blob.length ≤ B) (maxSeek : Nat) :
    Safe (showModel blob verbose (some B) Guards.tree maxSeek) :=
  showModel_safe blob verbose B hB maxSeek

/-- upstream's unchecked accessor takes the handler down on the 60-byte file of `witness_pinned_accessor_panics` in
    both handlers as well -/
theorem witness_pinned_from_and_show_panic :
    (match createFrom [wArchType] (some budget) { Guards.all with accessorType := false } with
      | .error e => some e | .ok _ => none) = some (.panic "interface-conversion") ∧
    (match showModel wArchType true (some budget) { Guards.all with accessorType := false } with
      | .error e => some e | .ok _ => none) = some (.panic "interface-conversion") := by decide +kernel

/-- non-vacuity: the working tree answers both requests on that file, and rejects a truncated one with an error -/
example : (createFrom [wArchType] (some budget)).isOk = true ∧ (showModel wArchType true (some budget)).isOk = true ∧
    (showModel (wArchType.take 40) true (some budget)).isOk = false := by decide +kernel

end OllamaVerif.C10
