/-
  C09 — Registry client, `Pull`: success means every layer verified; the manifest is linked last.
  (`Push`: Properties/C09Push.lean.)

  Theorems over the model in Model/Registry.lean, universally quantified (every file content,
  offset, chunk length, digest, body split, manifest, plan, step script, MaxStreams, history), each
  a short consequence of the theory in Proofs/Registry.lean.  The results on the chunk writer
  (`putLoop`, `putAll`) are not tied to `pull`: no theorem relates them to `pullRun`, and nothing
  about `pull` further down uses them.

  Without the verification pass "success ⇒ every layer verified" is false (witnesses F10a–F10d);
  only `pull_success_verified_partial` is proved there: the chunks of an exact partition continuing
  the file, put one after the other in plan order (`putAll`).  Arbitrary completion orders: not
  proved (see notes/C09.md).
-/
import OllamaVerif.Proofs.Registry

namespace OllamaVerif.C09
open OllamaVerif OllamaVerif.Registry

/-! ### The chunk writer -/

section
variable {D : Type} [DecidableEq D]

/-- **Per-chunk verification.**  For every file, offset, chunk length, expected digest and every
    way the body is delivered: if `Put` succeeds, the chunk's region of the file holds `len`
    bytes whose hash is the expected digest (checked before the region was completed). -/
theorem put_ok_verified (H : Bytes → D) (d : D) (f f' : Bytes) (off len : Nat) (pieces : List Bytes)
    (fin : BodyEnd) (hpos : 0 < len) (h : putLoop H d f off len [] pieces fin = (f', none)) :
    ∃ data, data.length = len ∧ H data = d ∧ f' = writeAt f off data ∧
      (f'.drop off).take len = data := by
  obtain ⟨data, h1, h2, _⟩ := putLoop_spec H d pieces fin f off len []
  rw [h] at h1 h2
  obtain ⟨hl, hH⟩ := h2 rfl
  obtain rfl : f' = writeAt f off data := h1
  refine ⟨data, hl, hH hpos, rfl, ?_⟩
  rw [← hl]; exact slice_writeAt f off data

/-- a failed `Put` never completes its region: the file is either untouched or ends strictly
    before the end of the chunk -/
theorem put_failed_stays_short (H : Bytes → D) (d : D) (f f' : Bytes) (off len : Nat) (pieces : List Bytes)
    (fin : BodyEnd) (e : ErrClass) (h : putLoop H d f off len [] pieces fin = (f', some e)) :
    f'.length = f.length ∨ f'.length < off + len := by
  obtain ⟨data, h1, _, h3⟩ := putLoop_spec H d pieces fin f off len []
  rw [h] at h1 h3
  obtain rfl : f' = writeAt f off data := h1
  have hl := h3 e rfl
  by_cases hd : data = []
  · left; rw [hd, writeAt_nil]
  · rw [writeAt_length hd]; omega

/-- a whole-layer `Put` (offset 0) into a file that is not longer than the layer leaves exactly
    the verified bytes -/
theorem put_whole_layer_verified (H : Bytes → D) (d : D) (f f' : Bytes) (size : Nat) (pieces : List Bytes)
    (fin : BodyEnd) (hpos : 0 < size) (hf : f.length ≤ size)
    (h : putLoop H d f 0 size [] pieces fin = (f', none)) :
    f'.length = size ∧ H f' = d := by
  obtain ⟨data, hl, hH, h1, _⟩ := put_ok_verified H d f f' 0 size pieces fin hpos h
  rw [h1, writeAt_zero_of_le (hl ▸ hf)]
  exact ⟨hl, hH⟩

/-- **Single-chunk layers (below the chunking threshold).**  The one `Put` of such a layer (offset 0,
    the whole layer) into a file shorter than the layer (the size shortcut did not apply): whatever the
    registry sends and however it is split into reads: the file never becomes longer than the
    layer, it reaches the layer's size exactly when the download succeeds, and then its hash is
    the manifest's digest — the whole-layer hash is checked before the size-completing write. -/
theorem pull_small_layers_verified (H : Bytes → D) (d : D) (f : Bytes) (size : Nat) (pieces : List Bytes)
    (fin : BodyEnd) (hf : f.length < size) :
    let r := putLoop H d f 0 size [] pieces fin
    r.1.length ≤ size ∧ (r.1.length = size ↔ r.2 = none) ∧ (r.2 = none → H r.1 = d) := by
  intro r
  cases hr : r.2 with
  | none =>
    obtain ⟨hl, hH⟩ := put_whole_layer_verified H d f r.1 size pieces fin (by omega) (by omega)
      (Prod.ext rfl hr)
    exact ⟨Nat.le_of_eq hl, ⟨fun _ => rfl, fun _ => hl⟩, fun _ => hH⟩
  | some e =>
    have := put_failed_stays_short H d f r.1 0 size pieces fin e (Prod.ext rfl hr)
    exact ⟨by omega, ⟨fun h => by omega, nofun⟩, nofun⟩

/-! ### `pull_success_verified`, partial form -/

/-- the chunks of a plan downloaded one after the other in plan order (the order `Pull` keeps with
    `MaxStreams = 1`; no theorem relates `putAll` to `pullRun`), every `Put` succeeding; `none` as soon as one fails -/
def putAll (H : Bytes → D) : Bytes → List (CS D) → List (List Bytes × BodyEnd) → Option Bytes
  | f, [], _ => some f
  | _, _ :: _, [] => none
  | f, cs :: rest, r :: rs =>
    match putLoop H cs.digest f cs.start cs.len [] r.1 r.2 with
    | (f', none) => putAll H f' rest rs
    | (_, some _) => none

/-- the plan is an exact partition from `off` on: non-empty chunks, each starting where the
    previous one ended -/
def Consecutive : Nat → List (CS D) → Prop
  | _, [] => True
  | off, cs :: rest => cs.start = off ∧ 0 < cs.len ∧ Consecutive (off + cs.len) rest

/-- **`pull_success_verified`, partial.**  Guard: the served plan is an exact partition continuing
    the file (`Consecutive f.length`; for a fresh download `f = []`, i.e. no earlier attempt left
    anything, in particular no full-length file) and the chunks complete in plan order.  Then for
    every way the bodies are delivered: if every `Put` succeeds, the file is the old content
    followed by byte strings that have, chunk by chunk, the planned length and the planned
    digest; its length is the end of the partition.  (That the concatenation hashes to the
    LAYER digest does not follow — F10 (c) — unless the plan's digests are honest.) -/
theorem pull_success_verified_partial (H : Bytes → D) :
    ∀ (entries : List (CS D)) (f : Bytes) (resps : List (List Bytes × BodyEnd)) (f' : Bytes),
    Consecutive f.length entries → putAll H f entries resps = some f' →
    ∃ datas : List Bytes, f' = f ++ datas.flatten ∧
      datas.length = entries.length ∧
      (∀ p ∈ entries.zip datas, p.2.length = p.1.len ∧ H p.2 = p.1.digest) ∧
      f'.length = f.length + (entries.map (·.len)).sum := by
  intro entries f resps f'
  fun_induction putAll H f entries resps with
  | case1 f _ => exact fun _ h => Option.some.inj h ▸ ⟨[], by simp, rfl, nofun, by simp⟩
  | case2 => nofun
  | case3 f cs rest r rs f1 hput ih =>
    intro ⟨hs, hpos, hrest⟩ h
    obtain ⟨data, hl, hH, hf1, _⟩ := put_ok_verified H cs.digest f f1 cs.start cs.len r.1 r.2 hpos hput
    rw [hs, writeAt_end] at hf1
    have hlen : f1.length = f.length + cs.len := by rw [hf1, List.length_append, hl]
    obtain ⟨datas, e1, e0, e2, e3⟩ := ih (hlen ▸ hrest) h
    refine ⟨data :: datas, by rw [e1, hf1]; simp, by simp [e0], List.forall_mem_cons.mpr ⟨⟨hl, hH⟩, e2⟩, ?_⟩
    rw [e3, hlen]; simp; omega
  | case4 => nofun

/-! ### One run, up to `g.Wait()` -/

/-- **The run never writes a blob file (`staged`).**  Up to `g.Wait()`, whatever the registry
    serves, the blob files are exactly what they were before `Pull` was called. -/
theorem pullRun_files (H : Bytes → D) (cfg : Cfg) (hs : cfg.staged = true) (c : Cache D) (m : Manifest D)
    (a : Attempt D) (st : Run D) (h : pullRun H cfg c m a = some st) : st.cache.files = c.files :=
  pullRun_cache_frame (·.files) H cfg (setWork_files cfg.variant hs) (fun _ _ => rfl) h

/-! ### One `Pull`: Link is last; success means every layer verified -/

/-- **Link is last.**  For every manifest, plan, fault script, completion order and MaxStreams:
    if `Pull` reports success then the run reached `g.Wait()` with every launched chunk goroutine
    returned (`inflight = []`, program exhausted), none of them failed (`firstErr = none`), the
    byte counter equals the manifest's total, the verification pass (if the tree has one) passed,
    nothing up to that point touched the links, and the final cache is that state plus the one
    `Link`. -/
theorem pull_links_last (H : Bytes → D) (cfg : Cfg) (c c' : Cache D) (a : Attempt D)
    (h : pull H cfg c a = (c', .ok)) :
    ∃ m st c1, a.man = .ok m ∧ pullRun H cfg c m a = some st ∧ st.ops = [] ∧ st.inflight = [] ∧
      st.firstErr = none ∧ st.completed = expected m ∧ verifyPass H cfg st.cache m = (c1, true) ∧
      c1.links = c.links ∧ c' = c1.link cfg.linkShortcut a.name m := by
  rcases pull_cases H cfg c a with ⟨hne, _⟩ | ⟨_, hs⟩
  · rw [h] at hne; exact absurd rfl hne
  · rw [h] at hs; exact hs

/-- **A failed pull never links.**  Whatever the registry does, if `Pull` returns an error the
    name → manifest links are exactly what they were before the call. -/
theorem failed_pull_keeps_links (H : Bytes → D) (cfg : Cfg) (c : Cache D) (a : Attempt D)
    (h : (pull H cfg c a).2 ≠ .ok) : (pull H cfg c a).1.links = c.links :=
  funext fun n => (pull_links H cfg c a n).resolve_right fun h' => h h'.1

/-- a pull changes at most the link of its own name -/
theorem pull_links_other (H : Bytes → D) (cfg : Cfg) (c : Cache D) (a : Attempt D) (n : Nat)
    (hn : a.name ≠ n) : (pull H cfg c a).1.links n = c.links n :=
  (pull_links H cfg c a n).resolve_right fun h => hn h.2.1.symm

/-- **`pull_success_verified`, full strength, for every tree that verifies before `Link`
    (`cfg.verify = true`: /repo since 2258da28d, with or without staged chunk files).**  For ANY
    starting cache (whatever earlier attempts, failed or not, left: holey or oversized files,
    stale markers, stale staging files), any manifest, any served chunk plans (broken, repeated,
    overlapping, past the layer end), any fault script, completion order and MaxStreams: if
    `Pull` reports success, every layer of the manifest (config included) is in the cache as a
    file of EXACTLY the manifest's size whose hash, over the WHOLE file, is the manifest's
    digest.  (The `staged` variant commits layers one after the other; that a later commit does
    not disturb an earlier layer uses `NoLenCollision`.) -/
theorem pull_success_verified (H : Bytes → D) (cfg : Cfg) (hv : cfg.verify = true)
    (hcol : cfg.staged = true → NoLenCollision H) (c c' : Cache D)
    (a : Attempt D) (h : pull H cfg c a = (c', .ok)) :
    ∃ m, a.man = .ok m ∧ ∀ l ∈ m.all, Good H c' l.digest l.size := by
  obtain ⟨m, hm, hg, _⟩ := pull_success_linked H cfg hv hcol (c := c) (a := a) (h ▸ rfl)
  exact ⟨m, hm, by rw [h] at hg; exact hg⟩

/-- **No pull damages a verified blob (`staged` variant: F10d excluded).**  For every blob that is
    in the cache with size `s` and whole-file hash equal to its name, and for EVERY pull —
    any name, any manifest (also one declaring that digest with another size), any plans, any
    fault script, any outcome, failed or not — the blob is still there afterwards with size `s`
    and the right hash.  (`hv` is not used: without the pass nothing removes or replaces a blob.) -/
theorem pull_preserves_verified_blobs (H : Bytes → D) (cfg : Cfg) (hv : cfg.verify = true)
    (hs : cfg.staged = true) (hcol : NoLenCollision H) (c : Cache D) (a : Attempt D) (d : D) (s : Nat)
    (hg : Good H c d s) : Good H (pull H cfg c a).1 d s :=
  pull_preserves_good H cfg c a d s (fun m st _ hst => congrFun (pullRun_files H cfg hs c m a st hst) d)
    (fun m _ _ h => verifyPass_preserves H cfg hs hcol m h) hg

/-! ### Histories and the retry loop of `handlePull` -/

/-- **Histories.**  Over any sequence of attempts (retries, re-runs, other names), the link of a
    name `n` is changed only by an attempt on `n` that reported success. -/
theorem history_links_only_by_successful_pull (H : Bytes → D) (cfg : Cfg) (n : Nat) (as : List (Attempt D)) :
    ∀ c : Cache D,
    (∀ p ∈ as.zip (pullHistory H cfg c as).2, p.1.name = n → p.2 ≠ .ok) →
    (pullHistory H cfg c as).1.links n = c.links n := by
  intro c h
  fun_induction pullHistory H cfg c as with
  | case1 => rfl
  | case2 c a as r rest ih =>
    rw [ih fun p hp => h p (List.mem_cons_of_mem _ hp)]
    rcases pull_links H cfg c a n with h0 | ⟨hok, hn, _⟩
    · exact h0
    · exact absurd hok (h (a, r.2) (List.mem_cons_self ..) hn.symm)

/-- **The retry loop of `handlePull`.**  However many times it retries, if the loop ends with an
    error (or the client goes away while it retries) no link has changed: retried attempts were
    failures. -/
theorem handlePull_links_only_by_successful_pull (H : Bytes → D) (cfg : Cfg) (as : List (Attempt D)) :
    ∀ c : Cache D, (handlePull H cfg c as).2 ≠ some .ok → (handlePull H cfg c as).1.links = c.links := by
  intro c h
  fun_induction handlePull H cfg c as with
  | case1 => rfl
  | case2 c a as r hr ih =>
    rw [ih h]
    exact failed_pull_keeps_links H cfg c a fun h0 => by rw [show r.2 = .ok from h0] at hr; cases hr
  | case3 c a as r hr => exact failed_pull_keeps_links H cfg c a fun h0 => h (congrArg some h0)

/-- **Every way out of the loop.**  The loop returns the result of a `Pull` only if that result is
    not retryable (success or a permanent error); it ends without one (`none`) only by the
    request context ending, after every `Pull` it made was a retryable failure; and it makes as
    many attempts as that takes — no limit. -/
theorem handlePull_exits (H : Bytes → D) (cfg : Cfg) (as : List (Attempt D)) :
    ∀ c : Cache D,
      (∀ o, (handlePull H cfg c as).2 = some o → canRetry o = false) ∧
      ((handlePull H cfg c as).2 = none → handlePullAttempts H cfg c as = as.length) := by
  intro c
  fun_induction handlePull H cfg c as with
  | case1 => exact ⟨nofun, fun _ => rfl⟩
  | case2 c a as r hr ih =>
    exact ⟨ih.1, fun hn => by rw [handlePullAttempts, if_pos hr, ih.2 hn, List.length_cons]⟩
  | case3 c a as r hr => exact ⟨fun o h => Option.some.inj h ▸ Bool.eq_false_iff.mpr hr, nofun⟩

def LinkedVerified (H : Bytes → D) (c : Cache D) : Prop :=
  ∀ n m, c.links n = some m → ∀ l ∈ m.all, Good H c l.digest l.size

/-- **The property as an invariant of every history (`staged` variant).**  Starting from an empty
    cache (or any cache in which every linked name is verified), after ANY sequence of pulls —
    successes, failures, retries, other names, lying manifests, broken plans, any faults and
    completion orders — every linked name's manifest has every layer in the cache with exactly
    the manifest's size and digest.  This is the L2 monitor of the driver, proved. -/
theorem history_linked_layers_verified (H : Bytes → D) (cfg : Cfg) (hv : cfg.verify = true)
    (hs : cfg.staged = true) (hcol : NoLenCollision H) (as : List (Attempt D)) :
    ∀ c : Cache D, LinkedVerified H c → LinkedVerified H (pullHistory H cfg c as).1 := fun c h n m hn =>
  (history_keeps_linkedIn (fun _ _ => True) (fun _ => True) H cfg hv (fun _ => hcol) (fun _ _ _ _ _ _ => trivial)
    (fun c a d s _ _ => pull_preserves_verified_blobs H cfg hv hs hcol c a d s) as (fun _ _ => trivial) c
    (fun n m hn => ⟨fun _ _ => trivial, h n m hn⟩) n m hn).2

/-- **`handlePull` says success ⇒ the LAST attempt's model is there.**  Sharpens
    `handlePull_success_verified`: the attempt whose manifest is complete in the final cache (and
    linked, F8 aside) is the last `Pull` the loop made — attempt number `handlePullAttempts`, the
    one that returned nil — not just some attempt of the request (the tag may have been
    re-published between retries: earlier attempts may have seen another manifest). -/
theorem handlePull_success_last_attempt_verified (H : Bytes → D) (cfg : Cfg) (hv : cfg.verify = true)
    (hcol : cfg.staged = true → NoLenCollision H) (as : List (Attempt D)) :
    ∀ c : Cache D, handlerSaysSuccess (handlePull H cfg c as).2 = true →
      ∃ k a m, handlePullAttempts H cfg c as = k + 1 ∧ as[k]? = some a ∧ a.man = .ok m ∧
        (∀ l ∈ m.all, Good H (handlePull H cfg c as).1 l.digest l.size) ∧
        (cfg.linkShortcut = false → (handlePull H cfg c as).1.links a.name = some m) := by
  intro c h
  fun_induction handlePull H cfg c as with
  | case1 => cases h
  | case2 c a as r hr ih =>
    obtain ⟨k, a', m, hk, h'⟩ := ih h
    exact ⟨k + 1, a', m, by rw [handlePullAttempts, if_pos hr, hk], h'⟩
  | case3 c a as r hr =>
    obtain ⟨m, hm, hg, hl⟩ := pull_success_linked H cfg hv hcol (by simpa [handlerSaysSuccess] using h)
    exact ⟨0, a, m, by rw [handlePullAttempts, if_neg hr], rfl, hm, hg, hl⟩

/-- **`handlePull` says success ⇒ the model is there.**  For every verifying tree, every starting
    cache and every sequence of attempt scripts (any number of temporary failures first): if the
    handler ends the stream with `"status":"success"`, then some attempt's manifest has every
    layer in the final cache with exactly the manifest's size and digest, and (unless `Link`'s
    same-size shortcut F8 applies) the name is linked to that manifest. -/
theorem handlePull_success_verified (H : Bytes → D) (cfg : Cfg) (hv : cfg.verify = true)
    (hcol : cfg.staged = true → NoLenCollision H) (as : List (Attempt D)) :
    ∀ c : Cache D, handlerSaysSuccess (handlePull H cfg c as).2 = true →
      ∃ a ∈ as, ∃ m, a.man = .ok m ∧ (∀ l ∈ m.all, Good H (handlePull H cfg c as).1 l.digest l.size) ∧
        (cfg.linkShortcut = false → (handlePull H cfg c as).1.links a.name = some m) := by
  intro c h
  obtain ⟨_, a, m, _, ha, rest⟩ := handlePull_success_last_attempt_verified H cfg hv hcol as c h
  exact ⟨a, List.mem_of_getElem? ha, m, rest⟩

omit [DecidableEq D] in
theorem linkedVerified_empty (H : Bytes → D) : LinkedVerified H (Cache.empty : Cache D) := by
  intro n m h; simp [Cache.empty] at h
end

/-! ### Witnesses of F10 ((a)–(c): without the verification pass; (d): not `staged`).  `D := Bytes`,
    `H := id`: a digest is its pre-image, so "the file hashes to the layer digest" is "file = digest". -/

def wcfg : Cfg := ⟨2, none, true, false, false⟩
def abc : Bytes := [97, 98, 99]
def abcd : Bytes := [97, 98, 99, 100]
def mABC : Manifest Bytes := ⟨1, 100, [⟨abc, 3⟩], none⟩
def mABCD : Manifest Bytes := ⟨2, 100, [⟨abcd, 4⟩], none⟩

/-- attempt 1 of (a): the registry serves the honest plan `ab 0-1, c 2-2`; the HIGH chunk is
    answered first and correctly, the low chunk gets a 500 -/
def a1 : Attempt Bytes :=
  ⟨0, .ok mABC, [.list [⟨[97, 98], 0, 2⟩, ⟨[99], 2, 1⟩]],
    [.release 1 (.body [[99]] .eof), .release 0 (.fail .status5xx)]⟩
/-- attempt 2 of (a): same manifest, the registry is not even asked for the layer -/
def a2 : Attempt Bytes := ⟨0, .ok mABC, [], []⟩

/-- **F10 (a).**  `handlePull` retries by itself after the 5xx (it is `Temporary`); the retry finds
    a file of the manifest's size, skips the layer, reports success and links the name — with
    the layer file `00 00 'c'`. -/
theorem F10a_holey_file_trusted_on_retry :
    (pull id wcfg Cache.empty a1).2 = .err .status5xx ∧
    (handlePull id wcfg Cache.empty [a1, a2]).2 = some .ok ∧
    (handlePull id wcfg Cache.empty [a1, a2]).1.links 0 = some mABC ∧
    (handlePull id wcfg Cache.empty [a1, a2]).1.files abc = some [0, 0, 99] ∧
    id ([0, 0, 99] : Bytes) ≠ abc := by decide +kernel

def b1 : Attempt Bytes :=
  ⟨0, .ok mABCD, [.list [⟨[97, 98], 0, 2⟩, ⟨[97, 98], 0, 2⟩]],
    [.release 0 (.body [[97, 98]] .eof), .release 0 (.body [[97], [98]] .eof)]⟩

/-- **F10 (b).**  A plan that repeats the chunk `ab 0-1` for a 4-byte layer: both copies are
    downloaded and verified, the byte counter reaches 4 = expected, the name is linked, the file
    is 2 bytes long. -/
theorem F10b_repeated_chunk_satisfies_counter :
    (pull id wcfg Cache.empty b1).2 = .ok ∧
    (pull id wcfg Cache.empty b1).1.links 0 = some mABCD ∧
    (pull id wcfg Cache.empty b1).1.files abcd = some [97, 98] := by decide +kernel

def c1 : Attempt Bytes :=
  ⟨0, .ok mABCD, [.list [⟨[120, 121], 0, 2⟩, ⟨[122, 119], 2, 2⟩]],
    [.release 0 (.body [[120, 121]] .eof), .release 0 (.body [[122, 119]] .eof)]⟩

/-- **F10 (c).**  An exact partition whose chunk digests are the registry's own (`xy`, `zw`): every
    chunk verifies against the plan, the whole-layer digest is never looked at. -/
theorem F10c_chunk_digests_from_registry :
    (pull id wcfg Cache.empty c1).2 = .ok ∧
    (pull id wcfg Cache.empty c1).1.links 0 = some mABCD ∧
    (pull id wcfg Cache.empty c1).1.files abcd = some [120, 121, 122, 119] ∧
    id ([120, 121, 122, 119] : Bytes) ≠ abcd := by decide +kernel

def dcfg : Cfg := ⟨6, none, true, false, false⟩
def d1 : Attempt Bytes := ⟨0, .ok mABCD, [], [.release 0 (.body [[97, 98], [99, 100]] .eof)]⟩
def mLie : Manifest Bytes := ⟨3, 101, [⟨abcd, 5⟩], none⟩
def d2 : Attempt Bytes := ⟨1, .ok mLie, [], [.release 0 (.body [[1, 2], [3, 4, 5]] .eof)]⟩

/-- **F10 (d).**  `Chunked` writes into the FINAL file.  Name 0 is pulled honestly (single chunk,
    verified).  Then a pull of another name whose manifest declares the same digest with size 5
    is not stopped by the size shortcut; its first read is written over the verified blob before
    the digest check fails.  The pull fails, name 0 stays linked, its layer is corrupted. -/
theorem F10d_size_lie_overwrites_verified_blob :
    (pullHistory id dcfg Cache.empty [d1, d2]).2 = [.ok, .err .digest] ∧
    (pullHistory id dcfg Cache.empty [d1]).1.files abcd = some abcd ∧
    (pullHistory id dcfg Cache.empty [d1, d2]).1.links 0 = some mABCD ∧
    (pullHistory id dcfg Cache.empty [d1, d2]).1.links 1 = none ∧
    (pullHistory id dcfg Cache.empty [d1, d2]).1.files abcd = some [1, 2, 99, 100] := by decide +kernel

def rcfg : Cfg := ⟨2, none, true, true, false⟩

/-- the variant that verifies before `Link` (`verify := true`: /repo since 2258da28d) on the same
    scripts: (a), (b), (c) end in `ErrIncomplete`, nothing is linked, the bad blob is removed -/
theorem F10abc_repaired_variant :
    (handlePull id rcfg Cache.empty [a1, a2]).2 = some (.err .incomplete) ∧
    (handlePull id rcfg Cache.empty [a1, a2]).1.links 0 = none ∧
    (handlePull id rcfg Cache.empty [a1, a2]).1.files abc = none ∧
    (pull id rcfg Cache.empty b1).2 = .err .incomplete ∧ (pull id rcfg Cache.empty b1).1.links 0 = none ∧
    (pull id rcfg Cache.empty c1).2 = .err .incomplete ∧ (pull id rcfg Cache.empty c1).1.links 0 = none := by
  decide +kernel

def o1 : Attempt Bytes :=
  ⟨0, .ok mABCD, [.list [⟨[97, 98], 0, 2⟩, ⟨[99, 100], 2, 2⟩, ⟨[122, 122], 4, 2⟩]],
    [.release 0 (.body [[97, 98]] .eof), .release 0 (.body [[99, 100]] .eof), .release 0 (.body [[122, 122]] .eof)]⟩
def o2 : Attempt Bytes := ⟨0, .ok mABCD, [.list [⟨[97, 98], 0, 2⟩, ⟨[99, 100], 2, 2⟩]], []⟩
def o3 : Attempt Bytes :=
  ⟨0, .ok mABCD, [.list [⟨[97, 98], 0, 2⟩, ⟨[99, 100], 2, 2⟩]],
    [.release 0 (.body [[97, 98]] .eof), .release 0 (.body [[99, 100]] .eof)]⟩

/-- a chunk past the layer end, on the variant that verifies before `Link`: attempt 1 is served `ab 0-1, cd 2-3, zz 4-5`
    for the 4-byte layer (every chunk verifies, the file grows to 6 bytes, the counter says 6/4);
    attempt 2 gets the honest list: both chunks are marker-cached, the counter is exact, and only
    the whole-file check (size equal AND hash equal) refuses the oversized file and removes it;
    attempt 3 downloads afresh and succeeds with exactly `abcd`. -/
theorem oversized_blob_refused_then_refetched :
    (pullHistory id rcfg Cache.empty [o1]).1.files abcd = some [97, 98, 99, 100, 122, 122] ∧
    (pullHistory id rcfg Cache.empty [o1, o2, o3]).2 = [.err .incomplete, .err .incomplete, .ok] ∧
    (pullHistory id rcfg Cache.empty [o1, o2]).1.files abcd = none ∧
    (pullHistory id rcfg Cache.empty [o1, o2]).1.links 0 = none ∧
    (pullHistory id rcfg Cache.empty [o1, o2, o3]).1.files abcd = some abcd := by decide +kernel

def scfg : Cfg := ⟨6, none, true, true, true⟩

/-- the F10d script on the `staged` variant: the lying pull fails, the verified blob is untouched,
    the unverified bytes sit in the staging file -/
theorem F10d_staged_variant :
    (pullHistory id scfg Cache.empty [d1, d2]).2 = [.ok, .err .digest] ∧
    (pullHistory id scfg Cache.empty [d1, d2]).1.links 0 = some mABCD ∧
    (pullHistory id scfg Cache.empty [d1, d2]).1.files abcd = some abcd ∧
    (pullHistory id scfg Cache.empty [d1, d2]).1.staging abcd = some [1, 2] := by decide +kernel

/-- non-vacuity: a 5xx on the first attempt (served manifest `mABC`, chunk request answered 500), the tag
    re-published as `mABCD`, the retry succeeds: the model that is there is the LAST attempt's -/
example :
    handlerSaysSuccess (handlePull id rcfg Cache.empty
      [⟨0, .ok mABC, [.list [⟨[97, 98], 0, 2⟩, ⟨[99], 2, 1⟩]], [.release 0 (.fail .status5xx), .release 0 (.body [[99]] .eof)]⟩, o3]).2 = true ∧
    handlePullAttempts id rcfg Cache.empty
      [⟨0, .ok mABC, [.list [⟨[97, 98], 0, 2⟩, ⟨[99], 2, 1⟩]], [.release 0 (.fail .status5xx), .release 0 (.body [[99]] .eof)]⟩, o3] = 2 ∧
    (handlePull id rcfg Cache.empty
      [⟨0, .ok mABC, [.list [⟨[97, 98], 0, 2⟩, ⟨[99], 2, 1⟩]], [.release 0 (.fail .status5xx), .release 0 (.body [[99]] .eof)]⟩, o3]).1.links 0 = some mABCD := by
  decide +kernel

/-- the hypothesis of the `staged` theorems is satisfiable (by the oracle's `H := id`) -/
example : NoLenCollision (id : Bytes → Bytes) := fun x y h => by simp at h; rw [h]

/-- their premises are met by a non-trivial cache -/
example : Good id (pullHistory id scfg Cache.empty [d1]).1 abcd 4 := ⟨abcd, by decide, by decide, rfl⟩

/-! ### Non-vacuity: the hypotheses of the theorems above are met by non-trivial values -/

/-- a successful two-piece `Put` at offset 2 into a 1-byte file (zero-extended) -/
example : putLoop id ([7, 8, 9] : Bytes) [1] 2 3 [] [[7], [8, 9, 10]] .eof = ([1, 0, 7, 8, 9], none) := by decide

/-- a failed `Put`: the first piece is written, the completing one is refused -/
example : putLoop id ([7, 8, 9] : Bytes) [] 0 3 [] [[7], [8, 0]] .eof = ([7], some .digest) := by decide

/-- a successful pull (single small layer) and a failed one -/
example : (pull id dcfg Cache.empty d1).2 = .ok ∧ (pull id wcfg Cache.empty a1).2 ≠ .ok := by decide +kernel

/-- an in-order exact partition with all `Put`s succeeding -/
example : Consecutive (D := Bytes) 0 [⟨[97, 98], 0, 2⟩, ⟨[99], 2, 1⟩] ∧
    putAll id [] [⟨[97, 98], 0, 2⟩, ⟨[99], 2, 1⟩] [([[97], [98]], .eof), ([[99]], .eof)] = some abc := by
  refine ⟨⟨rfl, by decide, rfl, by decide, trivial⟩, by decide⟩

end OllamaVerif.C09
