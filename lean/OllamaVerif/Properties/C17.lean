/-
  C17 — Streaming, non-streaming and OpenAI-compatible responses carry the same result.

  Property theorems over Model/Stream.lean; lemmas that need neither the definitions made here (`RunnerOK`,
  `OneFinal`, `aggCalls`, …) nor a theorem of this file are in Proofs/Stream.lean.  The general theorems quantify
  over EVERY chunk list (= every split of every output), every prompt length, every `parse` function; the `F17x`
  witnesses and the examples are closed instances.

  Levels of the model: the base functions (`genStream`, `chatOnce`, `oaChatStream`, …) are /repo before the repairs
  of F17b–e; `…Fixed` / `…V` have one repair switched on, `oaChatStreamFF` is the chat writer with F17f repaired;
  `…H` are the handlers with every fault and a `Variant` of repairs (the tree's: `Tie.C17.tree_variant`, writer
  `oaChatStreamFF`); `…R` add the replies written before the runner is started; `completionCall` is what reaches the
  callback; `waitForStreamM` the progress endpoints.
-/
import OllamaVerif.Proofs.Stream

namespace OllamaVerif.C17
open OllamaVerif OllamaVerif.Stream

/-! ## What "the same model output" means -/

/-- what survives of the runner output besides the text: the last chunk's done flag, reason, counts -/
def finalOf : List Chunk → Option (Bool × Nat × Nat × Nat)
  | [] => none
  | c :: cs => let l := lastOr c cs; some (l.done, l.reason, l.pec, l.ec)

/-- two chunk lists are splits of the same output -/
def SameOutput (a b : List Chunk) : Prop := texts a = texts b ∧ finalOf a = finalOf b

instance (a b : List Chunk) : Decidable (SameOutput a b) := by unfold SameOutput; infer_instance

theorem sameOutput_cases {a b : List Chunk} (h : SameOutput a b) :
    (a = [] ∧ b = []) ∨ ∃ c cs c2 cs2, a = c :: cs ∧ b = c2 :: cs2 ∧ texts (c :: cs) = texts (c2 :: cs2)
      ∧ chunkInfo (lastOr c cs) = chunkInfo (lastOr c2 cs2) := by
  obtain ⟨ht, hf⟩ := h
  cases a with
  | nil => cases b with
    | nil => exact Or.inl ⟨rfl, rfl⟩
    | cons _ _ => cases hf
  | cons c cs => cases b with
    | nil => cases hf
    | cons c2 cs2 =>
      simp only [finalOf, Option.some.injEq, Prod.mk.injEq] at hf
      obtain ⟨h1, h2, h3, h4⟩ := hf
      exact Or.inr ⟨c, cs, c2, cs2, rfl, rfl, ht, by simp only [chunkInfo, h1, h2, h3, h4]⟩

/-! ## /api/generate -/

/-- **Stream concatenation = non-stream reply (generate).**  For every chunk list: the reply of
    `stream:false` is the LAST streamed message with its `response` replaced by the concatenation of
    all streamed `response` fields, that concatenation is the model output, and the stream carries no
    error. -/
theorem generate_equiv (raw : Bool) (pl : Nat) (cs : List Chunk) :
    let st := msgsOf (genStream raw pl cs .ok)
    genOnce raw pl cs .ok = .ok { lastOr default st with resp := (st.map (·.resp)).flatten }
    ∧ (st.map (·.resp)).flatten = texts cs
    ∧ errsOf (genStream raw pl cs .ok) = [] := by
  intro st
  have hst : st = genCallback raw pl cs [] := msgsOf_genStream raw pl cs .ok
  refine ⟨?_, ?_, ?_⟩
  · unfold genOnce genChan
    rw [onceLoop_chan, hst]
  · rw [hst, genCallback_resp]; rfl
  · exact errsOf_chan _ _

/-- **Re-splitting does not change the non-stream reply (generate)**, nor the error. -/
theorem generate_resplit (raw : Bool) (pl : Nat) (a b : List Chunk) (e : End) (h : SameOutput a b) :
    genOnce raw pl a e = genOnce raw pl b e := by
  cases e with
  | err m => rw [genOnce_err, genOnce_err]
  | ok =>
    rcases sameOutput_cases h with ⟨rfl, rfl⟩ | ⟨c, cs, c2, cs2, rfl, rfl, ht, hi⟩
    · rfl
    · rw [genOnce_ok_cons, genOnce_ok_cons]
      simp only [genMsgOf, ht, hi, show (lastOr c cs).done = (lastOr c2 cs2).done from congrArg Info.done hi]

/-- **A failing run (generate)**: `stream:false` answers 500 with the runner's error; the stream
    carries exactly that one error, as its last line. -/
theorem generate_error (raw : Bool) (pl : Nat) (cs : List Chunk) (m : Bytes) :
    genOnce raw pl cs (.err m) = .error m
    ∧ errsOf (genStream raw pl cs (.err m)) = [m]
    ∧ (genStream raw pl cs (.err m)).getLast? = some (.err m) := by
  refine ⟨genOnce_err _ _ _ _, ?_, ?_⟩
  · exact errsOf_chan _ _
  · simp [genStream, genChan, endItems]

/-! ## /api/chat without tools (and every `stream:false` chat) -/

/-- **Stream concatenation = non-stream reply (chat without tools).** -/
theorem chat_equiv (parse : Bytes → List Call) (cs : List Chunk) :
    let st := msgsOf (chatStream parse false cs .ok)
    chatOnce parse false cs .ok = .ok { lastOr default st with content := (st.map (·.content)).flatten }
    ∧ (st.map (·.content)).flatten = texts cs
    ∧ (∀ m ∈ st, m.calls = [])
    ∧ errsOf (chatStream parse false cs .ok) = [] := by
  intro st
  have hst : st = cs.map chatMsgOf := by
    simp only [st]; rw [msgsOf_chatStream, chatCallback_unbuffered]
  refine ⟨?_, ?_, ?_, ?_⟩
  · unfold chatOnce chatChan
    rw [onceLoop_chan, chatCallback_unbuffered, hst]
    simp
  · rw [hst]; exact chatMsgOf_contents cs
  · rw [hst]; intro m hm
    obtain ⟨c, _, rfl⟩ := List.mem_map.mp hm
    rfl
  · exact errsOf_chan _ _

/-- **Re-splitting does not change the non-stream chat reply**, with or without tools: text, tool
    calls, reason and counts depend only on the output. -/
theorem chat_resplit (parse : Bytes → List Call) (tools : Bool) (a b : List Chunk) (e : End)
    (h : SameOutput a b) : chatOnce parse tools a e = chatOnce parse tools b e := by
  cases e with
  | err m => rw [chatOnce_err, chatOnce_err]
  | ok =>
    rcases sameOutput_cases h with ⟨rfl, rfl⟩ | ⟨c, cs, c2, cs2, rfl, rfl, ht, hi⟩
    · rfl
    · rw [chatOnce_ok_cons, chatOnce_ok_cons]
      simp only [ht, hi]

theorem chat_error (parse : Bytes → List Call) (tools : Bool) (cs : List Chunk) (m : Bytes) :
    chatOnce parse tools cs (.err m) = .error m
    ∧ errsOf (chatStream parse tools cs (.err m)) = [m]
    ∧ (chatStream parse tools cs (.err m)).getLast? = some (.err m) := by
  refine ⟨chatOnce_err _ _ _ _, ?_, ?_⟩
  · exact errsOf_chan _ _
  · simp [chatStream, chatChan, endItems]

/-! ## /api/chat with tools -/

/-- **Guard: `parse` is prefix-stable on the split** — whenever the text accumulated at a chunk
    boundary parses as tool calls, only empty chunks follow (i.e. no PROPER prefix of the output
    parses at a chunk boundary); and the empty text does not parse. -/
def PrefixStable (parse : Bytes → List Call) (cs : List Chunk) : Prop :=
  parse [] = [] ∧ ∀ k, k < cs.length → parse (texts (cs.take (k + 1))) ≠ [] → texts (cs.drop (k + 1)) = []

instance (parse : Bytes → List Call) (cs : List Chunk) : Decidable (PrefixStable parse cs) := by
  unfold PrefixStable; infer_instance

instance (cs : List Chunk) : Decidable (NoneDone cs) := by
  unfold NoneDone; infer_instance

def aggContent (ms : List ChatMsg) : Bytes := (ms.map (·.content)).flatten
def aggCalls (ms : List ChatMsg) : List Call := (ms.map (·.calls)).flatten

theorem aggCalls_cons (m : ChatMsg) (ms : List ChatMsg) : aggCalls (m :: ms) = m.calls ++ aggCalls ms := rfl
theorem aggContent_cons (m : ChatMsg) (ms : List ChatMsg) : aggContent (m :: ms) = m.content ++ aggContent ms := rfl
theorem aggCalls_single (m : ChatMsg) : aggCalls [m] = m.calls := List.append_nil _
theorem aggContent_single (m : ChatMsg) : aggContent [m] = m.content := List.append_nil _

/-! ## A native stream ends with exactly one final message or one error -/

def terminal {α : Type} (done : α → Bool) : Item α → Bool
  | .msg m => done m
  | .err _ => true

/-- exactly one terminal item (done message or error), and it is the last one -/
def OneFinal {α : Type} (done : α → Bool) (items : List (Item α)) : Prop :=
  (items.filter (terminal done)).length = 1 ∧ items.getLast?.map (terminal done) = some true

instance {α : Type} (done : α → Bool) (items : List (Item α)) : Decidable (OneFinal done items) := by
  unfold OneFinal; infer_instance

/-- the runner's protocol: content chunks, then either one done chunk and a nil return, or an error -/
inductive RunnerOK : List Chunk → End → Prop
  | done (init : List Chunk) (l : Chunk) : NoneDone init → l.done = true → RunnerOK (init ++ [l]) .ok
  | fail (cs : List Chunk) (m : Bytes) : NoneDone cs → RunnerOK cs (.err m)

theorem oneFinal_of_snoc {α : Type} (done : α → Bool) (pre : List α) (t : Item α)
    (hpre : ∀ m ∈ pre, done m = false) (ht : terminal done t = true) :
    OneFinal done (pre.map Item.msg ++ [t]) := by
  have hnone : (pre.map Item.msg).filter (terminal done) = [] :=
    List.filter_eq_nil_iff.mpr fun it hit => by
      obtain ⟨m, hm, rfl⟩ := List.mem_map.mp hit
      simp [terminal, hpre m hm]
  exact ⟨by rw [List.filter_append, hnone]; simp [ht], by simp [ht]⟩

theorem endItemsV_runnerOK {α : Type} (fixD : Bool) {cs : List Chunk} {e : End} (h : RunnerOK cs e) :
    (endItemsV fixD cs e : List (Item α)) = endItems e := by
  cases h with
  | done init l hnd hl => simp [endItemsV, endItems, sawDone_snoc init l hl]
  | fail cs m hnd => rfl

/-- `send` puts the callback's messages on the channel: one that is not done as it is, a done one as a terminal item
    (GenerateHandler: the error of a failing Tokenize in its place) -/
theorem oneFinal_sent {μ : Type} {info : μ → Info} {cb : List Chunk → List μ} (hcb : Protocol info cb)
    (send : μ → Item μ) (hq : ∀ m, (info m).done = false → send m = .msg m)
    (ht : ∀ m, (info m).done = true → terminal (fun m => (info m).done) (send m) = true)
    {fixD : Bool} {cs : List Chunk} {e : End} (h : RunnerOK cs e ∨ (fixD = true ∧ NoneDone cs ∧ e = .ok)) :
    OneFinal (fun m => (info m).done) ((cb cs).map send ++ endItemsV fixD cs e) := by
  have key : ∀ (pre : List μ) (t : Item μ), (∀ x ∈ pre, Quiet (info x)) → terminal (fun m => (info m).done) t = true →
      OneFinal (fun m => (info m).done) (pre.map send ++ [t]) := fun pre t hpre htt => by
    rw [List.map_congr_left fun x hx => hq x (hpre x hx).done]
    exact oneFinal_of_snoc _ pre t (fun x hx => (hpre x hx).done) htt
  rcases h with h | ⟨rfl, hnd, rfl⟩
  · rw [endItemsV_runnerOK _ h]
    cases h with
    | done init l hnd hl =>
      obtain ⟨pre, m, hs, hpre, hm⟩ := hcb.final init l hnd hl
      rw [hs, List.map_append]
      show OneFinal _ (pre.map send ++ [send m] ++ [])
      rw [List.append_nil]
      exact key pre _ hpre (ht m (by rw [hm]; exact hl))
    | fail cs m hnd => exact key _ _ (hcb.quiet cs hnd) rfl
  · rw [endItemsV_silent cs hnd]
    exact key _ _ (hcb.quiet cs hnd) rfl

theorem one_final_generate (raw : Bool) (pl : Nat) (cs : List Chunk) (e : End) (h : RunnerOK cs e) :
    OneFinal (fun m : GenMsg => m.info.done) (genStream raw pl cs e) := by
  have := oneFinal_sent (genCallback_protocol raw pl []) Item.msg (fun _ _ => rfl) (fun _ h => h) (fixD := false) (Or.inl h)
  rwa [endItemsV_pinned] at this

/-- with or without tools (the buffered tool path included) -/
theorem one_final_chat (parse : Bytes → List Call) (tools : Bool) (cs : List Chunk) (e : End)
    (h : RunnerOK cs e) :
    OneFinal (fun m : ChatMsg => m.info.done) (chatStream parse tools cs e) := by
  have := oneFinal_sent (chatCallback_protocol parse tools [] 0) Item.msg (fun _ _ => rfl) (fun _ h => h) (fixD := false) (Or.inl h)
  rwa [endItemsV_pinned] at this

/-! ## OpenAI-compatible endpoints -/

/-- **Non-stream /v1/chat/completions and /v1/completions carry the native reply**: same text and
    calls, `finish_reason` = the native reason (or `tool_calls` when calls are present), usage = the
    native counts; a native error becomes an error object with the same message. -/
theorem openai_once_equiv :
    (∀ m : ChatMsg, ∃ f, oaChatOnce (.ok m) = .chat m.info.named m.content m.calls f (usageOf m.info)
        ∧ f = nonEmpty? (if m.calls.isEmpty then m.info.reason else sToolCalls))
    ∧ (∀ m : GenMsg, oaCmplOnce (.ok m) = .text m.resp (nonEmpty? m.info.reason) (usageOf m.info))
    ∧ (∀ e, oaChatOnce (.error e) = .error e ∧ oaCmplOnce (.error e) = .error e) := by
  refine ⟨?_, fun _ => rfl, fun _ => ⟨rfl, rfl⟩⟩
  intro m
  refine ⟨_, rfl, ?_⟩
  cases h : m.calls.isEmpty <;> simp

/-- **Streaming /v1/chat/completions carries the native stream**: concatenated deltas = concatenated
    native contents, same tool calls, one `[DONE]` per native done message — for every item list. -/
theorem openai_chat_stream_equiv (usage : Bool) (items : List (Item ChatMsg)) (sent : Bool) :
    oaText (oaChatStream usage items sent) = ((msgsOf items).map (·.content)).flatten
    ∧ oaCalls (oaChatStream usage items sent) = ((msgsOf items).map (·.calls)).flatten
    ∧ oaDones (oaChatStream usage items sent) = ((msgsOf items).filter (·.info.done)).length := by
  induction items generalizing sent with
  | nil => simp [oaChatStream, oaText, oaCalls, oaDones, msgsOf]
  | cons it rest ih =>
    obtain ⟨h1, h2, h3⟩ := ih (sent || !(asChat it).calls.isEmpty)
    obtain ⟨f, hstep⟩ := oaChatStream_cons usage it rest sent
    rw [hstep]
    simp only [oaText_append, oaCalls_append, oaDones_append, oaTailIf_text, oaTailIf_calls, oaTailIf_dones,
      h1, h2, h3]
    cases it with
    | msg m =>
      cases hd : m.info.done <;>
        simp [asChat, hd, oaText, oaCalls, oaDones, msgsOf, Item.msg?, OaEv.text?, OaEv.calls?, OaEv.isDone] <;>
        omega
    | err e =>
      obtain ⟨e1, e2, e3⟩ := asChat_err e
      simp [e1, e2, e3, msgsOf_cons_err, oaText, oaCalls, oaDones, OaEv.text?, OaEv.calls?, OaEv.isDone]

/-- **Streaming /v1/completions carries the native stream.** -/
theorem openai_cmpl_stream_equiv (usage : Bool) (items : List (Item GenMsg)) :
    oaText (oaCmplStream usage items) = ((msgsOf items).map (·.resp)).flatten
    ∧ oaDones (oaCmplStream usage items) = ((msgsOf items).filter (·.info.done)).length := by
  induction items with
  | nil => simp [oaCmplStream, oaText, oaDones, msgsOf]
  | cons it rest ih =>
    obtain ⟨h1, h3⟩ := ih
    obtain ⟨f, u, hstep⟩ := oaCmplStream_cons usage it rest
    rw [hstep]
    simp only [oaText_append, oaDones_append, oaTailIf_text, oaTailIf_dones, h1, h3]
    cases it with
    | msg m =>
      cases hd : m.info.done <;>
        simp [asGen, hd, oaText, oaDones, msgsOf, Item.msg?, OaEv.text?, OaEv.isDone] <;> omega
    | err e =>
      obtain ⟨e1, e3⟩ := asGen_err e
      simp [e1, e3, msgsOf_cons_err, oaText, oaDones, OaEv.text?, OaEv.isDone]

/-! ### shape of a protocol-respecting native chat / generate stream -/

theorem _root_.OllamaVerif.Stream.Protocol.stream_ok {μ : Type} {info : μ → Info} {cb : List Chunk → List μ}
    (hcb : Protocol info cb) {cs : List Chunk} (h : RunnerOK cs .ok) :
    ∃ (pre : List μ) (m : μ), (cb cs).map Item.msg ++ endItems .ok = (pre ++ [m]).map Item.msg
      ∧ (∀ x ∈ pre, Quiet (info x)) ∧ (info m).done = true := by
  cases h with
  | done init l hnd hl =>
    obtain ⟨pre, m, hs, hq, hm⟩ := hcb.final init l hnd hl
    exact ⟨pre, m, by rw [hs]; exact List.append_nil _, hq, by rw [hm]; exact hl⟩

theorem chatStream_ok (parse : Bytes → List Call) (tools : Bool) {cs : List Chunk} (h : RunnerOK cs .ok) :
    ∃ (pre : List ChatMsg) (m : ChatMsg), chatStream parse tools cs .ok = (pre ++ [m]).map Item.msg
      ∧ (∀ x ∈ pre, Quiet x.info) ∧ m.info.done = true :=
  (chatCallback_protocol parse tools [] 0).stream_ok h

theorem genStream_ok (raw : Bool) (pl : Nat) {cs : List Chunk} (h : RunnerOK cs .ok) :
    ∃ (pre : List GenMsg) (m : GenMsg), genStream raw pl cs .ok = (pre ++ [m]).map Item.msg
      ∧ (∀ x ∈ pre, Quiet x.info) ∧ m.info.done = true :=
  (genCallback_protocol raw pl []).stream_ok h

/-- **F17c as a theorem of the (pinned) model: a failing run is invisible on the OpenAI streaming
    endpoints** — for EVERY output and failure point the SSE stream contains neither an error object
    nor `[DONE]`, although the native stream ends with the error (`chat_error`, `generate_error`). -/
theorem openai_stream_failure_swallowed (parse : Bytes → List Call) (tools usage raw : Bool) (pl : Nat)
    (cs : List Chunk) (m : Bytes) (h : RunnerOK cs (.err m)) :
    (oaDones (oaChatStream usage (chatStream parse tools cs (.err m)) false) = 0
      ∧ ∀ ev ∈ oaChatStream usage (chatStream parse tools cs (.err m)) false, ev.isError = false)
    ∧ (oaDones (oaCmplStream usage (genStream raw pl cs (.err m))) = 0
      ∧ ∀ ev ∈ oaCmplStream usage (genStream raw pl cs (.err m)), ev.isError = false) := by
  cases h with
  | fail cs m hnd =>
    refine ⟨⟨?_, not_isError_of_filter (oaChatStream_no_error _ _ _)⟩,
      ⟨?_, not_isError_of_filter (oaCmplStream_no_error _ _)⟩⟩
    · rw [(openai_chat_stream_equiv usage _ false).2.2]
      rw [msgsOf_chatStream, filter_done_quiet _ _ ((chatCallback_protocol parse tools [] 0).quiet cs hnd)]
      rfl
    · rw [(openai_cmpl_stream_equiv usage _).2]
      rw [msgsOf_genStream, filter_done_quiet _ _ ((genCallback_protocol raw pl []).quiet cs hnd)]
      rfl

/-! ## The repaired variants (proposed fixes) restore the property in the model -/

def ReportsOnce (m : Bytes) (evs : List OaEv) : Prop :=
  evs.getLast? = some (OaEv.error m) ∧ (evs.filter OaEv.isError).length = 1 ∧ oaDones evs = 0

/-- **F17c repaired (proposed_fixes/C17-F17c.patch)**: with the patched writers a failing run ends, on
    the OpenAI streaming endpoints, with exactly one error event carrying the runner's message, as
    the last event, and no `[DONE]`. -/
theorem openai_stream_failure_reported_fixed (parse : Bytes → List Call) (tools usage raw : Bool) (pl : Nat)
    (cs : List Chunk) (m : Bytes) (h : RunnerOK cs (.err m)) (hm : m.isEmpty = false) :
    ReportsOnce m (oaChatStreamV true usage (chatStream parse tools cs (.err m)))
    ∧ ReportsOnce m (oaCmplStreamV true usage (genStream raw pl cs (.err m))) := by
  cases h with
  | fail cs m hnd =>
    constructor
    · simp only [ReportsOnce, oaChatStreamV, ↓reduceIte, chatStream, chatChan, endItems]
      rw [oaChatStreamFixed_run usage _ m hm false]
      refine ⟨by simp, ?_, ?_⟩
      · rw [List.filter_append, oaChatStream_no_error]
        rfl
      · rw [oaDones_append, (openai_chat_stream_equiv usage _ false).2.2, msgsOf_map_msg,
          filter_done_quiet _ _ ((chatCallback_protocol parse tools [] 0).quiet cs hnd)]
        rfl
    · simp only [ReportsOnce, oaCmplStreamV, ↓reduceIte, genStream, genChan, endItems]
      rw [oaCmplStreamFixed_run usage _ m hm]
      refine ⟨by simp, ?_, ?_⟩
      · rw [List.filter_append, oaCmplStream_no_error]
        rfl
      · rw [oaDones_append, (openai_cmpl_stream_equiv usage _).2, msgsOf_map_msg,
          filter_done_quiet _ _ ((genCallback_protocol raw pl []).quiet cs hnd)]
        rfl

/-! ## Witnesses of the defects: F17a in /repo as it is, F17b–e in the un-repaired functions (all checked by the kernel) -/

def sA : Bytes := [97]      -- "a"
def sB : Bytes := [98]      -- "b"
def sObj : Bytes := [123, 125]  -- "{}"
def sHi : Bytes := [104, 105]   -- "hi"
def sBoom : Bytes := [98, 111, 111, 109]  -- "boom"

def callA : Call := ⟨sA, sObj, 0⟩
def callB : Call := ⟨sB, sObj, 0⟩

/-- `{"name":"a","arguments":{}}` -/
def pieceA : Bytes := [123, 34, 110, 97, 109, 101, 34, 58, 34, 97, 34, 44, 34, 97, 114, 103, 117, 109, 101, 110, 116, 115, 34, 58, 123, 125, 125]
/-- `{"name":"b",` -/
def pieceB1 : Bytes := [123, 34, 110, 97, 109, 101, 34, 58, 34, 98, 34, 44]
/-- `"arguments":{}}` -/
def pieceB2 : Bytes := [34, 97, 114, 103, 117, 109, 101, 110, 116, 115, 34, 58, 123, 125, 125]

/-- the values of the real `parseToolCalls` on the accumulated texts of the F17 run (the corpus contains
    this output, so the harness compares them) -/
def parseF17 (s : Bytes) : List Call :=
  if s = pieceA ++ pieceB1 then [callA]
  else if s = pieceA ++ pieceB1 ++ pieceB2 then [callA, callB]
  else if s = pieceA then [callA]
  else []

def nd (b : Bytes) : Chunk := ⟨b, false, 0, 0, 0⟩
def fin : Chunk := ⟨[], true, 0, 5, 7⟩

/-- **F17a**: the output `{"name":"a",…}{"name":"b",` | `"arguments":{}}` streams `[a]` and loses
    `b`; the same chunks with `stream:false` (and the unsplit output when streamed) give `[a,b]`. -/
theorem F17a_split_loses_call :
    ((msgsOf (chatStream parseF17 true [nd (pieceA ++ pieceB1), nd pieceB2, fin] .ok)).map (·.calls)).flatten = [callA]
    ∧ (chatOnce parseF17 true [nd (pieceA ++ pieceB1), nd pieceB2, fin] .ok).toOption.map (·.calls) = some [callA, callB]
    ∧ ((msgsOf (chatStream parseF17 true [nd (pieceA ++ pieceB1 ++ pieceB2), fin] .ok)).map (·.calls)).flatten
        = [callA, { callB with index := 1 }]
    ∧ ¬ PrefixStable parseF17 [nd (pieceA ++ pieceB1), nd pieceB2, fin] := by
  decide

/-- **F17b**: even on a split where the guard holds, the streamed calls are indexed 0,1 and the
    non-streamed ones 0,0. -/
theorem F17b_index_mismatch :
    ((msgsOf (chatStream parseF17 true [nd (pieceA ++ pieceB1 ++ pieceB2), fin] .ok)).map
        (fun m => m.calls.map (·.index))).flatten = [0, 1]
    ∧ (chatOnce parseF17 true [nd (pieceA ++ pieceB1 ++ pieceB2), fin] .ok).toOption.map
        (fun m => m.calls.map (·.index)) = some [0, 0]
    ∧ PrefixStable parseF17 [nd (pieceA ++ pieceB1 ++ pieceB2), fin] := by
  decide

/-- **F17c**: runner fails after one chunk: the native stream ends with the error, the OpenAI stream
    ends with an EMPTY delta chunk — no error object, no `[DONE]`. -/
theorem F17c_openai_stream_error_swallowed :
    chatStream parseF17 false [nd (sHi)] (.err (sBoom))
      = [.msg ⟨sHi, [], ⟨true, false, [], 0, 0⟩⟩, .err (sBoom)]
    ∧ oaChatStream true (chatStream parseF17 false [nd (sHi)] (.err (sBoom))) false
      = [.chunk (sHi) [] none, .chunk [] [] none] := by
  decide

/-- **F17d**: `Completion` returns nil without a done chunk: the native stream has no terminal item
    (and with tools the buffered text is never sent). -/
theorem F17d_silent_end_no_final :
    ¬ OneFinal (fun m : GenMsg => m.info.done) (genStream false 3 [nd (sHi)] .ok)
    ∧ chatStream parseF17 true [nd (sHi)] .ok = []
    ∧ (chatOnce parseF17 true [nd (sHi)] .ok).toOption.map (·.content) = some (sHi) := by
  decide

/-! ## Non-vacuity: the hypotheses are met by non-trivial concrete values -/

example : RunnerOK [nd ([72, 101, 108]), nd ([108, 111]), fin] .ok :=
  RunnerOK.done [nd ([72, 101, 108]), nd ([108, 111])] fin (by decide) rfl

example : RunnerOK [nd ([72, 101, 108])] (.err (sBoom)) := RunnerOK.fail _ _ (by decide)

example : SameOutput [nd ([72, 101, 108]), nd ([108, 111]), fin] [nd ([72]), nd ([101, 108, 108, 111]), nd [], fin]
    ∧ [nd ([72, 101, 108]), nd ([108, 111]), fin] ≠ [nd ([72]), nd ([101, 108, 108, 111]), nd [], fin] := by
  decide

example : NoneDone [nd pieceA, nd [], nd (pieceB1 ++ pieceB2)]
    ∧ ¬ PrefixStable parseF17 ([nd pieceA, nd [], nd (pieceB1 ++ pieceB2)] ++ [fin]) := by decide

/-- the guard of `tools_equiv_partial` holds on a split of a real tool-call output into three
    chunks, and the conclusion is about a non-empty call list -/
example : NoneDone [nd (pieceA ++ pieceB1 ++ pieceB2), nd []]
    ∧ PrefixStable parseF17 ([nd (pieceA ++ pieceB1 ++ pieceB2), nd []] ++ [fin])
    ∧ parseF17 (texts ([nd (pieceA ++ pieceB1 ++ pieceB2), nd []] ++ [fin])) = [callA, callB] := by
  decide

/-! ## The handlers end to end: every point at which the runner may fail -/

/-- the item sent for the message `m` the callback built -/
def genDoneItem (tf : Option Bytes) (raw : Bool) (m : GenMsg) : Item GenMsg :=
  match tf with
  | some e => if m.info.done && !raw then .err e else .msg m
  | none => .msg m

theorem genCallbackT_eq (tf : Option Bytes) (raw : Bool) (pl : Nat) (cs : List Chunk) (sb : Bytes) :
    genCallbackT tf raw pl cs sb = (genCallback raw pl cs sb).map (genDoneItem tf raw) := by
  induction cs generalizing sb with
  | nil => rfl
  | cons c cs ih =>
    simp only [genCallbackT, genCallback, List.map_cons, ih]
    cases tf <;> rfl

/-- Tokenize is only called on a done chunk of a non-raw request -/
theorem genDoneItem_msg (tf : Option Bytes) (raw : Bool) (m : GenMsg) (h : tf = none ∨ raw = true ∨ m.info.done = false) :
    genDoneItem tf raw m = .msg m := by
  rcases h with rfl | rfl | h
  · rfl
  · cases tf <;> simp [genDoneItem]
  · cases tf <;> simp [genDoneItem, h]

theorem genDoneItem_terminal (tf : Option Bytes) (raw : Bool) (m : GenMsg) (hm : m.info.done = true) :
    terminal (fun m : GenMsg => m.info.done) (genDoneItem tf raw m) = true := by
  unfold genDoneItem
  cases tf with
  | none => exact hm
  | some e => cases m.info.done && !raw <;> first | rfl | exact hm

theorem genCallbackT_msgs (tf : Option Bytes) (raw : Bool) (pl : Nat) (cs : List Chunk) (sb : Bytes)
    (h : tf = none ∨ raw = true) :
    genCallbackT tf raw pl cs sb = (genCallback raw pl cs sb).map Item.msg := by
  rw [genCallbackT_eq]
  exact List.map_congr_left fun m _ => genDoneItem_msg tf raw m (h.imp id Or.inl)

def chatMsgsV (v : Variant) (parse : Bytes → List Call) (buffered : Bool) (cs : List Chunk) : List ChatMsg :=
  if v.toolsStream && buffered then chatCallbackFixed parse cs [] 0 else chatCallback parse buffered cs [] 0

theorem chatItemsH_eq (v : Variant) (parse : Bytes → List Call) (buffered : Bool) (cs : List Chunk) (e : End) :
    chatItemsH v parse buffered cs e = (chatMsgsV v parse buffered cs).map Item.msg ++ endItemsV v.incomplete cs e := rfl

theorem chatMsgsV_protocol (v : Variant) (parse : Bytes → List Call) (buffered : Bool) :
    Protocol (·.info) (chatMsgsV v parse buffered) := by
  unfold chatMsgsV
  split
  · exact chatCallbackFixed_protocol parse [] 0
  · exact chatCallback_protocol parse buffered [] 0

theorem oneFinal_genItemsH (v : Variant) (f : Fault) (raw : Bool) (pl : Nat) {cs : List Chunk} {e : End}
    (h : RunnerOK cs e ∨ (v.incomplete = true ∧ NoneDone cs ∧ e = .ok)) :
    OneFinal (fun m : GenMsg => m.info.done) (genItemsH v f raw pl cs e) := by
  rw [genItemsH, genCallbackT_eq]
  exact oneFinal_sent (genCallback_protocol raw pl []) (genDoneItem f.ctxTok raw)
    (fun m hm => genDoneItem_msg _ _ m (.inr (.inr hm))) (genDoneItem_terminal _ _) h

theorem oneFinal_chatItemsH (v : Variant) (parse : Bytes → List Call) (buffered : Bool) {cs : List Chunk} {e : End}
    (h : RunnerOK cs e ∨ (v.incomplete = true ∧ NoneDone cs ∧ e = .ok)) :
    OneFinal (fun m : ChatMsg => m.info.done) (chatItemsH v parse buffered cs e) :=
  oneFinal_sent (chatMsgsV_protocol v parse buffered) Item.msg (fun _ _ => rfl) (fun _ hm => hm) h

/-- an error line is a terminal item -/
theorem errsOf_le_one {α : Type} {done : α → Bool} {items : List (Item α)} (h : OneFinal done items) :
    (errsOf items).length ≤ 1 := by
  rw [← h.1]
  clear h
  induction items with
  | nil => exact Nat.le_refl _
  | cons it rest ih =>
    cases it with
    | msg m => exact Nat.le_trans ih (by rw [List.filter_cons]; split <;> simp)
    | err e => exact Nat.succ_le_succ ih

/-- **one_final, every failure point (generate)**: whichever runner method fails (scheduler/load,
    Detokenize of a supplied context, Tokenize for the `context` field, Completion after k chunks),
    a streamed /api/generate is either ONE 500 error body or an NDJSON stream with exactly one
    terminal item (done message or error), which is last. -/
theorem one_final_generate_faults (v : Variant) (f : Fault) (raw hist : Bool) (pl : Nat) (cs : List Chunk) (e : End)
    (h : RunnerOK cs e) :
    match generateStreamH v f raw hist pl cs e with
    | .error _ => True
    | .ok items => OneFinal (fun m : GenMsg => m.info.done) items :=
  generateStreamH_all v f raw hist pl cs e (oneFinal_genItemsH v f raw pl (.inl h))

/-- **one_final, every failure point (chat)**, pinned or repaired tool path, with or without tools. -/
theorem one_final_chat_faults (v : Variant) (f : Fault) (parse : Bytes → List Call) (tools hist : Bool)
    (cs : List Chunk) (e : End) (h : RunnerOK cs e) :
    match chatStreamH v f parse tools hist cs e with
    | .error _ => True
    | .ok items => OneFinal (fun m : ChatMsg => m.info.done) items :=
  chatStreamH_all v f parse tools hist cs e (oneFinal_chatItemsH v parse tools (.inl h))

/-- the error a (streamed / non-streamed) reply reports -/
def streamError {α : Type} : Except Bytes (List (Item α)) → Option Bytes
  | .error m => some m
  | .ok items => (errsOf items).head?

def onceError {α : Type} : Except Bytes α → Option Bytes
  | .error m => some m
  | .ok _ => none

theorem generate_outcome_any (v : Variant) (f : Fault) (raw hasCtx : Bool) (pl : Nat) (cs : List Chunk) (e : End) :
    streamError (generateStreamH v f raw hasCtx pl cs e) = onceError (generateOnceH v f raw hasCtx pl cs e) := by
  unfold generateStreamH generateOnceH
  cases f.genPre hasCtx with
  | some m => rfl
  | none =>
    rw [streamError, onceLoop_eq]
    cases (errsOf (genItemsH v f raw pl cs e)).head? <;> rfl

theorem chat_outcome_any (v : Variant) (f : Fault) (parse : Bytes → List Call) (tools hist : Bool)
    (cs : List Chunk) (e : End) :
    streamError (chatStreamH v f parse tools hist cs e) = onceError (chatOnceH v f parse tools hist cs e) := by
  unfold chatStreamH chatOnceH
  cases f.chatPre hist with
  | some m => rfl
  | none =>
    -- the messages differ between the two requests (buffered or not), the error items do not
    have herr : ∀ b, errsOf (chatItemsH v parse b cs e) = errsOf (endItemsV v.incomplete cs e : List (Item ChatMsg)) :=
      fun b => by rw [chatItemsH_eq, errsOf_append, errsOf_map_msg]; rfl
    rw [streamError, onceLoop_eq, herr, herr]
    cases (errsOf (endItemsV v.incomplete cs e : List (Item ChatMsg))).head? with
    | some m => rfl
    | none => dsimp only; split <;> rfl

/-- **stream = non-stream in outcome, every failure point (generate)**: the non-streamed request
    fails with message `m` iff the streamed one reports exactly the error `m` (as a 500 body or as
    its only error line); in particular a Tokenize failure after the done chunk turns BOTH into the
    error (no done message is streamed: `one_final_generate_faults`). -/
theorem generate_outcome_equiv (v : Variant) (f : Fault) (raw hist : Bool) (pl : Nat) (cs : List Chunk) (e : End)
    (h : RunnerOK cs e) :
    streamError (generateStreamH v f raw hist pl cs e) = onceError (generateOnceH v f raw hist pl cs e)
    ∧ (match generateStreamH v f raw hist pl cs e with
       | .error _ => True
       | .ok items => (errsOf items).length ≤ 1) :=
  ⟨generate_outcome_any v f raw hist pl cs e,
    generateStreamH_all v f raw hist pl cs e (errsOf_le_one (oneFinal_genItemsH v f raw pl (.inl h)))⟩

/-- **stream = non-stream in outcome, every failure point (chat)**: `chat_outcome_any`, the shape of the run plays
    no role. -/
theorem chat_outcome_equiv (v : Variant) (f : Fault) (parse : Bytes → List Call) (tools hist : Bool)
    (cs : List Chunk) (e : End) (h : RunnerOK cs e) :
    streamError (chatStreamH v f parse tools hist cs e) = onceError (chatOnceH v f parse tools hist cs e) :=
  chat_outcome_any v f parse tools hist cs e

/-! ### F17d repaired (proposed_fixes/C17-F17d.patch): a run without a done chunk is reported -/

/-- with the repaired handlers, a run in which `Completion` returns nil without ever delivering a
    done chunk ends with exactly one error (`sIncomplete`) on the stream, and the non-streamed
    request fails with the same message (with `one_final_generate_faults`: every run whose chunks before the end
    are not done, `one_final_all`). -/
theorem one_final_generate_fixedD (v : Variant) (hv : v.incomplete = true) (f : Fault) (raw hist : Bool) (pl : Nat)
    (cs : List Chunk) (hnd : NoneDone cs) :
    (match generateStreamH v f raw hist pl cs .ok with
      | .error _ => True
      | .ok items => OneFinal (fun m : GenMsg => m.info.done) items ∧ items.getLast? = some (Item.err sIncomplete))
    ∧ streamError (generateStreamH v f raw hist pl cs .ok) = onceError (generateOnceH v f raw hist pl cs .ok) :=
  ⟨generateStreamH_all v f raw hist pl cs .ok ⟨oneFinal_genItemsH v f raw pl (.inr ⟨hv, hnd, rfl⟩), by
      rw [genItemsH, hv, endItemsV_silent cs hnd]; exact List.getLast?_concat⟩,
    generate_outcome_any v f raw hist pl cs .ok⟩

theorem one_final_chat_fixedD (v : Variant) (hv : v.incomplete = true) (f : Fault) (parse : Bytes → List Call)
    (tools hist : Bool) (cs : List Chunk) (hnd : NoneDone cs) :
    (match chatStreamH v f parse tools hist cs .ok with
      | .error _ => True
      | .ok items => OneFinal (fun m : ChatMsg => m.info.done) items ∧ items.getLast? = some (Item.err sIncomplete))
    ∧ streamError (chatStreamH v f parse tools hist cs .ok) = onceError (chatOnceH v f parse tools hist cs .ok) :=
  ⟨chatStreamH_all v f parse tools hist cs .ok ⟨oneFinal_chatItemsH v parse tools (.inr ⟨hv, hnd, rfl⟩), by
      rw [chatItemsH, hv, endItemsV_silent cs hnd]; exact List.getLast?_concat⟩,
    chat_outcome_any v f parse tools hist cs .ok⟩

/-- **a failing Tokenize after the done chunk**: a complete run whose `context` tokenization fails:
    stream = chunk, then the error (no done message); non-stream = the error. -/
theorem tokenize_failure_after_done :
    generateStreamH ⟨false, true, true, true⟩ (.tok sBoom) false false 3 [nd sHi, fin] .ok
      = .ok [.msg ⟨sHi, ⟨true, false, [], 0, 0⟩, none⟩, .err sBoom]
    ∧ generateOnceH ⟨false, true, true, true⟩ (.tok sBoom) false false 3 [nd sHi, fin] .ok = .error sBoom
    ∧ generateStreamH ⟨false, true, true, true⟩ (.tok sBoom) true false 3 [nd sHi, fin] .ok
      = .ok [.msg ⟨sHi, ⟨true, false, [], 0, 0⟩, none⟩, .msg ⟨[], ⟨true, true, sStop, 5, 7⟩, none⟩] :=
  ⟨rfl, rfl, rfl⟩

/-! ## `api.Client` sees what is on the wire -/

/-- **Through `api.Client` (generate)**: for a successful run the callback receives exactly the
    streamed messages and `Generate` returns nil, so client-side aggregation of the stream (concatenate
    `response`, keep the last message) equals the `stream:false` reply; for a failing run both
    `Generate` calls return the runner's error. -/
theorem client_generate_equiv (raw : Bool) (pl : Nat) (cs : List Chunk) :
    (let v := clientView (genStream raw pl cs .ok)
     v.2 = none ∧ genOnce raw pl cs .ok = .ok { lastOr default v.1 with resp := (v.1.map (·.resp)).flatten })
    ∧ ∀ m, m.isEmpty = false →
        (clientView (genStream raw pl cs (.err m))).2 = some m ∧ genOnce raw pl cs (.err m) = .error m := by
  constructor
  · have h : clientView (genStream raw pl cs .ok) = (genCallback raw pl cs [], none) := by
      simp only [genStream, genChan, endItems, List.append_nil]; exact client_view_msgs _
    have hst := msgsOf_genStream raw pl cs .ok
    have := (generate_equiv raw pl cs).1
    simp only [hst] at this
    simp only [h]
    exact ⟨trivial, this⟩
  · intro m hm
    refine ⟨?_, genOnce_err _ _ _ _⟩
    simp only [genStream, genChan, endItems]
    rw [client_view_err _ m [] hm]

/-- **Through `api.Client` (chat without tools)**. -/
theorem client_chat_equiv (parse : Bytes → List Call) (cs : List Chunk) :
    (let v := clientView (chatStream parse false cs .ok)
     v.2 = none ∧ chatOnce parse false cs .ok = .ok { lastOr default v.1 with content := (v.1.map (·.content)).flatten })
    ∧ ∀ (tools : Bool) (m : Bytes), m.isEmpty = false →
        (clientView (chatStream parse tools cs (.err m))).2 = some m ∧ chatOnce parse tools cs (.err m) = .error m := by
  constructor
  · have h : clientView (chatStream parse false cs .ok) = (chatCallback parse false cs [] 0, none) := by
      simp only [chatStream, chatChan, endItems, List.append_nil]; exact client_view_msgs _
    have hst := msgsOf_chatStream parse false cs .ok
    have := (chat_equiv parse cs).1
    simp only [hst] at this
    simp only [h]
    exact ⟨trivial, this⟩
  · intro tools m hm
    refine ⟨?_, chatOnce_err _ _ _ _⟩
    simp only [chatStream, chatChan, endItems]
    rw [client_view_err _ m [] hm]

/-! ## F17a/b repaired (proposed_fixes/C17-F17ab.patch): the tool path under the guard it actually needs -/

/-- **Guard: `parse` is monotone along the split** — the calls found in the text accumulated at
    any chunk boundary are a prefix of the calls found in the whole output. -/
def ParseMonotone (parse : Bytes → List Call) (cs : List Chunk) : Prop :=
  ∀ k, k < cs.length → parse (texts (cs.take (k + 1))) <+: parse (texts cs)

instance (parse : Bytes → List Call) (cs : List Chunk) : Decidable (ParseMonotone parse cs) := by
  unfold ParseMonotone; infer_instance

/-- `idx` calls were sent already; `P` names the calls of the whole output (so that the induction does not rewrite
    under `parse`); what is found at a boundary is a prefix of `P`, so what is still sent is `setIdx 0 P` without its
    first `idx` -/
theorem chatCallbackFixed_mono (parse : Bytes → List Call) (P : List Call) (init : List Chunk) (l : Chunk)
    (sb : Bytes) (idx : Nat) (hnd : NoneDone init) (hl : l.done = true) (hidx : idx ≤ P.length)
    (hP : parse (sb ++ texts (init ++ [l])) = P)
    (hg : ∀ k, k < (init ++ [l]).length → parse (sb ++ texts ((init ++ [l]).take (k + 1))) <+: P) (d : ChatMsg) :
    let ms := chatCallbackFixed parse (init ++ [l]) sb idx
    aggCalls ms = (setIdx 0 P).drop idx
    ∧ aggContent ms = (if P.isEmpty then sb ++ texts (init ++ [l]) else [])
    ∧ (lastOr d ms).info = chunkInfo l := by
  induction init generalizing sb idx d with
  | nil =>
    simp only [List.nil_append, texts_cons, texts_nil, List.append_nil] at hP ⊢
    by_cases hlt : idx < P.length
    · rw [chatCallbackFixed_cons_calls parse l [] sb idx (hP ▸ hlt), hP,
        List.isEmpty_eq_false_iff.mpr (List.ne_nil_of_length_pos (Nat.zero_lt_of_lt hlt))]
      exact ⟨aggCalls_single _, rfl, rfl⟩
    · -- all calls were sent already: `idx = P.length`, so `idx = 0` exactly when nothing parses
      have hle : P.length ≤ idx := Nat.not_lt.mp hlt
      rw [chatCallbackFixed_cons_done parse l [] sb idx (hP ▸ hle) hl]
      refine ⟨(List.drop_eq_nil_of_le (by rw [setIdx_length]; exact hle)).symm, ?_, rfl⟩
      rw [show chatCallbackFixed parse [] (sb ++ l.content) idx = [] from rfl, aggContent_single]
      cases P with
      | nil => rw [Nat.le_zero.mp hidx]; rfl
      | cons _ _ => rw [if_neg (by intro h; rw [beq_iff_eq] at h; subst h; cases hle)]; rfl
  | cons c cs ih =>
    have hdn : c.done = false := hnd.head
    have hnd' : NoneDone cs := hnd.tail
    obtain ⟨hQ, hg'⟩ := guard_shift (fun t _ => parse t <+: P) sb c (cs ++ [l]) hg
    have hP' : parse ((sb ++ c.content) ++ texts (cs ++ [l])) = P := by
      simpa [List.append_assoc] using hP
    simp only [List.cons_append, texts_cons, ← List.append_assoc sb]
    by_cases hlt : idx < (parse (sb ++ c.content)).length
    · obtain ⟨i1, i2, i3⟩ := ih (sb ++ c.content) _ hnd' hQ.length_le hP' hg'
        { content := [], calls := List.drop idx (setIdx 0 (parse (sb ++ c.content))), info := chunkInfo c }
      have hPne : P.isEmpty = false :=
        List.isEmpty_eq_false_iff.mpr (List.ne_nil_of_length_pos (Nat.zero_lt_of_lt (Nat.lt_of_lt_of_le hlt hQ.length_le)))
      rw [chatCallbackFixed_cons_calls parse c _ sb idx hlt, aggCalls_cons, aggContent_cons, i1, i2, hPne]
      refine ⟨?_, rfl, i3⟩
      rw [setIdx_prefix hQ]
      rw [← List.drop_append_of_le_length (by simp; omega), List.take_append_drop]
    · rw [chatCallbackFixed_cons_quiet parse c _ sb idx (Nat.not_lt.mp hlt) hdn]
      exact ih (sb ++ c.content) idx hnd' hidx hP' hg' d

/-- **F17a/b repaired, under monotonicity only**: with the patched handler, a protocol-respecting run
    on which `parse` is monotone streams exactly the `stream:false` reply — text, tool calls WITH
    their indices, reason and counts — whatever the split.  (`PrefixStable` is a special case; this guard
    also covers F17's own input, where a proper prefix parses.) -/
theorem tools_equiv_fixed_monotone (parse : Bytes → List Call) (init : List Chunk) (l : Chunk)
    (hnd : NoneDone init) (hl : l.done = true) (hg : ParseMonotone parse (init ++ [l])) :
    ∃ o, chatOnceV true parse true (init ++ [l]) .ok = .ok o
      ∧ aggContent (msgsOf (chatStreamV true parse true (init ++ [l]) .ok)) = o.content
      ∧ aggCalls (msgsOf (chatStreamV true parse true (init ++ [l]) .ok)) = o.calls
      ∧ (lastOr default (msgsOf (chatStreamV true parse true (init ++ [l]) .ok))).info = o.info := by
  have hst : msgsOf (chatStreamV true parse true (init ++ [l]) .ok) = chatCallbackFixed parse (init ++ [l]) [] 0 :=
    msgsOf_chan _ _
  obtain ⟨h1, h2, h3⟩ := chatCallbackFixed_mono parse _ init l [] 0 hnd hl (Nat.zero_le _) rfl
    (by intro k hk; simpa using hg k hk) default
  rw [hst]
  exact ⟨_, chatOnceV_tools_snoc parse init l, h2, h1, h3⟩

theorem parseMonotone_of_stable (parse : Bytes → List Call) (cs : List Chunk)
    (hg : ∀ k, k < cs.length → parse (texts (cs.take (k + 1))) ≠ [] → texts (cs.drop (k + 1)) = []) :
    ParseMonotone parse cs := by
  intro k hk
  by_cases h : parse (texts (cs.take (k + 1))) = []
  · rw [h]; exact List.nil_prefix
  · have := congrArg texts (List.take_append_drop (k + 1) cs)
    rw [texts_append, hg k hk h, List.append_nil] at this
    rw [this]; exact List.prefix_refl _

/-- **F17a/b repaired**: with the patched handler, under the protocol and the second half of the guard of
    `tools_equiv_partial`, the aggregated stream equals the `stream:false` reply INCLUDING the
    `index` fields (`parse [] = []` is not needed: the buffer is never reset). -/
theorem tools_equiv_fixed (parse : Bytes → List Call) (init : List Chunk) (l : Chunk)
    (hnd : NoneDone init) (hl : l.done = true)
    (hg : ∀ k, k < (init ++ [l]).length → parse (texts ((init ++ [l]).take (k + 1))) ≠ [] →
      texts ((init ++ [l]).drop (k + 1)) = []) :
    ∃ o, chatOnceV true parse true (init ++ [l]) .ok = .ok o
      ∧ aggContent (msgsOf (chatStreamV true parse true (init ++ [l]) .ok)) = o.content
      ∧ aggCalls (msgsOf (chatStreamV true parse true (init ++ [l]) .ok)) = o.calls
      ∧ (lastOr default (msgsOf (chatStreamV true parse true (init ++ [l]) .ok))).info = o.info :=
  tools_equiv_fixed_monotone parse init l hnd hl (parseMonotone_of_stable parse _ hg)

/-- **Streamed = non-streamed with tools, PARTIAL.**  If the runner follows its protocol (content
    chunks, then one done chunk) and `parse` is prefix-stable on the split, the aggregated stream
    (concatenated contents, concatenated tool calls, last message's reason and counts) equals the
    `stream:false` reply — the calls up to their `index` field: streamed calls are numbered from 0.
    What is missing for the full statement: without `PrefixStable` it is FALSE (`F17a_split_loses_call`), and
    the `index` fields agree only for at most one call (`tools_index`, `F17b_…`). -/
theorem tools_equiv_partial (parse : Bytes → List Call) (init : List Chunk) (l : Chunk)
    (hnd : NoneDone init) (hl : l.done = true) (hg : PrefixStable parse (init ++ [l])) :
    let st := msgsOf (chatStream parse true (init ++ [l]) .ok)
    ∃ o, chatOnce parse true (init ++ [l]) .ok = .ok o
      ∧ aggContent st = o.content
      ∧ (aggCalls st).map eraseIdx = o.calls.map eraseIdx
      ∧ aggCalls st = setIdx 0 o.calls
      ∧ (lastOr default st).info = o.info
      ∧ errsOf (chatStream parse true (init ++ [l]) .ok) = [] := by
  intro st
  -- under the guard /repo's tool path streams what the repaired one streams (`chatCallback_eq_fixed`)
  have hst : st = msgsOf (chatStreamV true parse true (init ++ [l]) .ok) :=
    (msgsOf_chatStream parse true _ .ok).trans
      ((chatCallback_eq_fixed parse hg.1 _ [] (by simpa using hg.2)).trans (msgsOf_chan _ .ok).symm)
  obtain ⟨o', ho', h1, h2, h3⟩ := tools_equiv_fixed parse init l hnd hl hg.2
  rw [hst]
  unfold chatOnceV at ho'
  cases ho : chatOnce parse true (init ++ [l]) .ok with
  | error x => rw [ho] at ho'; cases ho'
  | ok o =>
    rw [ho] at ho'
    cases ho'
    exact ⟨o, rfl, h1, by rw [h2]; exact setIdx_erase 0 _, h2, h3, errsOf_chan _ .ok⟩

/-- **The `index` fields**: streamed calls are numbered 0,1,2,…; the `stream:false` reply leaves
    every index at the parser's 0.  (So they agree iff there is at most one call.) -/
theorem tools_index (parse : Bytes → List Call) (hz : ∀ s, ∀ c ∈ parse s, c.index = 0)
    (init : List Chunk) (l : Chunk)
    (hnd : NoneDone init) (hl : l.done = true) (hg : PrefixStable parse (init ++ [l])) :
    ∃ o, chatOnce parse true (init ++ [l]) .ok = .ok o
      ∧ (aggCalls (msgsOf (chatStream parse true (init ++ [l]) .ok))).map (·.index) = List.range' 0 o.calls.length
      ∧ o.calls.map (·.index) = List.replicate o.calls.length 0 := by
  obtain ⟨o, ho, _, _, hc, _⟩ := tools_equiv_partial parse init l hnd hl hg
  refine ⟨o, ho, ?_, ?_⟩
  · rw [hc, setIdx_index]
  · rw [chatOnce_ok_snoc] at ho
    have : ∀ c ∈ o.calls, c.index = 0 := by
      split at ho
      · injection ho with ho; subst ho; exact hz _
      · injection ho with ho; subst ho; intro c hc; cases hc
    exact List.eq_replicate_iff.mpr ⟨by simp, by
      intro x hx
      obtain ⟨c, hc, rfl⟩ := List.mem_map.mp hx
      exact this c hc⟩

/-- the guard holds on F17's split (and `PrefixStable` does not) -/
example : ParseMonotone parseF17 [nd (pieceA ++ pieceB1), nd pieceB2, fin]
    ∧ ¬ PrefixStable parseF17 [nd (pieceA ++ pieceB1), nd pieceB2, fin] := by decide

/-- non-vacuity of the fault / repaired-variant theorems: a complete run with a failing Tokenize, and a
    silent end under the F17d repair, evaluated by the kernel -/
example : generateStreamH ⟨false, false, true, true⟩ .none false false 3 [nd sHi] .ok
      = .ok [.msg ⟨sHi, ⟨true, false, [], 0, 0⟩, none⟩, .err sIncomplete]
    ∧ generateOnceH ⟨false, false, true, true⟩ .none false false 3 [nd sHi] .ok = .error sIncomplete
    ∧ chatStreamH ⟨false, false, true, false⟩ (.tok sBoom) parseF17 false true [nd sHi, fin] .ok = .error sBoom
    ∧ chatStreamH ⟨false, false, true, false⟩ (.tok sBoom) parseF17 false false [nd sHi, fin] .ok
      = .ok [.msg ⟨sHi, [], ⟨true, false, [], 0, 0⟩⟩, .msg ⟨[], [], ⟨true, true, sStop, 5, 7⟩⟩] :=
  ⟨rfl, rfl, rfl, rfl⟩

/-! ## `api.Client` and the length of the lines -/

/-- **whatever the length, up to what the client's buffer holds**: if every line on the wire is
    shorter than the scanner limit, the limit plays no role — `client_generate_equiv` /
    `client_chat_equiv` (stated with `clientView`) apply to what `api.Client` does. -/
theorem client_view_fits {α : Type} [Inhabited α] (limit : Nat) (fixed : Bool) (l : List (Item α × Nat))
    (h : ∀ p ∈ l, p.2 < limit) : clientViewL limit fixed l = clientView (l.map (·.1)) := by
  induction l with
  | nil => rfl
  | cons p rest ih =>
    obtain ⟨it, n⟩ := p
    have hn : ¬ limit ≤ n := by have := h (it, n) (by simp); simp at this; omega
    have ih' := ih (fun q hq => h q (by simp [hq]))
    cases it with
    | msg m => simp [clientViewL, clientView, hn, ih']
    | err e => simp [clientViewL, clientView, hn, ih']

/-- **F17e as a theorem of the pinned client, and its repair**: at the first line of `limit` bytes or
    more the client stops; the messages before it were delivered, that line and EVERYTHING after it
    (a final done message included) are not; pinned: nil is returned (no final message, no error);
    repaired (C17-F17e.patch): the scanner's error is returned. -/
theorem client_long_line {α : Type} [Inhabited α] (limit : Nat) (fixed : Bool) (pre : List (α × Nat))
    (hpre : ∀ p ∈ pre, p.2 < limit) (it : Item α) (n : Nat) (rest : List (Item α × Nat)) (hn : limit ≤ n) :
    clientViewL limit fixed (pre.map (fun p => (Item.msg p.1, p.2)) ++ (it, n) :: rest)
      = (pre.map (·.1), if fixed then some sTooLong else none) := by
  induction pre with
  | nil => simp [clientViewL, hn]
  | cons p ps ih =>
    have hp : ¬ limit ≤ p.2 := by have := hpre p (by simp); omega
    have ih' := ih (fun q hq => hpre q (by simp [hq]))
    simp [clientViewL, hp, ih']

/-- witness: a 513093-byte reply line (a 513000-byte output) with the unchanged 512000-byte buffer -/
theorem F17e_client_drops_long_reply :
    clientViewL 512000 false [(Item.msg (default : GenMsg), 513093), (Item.msg (default : GenMsg), 120)] = ([], none)
    ∧ clientViewL 512000 true [(Item.msg (default : GenMsg), 513093), (Item.msg (default : GenMsg), 120)]
        = ([], some sTooLong)
    ∧ clientViewL 512000 false [(Item.msg (default : GenMsg), 511999), (Item.msg (default : GenMsg), 120)]
        = ([default, default], none) := ⟨rfl, rfl, rfl⟩

/-! ## the streaming tool path, exactly (no guard) -/

/-- what the pinned streaming tool path extracts from a chunk list: the builder is parsed at every
    chunk and RESET when it parses — a greedy segmentation of the output at chunk boundaries -/
def greedyCalls (parse : Bytes → List Call) : List Chunk → Bytes → List Call
  | [], _ => []
  | c :: cs, sb =>
    if (parse (sb ++ c.content)).isEmpty then greedyCalls parse cs (sb ++ c.content)
    else parse (sb ++ c.content) ++ greedyCalls parse cs []

theorem greedyCalls_cons_nil (parse : Bytes → List Call) (c : Chunk) (cs : List Chunk) (sb : Bytes)
    (h : parse (sb ++ c.content) = []) : greedyCalls parse (c :: cs) sb = greedyCalls parse cs (sb ++ c.content) := by
  rw [greedyCalls, h]; rfl

theorem greedyCalls_cons_calls (parse : Bytes → List Call) (c : Chunk) (cs : List Chunk) (sb : Bytes)
    (h : parse (sb ++ c.content) ≠ []) :
    greedyCalls parse (c :: cs) sb = parse (sb ++ c.content) ++ greedyCalls parse cs [] := by
  rw [greedyCalls, if_neg (by rw [List.isEmpty_iff]; exact h)]

/-- **the calls of the streaming tool path, for EVERY chunk list** (no protocol, no guard) -/
theorem chatCallback_calls_exact (parse : Bytes → List Call) (cs : List Chunk) (sb : Bytes) (idx : Nat) :
    aggCalls (chatCallback parse true cs sb idx) = setIdx idx (greedyCalls parse cs sb) := by
  induction cs generalizing sb idx with
  | nil => rfl
  | cons c cs ih =>
    by_cases h : parse (sb ++ c.content) = []
    · rw [greedyCalls_cons_nil parse c cs sb h]
      cases hd : c.done
      · rw [chatCallback_cons_quiet parse c cs sb idx h hd, ih]
      · rw [chatCallback_cons_done parse c cs sb idx h hd, aggCalls_cons, ih]; rfl
    · rw [greedyCalls_cons_calls parse c cs sb h, chatCallback_cons_calls parse c cs sb idx h, aggCalls_cons, ih,
        setIdx_append]

/-- **streamed `index` fields, every chunk list, every ending**: the calls of a streamed reply are
    numbered 0,1,…,n-1 in the order they are sent — whatever the split, with or without the runner
    protocol, with or without `PrefixStable`. -/
theorem tools_index_all (parse : Bytes → List Call) (cs : List Chunk) (e : End) :
    (aggCalls (msgsOf (chatStream parse true cs e))).map (·.index)
      = List.range' 0 (aggCalls (msgsOf (chatStream parse true cs e))).length := by
  rw [msgsOf_chatStream, chatCallback_calls_exact, setIdx_index, setIdx_length]

/-- content is sent by the done chunk only, and the builder only while no call was ever found (`idx = 0`) -/
theorem chatCallback_content_exact (parse : Bytes → List Call) (init : List Chunk) (l : Chunk) (sb : Bytes) (idx : Nat)
    (hnd : NoneDone init) (hl : l.done = true) (hlc : l.content = []) :
    aggContent (chatCallback parse true (init ++ [l]) sb idx)
      = if idx == 0 && (greedyCalls parse (init ++ [l]) sb).isEmpty then sb ++ texts init else [] := by
  induction init generalizing sb idx with
  | nil =>
    by_cases h : parse (sb ++ l.content) = []
    · rw [List.nil_append, chatCallback_cons_done parse l [] sb idx h hl, greedyCalls_cons_nil parse l [] sb h,
        show chatCallback parse true [] (sb ++ l.content) idx = [] from rfl, aggContent_single, hlc]
      cases idx <;> simp [greedyCalls]
    · rw [List.nil_append, chatCallback_cons_calls parse l [] sb idx h, greedyCalls_cons_calls parse l [] sb h,
        List.isEmpty_eq_false_iff.mpr (List.append_ne_nil_of_left_ne_nil h _), Bool.and_false]; rfl
  | cons c cs ih =>
    have hd : c.done = false := hnd.head
    have hnd' : NoneDone cs := hnd.tail
    by_cases h : parse (sb ++ c.content) = []
    · rw [List.cons_append, chatCallback_cons_quiet parse c _ sb idx h hd, greedyCalls_cons_nil parse c _ sb h,
        texts_cons, ← List.append_assoc]
      exact ih (sb ++ c.content) idx hnd'
    · have hz : (idx + (parse (sb ++ c.content)).length == 0) = false :=
        beq_false_of_ne (Nat.ne_of_gt (Nat.lt_of_lt_of_le (List.length_pos_iff.mpr h) (Nat.le_add_left _ _)))
      rw [List.cons_append, chatCallback_cons_calls parse c _ sb idx h, greedyCalls_cons_calls parse c _ sb h,
        aggContent_cons, ih [] _ hnd', hz, List.isEmpty_eq_false_iff.mpr (List.append_ne_nil_of_left_ne_nil h _),
        Bool.and_false]
      rfl

theorem chatStreamH_tools (v : Variant) (hv : v.toolsStream = false) (parse : Bytes → List Call) (hist : Bool)
    (init : List Chunk) (l : Chunk) (hnd : NoneDone init) (hl : l.done = true) :
    ∃ pre m, chatStreamH v .none parse true hist (init ++ [l]) .ok = .ok ((pre ++ [m]).map Item.msg)
      ∧ chatCallback parse true (init ++ [l]) [] 0 = pre ++ [m]
      ∧ (∀ x ∈ pre, Quiet x.info) ∧ m.info = chunkInfo l
      ∧ aggCalls (pre ++ [m]) = setIdx 0 (greedyCalls parse (init ++ [l]) []) := by
  obtain ⟨pre, m, e1, hq, hi⟩ := (chatCallback_protocol parse true [] 0).final init l hnd hl
  refine ⟨pre, m, ?_, e1, hq, hi, by rw [← e1]; exact chatCallback_calls_exact parse _ [] 0⟩
  simp [chatStreamH, Fault.chatPre, chatItemsH, hv, endItemsV, sawDone_snoc init l hl, e1]

/-- **Streamed = non-streamed with tools, EXACTLY (the tree as it is: F17b repaired, F17a present).**
    For a protocol-respecting run whose final message is empty (what the real runner sends), whatever the
    parser: the aggregated stream — concatenated contents,
    concatenated tool calls WITH their indices, last message's reason and counts — equals the
    `stream:false` reply IF AND ONLY IF the greedy segmentation of the output at the chunk boundaries
    finds the same calls as one parse of the whole output.  `PrefixStable` is one sufficient condition
    (`tools_equiv_partial`); F17a is exactly the failure of the right-hand side. -/
theorem tools_equiv_iff (v : Variant) (hv : v.toolsStream = false) (hi : v.toolsIndex = true)
    (parse : Bytes → List Call) (hist : Bool) (init : List Chunk) (l : Chunk)
    (hnd : NoneDone init) (hl : l.done = true) (hlc : l.content = []) :
    ∃ o st, chatOnceH v .none parse true hist (init ++ [l]) .ok = .ok o
      ∧ chatStreamH v .none parse true hist (init ++ [l]) .ok = .ok (st.map Item.msg)
      ∧ (lastOr default st).info = o.info
      ∧ ((aggContent st = o.content ∧ aggCalls st = o.calls)
          ↔ (greedyCalls parse (init ++ [l]) []).map eraseIdx = (parse (texts (init ++ [l]))).map eraseIdx) := by
  have hte : texts (init ++ [l]) = texts init := by simp [texts_append, hlc]
  obtain ⟨pre, m, hstream, e1, _, hinfo, c3⟩ := chatStreamH_tools v hv parse hist init l hnd hl
  have c1 := e1 ▸ chatCallback_content_exact parse init l [] 0 hnd hl hlc
  refine ⟨_, pre ++ [m], chatOnceH_tools_snoc v hi parse hist init l hl, hstream,
    by rw [lastOr_append_singleton]; exact hinfo, ?_⟩
  rw [c1, c3]
  constructor
  · rintro ⟨_, h2⟩
    have := congrArg (List.map eraseIdx) h2
    rwa [setIdx_erase, setIdx_erase] at this
  · intro hg
    exact ⟨by rw [isEmpty_eq_of_map_eq hg, hte]; rfl, setIdx_congr 0 _ _ hg⟩

/-- non-vacuity / both directions on concrete runs: F17a's split makes the right-hand side false, the
    unsplit output makes it true -/
example : (greedyCalls parseF17 [nd (pieceA ++ pieceB1), nd pieceB2, fin] []).map eraseIdx
        ≠ (parseF17 (texts [nd (pieceA ++ pieceB1), nd pieceB2, fin])).map eraseIdx
    ∧ (greedyCalls parseF17 [nd (pieceA ++ pieceB1 ++ pieceB2), fin] []).map eraseIdx
        = (parseF17 (texts [nd (pieceA ++ pieceB1 ++ pieceB2), fin])).map eraseIdx
    ∧ greedyCalls parseF17 [nd (pieceA ++ pieceB1 ++ pieceB2), fin] [] = [callA, callB] := by decide

/-! ## finish_reason and usage on the OpenAI streaming endpoints -/

def OaEv.finish? : OaEv → Option (Option Bytes)
  | .chunk _ _ f => some f
  | .tchunk _ f _ => some f
  | _ => none

def OaEv.usage? : OaEv → Option Usage
  | .usage u => some u
  | _ => none

def oaFinishes (evs : List OaEv) : List (Option Bytes) := evs.filterMap OaEv.finish?
def oaUsages (evs : List OaEv) : List Usage := evs.filterMap OaEv.usage?

theorem oaFinishes_append (a b : List OaEv) : oaFinishes (a ++ b) = oaFinishes a ++ oaFinishes b := by
  simp [oaFinishes, List.filterMap_append]
theorem oaUsages_append (a b : List OaEv) : oaUsages (a ++ b) = oaUsages a ++ oaUsages b := by
  simp [oaUsages, List.filterMap_append]

theorem oaTail_finishes (u : Bool) (m : Info) : oaFinishes (oaTail u m) = [] := by
  cases u <;> rfl
theorem oaTail_usages (u : Bool) (m : Info) : oaUsages (oaTail u m) = if u then [usageOf m] else [] := by
  cases u <;> rfl

theorem oaFinishes_cons_chunk (c : Bytes) (cs : List Call) (f : Option Bytes) (evs : List OaEv) :
    oaFinishes (OaEv.chunk c cs f :: evs) = f :: oaFinishes evs := rfl
theorem oaFinishes_cons_tchunk (t : Bytes) (f : Option Bytes) (u : Option Usage) (evs : List OaEv) :
    oaFinishes (OaEv.tchunk t f u :: evs) = f :: oaFinishes evs := rfl
theorem oaUsages_cons_chunk (c : Bytes) (cs : List Call) (f : Option Bytes) (evs : List OaEv) :
    oaUsages (OaEv.chunk c cs f :: evs) = oaUsages evs := rfl
theorem oaUsages_cons_tchunk (t : Bytes) (f : Option Bytes) (u : Option Usage) (evs : List OaEv) :
    oaUsages (OaEv.tchunk t f u :: evs) = oaUsages evs := rfl

theorem oaChatStream_protocol (usage : Bool) (pre : List ChatMsg) (m : ChatMsg) (sent : Bool)
    (hq : ∀ x ∈ pre, Quiet x.info) (hd : m.info.done = true) :
    oaFinishes (oaChatStream usage ((pre ++ [m]).map Item.msg) sent)
      = List.replicate pre.length none
        ++ [if m.info.reason.isEmpty then none
            else if sent || !(aggCalls pre).isEmpty then some sToolCalls else some m.info.reason]
    ∧ oaUsages (oaChatStream usage ((pre ++ [m]).map Item.msg) sent) = (if usage then [usageOf m.info] else [])
    ∧ oaDones (oaChatStream usage ((pre ++ [m]).map Item.msg) sent) = 1
    ∧ (oaChatStream usage ((pre ++ [m]).map Item.msg) sent).getLast? = some OaEv.done := by
  induction pre generalizing sent with
  | nil =>
    rw [List.nil_append, List.map_cons, oaChatStream_cons_final usage m _ sent hd, oaFinishes_cons_chunk,
      oaUsages_cons_chunk, oaFinishes_append, oaUsages_append, oaTail_finishes, oaTail_usages]
    exact ⟨by cases sent <;> rfl, List.append_nil _, by cases usage <;> rfl, by cases usage <;> rfl⟩
  | cons x xs ih =>
    obtain ⟨i1, i2, i3, i4⟩ := ih (sent || !x.calls.isEmpty) (fun y hy => hq y (List.mem_cons_of_mem x hy))
    rw [List.cons_append, List.map_cons, oaChatStream_cons_quiet usage x _ sent (hq x List.mem_cons_self),
      oaFinishes_cons_chunk, oaUsages_cons_chunk, i1, aggCalls_cons, ← or_not_isEmpty_append]
    exact ⟨rfl, i2, i3, getLast?_cons_some i4⟩

theorem oaCmplStream_protocol (usage : Bool) (pre : List GenMsg) (m : GenMsg)
    (hq : ∀ x ∈ pre, Quiet x.info) (hd : m.info.done = true) :
    oaFinishes (oaCmplStream usage ((pre ++ [m]).map Item.msg))
      = List.replicate pre.length none ++ [nonEmpty? m.info.reason]
    ∧ oaUsages (oaCmplStream usage ((pre ++ [m]).map Item.msg)) = (if usage then [usageOf m.info] else [])
    ∧ oaDones (oaCmplStream usage ((pre ++ [m]).map Item.msg)) = 1
    ∧ (oaCmplStream usage ((pre ++ [m]).map Item.msg)).getLast? = some OaEv.done := by
  induction pre with
  | nil =>
    rw [List.nil_append, List.map_cons, oaCmplStream_cons_final usage m _ hd, oaFinishes_cons_tchunk,
      oaUsages_cons_tchunk, oaFinishes_append, oaUsages_append, oaTail_finishes, oaTail_usages]
    exact ⟨rfl, List.append_nil _, by cases usage <;> rfl, by cases usage <;> rfl⟩
  | cons x xs ih =>
    obtain ⟨i1, i2, i3, i4⟩ := ih (fun y hy => hq y (List.mem_cons_of_mem x hy))
    rw [List.cons_append, List.map_cons, oaCmplStream_cons_quiet usage x _ (hq x List.mem_cons_self),
      oaFinishes_cons_tchunk, oaUsages_cons_tchunk, i1]
    exact ⟨rfl, i2, i3, getLast?_cons_some i4⟩

/-- **finish_reason and usage of a streamed /v1/chat/completions.**  For every protocol-respecting
    successful run (every split, with or without tools): every delta but the last has
    `finish_reason: null`; the last one carries `tool_calls` if an EARLIER delta carried tool calls,
    otherwise the native `done_reason` (null when that is empty); with `include_usage` exactly one usage
    chunk follows, holding the final message's counts — the figures the non-streamed reply reports
    (`openai_once_equiv`); without it there is none. -/
theorem openai_chat_stream_finish_usage (parse : Bytes → List Call) (tools usage : Bool) (cs : List Chunk)
    (h : RunnerOK cs .ok) :
    ∃ (pre : List ChatMsg) (m : ChatMsg), msgsOf (chatStream parse tools cs .ok) = pre ++ [m] ∧ m.info.done = true
      ∧ oaFinishes (oaChatStream usage (chatStream parse tools cs .ok) false)
          = List.replicate pre.length none
            ++ [if m.info.reason.isEmpty then none else if (aggCalls pre).isEmpty then some m.info.reason else some sToolCalls]
      ∧ oaUsages (oaChatStream usage (chatStream parse tools cs .ok) false) = (if usage then [usageOf m.info] else []) := by
  obtain ⟨pre, m, hs, hq, hdone⟩ := chatStream_ok parse tools h
  obtain ⟨p1, p2, _⟩ := oaChatStream_protocol usage pre m false hq hdone
  refine ⟨pre, m, by rw [hs, msgsOf_map_msg], hdone, ?_, by rw [hs, p2]⟩
  rw [hs, p1, Bool.false_or]
  cases (aggCalls pre).isEmpty <;> rfl

/-- **finish_reason and usage of a streamed /v1/completions**: every text chunk but the last has
    `finish_reason: null`, the last one the native `done_reason`; one usage chunk with the final counts
    iff `include_usage`. -/
theorem openai_cmpl_stream_finish_usage (raw usage : Bool) (pl : Nat) (cs : List Chunk) (h : RunnerOK cs .ok) :
    ∃ (pre : List GenMsg) (m : GenMsg), msgsOf (genStream raw pl cs .ok) = pre ++ [m] ∧ m.info.done = true
      ∧ oaFinishes (oaCmplStream usage (genStream raw pl cs .ok)) = List.replicate pre.length none ++ [nonEmpty? m.info.reason]
      ∧ oaUsages (oaCmplStream usage (genStream raw pl cs .ok)) = (if usage then [usageOf m.info] else []) := by
  obtain ⟨pre, m, hs, hq, hdone⟩ := genStream_ok raw pl h
  obtain ⟨p1, p2, _⟩ := oaCmplStream_protocol usage pre m hq hdone
  exact ⟨pre, m, by rw [hs, msgsOf_map_msg], hdone, by rw [hs, p1], by rw [hs, p2]⟩

/-- **A successful run ends, on the OpenAI streaming endpoints, with exactly one `[DONE]`** which is
    the last event (preceded by the usage chunk when `include_usage` is set). -/
theorem openai_stream_one_done (parse : Bytes → List Call) (tools usage raw : Bool) (pl : Nat)
    (cs : List Chunk) (h : RunnerOK cs .ok) :
    (oaDones (oaChatStream usage (chatStream parse tools cs .ok) false) = 1
      ∧ (oaChatStream usage (chatStream parse tools cs .ok) false).getLast? = some OaEv.done)
    ∧ (oaDones (oaCmplStream usage (genStream raw pl cs .ok)) = 1
      ∧ (oaCmplStream usage (genStream raw pl cs .ok)).getLast? = some OaEv.done) := by
  obtain ⟨pre, m, hs, hq, hdone⟩ := chatStream_ok parse tools h
  obtain ⟨pre', m', hs', hq', hdone'⟩ := genStream_ok raw pl h
  rw [hs, hs']
  exact ⟨(oaChatStream_protocol usage pre m false hq hdone).2.2, (oaCmplStream_protocol usage pre' m' hq' hdone').2.2⟩

/-! ## the handler level (`*H`, every variant) coincides with the base functions on protocol runs -/

/-- **the end-to-end handler models reduce to the base functions** (about which `generate_equiv`,
    `generate_resplit`, `chat_equiv`, `chat_resplit`, `openai_*`, `client_*` are stated) on every
    protocol-respecting run in which no fault fires — for EVERY variant (the F17d repair only adds an item
    to runs that end without a done chunk, which `RunnerOK` excludes). -/
theorem handlers_eq_base (v : Variant) (f : Fault) (raw hasCtx : Bool) (pl : Nat) (parse : Bytes → List Call)
    (tools hist : Bool) (cs : List Chunk) (e : End) (h : RunnerOK cs e) :
    (f.genPre hasCtx = none → (f.ctxTok = none ∨ raw = true) →
      generateStreamH v f raw hasCtx pl cs e = .ok (genStream raw pl cs e)
      ∧ generateOnceH v f raw hasCtx pl cs e = genOnce raw pl cs e)
    ∧ (f.chatPre hist = none → (v.toolsStream && tools) = false →
      chatStreamH v f parse tools hist cs e = .ok (chatStream parse tools cs e)
      ∧ chatOnceH v f parse tools hist cs e = chatOnceV v.toolsIndex parse tools cs e) := by
  constructor
  · intro hp hq
    have hcb := genCallbackT_msgs f.ctxTok raw pl cs [] hq
    simp only [generateStreamH, generateOnceH, hp, genItemsH, hcb, endItemsV_runnerOK _ h]
    exact ⟨rfl, rfl⟩
  · intro hp hv
    refine ⟨?_, chatOnceH_eq_base v f parse tools hist cs e hp (endItemsV_runnerOK _ h)⟩
    simp only [chatStreamH, hp, chatItemsH, hv, Bool.false_eq_true, ↓reduceIte, endItemsV_runnerOK _ h]
    rfl

/-! ## through `api.Client`, every reply ends with exactly one final message or one error -/

/-- number of terminal events a caller of `api.Client.Generate/Chat` observes: final (done) messages
    delivered to its callback + the returned error -/
def clientTerminals {α : Type} (done : α → Bool) (v : List α × Option Bytes) : Nat :=
  (v.1.filter done).length + (if v.2.isSome then 1 else 0)

theorem nonterminal_msgs {α : Type} (done : α → Bool) (items : List (Item α))
    (h : ∀ it ∈ items, terminal done it = false) :
    items = (msgsOf items).map Item.msg ∧ ∀ m ∈ msgsOf items, done m = false := by
  refine ⟨eq_map_msgsOf items (List.filterMap_eq_nil_iff.mpr fun it hit => ?_), fun m hm => ?_⟩
  · cases it with
    | msg _ => rfl
    | err e => cases h _ hit
  · obtain ⟨it, hit, hm⟩ := List.mem_filterMap.mp hm
    cases it with
    | msg x => cases hm; exact h _ hit
    | err e => cases hm

theorem oneFinal_shape {α : Type} (done : α → Bool) (items : List (Item α)) (h : OneFinal done items) :
    ∃ (pre : List α) (t : Item α), items = pre.map Item.msg ++ [t] ∧ (∀ m ∈ pre, done m = false)
      ∧ terminal done t = true := by
  obtain ⟨h1, h2⟩ := h
  rcases List.eq_nil_or_concat items with rfl | ⟨init, t, rfl⟩
  · cases h2
  · rw [List.concat_eq_append] at h1 h2 ⊢
    have ht : terminal done t = true := by simpa using h2
    rw [List.filter_append, List.length_append, List.filter_cons_of_pos ht] at h1
    have h0 : init.filter (terminal done) = [] := List.length_eq_zero_iff.mp (Nat.succ.inj h1)
    obtain ⟨e1, e2⟩ := nonterminal_msgs done init fun it hit =>
      Bool.eq_false_iff.mpr fun hc => absurd (List.mem_filter.mpr ⟨hit, hc⟩) (by rw [h0]; exact List.not_mem_nil)
    exact ⟨msgsOf init, t, by rw [← e1], e2, ht⟩

/-- **through `api.Client`**: if the wire carries exactly one terminal item, last (`one_final_*`), its
    error lines are not the empty string and every line is shorter than the scanner limit
    (`client_view_fits`), then the caller observes exactly one terminal event — one final message
    delivered and nil returned, or no final message and that error returned — and every message on the
    wire was delivered. -/
theorem client_one_final {α : Type} [Inhabited α] (done : α → Bool) (items : List (Item α))
    (h : OneFinal done items) (hne : ∀ e ∈ errsOf items, e.isEmpty = false) :
    clientTerminals done (clientView items) = 1
    ∧ (clientView items).1 = msgsOf items
    ∧ (clientView items).2 = (errsOf items).head? := by
  obtain ⟨pre, t, rfl, hpre, ht⟩ := oneFinal_shape done items h
  cases t with
  | msg m =>
    have hv : clientView (pre.map Item.msg ++ [Item.msg m]) = (pre ++ [m], none) := by
      have := client_view_msgs (pre ++ [m])
      simpa using this
    have hd : done m = true := by simpa [terminal] using ht
    rw [hv]
    refine ⟨?_, by rw [msgsOf_append, msgsOf_map_msg]; rfl, by rw [errsOf_append, errsOf_map_msg]; rfl⟩
    simp [clientTerminals, List.filter_append, filter_done_nonfinal done pre hpre, hd]
  | err e =>
    have he : e.isEmpty = false := hne e (by rw [errsOf_append, errsOf_map_msg]; simp [errsOf, Item.err?])
    rw [client_view_err pre e [] he]
    refine ⟨?_, by rw [msgsOf_append, msgsOf_map_msg]; simp [msgsOf, Item.msg?], by rw [errsOf_append, errsOf_map_msg]; rfl⟩
    simp [clientTerminals, filter_done_nonfinal done pre hpre]

/-! ## the headline clauses on the handlers and writers the tree runs -/

/-- the writers with the F17c repair (`oaErr = true`, in /repo) coincide with the pinned ones on a stream
    without error lines — so the completions theorems are about the writer the tree runs.  For chat the tree
    runs `oaChatStreamFF`: text, calls, usage, `[DONE]` carry over (`oaChatStreamFF_erase`), the
    `finish_reason` clause of `openai_chat_stream_finish_usage` does not (see `openai_finish_agree_FF`). -/
theorem oaStreamFixed_eq_pinned (usage : Bool) :
    (∀ (ms : List ChatMsg) (sent : Bool),
      oaChatStreamFixed usage (ms.map Item.msg) sent = oaChatStream usage (ms.map Item.msg) sent)
    ∧ (∀ ms : List GenMsg, oaCmplStreamFixed usage (ms.map Item.msg) = oaCmplStream usage (ms.map Item.msg)) := by
  constructor
  · intro ms
    induction ms with
    | nil => intro sent; rfl
    | cons x xs ih =>
      intro sent
      simp only [List.map_cons, oaChatStreamFixed, ih]
      exact (oaChatStream_single_append usage x (xs.map Item.msg) sent).symm
  · intro ms
    induction ms with
    | nil => rfl
    | cons x xs ih =>
      simp only [List.map_cons, oaCmplStreamFixed, ih]
      simp [oaCmplStream, asGen]

theorem oaStreamV_eq_pinned (fixed usage : Bool) :
    (∀ ms : List ChatMsg, oaChatStreamV fixed usage (ms.map Item.msg) = oaChatStream usage (ms.map Item.msg) false)
    ∧ (∀ ms : List GenMsg, oaCmplStreamV fixed usage (ms.map Item.msg) = oaCmplStream usage (ms.map Item.msg)) := by
  obtain ⟨h1, h2⟩ := oaStreamFixed_eq_pinned usage
  constructor
  · intro ms; cases fixed <;> simp [oaChatStreamV, h1]
  · intro ms; cases fixed <;> simp [oaCmplStreamV, h2]

/-- **Stream concatenation = non-stream reply, on the tree's handlers (generate).**  For EVERY variant
    and every protocol-respecting successful run (every split of every output): the `stream:false` reply
    of `generateOnceH` is the last message of `generateStreamH`'s stream with `response` := the
    concatenation of all streamed `response`s (so reason, counts and `context` are the last message's);
    that concatenation is the output; no error line. -/
theorem generate_equiv_H (v : Variant) (raw hasCtx : Bool) (pl : Nat) (cs : List Chunk) (h : RunnerOK cs .ok) :
    ∃ items, generateStreamH v .none raw hasCtx pl cs .ok = .ok items
      ∧ generateOnceH v .none raw hasCtx pl cs .ok
          = .ok { lastOr default (msgsOf items) with resp := ((msgsOf items).map (·.resp)).flatten }
      ∧ ((msgsOf items).map (·.resp)).flatten = texts cs
      ∧ errsOf items = [] := by
  obtain ⟨h1, h2⟩ := (handlers_eq_base v .none raw hasCtx pl (fun _ => []) false false cs .ok h).1 rfl (Or.inl rfl)
  obtain ⟨e1, e2, e3⟩ := generate_equiv raw pl cs
  exact ⟨_, h1, by rw [h2]; exact e1, e2, e3⟩

/-- **… (chat without tools), on the tree's handlers.** -/
theorem chat_equiv_H (v : Variant) (parse : Bytes → List Call) (hist : Bool) (cs : List Chunk) (h : RunnerOK cs .ok) :
    ∃ items, chatStreamH v .none parse false hist cs .ok = .ok items
      ∧ chatOnceH v .none parse false hist cs .ok
          = .ok { lastOr default (msgsOf items) with content := ((msgsOf items).map (·.content)).flatten }
      ∧ ((msgsOf items).map (·.content)).flatten = texts cs
      ∧ (∀ m ∈ msgsOf items, m.calls = [])
      ∧ errsOf items = [] := by
  obtain ⟨h1, h2⟩ := (handlers_eq_base v .none false false 0 parse false hist cs .ok h).2 rfl (by simp)
  obtain ⟨e1, e2, e3, e4⟩ := chat_equiv parse cs
  refine ⟨_, h1, ?_, e2, e3, e4⟩
  rw [h2]
  unfold chatOnceV
  rw [e1]
  have hc := lastOr_calls_nil _ e3
  cases v.toolsIndex
  · rfl
  · simp [hc, setIdx]

/-- **the OpenAI streaming endpoints carry the native content, on the tree's handlers** (chat writer: the one before
    F17f, which differs in `finish_reason` only: `oaChatStreamFF_erase`): for every variant,
    every protocol-respecting successful run without tools: the concatenated deltas of
    /v1/chat/completions (resp. texts of /v1/completions) are the model output, i.e. the `content` /
    `text` of the NON-streamed OpenAI reply for the same run. -/
theorem openai_stream_once_agree (v : Variant) (usage raw hasCtx hist : Bool) (pl : Nat) (parse : Bytes → List Call)
    (cs : List Chunk) (h : RunnerOK cs .ok) :
    (∃ items o, chatStreamH v .none parse false hist cs .ok = .ok items
        ∧ chatOnceH v .none parse false hist cs .ok = .ok o
        ∧ oaText (oaChatStreamV v.oaErr usage items) = o.content
        ∧ oaCalls (oaChatStreamV v.oaErr usage items) = o.calls
        ∧ oaChatOnce (.ok o) = .chat o.info.named (texts cs) [] (nonEmpty? o.info.reason) (usageOf o.info))
    ∧ (∃ items o, generateStreamH v .none raw hasCtx pl cs .ok = .ok items
        ∧ generateOnceH v .none raw hasCtx pl cs .ok = .ok o
        ∧ oaText (oaCmplStreamV v.oaErr usage items) = o.resp
        ∧ oaCmplOnce (.ok o) = .text (texts cs) (nonEmpty? o.info.reason) (usageOf o.info)) := by
  constructor
  · obtain ⟨items, h1, h2, h3, h4, h5⟩ := chat_equiv_H v parse hist cs h
    have hit := eq_map_msgsOf items h5
    have hcalls := lastOr_calls_nil _ h4
    refine ⟨items, _, h1, h2, ?_, ?_, ?_⟩
    · rw [hit, (oaStreamV_eq_pinned v.oaErr usage).1, (openai_chat_stream_equiv usage _ false).1, msgsOf_map_msg]
    · rw [hit, (oaStreamV_eq_pinned v.oaErr usage).1, (openai_chat_stream_equiv usage _ false).2.1, msgsOf_map_msg]
      simp only [hcalls]
      apply List.flatten_eq_nil_iff.mpr
      intro l hl
      obtain ⟨m, hm, rfl⟩ := List.mem_map.mp hl
      exact h4 m hm
    · simp [oaChatOnce, hcalls, h3]
  · obtain ⟨items, h1, h2, h3, h4⟩ := generate_equiv_H v raw hasCtx pl cs h
    have hit := eq_map_msgsOf items h4
    refine ⟨items, _, h1, h2, ?_, ?_⟩
    · rw [hit, (oaStreamV_eq_pinned v.oaErr usage).2, (openai_cmpl_stream_equiv usage _).1, msgsOf_map_msg]
    · simp [oaCmplOnce, h3]

/-! ### finish_reason: stream vs non-stream on /v1/chat/completions with tools -/

/-- **finish_reason agrees between the streamed and the non-streamed /v1/chat/completions** (tools in
    the request; F17a present, F17b repaired, the chat writer BEFORE 9e8f7fa39): protocol-respecting run, empty final message,
    `parse [] = []`, a `done_reason` that is not the empty string, and the streamed calls equal the
    non-streamed ones (the right-hand side of `tools_equiv_iff`) ⇒ the last delta's `finish_reason` is the
    non-streamed reply's: `tool_calls` if there are calls, the native reason otherwise.
    Without `l.content = []` this is FALSE: `finish_reason_on_done_chunk`. -/
theorem openai_finish_agree (v : Variant) (hv : v.toolsStream = false) (hi : v.toolsIndex = true)
    (parse : Bytes → List Call) (hp : parse [] = []) (usage hist : Bool) (init : List Chunk) (l : Chunk)
    (hnd : NoneDone init) (hl : l.done = true) (hlc : l.content = []) (hr : (reasonStr l.reason).isEmpty = false)
    (hg : (greedyCalls parse (init ++ [l]) []).map eraseIdx = (parse (texts (init ++ [l]))).map eraseIdx) :
    ∃ items o f, chatStreamH v .none parse true hist (init ++ [l]) .ok = .ok items
      ∧ chatOnceH v .none parse true hist (init ++ [l]) .ok = .ok o
      ∧ (oaFinishes (oaChatStreamV v.oaErr usage items)).getLast? = some f
      ∧ oaChatOnce (.ok o) = .chat o.info.named o.content o.calls f (usageOf o.info) := by
  obtain ⟨pre, m, hstream, e1, hq, hinfo, hagg⟩ := chatStreamH_tools v hv parse hist init l hnd hl
  obtain ⟨o, ho, hf⟩ := oaChatOnce_tools v hi parse hist init l hl hr
  have hmc : m.calls = [] := by
    have := chatCallback_final_no_calls parse hp init l [] 0 (Or.inl rfl) hnd hl hlc default
    rwa [e1, lastOr_append_singleton] at this
  have hempty : (aggCalls pre).isEmpty = (parse (texts (init ++ [l]))).isEmpty := by
    have : aggCalls (pre ++ [m]) = aggCalls pre := by simp [aggCalls, hmc]
    rw [← this, hagg, setIdx_isEmpty]; exact isEmpty_eq_of_map_eq hg
  have hreason : m.info.reason = reasonStr l.reason := by rw [hinfo]; simp [chunkInfo, hl]
  refine ⟨_, o, _, hstream, ho, ?_, hf⟩
  rw [(oaStreamV_eq_pinned v.oaErr usage).1,
    (oaChatStream_protocol usage pre m false hq (by rw [hinfo]; exact hl)).1, List.getLast?_concat,
    hreason, hr, hempty, Bool.false_or]
  cases (parse (texts (init ++ [l]))).isEmpty <;> rfl

/-- **the gap of `openai_finish_agree`** (before 9e8f7fa39 `toChunk` read `toolCallSent` before
    `writeResponse` updated it): when the call is completed BY the done chunk's own content, the streamed
    /v1/chat/completions ended with `finish_reason: "stop"` while the non-streamed reply says `tool_calls`.
    **Finding F17f** (confirmed on the real router by `TestVerifC17F17f`, no model involved): `llm.LlamaServer` is an
    interface and nothing forbids content on the done chunk (the repo's own handler tests feed exactly such a
    chunk); llama.cpp's runner happens to send an empty final message (and llm/server.go delivers a content+done
    line as two callbacks), so the shipped runner did not trigger it. -/
theorem finish_reason_on_done_chunk :
    let v : Variant := ⟨false, true, true, true⟩
    let l : Chunk := ⟨pieceA, true, 0, 5, 7⟩
    (oaFinishes (oaChatStreamV v.oaErr false ((chatCallback parseF17 true [l] [] 0).map Item.msg))) = [some sStop]
    ∧ (chatOnceH v .none parseF17 true false [l] .ok).toOption.map (fun o => oaChatOnce (.ok o))
        = some (.chat true [] [callA] (some sToolCalls) ⟨5, 7, 12⟩)
    ∧ (oaFinishes (oaChatStreamV v.oaErr false ((chatCallback parseF17 true [nd pieceA, fin] [] 0).map Item.msg)))
        = [none, some sToolCalls] := by
  decide

/-! ### the runner protocol as one named assumption -/

/-- everything `llmServer.Completion` (llm/server.go, not among the anchored files; modelled by
    `completionCall`: `completion_shape`) can do to the callback: content chunks, then one done chunk and nil (`fn(c); return nil`), or an error, or — token
    repeat abort with a live context, clean EOF — nil without a done chunk.  The handlers are NOT robust
    outside it (chunks or an error after a done chunk give two terminal items: `runner_protocol_needed`). -/
def CompletionShape (cs : List Chunk) (e : End) : Prop := RunnerOK cs e ∨ (NoneDone cs ∧ e = .ok)

/-- **exactly one final message or one error for everything `Completion` can do**, the tree's variant
    (`incomplete = true`), every fault, generate and chat, streamed — and the non-streamed request fails
    iff the streamed one reports that error. -/
theorem one_final_all (v : Variant) (hv : v.incomplete = true) (f : Fault) (raw hasCtx : Bool) (pl : Nat)
    (parse : Bytes → List Call) (tools hist : Bool) (cs : List Chunk) (e : End) (h : CompletionShape cs e) :
    (match generateStreamH v f raw hasCtx pl cs e with
      | .error _ => True
      | .ok items => OneFinal (fun m : GenMsg => m.info.done) items)
    ∧ (match chatStreamH v f parse tools hist cs e with
      | .error _ => True
      | .ok items => OneFinal (fun m : ChatMsg => m.info.done) items)
    ∧ streamError (generateStreamH v f raw hasCtx pl cs e) = onceError (generateOnceH v f raw hasCtx pl cs e)
    ∧ streamError (chatStreamH v f parse tools hist cs e) = onceError (chatOnceH v f parse tools hist cs e) := by
  have hr : RunnerOK cs e ∨ (v.incomplete = true ∧ NoneDone cs ∧ e = .ok) := h.imp id fun ⟨a, b⟩ => ⟨hv, a, b⟩
  exact ⟨generateStreamH_all v f raw hasCtx pl cs e (oneFinal_genItemsH v f raw pl hr),
    chatStreamH_all v f parse tools hist cs e (oneFinal_chatItemsH v parse tools hr),
    generate_outcome_any v f raw hasCtx pl cs e, chat_outcome_any v f parse tools hist cs e⟩

theorem runnerOK_err_noneDone {cs : List Chunk} {m : Bytes} (h : RunnerOK cs (.err m)) : NoneDone cs := by
  generalize he : End.err m = e at h
  cases h with
  | done init l _ _ => cases he
  | fail cs m' hnd => exact hnd

/-- the protocol is necessary, not decorative: an error after the done chunk, or a second done chunk,
    gives two terminal items on the tree's handlers -/
theorem runner_protocol_needed :
    let v : Variant := ⟨false, true, true, true⟩
    ¬ OneFinal (fun m : GenMsg => m.info.done) (genItemsH v .none false 3 [nd sHi, fin] (.err sBoom))
    ∧ ¬ OneFinal (fun m : GenMsg => m.info.done) (genItemsH v .none false 3 [nd sHi, fin, fin] .ok)
    ∧ ¬ CompletionShape [nd sHi, fin] (.err sBoom) := by
  refine ⟨by decide, by decide, ?_⟩
  rintro (h | ⟨h, _⟩)
  · exact absurd (runnerOK_err_noneDone h fin (by simp)) (by decide)
  · exact absurd (h fin (by simp)) (by decide)

/-- the values of the real `parseToolCalls` on one more accumulated text of the F17 output -/
def parseF17x (s : Bytes) : List Call := if s = pieceB1 ++ pieceB2 then [callB] else parseF17 s

/-- non-vacuity of `tools_equiv_iff` / `openai_finish_agree` with BOTH sides true on a real split: two
    calls over three chunks, cut between the calls -/
example : (greedyCalls parseF17x [nd pieceA, nd (pieceB1 ++ pieceB2), fin] []).map eraseIdx
        = (parseF17x (texts [nd pieceA, nd (pieceB1 ++ pieceB2), fin])).map eraseIdx
    ∧ greedyCalls parseF17x [nd pieceA, nd (pieceB1 ++ pieceB2), fin] [] = [callA, callB]
    ∧ NoneDone [nd pieceA, nd (pieceB1 ++ pieceB2)] ∧ fin.content = [] ∧ parseF17x [] = []
    ∧ (reasonStr fin.reason).isEmpty = false := by decide

/-! ## every request — replies written before the runner is started -/

/-- steps 1–6 of both handlers: `bad`/`badMsg` = the handler's own 400 (step 2 or 3), `late` = its fault of step 6 -/
def preOf (q : ReqShape) (bad : Bool) (badMsg : Bytes) (late : Option Bytes) (f : Fault) : Pre :=
  if q.empty && q.keepAlive0 then .early sUnload
  else if bad then .fail 400 badMsg
  else match f with
    | .load m => .fail (schedStatus q.cls) (schedMsg q.cls q.name m)
    | _ =>
      if q.empty then .early sLoad
      else match late with
        | some m => .fail 500 m
        | none => .go

theorem genPreH_eq (q : ReqShape) (raw hasCtx : Bool) (f : Fault) :
    genPreH q raw hasCtx f = preOf q (raw && hasCtx) sRawCtx (f.genPre hasCtx) f := by
  cases f <;> rfl

theorem chatPreH_eq (q : ReqShape) (hist : Bool) (f : Fault) :
    chatPreH q hist f = preOf q q.noToolSupport (q.full ++ sNoTools) (f.chatPre hist) f := by
  cases f <;> rfl

theorem preOf_elim (P : Pre → Prop) (q : ReqShape) (bad : Bool) (badMsg : Bytes) (late : Option Bytes) (f : Fault)
    (hearly : ∀ r, P (.early r)) (hbad : P (.fail 400 badMsg))
    (hsched : ∀ m, P (.fail (schedStatus q.cls) (schedMsg q.cls q.name m)))
    (hlate : ∀ m, late = some m → P (.fail 500 m)) (hgo : late = none → P .go) :
    P (preOf q bad badMsg late f) := by
  unfold preOf
  cases (q.empty && q.keepAlive0)
  · cases bad
    · cases f with
      | load m => exact hsched m
      | _ =>
        cases q.empty
        · cases late with
          | none => exact hgo rfl
          | some m => exact hlate m rfl
        · exact hearly _
    · exact hbad
  · exact hearly _

theorem preOf_go {q : ReqShape} {bad : Bool} {badMsg : Bytes} {late : Option Bytes} {f : Fault}
    (h : preOf q bad badMsg late f = .go) : late = none :=
  preOf_elim (fun r => r = .go → late = none) q bad badMsg late f (fun _ h => nomatch h) (fun h => nomatch h)
    (fun _ h => nomatch h) (fun _ _ h => nomatch h) (fun h _ => h) h

theorem preOf_fail {q : ReqShape} {bad : Bool} {badMsg : Bytes} {late : Option Bytes} {f : Fault} {s : Nat} {m : Bytes}
    (h : preOf q bad badMsg late f = .fail s m) : 400 ≤ s :=
  preOf_elim (fun r => r = .fail s m → 400 ≤ s) q bad badMsg late f (fun _ h => nomatch h)
    (fun h => by cases h; decide) (fun _ h => by cases h; exact schedStatus_ge _) (fun _ _ h => by cases h; decide)
    (fun _ h => nomatch h) h

theorem preOf_plain (q : ReqShape) (he : q.empty = false) (hc : q.cls = .other) {bad : Bool} (hb : bad = false)
    {badMsg : Bytes} {late : Option Bytes} {f : Fault} (hload : ∀ m, f = .load m → late = some m) :
    preOf q bad badMsg late f = match (generalizing := false) late with | some m => .fail 500 m | none => .go := by
  unfold preOf
  rw [he, hb, hc]
  cases f with
  | load m => rw [hload m rfl]; rfl
  | _ => cases late <;> rfl

/-- steps 1–6 add nothing for the requests the theorems above are about: a non-empty request,
    tools supported, unclassified scheduler error, no `raw`+`context` — steps 1–6 reduce to
    `Fault.genPre` / `Fault.chatPre` with status 500 -/
theorem genPreH_plain (q : ReqShape) (hq : q.plain) (raw hasCtx : Bool) (hr : (raw && hasCtx) = false) (f : Fault) :
    genPreH q raw hasCtx f = match f.genPre hasCtx with | some m => .fail 500 m | none => .go := by
  rw [genPreH_eq]
  refine preOf_plain q hq.1 hq.2.2 hr ?_
  intro m h; subst h; rfl

theorem chatPreH_plain (q : ReqShape) (hq : q.plain) (hist : Bool) (f : Fault) :
    chatPreH q hist f = match f.chatPre hist with | some m => .fail 500 m | none => .go := by
  rw [chatPreH_eq]
  refine preOf_plain q hq.1 hq.2.2 hq.2.1 ?_
  intro m h; subst h; rfl

/-- when steps 1–6 let the request through, the reply is what `generateStreamH` / `generateOnceH`
    produce (so every theorem about them applies) -/
theorem generateR_go (v : Variant) (stream : Bool) (q : ReqShape) (f : Fault) (raw hasCtx : Bool) (pl : Nat)
    (cs : List Chunk) (e : End) (h : genPreH q raw hasCtx f = .go) :
    f.genPre hasCtx = none
    ∧ generateR v stream q f raw hasCtx pl cs e
        = if stream then streamReply (generateStreamH v f raw hasCtx pl cs e)
          else onceReply (generateOnceH v f raw hasCtx pl cs e) :=
  ⟨preOf_go (genPreH_eq q raw hasCtx f ▸ h), by simp [generateR, h]⟩

theorem chatR_go (v : Variant) (stream : Bool) (q : ReqShape) (f : Fault) (parse : Bytes → List Call) (tools hist : Bool)
    (cs : List Chunk) (e : End) (h : chatPreH q hist f = .go) :
    f.chatPre hist = none
    ∧ chatR v stream q f parse tools hist cs e
        = if stream then streamReply (chatStreamH v f parse tools hist cs e)
          else onceReply (chatOnceH v f parse tools hist cs e) :=
  ⟨preOf_go (chatPreH_eq q hist f ▸ h), by simp [chatR, h]⟩

/-- **a request that never reaches the runner is answered identically with and without `stream`**:
    same status, same single body — for every request shape, every fault, every class of scheduler
    error.  (Steps 1–6 do not look at the stream flag.) -/
theorem prestream_reply_same (v : Variant) (q : ReqShape) (f : Fault) (raw hasCtx : Bool) (pl : Nat)
    (parse : Bytes → List Call) (tools hist : Bool) (cs : List Chunk) (e : End) :
    (genPreH q raw hasCtx f ≠ .go →
      generateR v true q f raw hasCtx pl cs e = generateR v false q f raw hasCtx pl cs e)
    ∧ (chatPreH q hist f ≠ .go →
      chatR v true q f parse tools hist cs e = chatR v false q f parse tools hist cs e) := by
  constructor
  · intro h; unfold generateR; cases hp : genPreH q raw hasCtx f <;> simp_all
  · intro h; unfold chatR; cases hp : chatPreH q hist f <;> simp_all

def SingleFinal {α : Type} (done : α → Bool) : Reply α → Prop
  | .fail s _ => 400 ≤ s
  | .body m => done m = true
  | .stream _ => False

theorem prestream_reply_single (v : Variant) (stream : Bool) (q : ReqShape) (f : Fault) (raw hasCtx : Bool) (pl : Nat)
    (parse : Bytes → List Call) (tools hist : Bool) (cs : List Chunk) (e : End) :
    (genPreH q raw hasCtx f ≠ .go →
      SingleFinal (fun m : GenMsg => m.info.done) (generateR v stream q f raw hasCtx pl cs e))
    ∧ (chatPreH q hist f ≠ .go →
      SingleFinal (fun m : ChatMsg => m.info.done) (chatR v stream q f parse tools hist cs e)) := by
  constructor
  · intro h
    unfold generateR
    cases hp : genPreH q raw hasCtx f with
    | go => exact absurd hp h
    | early r => rfl
    | fail s m => exact preOf_fail (genPreH_eq q raw hasCtx f ▸ hp)
  · intro h
    unfold chatR
    cases hp : chatPreH q hist f with
    | go => exact absurd hp h
    | early r => rfl
    | fail s m => exact preOf_fail (chatPreH_eq q hist f ▸ hp)

/-- **exactly one final message or one error, for EVERY request** (streamed /api/generate and
    /api/chat): whatever the request shape, the class of scheduler error, the fault and the variant, a
    protocol-respecting runner yields one error body, one final body, or an NDJSON stream with exactly
    one terminal item, which is last. -/
theorem one_final_every_request (v : Variant) (q : ReqShape) (f : Fault) (raw hasCtx : Bool) (pl : Nat)
    (parse : Bytes → List Call) (tools hist : Bool) (cs : List Chunk) (e : End) (h : RunnerOK cs e) :
    (match generateR v true q f raw hasCtx pl cs e with
      | .fail s _ => 400 ≤ s
      | .body m => m.info.done = true
      | .stream items => OneFinal (fun m : GenMsg => m.info.done) items)
    ∧ (match chatR v true q f parse tools hist cs e with
      | .fail s _ => 400 ≤ s
      | .body m => m.info.done = true
      | .stream items => OneFinal (fun m : ChatMsg => m.info.done) items) := by
  constructor
  · have := one_final_generate_faults v f raw hasCtx pl cs e h
    unfold generateR
    cases hp : genPreH q raw hasCtx f with
    | fail s m => exact preOf_fail (genPreH_eq q raw hasCtx f ▸ hp)
    | early r => rfl
    | go =>
      cases hs : generateStreamH v f raw hasCtx pl cs e with
      | error m => exact (by decide : 400 ≤ 500)
      | ok items => rw [hs] at this; exact this
  · have := one_final_chat_faults v f parse tools hist cs e h
    unfold chatR
    cases hp : chatPreH q hist f with
    | fail s m => exact preOf_fail (chatPreH_eq q hist f ▸ hp)
    | early r => rfl
    | go =>
      cases hs : chatStreamH v f parse tools hist cs e with
      | error m => exact (by decide : 400 ≤ 500)
      | ok items => rw [hs] at this; exact this

/-- **`keep_alive: 0` with nothing to generate never asks for a runner**: the reply is the `unload`
    message whatever the scheduler would have answered, streamed or not, on both endpoints. -/
theorem unload_before_scheduling (v : Variant) (stream : Bool) (q : ReqShape) (he : q.empty = true) (hk : q.keepAlive0 = true)
    (f : Fault) (raw hasCtx : Bool) (pl : Nat) (parse : Bytes → List Call) (tools hist : Bool) (cs : List Chunk) (e : End) :
    generateR v stream q f raw hasCtx pl cs e = .body (earlyGen sUnload)
    ∧ chatR v stream q f parse tools hist cs e = .body (earlyChat sUnload) := by
  simp [generateR, chatR, genPreH, chatPreH, he, hk]

/-- **the OpenAI endpoints on a request that never reaches the runner**: an error body keeps its
    status and text; a `load` reply in stream mode is one chunk with `finish_reason: "load"`, the usage
    chunk if asked for, and `[DONE]` last — exactly one `[DONE]`, no error. -/
theorem openai_prestream (v : Variant) (stream usage : Bool) (s : Nat) (m r : Bytes) (hr : r.isEmpty = false) :
    oaChatR v stream usage (.fail s m) = (s, [.error m])
    ∧ oaCmplR v stream usage (.fail s m) = (s, [.error m])
    ∧ oaChatR v true usage (.body (earlyChat r))
        = (200, [.chunk [] [] (some r)] ++ (if usage then [.usage ⟨0, 0, 0⟩] else []) ++ [.done])
    ∧ oaCmplR v true usage (.body (earlyGen r))
        = (200, [.tchunk [] (some r) (if usage then some ⟨0, 0, 0⟩ else none)] ++ (if usage then [.usage ⟨0, 0, 0⟩] else []) ++ [.done])
    ∧ oaChatR v false usage (.body (earlyChat r)) = (200, [.chat true [] [] (some r) ⟨0, 0, 0⟩])
    ∧ oaCmplR v false usage (.body (earlyGen r)) = (200, [.text [] (some r) ⟨0, 0, 0⟩]) := by
  refine ⟨rfl, rfl, ?_, ?_, ?_, ?_⟩
  · show (200, oaChatStreamV v.oaErr usage ([earlyChat r].map Item.msg)) = _
    rw [(oaStreamV_eq_pinned v.oaErr usage).1, List.map_cons, oaChatStream_cons_final usage _ _ false rfl,
      show (earlyChat r).info.reason = r from rfl, hr]
    cases usage <;> rfl
  · show (200, oaCmplStreamV v.oaErr usage ([earlyGen r].map Item.msg)) = _
    rw [(oaStreamV_eq_pinned v.oaErr usage).2, List.map_cons, oaCmplStream_cons_final usage _ _ rfl,
      show (earlyGen r).info.reason = r from rfl, nonEmpty?, hr]
    cases usage <;> rfl
  · show (200, [OaEv.chat true [] [] (nonEmpty? r) ⟨0, 0, 0⟩]) = _
    rw [nonEmpty?, hr]; rfl
  · show (200, [OaEv.text [] (nonEmpty? r) ⟨0, 0, 0⟩]) = _
    rw [nonEmpty?, hr]; rfl

/-- **through `api.Client`, EVERY request ends with exactly one final message or one error**: whatever
    the handler wrote (an error body with any status, a single final body, a stream with one terminal
    item), a caller of `Generate`/`Chat` observes exactly one terminal event — provided error texts are
    not the empty string and the lines fit the scanner (`client_view_fits`). -/
theorem client_every_reply {α : Type} [Inhabited α] (done : α → Bool) (r : Reply α)
    (h : match r with
         | .fail _ _ => True
         | .body m => done m = true
         | .stream items => OneFinal done items)
    (hne : ∀ e ∈ errsOf r.lines, e.isEmpty = false) :
    clientTerminals done (clientView r.lines) = 1 := by
  have hof : OneFinal done r.lines := by
    cases r with
    | fail s m => exact ⟨rfl, rfl⟩
    | body m => exact ⟨by simp [Reply.lines, terminal, h], by simp [Reply.lines, terminal, h]⟩
    | stream items => exact h
  exact (client_one_final done r.lines hof hne).1

/-- non-vacuity: every outcome of steps 1–6 occurs, in the order of the code (kernel-evaluated) -/
example :
    let q : ReqShape := ⟨false, false, false, sA, sB, .maxQueue⟩
    genPreH { q with empty := true, keepAlive0 := true } true true (.load sBoom) = .early sUnload
    ∧ genPreH { q with empty := true } true true (.load sBoom) = .fail 400 sRawCtx
    ∧ genPreH { q with empty := true } false true (.load sBoom) = .fail 503 sBoom
    ∧ genPreH { q with empty := true, cls := .notExist } false true (.load sBoom) = .fail 404 (sNotFound1 ++ sA ++ sNotFound2)
    ∧ genPreH { q with empty := true } false true (.detok sBoom) = .early sLoad
    ∧ genPreH q false true (.detok sBoom) = .fail 500 sBoom
    ∧ genPreH q false false (.detok sBoom) = .go
    ∧ chatPreH { q with noToolSupport := true } true (.load sBoom) = .fail 400 (sB ++ sNoTools)
    ∧ chatPreH { q with cls := .canceled } true (.load sBoom) = .fail 499 sCanceled
    ∧ chatPreH { q with empty := true } true (.tok sBoom) = .early sLoad
    ∧ chatPreH q true (.tok sBoom) = .fail 500 sBoom
    ∧ chatPreH q false (.tok sBoom) = .go := by decide

/-- **F17f** (in /repo before 9e8f7fa39): `finish_reason_on_done_chunk` above.  With
    proposed_fixes/C17-F17f.patch (`oaChatStreamFF`) the same run ends with `tool_calls` on the stream as
    in the non-streamed reply, and runs whose calls arrive earlier are unchanged. -/
theorem F17f_repaired_finish_reason :
    let l : Chunk := ⟨pieceA, true, 0, 5, 7⟩
    oaFinishes (oaChatStreamFF false ((chatCallback parseF17 true [l] [] 0).map Item.msg) false) = [some sToolCalls]
    ∧ oaChatStreamFF true ((chatCallback parseF17 true [nd pieceA, fin] [] 0).map Item.msg) false
        = oaChatStreamFixed true ((chatCallback parseF17 true [nd pieceA, fin] [] 0).map Item.msg) false
    ∧ oaChatStreamFF true ((chatCallback parseF17 false [nd sHi, fin] [] 0).map Item.msg ++ [Item.err sBoom]) false
        = oaChatStreamFixed true ((chatCallback parseF17 false [nd sHi, fin] [] 0).map Item.msg ++ [Item.err sBoom]) false := by
  decide

/-! ## the runner protocol is what `llmServer.Completion` does (hypothesis discharged on its model) -/

theorem shape_prepend (pre cs : List Chunk) (e : End) (hpre : NoneDone pre) (h : CompletionShape cs e) :
    CompletionShape (pre ++ cs) e := by
  have happ : ∀ xs, NoneDone xs → NoneDone (pre ++ xs) := by
    intro xs hx c hc
    rcases List.mem_append.mp hc with h1 | h1
    · exact hpre c h1
    · exact hx c h1
  rcases h with h | ⟨h, rfl⟩
  · cases h with
    | done init l hnd hl =>
      rw [← List.append_assoc]
      exact Or.inl (RunnerOK.done (pre ++ init) l (happ init hnd) hl)
    | fail cs m hnd => exact Or.inl (RunnerOK.fail _ m (happ cs hnd))
  · exact Or.inr ⟨happ cs h, rfl⟩

/-- **`CompletionShape` holds of everything the modelled `Completion` hands to the callback**, for every
    runner body: lines in any order and number, blank and undecodable lines, content on the done line,
    lines after the done line, token repeats, clean and broken ends, an HTTP failure. -/
theorem completion_shape (em : Bytes) (httpFail : Bool) (ls : List RLine) (be : BodyEnd) :
    CompletionShape (completionCall em httpFail ls be).1 (completionCall em httpFail ls be).2 := by
  have hloop : ∀ (lt : Bytes) (n : Nat),
      CompletionShape (completionLoop em ls be lt n).1 (completionLoop em ls be lt n).2 := by
    intro lt n
    fun_induction completionLoop em ls be lt n with
    -- clean end of the body; token-repeat abort: nil without a done chunk
    | case1 | case5 => exact Or.inr ⟨nofun, rfl⟩
    -- broken end; undecodable line
    | case2 | case4 => exact Or.inl (RunnerOK.fail [] em nofun)
    -- blank line
    | case3 _ _ _ _ ih => exact ih
    -- done line: its content as a chunk of its own (if any), then the line itself
    | case6 c _ _ _ _ _ _ _ _ hd => exact Or.inl (RunnerOK.done _ c (noneDone_content c) hd)
    -- content line
    | case7 c _ _ _ _ _ _ _ _ _ _ ih => exact shape_prepend _ _ _ (noneDone_content c) ih
  unfold completionCall
  split
  · exact Or.inl (RunnerOK.fail [] em nofun)
  · exact hloop [] 0

/-- **exactly one final message or one error, end to end from the runner's body**: whatever the runner
    writes, the tree's handlers (every fault, generate and chat, tools or not) stream exactly one
    terminal item, last, or answer one 500 — `one_final_all` with its hypothesis discharged. -/
theorem one_final_from_runner_body (v : Variant) (hv : v.incomplete = true) (f : Fault) (raw hasCtx : Bool) (pl : Nat)
    (parse : Bytes → List Call) (tools hist : Bool) (em : Bytes) (httpFail : Bool) (ls : List RLine) (be : BodyEnd) :
    let r := completionCall em httpFail ls be
    (match generateStreamH v f raw hasCtx pl r.1 r.2 with
      | .error _ => True
      | .ok items => OneFinal (fun m : GenMsg => m.info.done) items)
    ∧ (match chatStreamH v f parse tools hist r.1 r.2 with
      | .error _ => True
      | .ok items => OneFinal (fun m : ChatMsg => m.info.done) items) := by
  intro r
  have h := one_final_all v hv f raw hasCtx pl parse tools hist r.1 r.2 (completion_shape em httpFail ls be)
  exact ⟨h.1, h.2.1⟩

/-- non-vacuity and the recorded quirk: a `content`+`done` runner line reaches the callback twice (so the
    text is duplicated downstream); lines after the done line never do; the 32nd equal token in a row ends the
    call with nil and no done chunk -/
example :
    completionCall sBoom false [.resp (nd sHi), .blank, .resp ⟨sA, true, 1, 3, 4⟩, .resp (nd sB)] .clean
      = ([nd sHi, nd sA, ⟨sA, true, 1, 3, 4⟩], .ok)
    ∧ completionCall sBoom false [.resp (nd sHi), .bad, .resp fin] .clean = ([nd sHi], .err sBoom)
    ∧ completionCall sBoom false [.resp (nd sHi)] .broken = ([nd sHi], .err sBoom)
    ∧ (completionCall sBoom false (List.replicate 40 (.resp (nd sA))) .clean).2 = .ok
    ∧ (completionCall sBoom false (List.replicate 40 (.resp (nd sA))) .clean).1.length = 31
    ∧ completionCall sBoom true [.resp fin] .clean = ([], .err sBoom) := by decide

/-! ## the OpenAI chat stream writer /repo runs (`oaChatStreamFF`, commit 9e8f7fa39) -/

def eraseFinish : OaEv → OaEv
  | .chunk c cs _ => .chunk c cs none
  | e => e

/-- **the F17f repair changes `finish_reason` fields only**: event for event the repaired writer equals
    `oaChatStreamFixed` up to the `finish_reason` of the deltas — so text, tool calls, usage
    chunks, `[DONE]` and error events (`openai_chat_stream_equiv`, `openai_stream_one_done`,
    `openai_chat_stream_finish_usage`'s usage half, `openai_stream_failure_reported_fixed`) follow for it in the same way
    (done for the first: `openai_chat_stream_equiv_FF`). -/
theorem oaChatStreamFF_erase (usage : Bool) (items : List (Item ChatMsg)) (sent : Bool) :
    (oaChatStreamFF usage items sent).map eraseFinish = (oaChatStreamFixed usage items sent).map eraseFinish := by
  induction items generalizing sent with
  | nil => rfl
  | cons it rest ih =>
    cases it with
    | err e =>
      by_cases he : e.isEmpty = true
      · simp [oaChatStreamFF, oaChatStreamFixed, he, ih]
      · simp [oaChatStreamFF, oaChatStreamFixed, he, ih, eraseFinish]
    | msg m =>
      simp only [oaChatStreamFF, oaChatStreamFixed, oaChatStream, asChat, List.append_nil, List.map_append, ih]
      simp [eraseFinish] <;> rfl

theorem oaText_erase (evs : List OaEv) : oaText (evs.map eraseFinish) = oaText evs := by
  have h : ∀ e, (eraseFinish e).text? = e.text? := fun e => by cases e <;> rfl
  simp only [oaText, List.map_map, Function.comp_def, h]

theorem oaCalls_erase (evs : List OaEv) : oaCalls (evs.map eraseFinish) = oaCalls evs := by
  have h : ∀ e, (eraseFinish e).calls? = e.calls? := fun e => by cases e <;> rfl
  simp only [oaCalls, List.map_map, Function.comp_def, h]

theorem oaDones_erase (evs : List OaEv) : oaDones (evs.map eraseFinish) = oaDones evs := by
  have h : ∀ e, (eraseFinish e).isDone = e.isDone := fun e => by cases e <;> rfl
  simp only [oaDones, List.filter_map, List.length_map, Function.comp_def, h]

theorem oaUsages_erase (evs : List OaEv) : oaUsages (evs.map eraseFinish) = oaUsages evs := by
  have h : ∀ e, OaEv.usage? (eraseFinish e) = OaEv.usage? e := fun e => by cases e <;> rfl
  simp only [oaUsages, List.filterMap_map, Function.comp_def, h]

/-- **streaming /v1/chat/completions carries the native stream, the writer of the tree**: for every item
    list — concatenated deltas = concatenated native contents, same calls, one `[DONE]` per native done
    message, same usage chunks as `oaChatStream`. -/
theorem openai_chat_stream_equiv_FF (usage : Bool) (ms : List ChatMsg) :
    oaText (oaChatStreamFF usage (ms.map Item.msg) false) = (ms.map (·.content)).flatten
    ∧ oaCalls (oaChatStreamFF usage (ms.map Item.msg) false) = (ms.map (·.calls)).flatten
    ∧ oaDones (oaChatStreamFF usage (ms.map Item.msg) false) = (ms.filter (·.info.done)).length
    ∧ oaUsages (oaChatStreamFF usage (ms.map Item.msg) false) = oaUsages (oaChatStream usage (ms.map Item.msg) false) := by
  have h := oaChatStreamFF_erase usage (ms.map Item.msg) false
  have hp := (oaStreamFixed_eq_pinned usage).1 ms false
  obtain ⟨e1, e2, e3⟩ := openai_chat_stream_equiv usage (ms.map Item.msg) false
  rw [msgsOf_map_msg] at e1 e2 e3
  refine ⟨?_, ?_, ?_, ?_⟩
  · rw [← oaText_erase, h, oaText_erase, hp, e1]
  · rw [← oaCalls_erase, h, oaCalls_erase, hp, e2]
  · rw [← oaDones_erase, h, oaDones_erase, hp, e3]
  · rw [← oaUsages_erase, h, oaUsages_erase, hp]

theorem oaChatStreamFF_finishes (usage : Bool) (pre : List ChatMsg) (m : ChatMsg) (sent : Bool)
    (hq : ∀ x ∈ pre, Quiet x.info) (hd : m.info.done = true) :
    oaFinishes (oaChatStreamFF usage ((pre ++ [m]).map Item.msg) sent)
      = List.replicate pre.length none
        ++ [if m.info.reason.isEmpty then none
            else if sent || !(aggCalls (pre ++ [m])).isEmpty then some sToolCalls else some m.info.reason] := by
  induction pre generalizing sent with
  | nil =>
    rw [List.nil_append, List.map_cons, oaChatStreamFF_cons_final usage m _ sent hd, oaFinishes_cons_chunk,
      oaFinishes_append, oaTail_finishes, aggCalls_single]
    rfl
  | cons x xs ih =>
    rw [List.cons_append, List.map_cons, oaChatStreamFF_cons_quiet usage x _ sent (hq x List.mem_cons_self),
      oaFinishes_cons_chunk, ih _ (fun y hy => hq y (List.mem_cons_of_mem x hy)), aggCalls_cons,
      ← or_not_isEmpty_append]
    rfl

/-- **finish_reason agrees between the streamed and the non-streamed /v1/chat/completions on the tree**
    (writer `oaChatStreamFF`; F17a present, F17b repaired), tools in the request: for a
    protocol-respecting run — the final message may carry content — with a non-empty `done_reason`, whenever
    the streamed calls are the non-streamed ones (right-hand side of `tools_equiv_iff`), the last delta's
    `finish_reason` is the non-streamed reply's.  Neither `l.content = []` nor `parse [] = []` is needed. -/
theorem openai_finish_agree_FF (v : Variant) (hv : v.toolsStream = false) (hi : v.toolsIndex = true)
    (parse : Bytes → List Call) (usage hist : Bool) (init : List Chunk) (l : Chunk)
    (hnd : NoneDone init) (hl : l.done = true) (hr : (reasonStr l.reason).isEmpty = false)
    (hg : (greedyCalls parse (init ++ [l]) []).map eraseIdx = (parse (texts (init ++ [l]))).map eraseIdx) :
    ∃ (ms : List ChatMsg) (o : ChatMsg) (f : Option Bytes), chatStreamH v .none parse true hist (init ++ [l]) .ok = .ok (ms.map Item.msg)
      ∧ chatOnceH v .none parse true hist (init ++ [l]) .ok = .ok o
      ∧ (oaFinishes (oaChatStreamFF usage (ms.map Item.msg) false)).getLast? = some f
      ∧ oaChatOnce (.ok o) = .chat o.info.named o.content o.calls f (usageOf o.info) := by
  obtain ⟨pre, m, hstream, _, hq, hinfo, hagg⟩ := chatStreamH_tools v hv parse hist init l hnd hl
  obtain ⟨o, ho, hf⟩ := oaChatOnce_tools v hi parse hist init l hl hr
  have hreason : m.info.reason = reasonStr l.reason := by rw [hinfo]; simp [chunkInfo, hl]
  refine ⟨_, o, _, hstream, ho, ?_, hf⟩
  rw [oaChatStreamFF_finishes usage pre m false hq (by rw [hinfo]; exact hl), List.getLast?_concat,
    hreason, hr, hagg, setIdx_isEmpty, isEmpty_eq_of_map_eq hg, Bool.false_or]
  cases (parse (texts (init ++ [l]))).isEmpty <;> rfl

/-! ## progress replies (pull / push / create): non-streamed = the first terminal item of the stream -/

/-- **`stream:false` on a progress endpoint answers with the first terminal item of what `stream:true`
    would have written** (the `success` message, or the first error), and with a 500 when there is none —
    for every item list. -/
theorem progress_once_is_first_terminal (items : List PItem) :
    waitForStreamM items = match items.find? PItem.terminal with
      | some t => t.reply
      | none => .error 500 sUnexpectedEnd := by
  induction items with
  | nil => rfl
  | cons it rest ih =>
    by_cases h : it.terminal = true
    · simp [waitForStreamM, h]
    · simp only [Bool.not_eq_true] at h
      simp [waitForStreamM, h, ih]

/-- a progress stream that ends with exactly one terminal item (what the producers do: they return after
    `success` or after sending an error): the non-streamed request succeeds iff that item is `success`, and
    fails with that item's status and text otherwise -/
theorem progress_equiv (pre : List Bytes) (t : PItem) (hpre : ∀ s ∈ pre, s ≠ sSuccess) (ht : t.terminal = true) :
    waitForStreamM (pre.map PItem.progress ++ [t]) = t.reply := by
  induction pre with
  | nil => simp [waitForStreamM, ht]
  | cons s ss ih =>
    have hs : (PItem.progress s).terminal = false := by
      simp [PItem.terminal, hpre s (by simp)]
    simp only [List.map_cons, List.cons_append, waitForStreamM, hs, Bool.false_eq_true, ↓reduceIte]
    exact ih (fun x hx => hpre x (by simp [hx]))

example : waitForStreamM [.progress sHi, .progress sSuccess, .err (some sBoom) none] = .success
    ∧ waitForStreamM [.progress sHi, .err (some sBoom) (some 400), .progress sSuccess] = .error 400 sBoom
    ∧ waitForStreamM [.err none none] = .error 500 sBadErrFormat
    ∧ waitForStreamM [.progress sHi] = .error 500 sUnexpectedEnd
    ∧ waitForStreamM [.other] = .error 500 sBadProgress := by decide

end OllamaVerif.C17
