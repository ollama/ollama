/-
  C06 — KV cache exposes exactly the causal history of each sequence.

  Property theorems over the model of kvcache.Causal (Model/Causal.lean) and the location-free
  specification (Spec/KV.lean; its own theory is in Proofs/KVSpec.lean), connected by the abstraction `abs`
  (Proofs/Causal.lean) and, along histories, by the simulation relation `Sim`.
-/
import OllamaVerif.Proofs.Causal
import OllamaVerif.Proofs.CausalDefrag

namespace OllamaVerif.C06

open OllamaVerif OllamaVerif.KV OllamaVerif.Causal

/-- **CopyPrefix commutes with the abstraction** (every cache, any arguments): afterwards the
    abstract state is the spec's `copyPrefix` of the abstract state before. -/
theorem copyPrefix_abs (c : Cache) (src dst : Nat) (len : Int) :
    abs (Causal.copyPrefix c src dst len) = KV.copyPrefix (abs c) src dst len := by
  simp only [abs, Causal.copyPrefix, KV.copyPrefix, List.zip_map_left, List.filterMap_map,
    List.filterMap_filterMap]
  apply filterMap_congr
  intro x _
  obtain ⟨cell, row⟩ := x
  simpa using entryOf_cpCell src dst len (cell, row)

/-- **Remove commutes with the abstraction** whenever it reports success: the spec accepts the same
    removal and yields exactly the abstract state after the call (ranges removed, later positions and
    the data's shift moved by `begin − end`, `MaxInt32` meaning "to the end"). -/
theorem remove_abs (c : Cache) (seq : Nat) (b e : Int) (hlen : c.cells.length = c.rows.length)
    (hsz : c.cells.length ≤ maxInt) (hl : c.hasLayers = true)
    (hok : (Causal.remove c seq b e).2 = .ok) :
    KV.remove (abs c) seq b e = some (abs (Causal.remove c seq b e).1) := by
  cases hr : (removeCells seq b e (rmOffset b e) c.cells).2 with
  | true => rw [remove_snd, hr, if_pos rfl] at hok; cases hok
  | false =>
    have hcells := removeCells_ok seq b e (rmOffset b e) c.cells hr
    rw [remove_snd, hr, if_neg Bool.false_ne_true, hcells] at hok
    rw [KV.remove, abs, any_refuse_abs seq b e c.cells c.rows hlen, ← removeCells_flag seq b e (rmOffset b e), hr,
      if_neg Bool.false_ne_true, abs, remove_cells, remove_rows, hr, if_neg Bool.false_ne_true, hcells,
      List.filterMap_filterMap]
    congr 1
    by_cases hnew : rangeOf (hasSeq seq) (c.cells.map (rmCell seq b e (rmOffset b e))) = Range.new
    · -- nothing of `seq` is left
      rw [if_pos hnew, zip_noShift, List.filterMap_map]
      refine filterMap_congr fun x hx => (entryOf_rmPair seq b e false x (Or.inr (Or.inr fun hx2 => ?_))).symm
      obtain ⟨k, hk, hxk⟩ := List.getElem_of_mem (List.mem_map_of_mem (List.of_mem_zip hx).1)
      have := rangeOf_new _ _ (by rwa [List.length_map]) hnew k hk
      rw [hxk] at this
      exact of_decide_eq_false this (mem_rmCell_of_ge hx2.1 hx2.2)
    · by_cases he : e = maxInt32
      · rw [if_neg hnew, if_pos he, zip_noShift, List.filterMap_map]
        exact filterMap_congr fun x _ => (entryOf_rmPair seq b e false x (Or.inr (Or.inl (by rw [he]; rfl)))).symm
      · rw [if_neg hnew, if_neg he] at hok ⊢
        cases hs : c.hasShift with
        | false => cases hs ▸ hok
        | true =>
          rw [if_neg (by decide), if_pos hl, zip_shiftRows, List.filterMap_map]
          exact filterMap_congr fun x _ => (entryOf_rmPair seq b e true x (Or.inl rfl)).symm

/-- what mask row `t` exposes: the entries (cell metadata + row data) at the exposed locations -/
def exposedEntries (c : Cache) (t : Tok) : List Entry := (exposed c t).filterMap (entryAt c)

/-- `t`'s sequence only lives inside the (padded) range the mask and the K/V views cover -/
def Covers (c : Cache) (t : Tok) : Prop :=
  c.curRange.max < c.cells.length ∧
  ∀ j (hj : j < c.cells.length), t.seq ∈ c.cells[j].seqs → c.curRange.min ≤ j ∧ j ≤ c.curRange.max

/-- **The mask is exact, with exceptions**: for a token whose sequence is covered by the current
    range, the entries its mask row exposes — causal test enabled (`en`) or not — are exactly the
    spec's `visibleE`. -/
theorem mask_exact_flag_of_covers (en : Bool) (c : Cache) (t : Tok) (hlen : c.cells.length = c.rows.length)
    (hcov : Covers c t) :
    ((List.range' c.curRange.min (c.curRange.max + 1 - c.curRange.min)).filter (maskBitE en c t)).filterMap (entryAt c)
      = visibleE en c.window (abs c) t.seq t.pos := by
  obtain ⟨hmax, hcov⟩ := hcov
  have hnone : ∀ j, j < c.cells.length → ¬(c.curRange.min ≤ j ∧ j ≤ c.curRange.max) →
      (entryAt c j).filter (visE en c.window t.seq t.pos) = none := by
    intro j hj hout
    rw [← maskBitE_entryAt, if_neg]
    rw [maskBitE, getD_eq_getElem _ _ _ hj, decide_eq_false fun hm => hout (hcov j hj hm)]
    exact Bool.false_ne_true
  rw [visibleE, abs_eq_range c hlen, List.filter_filterMap, List.filterMap_filter]
  simp only [maskBitE_entryAt]
  by_cases hle : c.curRange.min ≤ c.curRange.max
  · exact (filterMap_range_restrict _ c.cells.length c.curRange.min (c.curRange.max + 1 - c.curRange.min) (by omega)
      fun j hj hout => hnone j hj (by omega)).symm
  · rw [show c.curRange.max + 1 - c.curRange.min = 0 by omega]
    exact (List.filterMap_eq_nil_iff.mpr fun j hj => hnone j (List.mem_range.mp hj) (by omega)).symm

/-- **The mask is exact** for every token whose sequence is covered by the current range: the
    entries exposed by its mask row, with the data found at those locations, are exactly — same
    entries, same multiplicities, same order — the entries of the abstract state that are visible
    to (sequence, position): same sequence, position not later, inside the window.
    (`maskBit`, `vis` are `maskBitE true`, `visE true` by computation.) -/
theorem mask_exact_of_covers (c : Cache) (t : Tok) (hlen : c.cells.length = c.rows.length)
    (hcov : Covers c t) :
    exposedEntries c t = visible c.window (abs c) t.seq t.pos :=
  mask_exact_flag_of_covers true c t hlen hcov

/-! ### `SetCausal` / `CausalOptions.Except` -/

/-- `exposedEntries` for the token at batch index `i`: the causal test is off if `i` is excepted -/
def exposedEntriesAt (c : Cache) (i : Nat) (t : Tok) : List Entry := (exposedAt c i t).filterMap (entryAt c)

theorem mask_exact_except_of_covers (c : Cache) (i : Nat) (t : Tok) (hlen : c.cells.length = c.rows.length)
    (hcov : Covers c t) :
    exposedEntriesAt c i t = visibleE (!c.except.contains i) c.window (abs c) t.seq t.pos :=
  mask_exact_flag_of_covers _ c t hlen hcov

theorem setCausal_except (c : Cache) (ex : List Nat) : (setCausal c ex).except = ex := by
  unfold setCausal; split
  · assumption
  · rfl

theorem setCausal_inv (c : Cache) (ex : List Nat) (h : Inv c) : Inv (setCausal c ex) := by
  unfold setCausal; split
  · exact h
  · exact h.of_eq rfl rfl rfl rfl

theorem setCausal_abs (c : Cache) (ex : List Nat) : abs (setCausal c ex) = abs c := by
  unfold setCausal; split <;> rfl

theorem covers_padRange (c : Cache) (t : Tok) (h : Inv c) (hc : Covers c t) :
    Covers { c with curRange := padRange c } t := by
  obtain ⟨hmax, hcov⟩ := hc
  have h1 := roundUp_le (c.curRange.max + 1) _ _ h.pad.1 h.pad.2 hmax
  have h2 := roundUp_ge (c.curRange.max + 1) c.cachePad h.pad.1
  have h3 := roundDown_le c.curRange.min c.cachePad
  simp only [Covers, padRange]
  exact ⟨by omega, fun j hj hs => by have := hcov j hj hs; omega⟩

/-- rebuilding the mask (`buildMask` pads `curCellRange` again) keeps every sequence covered -/
theorem setCausal_covers (c : Cache) (ex : List Nat) (t : Tok) (h : Inv c) (hc : Covers c t) :
    Covers (setCausal c ex) t := by
  unfold setCausal; split
  · exact hc
  · exact covers_padRange c t h hc

/-! ### reserve passes (`StartForward(…, reserve = true)`) -/

/-- a reserve pass changes neither the entries nor their data nor the range metadata -/
theorem reserve_state (c : Cache) (b : List Tok) :
    (startReserve c b).cells = c.cells ∧ (startReserve c b).rows = c.rows ∧ (startReserve c b).ranges = c.ranges ∧
    abs (startReserve c b) = abs c ∧ (startReserve c b).except = [] := ⟨rfl, rfl, rfl, rfl, rfl⟩

theorem reserve_inv (c : Cache) (b : List Tok) (h : Inv c) : Inv (startReserve c b) :=
  h.of_eq rfl rfl rfl rfl

theorem reserve_covers (c : Cache) (b : List Tok) (h : Inv c) (hn : 0 < c.cells.length) (t : Tok) :
    Covers (startReserve c b) t :=
  covers_padRange { c with curBatch := b, except := [], curLoc := 0, curRange := ⟨0, c.cells.length - 1⟩ } t
    (h.of_eq rfl rfl rfl rfl)
    ⟨Nat.sub_lt hn Nat.one_pos, fun j hj _ => ⟨Nat.zero_le j, Nat.le_sub_one_of_lt hj⟩⟩

/-- **The mask of a reserve pass is exact** for every query (not only the batch's own tokens): it exposes
    exactly the visible entries of the unchanged abstract state. -/
theorem reserve_mask_exact (c : Cache) (b : List Tok) (h : Inv c) (hn : 0 < c.cells.length) (t : Tok) :
    exposedEntries (startReserve c b) t = visible c.window (abs c) t.seq t.pos :=
  mask_exact_of_covers (startReserve c b) t h.len (reserve_covers c b h hn t)

/-! ### placement -/

theorem inv_defrag (c : Cache) (h : Inv c) : Inv (defrag c) :=
  defrag_inv c h

theorem finishForward_fields (c : Cache) (loc : Nat) (b : List Tok) :
    (finishForward c loc b).cells = placeCells c.cells loc b ∧ (finishForward c loc b).rows = c.rows ∧
    (finishForward c loc b).hasLayers = c.hasLayers ∧ (finishForward c loc b).curLoc = loc ∧
    (finishForward c loc b).window = c.window ∧ (finishForward c loc b).except = c.except ∧
    (finishForward c loc b).cachePad = c.cachePad ∧ (finishForward c loc b).v = c.v :=
  place_fields { c with curLoc := loc, curRange := Range.new } loc b

theorem findStart_fits (cells : List Cell) (k s : Nat) (h : findStart cells k = some s) :
    s + k ≤ cells.length ∧ 0 < cells.length := by
  have := (findStartFrom_spec k cells 0 0 0 s h rfl).1
  omega

/-! ### the outcomes of `StartForward` -/

/-- the state placement starts from: after window eviction, and after defrag if that was needed -/
def placeBase (c : Cache) (b : List Tok) : Cache :=
  match findStart (slide { c with curBatch := b, except := [] } b).cells b.length with
  | some _ => slide { c with curBatch := b, except := [] } b
  | none => defrag (slide { c with curBatch := b, except := [] } b)

theorem placeBase_cases (c : Cache) (b : List Tok) :
    placeBase c b = slide { c with curBatch := b, except := [] } b ∨
    placeBase c b = defrag (slide { c with curBatch := b, except := [] } b) := by
  unfold placeBase
  split
  · exact Or.inl rfl
  · exact Or.inr rfl

/-- placed into a free block of `placeBase`; or the pinned division by zero; or full even after defragmenting -/
theorem startForward_cases (c : Cache) (b : List Tok) :
    (∃ loc, findStart (placeBase c b).cells b.length = some loc ∧
      startForward c b = (finishForward (placeBase c b) loc b, .ok)) ∨
    startForward c b = (slide { c with curBatch := b, except := [] } b, .panic) ∨
    (findStart (slide { c with curBatch := b, except := [] } b).cells b.length = none ∧
      findStart (defrag (slide { c with curBatch := b, except := [] } b)).cells b.length = none ∧
      startForward c b = (defrag (slide { c with curBatch := b, except := [] } b), .full)) := by
  simp only [startForward, placeBase]
  generalize slide { c with curBatch := b, except := [] } b = c1
  cases hf : findStart c1.cells b.length with
  | some loc => exact Or.inl ⟨loc, hf, rfl⟩
  | none =>
    cases !c1.hasLayers && !c1.v.fixDiv with
    | true => exact Or.inr (Or.inl rfl)
    | false =>
      cases findStart (defrag c1).cells b.length with
      | some loc => exact Or.inl ⟨loc, rfl, rfl⟩
      | none => exact Or.inr (Or.inr ⟨rfl, rfl, rfl⟩)

theorem startForward_ok (c : Cache) (b : List Tok) (hok : (startForward c b).2 = .ok) :
    ∃ loc, findStart (placeBase c b).cells b.length = some loc ∧
      (startForward c b).1 = finishForward (placeBase c b) loc b := by
  rcases startForward_cases c b with ⟨loc, hf, he⟩ | he | ⟨_, _, he⟩
  · exact ⟨loc, hf, by rw [he]⟩
  · cases he ▸ hok
  · cases he ▸ hok

theorem startForward_slide_inv (c : Cache) (b : List Tok) (h : Inv c) : Inv (slide { c with curBatch := b, except := [] } b) :=
  slide_inv _ b (h.of_eq rfl rfl rfl rfl)

theorem inv_placeBase (c : Cache) (b : List Tok) (h : Inv c) : Inv (placeBase c b) := by
  unfold placeBase
  split
  · exact startForward_slide_inv c b h
  · exact inv_defrag _ (startForward_slide_inv c b h)

theorem slide_or_defrag_fields (c : Cache) (b : List Tok) (c1 : Cache) (h1 : c1 = slide c b ∨ c1 = defrag (slide c b)) :
    c1.v = c.v ∧ c1.window = c.window ∧ c1.hasLayers = c.hasLayers ∧ c1.except = c.except ∧
    (c.hasLayers = false → c1.rows = c.rows) := by
  obtain ⟨hv, hw, hl, hr, hx, -⟩ := slide_fields c b
  rcases h1 with rfl | rfl
  · exact ⟨hv, hw, hl, hx, fun _ => hr⟩
  · exact ⟨hv, hw, hl, hx, fun h => (if_neg (by rw [hl, h]; exact Bool.false_ne_true)).trans hr⟩

theorem startForward_fields (c : Cache) (b : List Tok) :
    (startForward c b).1.v = c.v ∧ (startForward c b).1.window = c.window ∧
    (startForward c b).1.hasLayers = c.hasLayers ∧ (startForward c b).1.except = [] ∧
    (c.hasLayers = false → (startForward c b).1.rows = c.rows) := by
  have hs := slide_or_defrag_fields { c with curBatch := b, except := [] } b
  rcases startForward_cases c b with ⟨loc, _, he⟩ | he | ⟨_, _, he⟩
  · obtain ⟨hv, hw, hl, hx, hr⟩ := hs _ (placeBase_cases c b)
    obtain ⟨-, fr, fl, -, fw, fx, -, fv⟩ := finishForward_fields (placeBase c b) loc b
    rw [he]
    exact ⟨fv.trans hv, fw.trans hw, fl.trans hl, fx.trans hx, fun h => fr.trans (hr h)⟩
  · rw [he]; exact hs _ (Or.inl rfl)
  · rw [he]; exact hs _ (Or.inr rfl)

/-- **Invariant preservation and coverage for StartForward** (all caches satisfying the invariant,
    all batches, with or without a window, with or without the defrag-and-retry path, pinned or
    repaired defrag): after a successful `StartForward` the invariant holds again and every batch
    token's sequence lies inside the range covered by the mask and the K/V views. -/
theorem startForward_covers (c : Cache) (b : List Tok) (h : Inv c) (hok : (startForward c b).2 = .ok) :
    Inv (startForward c b).1 ∧ ∀ t ∈ b, Covers (startForward c b).1 t := by
  obtain ⟨loc, hf, he⟩ := startForward_ok c b hok
  have hfit := (findStart_fits _ _ _ hf).1
  have h2 := inv_placeBase c b h
  rw [he]
  generalize placeBase c b = c2 at hfit h2 ⊢
  obtain ⟨hi, S', hS', hmem⟩ := place_inv { c2 with curLoc := loc, curRange := Range.new } loc b []
    (h2.of_eq rfl rfl rfl rfl) ⟨fun _ ht => absurd ht List.not_mem_nil, Or.inr rfl⟩ hfit
  refine ⟨hi.of_eq rfl rfl rfl rfl, fun t ht => covers_padRange _ t hi ⟨?_, fun j hj hs => ?_⟩⟩
  · have hb := List.length_pos_of_mem ht
    have := hS'.cmax
    simp only [(place_fields _ loc b).1, length_placeCells] at this ⊢
    omega
  · obtain ⟨r, hr, _, _⟩ := hi.cover j hj t.seq hs
    obtain ⟨r', hr', _, _⟩ := hS'.sub t (hmem t (Or.inl ht))
    cases hr.symm.trans hr'
    omega

/-- **mask_exact.**  For every cache state satisfying the invariant and every
    batch: if `StartForward` succeeds (then `Put` stores the batch's rows), then for every batch token
    the entries its mask row exposes, together with the row data found there, are exactly the entries
    of the abstract state visible to that token (same sequence, position ≤ its own, inside the
    window) — nothing from other sequences, later positions or removed ranges, and nothing of what the
    cache holds is missing. -/
theorem mask_exact (c : Cache) (b : List Tok) (ids : List Nat) (h : Inv c)
    (hok : (startForward c b).2 = .ok) :
    let c' := put (startForward c b).1 ids
    ∀ t ∈ b, exposedEntries c' t = visible c'.window (abs c') t.seq t.pos := by
  intro c' t ht
  obtain ⟨hi, hcov⟩ := startForward_covers c b h hok
  exact mask_exact_of_covers c' t (put_inv _ ids hi).len (hcov t ht)

theorem inv_init (v : Variant) (w : Option Int) (maxSeq capacity maxBatch cachePad batchPad : Nat) (hs : Bool)
    (hsz : (Causal.init v w maxSeq capacity maxBatch cachePad batchPad hs).cells.length ≤ maxInt) :
    Inv (Causal.init v w maxSeq capacity maxBatch cachePad batchPad hs) := by
  refine ⟨?_, ?_, ?_, ⟨?_, ?_⟩, hsz⟩
  · simp only [Causal.init, List.length_replicate]
  · intro j hj s hs
    simp only [Causal.init, List.getElem_replicate] at hs
    cases hs
  · intro s r hr
    cases hr
  · show 0 < if cachePad = 0 then 1 else cachePad
    split <;> omega
  · simp only [Causal.init, List.length_replicate]
    exact Nat.mul_mod_left _ _

theorem startForward_inv (c : Cache) (b : List Tok) (h : Inv c) : Inv (startForward c b).1 := by
  rcases startForward_cases c b with ⟨loc, hf, he⟩ | he | ⟨_, _, he⟩
  · exact (startForward_covers c b h (by rw [he])).1
  · rw [he]; exact startForward_slide_inv c b h
  · rw [he]; exact inv_defrag _ (startForward_slide_inv c b h)

/-- **The exception set is per forward pass**: whatever `SetCausal` left behind, `StartForward`
    (with any outcome) clears it. -/
theorem startForward_except (c : Cache) (b : List Tok) : (startForward c b).1.except = [] :=
  (startForward_fields c b).2.2.2.1

/-- **mask_exact for a pass with `SetCausal`.**  After an accepted `StartForward`, `Put` and
    `SetCausal(ctx, {Except: ex})`: the token at batch index `i` is shown exactly the entries of its
    sequence inside the window's lower bound, restricted to positions ≤ its own unless `i ∈ ex`
    (then also the later positions of its sequence — `visE_false`). -/
theorem mask_exact_pass (c : Cache) (b : List Tok) (ids : List Nat) (ex : List Nat) (h : Inv c)
    (hok : (startForward c b).2 = .ok) :
    let c' := setCausal (put (startForward c b).1 ids) ex
    ∀ i t, b[i]? = some t →
      exposedEntriesAt c' i t = visibleE (!ex.contains i) c'.window (abs c') t.seq t.pos := by
  intro c' i t hit
  obtain ⟨hi, hcov⟩ := startForward_covers c b h hok
  have hip := put_inv _ ids hi
  have := mask_exact_except_of_covers c' i t (setCausal_inv _ ex hip).len
    (setCausal_covers _ ex t hip (hcov t (List.mem_of_getElem? hit)))
  rwa [setCausal_except] at this

/-- **A pass without `SetCausal` is plainly causal, whatever happened before**: the state `c` may
    carry any exception set from an earlier pass; after `StartForward` + `Put` every batch index is
    shown exactly its causal history (no leak of earlier options). -/
theorem mask_exact_plain_after_reset (c : Cache) (b : List Tok) (ids : List Nat) (h : Inv c)
    (hok : (startForward c b).2 = .ok) :
    let c' := put (startForward c b).1 ids
    ∀ i t, b[i]? = some t → exposedEntriesAt c' i t = visible c'.window (abs c') t.seq t.pos := by
  intro c' i t hit
  have := mask_exact_pass c b ids [] h hok i t hit
  rwa [show setCausal c' [] = c' from if_pos (startForward_except c b)] at this

/-! ### `Remove` of the tree under test (`removeV`): pinned, or repaired so that errors change nothing (F28) -/

theorem removeV_cases (c : Cache) (seq : Nat) (b e : Int) :
    removeV c seq b e = Causal.remove c seq b e ∨
    ((removeV c seq b e).1 = c ∧ (removeV c seq b e).2 ≠ .ok ∧ c.v.atomicRemove = true) := by
  unfold removeV
  split
  · rename_i hat
    cases hg : removeGuard c seq b e with
    | none => exact Or.inl rfl
    | some r =>
      refine Or.inr ⟨rfl, ?_, hat⟩
      rintro rfl
      unfold removeGuard at hg
      split at hg
      · cases hg
      · split at hg <;> cases hg
  · exact Or.inl rfl

theorem removeV_inv (c : Cache) (seq : Nat) (b e : Int) (h : Inv c) : Inv (removeV c seq b e).1 := by
  rcases removeV_cases c seq b e with h1 | ⟨h1, _, _⟩
  · rw [h1]; exact remove_inv c seq b e h
  · rw [h1]; exact h

theorem removeV_fields (c : Cache) (seq : Nat) (b e : Int) :
    (removeV c seq b e).1.v = c.v ∧ (removeV c seq b e).1.window = c.window ∧
    (removeV c seq b e).1.hasLayers = c.hasLayers ∧
    (c.hasLayers = false → (removeV c seq b e).1.rows = c.rows) := by
  rcases removeV_cases c seq b e with h1 | ⟨h1, _, _⟩
  · rw [h1]; exact remove_fields c seq b e
  · rw [h1]; exact ⟨rfl, rfl, rfl, fun _ => rfl⟩

/-- an accepted removal is the pinned `Remove` (the repair only changes what errors leave behind) -/
theorem removeV_ok_eq (c : Cache) (seq : Nat) (b e : Int) (hok : (removeV c seq b e).2 = .ok) :
    removeV c seq b e = Causal.remove c seq b e :=
  (removeV_cases c seq b e).resolve_right fun h => h.2.1 hok

/-- when the repaired `Remove`'s checks pass, the removal is carried out without error -/
theorem remove_ok_of_guard_none (c : Cache) (seq : Nat) (b e : Int) (hg : removeGuard c seq b e = none) :
    (Causal.remove c seq b e).2 = .ok := by
  unfold removeGuard at hg
  split at hg
  · cases hg
  split at hg
  · cases hg
  rename_i h1 h2
  have hflag := (removeCells_flag seq b e (rmOffset b e) c.cells).trans (Bool.eq_false_iff.mpr h1)
  rw [remove_snd, hflag, if_neg Bool.false_ne_true]
  split
  · rfl
  split
  · rfl
  split
  · rename_i hrg hne hns
    -- the second check passed although a shift without `shiftFn` is due: nothing of `seq` remains
    refine absurd ?_ hrg
    rw [removeCells_ok _ _ _ _ _ hflag]
    apply rangeFrom_none
    intro _ y hy
    obtain ⟨x, hx, rfl⟩ := List.mem_map.mp hy
    simp only [hasSeq, decide_eq_false_iff_not]
    unfold rmCell
    by_cases hs : seq ∈ x.seqs
    · by_cases hin : b ≤ x.pos ∧ x.pos < e
      · rw [if_pos hs, if_pos hin]
        exact mem_filter_ne
      · refine absurd ?_ h2
        simp only [Bool.and_eq_true, List.any_eq_true, decide_eq_true_eq, Bool.not_eq_true']
        exact ⟨⟨⟨x, hx, hs, decide_eq_false hin⟩, hne⟩, (Bool.not_eq_true' _).mp hns⟩
    · rwa [if_neg hs]
  · rfl

/-- **The repaired `Remove` is atomic** (F28): whenever it reports an error, the cache — cells, ranges,
    rows, everything — is exactly as before, so the history every sequence is shown afterwards is the one
    before the refused call. -/
theorem removeV_error_unchanged (c : Cache) (seq : Nat) (b e : Int) (hat : c.v.atomicRemove = true)
    (herr : (removeV c seq b e).2 ≠ .ok) : (removeV c seq b e).1 = c := by
  unfold removeV at herr ⊢
  simp only [hat, if_true] at herr ⊢
  cases hg : removeGuard c seq b e with
  | some r => rfl
  | none =>
    simp only [hg] at herr
    exact absurd (remove_ok_of_guard_none c seq b e hg) herr

/-! ### pinned `Remove` followed by the documented recovery is a clean clear -/

/-- whatever `Remove` answered, with or without layer tensors: a refused loop has stopped early and left the rows alone;
    a completed one has re-shifted only rows of cells that `seq` owns alone, which the clear empties -/
theorem remove_then_clear_any (c : Cache) (seq : Nat) (b e : Int) (hb : 0 ≤ b) (hbe : b ≤ e)
    (hpb : PosBound c.cells) (hpos : ∀ x ∈ c.cells, seq ∈ x.seqs → 0 ≤ x.pos) :
    abs (Causal.remove (Causal.remove c seq b e).1 seq 0 maxInt32).1 = abs (Causal.remove c seq 0 maxInt32).1 := by
  obtain ⟨h1, h2, _⟩ := remove_inf (Causal.remove c seq b e).1 seq 0
    (posBound_remove c seq b e hbe hpb)
  obtain ⟨g1, g2, _⟩ := remove_inf c seq 0 hpb
  unfold abs
  rw [h1, h2, g1, g2, remove_cells]
  refine remove_rows_ind (Q := fun R => (((rmLoop c seq b e).1.map (rmInf seq 0)).zip R).filterMap entryOf = _) c seq b e
    (clear_after_removeCells seq b e hb c.cells c.rows hpos) fun hf => ?_
  have hnr := List.any_eq_false.mp ((removeCells_flag seq b e (rmOffset b e) c.cells).symm.trans hf)
  rw [removeCells_ok seq b e (rmOffset b e) c.cells hf, List.zip_map_left, zip_shiftRows, List.zip_map_left,
    List.map_map, List.filterMap_map, List.filterMap_map]
  exact filterMap_congr fun x hx => clear_rmPair seq b e hb true x (hpos x.1 (List.of_mem_zip hx).1)
    (eq_false_of_ne_true (hnr x.1 (List.of_mem_zip hx).1))

/-- **Pinned `Remove`, error path.**  Whatever a refused `Remove` (shared cells / no `shiftFn`) has already
    changed, the recovery the `Cache` interface prescribes — `Remove(seq, 0, MaxInt32)` — leaves exactly the
    abstract state that clearing the sequence *instead* would have left: the half-done removal is confined to
    the sequence that must be cleared; no other sequence's entry, position or data is affected.
    (positions of `seq` are ≥ 0 and < MaxInt32, `0 ≤ b ≤ e`) -/
theorem refused_remove_then_clear (c : Cache) (seq : Nat) (b e : Int) (hb : 0 ≤ b) (hbe : b ≤ e)
    (hpb : PosBound c.cells) (hpos : ∀ x ∈ c.cells, seq ∈ x.seqs → 0 ≤ x.pos)
    (herr : (Causal.remove c seq b e).2 ≠ .ok) :
    abs (Causal.remove (Causal.remove c seq b e).1 seq 0 maxInt32).1 = abs (Causal.remove c seq 0 maxInt32).1 :=
  remove_then_clear_any c seq b e hb hbe hpb hpos

/-! ### F29: `WrapperCache.Remove` refused by a later wrapped cache -/

theorem wRemove_cons (c : Cache) (cs : List Cache) (seq : Nat) (b e : Int) :
    wRemove (c :: cs) seq b e =
      ((removeV c seq b e).1 :: if (removeV c seq b e).2 = .ok then (wRemove cs seq b e).1 else cs,
        if (removeV c seq b e).2 = .ok then (wRemove cs seq b e).2 else (removeV c seq b e).2) := by
  rw [wRemove]
  cases removeV c seq b e with
  | mk c1 r => cases r <;> rfl

theorem wRemove_ok_of_guards_none (cs : List Cache) (seq : Nat) (b e : Int)
    (h : ∀ c ∈ cs, removeGuard c seq b e = none) : (wRemove cs seq b e).2 = .ok := by
  induction cs with
  | nil => rfl
  | cons c rest ih =>
    obtain ⟨hg, hrest⟩ := List.forall_mem_cons.mp h
    have hc : (removeV c seq b e).2 = .ok := by
      simp only [removeV, hg, ite_self]
      exact remove_ok_of_guard_none c seq b e hg
    rw [wRemove_cons, if_pos hc, if_pos hc]
    exact ih hrest

/-- **The repaired `WrapperCache.Remove` is atomic** (F29): if it reports an error, no wrapped cache has changed. -/
theorem wRemoveV_error_unchanged (cs : List Cache) (seq : Nat) (b e : Int)
    (hat : ∀ c ∈ cs, c.v.atomicWrapperRemove = true) (herr : (wRemoveV cs seq b e).2 ≠ .ok) :
    (wRemoveV cs seq b e).1 = cs := by
  unfold wRemoveV at herr ⊢
  cases hf : cs.findSome? (fun c => if c.v.atomicWrapperRemove then removeGuard c seq b e else none) with
  | some r => rfl
  | none =>
    rw [hf] at herr
    refine absurd (wRemove_ok_of_guards_none cs seq b e fun c hc => ?_) herr
    simpa [hat c hc] using List.findSome?_eq_none_iff.mp hf c hc

/-! ### histories -/

inductive HOp where
  | fwd (b : List Tok) (ids : List Nat)
  | cp (src dst : Nat) (len : Int)
  | rm (seq : Nat) (b e : Int)
  | sc (ex : List Nat)
  /-- a reserve pass (worst-case graph reservation) -/
  | rsv (b : List Tok)

def stepH (c : Cache) : HOp → Cache
  | .fwd b ids => if (startForward c b).2 = .ok then put (startForward c b).1 ids else (startForward c b).1
  | .cp src dst len => Causal.copyPrefix c src dst len
  | .rm seq b e => (removeV c seq b e).1
  | .sc ex => setCausal c ex
  | .rsv b => startReserve c b

theorem stepH_inv (c : Cache) (op : HOp) (h : Inv c) : Inv (stepH c op) := by
  cases op with
  | fwd b ids =>
    have hs := startForward_inv c b h
    simp only [stepH]
    split
    · exact put_inv _ _ hs
    · exact hs
  | cp src dst len => exact copyPrefix_inv c src dst len h
  | rm seq b e => exact removeV_inv c seq b e h
  | sc ex => exact setCausal_inv c ex h
  | rsv b => exact reserve_inv c b h

/-- **The invariant holds along every history**: any interleaving of forward passes (accepted or
    rejected), prefix copies and removals (accepted, refused half-way, or unsupported). -/
theorem inv_run (c : Cache) (ops : List HOp) (h : Inv c) : Inv (ops.foldl stepH c) :=
  List.foldlRecOn ops stepH h fun c h op _ => stepH_inv c op h

/-- **mask_exact after every history**: start from any initial configuration, run any history, then
    any batch that `StartForward` accepts is exposed exactly its visible history. -/
theorem mask_exact_all_histories (v : Variant) (w : Option Int) (maxSeq capacity maxBatch cachePad batchPad : Nat)
    (hs : Bool) (ops : List HOp) (b : List Tok) (ids : List Nat)
    (hsz : (Causal.init v w maxSeq capacity maxBatch cachePad batchPad hs).cells.length ≤ maxInt) :
    let c := ops.foldl stepH (Causal.init v w maxSeq capacity maxBatch cachePad batchPad hs)
    (startForward c b).2 = .ok →
    ∀ t ∈ b, exposedEntries (put (startForward c b).1 ids) t
      = visible (put (startForward c b).1 ids).window (abs (put (startForward c b).1 ids)) t.seq t.pos := by
  intro c
  exact mask_exact c b ids (inv_run _ ops (inv_init v w maxSeq capacity maxBatch cachePad batchPad hs hsz))

/-! ### storing a batch commutes with the abstraction -/

/-- a cell written over an unowned one, and a row at the same place, are one more entry -/
theorem store_one_perm (cells : List Cell) (rows : List Row) (i : Nat) (x : Cell) (y : Row) (e : Entry)
    (he : entryOf (x, y) = some e) (hlen : cells.length = rows.length) (hi : i < cells.length)
    (hole : (cells.getD i Cell.empty).seqs = []) :
    (((cells.set i x).zip (rows.set i y)).filterMap entryOf).Perm ((cells.zip rows).filterMap entryOf ++ [e]) := by
  induction cells generalizing rows i with
  | nil => cases hi
  | cons c cs ih =>
    cases rows with
    | nil => cases hlen
    | cons r rs =>
      cases i with
      | zero =>
        have : entryOf (c, r) = none := if_pos hole
        simp only [List.set_cons_zero, List.zip_cons_cons, List.filterMap_cons, this, he]
        exact (List.perm_append_singleton e _).symm
      | succ i =>
        have := ih rs i (Nat.succ.inj hlen) (Nat.lt_of_succ_lt_succ hi) hole
        simp only [List.set_cons_succ, List.zip_cons_cons, List.filterMap_cons]
        cases entryOf (c, r) with
        | none => exact this
        | some e' => exact this.cons e'

/-- **Store commutes with the abstraction.**  Placing a batch into the free block found by
    `findStartLoc` and `Put`ting its data adds exactly one fresh entry per token (owner = the token's
    sequence, its position, its data, shift 0) to the abstract state and changes nothing else: no live
    entry is overwritten, lost or altered. -/
theorem forward_abs_perm (c2 : Cache) (loc : Nat) (b : List Tok) (ids : List Nat)
    (hids : ids.length = b.length) (hlen : c2.cells.length = c2.rows.length)
    (hfit : loc + b.length ≤ c2.cells.length)
    (hholes : ∀ j, loc ≤ j → j < loc + b.length → (c2.cells.getD j Cell.empty).seqs = []) :
    (abs (put (finishForward c2 loc b) ids)).Perm (KV.store (abs c2) (b.zip ids)) := by
  have hp := finishForward_fields c2 loc b
  simp only [abs, put, hp.1, hp.2.1, hp.2.2.2.1, placeCells, KV.store]
  clear hp
  generalize c2.cells = cells at hlen hfit hholes ⊢
  generalize c2.rows = rows at hlen ⊢
  induction b generalizing loc ids cells rows with
  | nil =>
    cases List.eq_nil_of_length_eq_zero hids
    simp [setBlock, putRows]
  | cons t b ih =>
    obtain ⟨id, ids, rfl⟩ := List.exists_cons_of_length_eq_add_one hids
    rw [List.length_cons] at hfit hholes
    refine (ih (loc + 1) ids (Nat.succ.inj hids) (cells.set loc _) (by rw [List.length_set]; omega) (fun j h1 h2 => ?_)
      (rows.set loc _) (by simpa using hlen)).trans ?_
    · rw [getD_set_ne _ _ _ _ _ (by omega)]
      exact hholes j (by omega) (by omega)
    · refine ((store_one_perm cells rows loc _ _ _ rfl hlen (by omega) (hholes loc (Nat.le_refl _) (by omega))).append_right
        _).trans ?_
      rw [List.append_assoc]
      rfl

/-- **StartForward + Put commute with the abstraction**: whenever the batch is accepted, the abstract
    state afterwards is (a permutation of) the spec's `store` applied to the state placement started
    from (`placeBase`: after window eviction, and after defrag if it ran). -/
theorem startForward_put_abs_perm (c : Cache) (b : List Tok) (ids : List Nat) (h : Inv c)
    (hids : ids.length = b.length) (hok : (startForward c b).2 = .ok) :
    (abs (put (startForward c b).1 ids)).Perm (KV.store (abs (placeBase c b)) (b.zip ids)) := by
  obtain ⟨loc, hf, he⟩ := startForward_ok c b hok
  rw [he]
  exact forward_abs_perm _ loc b ids hids (inv_placeBase c b h).len (findStart_fits _ _ _ hf).1
    (findStart_holes _ _ _ hf)

/-! ### sliding-window eviction commutes with the abstraction and is invisible to the batch -/

theorem entryOf_evict (seq : Nat) (thr : Int) (x : Cell) (r : Row) :
    entryOf (if seq ∈ x.seqs ∧ x.pos < thr then dropSeq seq x else x, r) = (entryOf (x, r)).bind (evictEntry seq thr) := by
  obtain ⟨pos, seqs⟩ := x
  by_cases h0 : seqs = []
  · simp [entryOf, h0]
  · by_cases hc : seq ∈ seqs ∧ pos < thr <;> simp [entryOf, evictEntry, dropSeq, hc, h0]

/-- under the invariant the range test of `updateSlidingWindow` excludes no cell of `seq` -/
theorem slideSeq_cells (c : Cache) (w : Int) (seq : Nat) (low : Int) (h : Inv c) :
    (slideSeq c w seq low).cells = c.cells.map (fun x => if seq ∈ x.seqs ∧ x.pos < low - w then dropSeq seq x else x) := by
  have hcov := fun j hj => h.cover j hj seq
  unfold slideSeq
  generalize c.ranges seq = rg at hcov ⊢
  cases rg with
  | none =>
    refine List.ext_getElem (by simp) fun j hj _ => ?_
    rw [List.getElem_map, if_neg fun hc => ?_]
    obtain ⟨_, hr, _⟩ := hcov j hj hc.1
    cases hr
  | some old =>
    refine List.ext_getElem (by simp [length_mapFrom]) fun j _ hj => ?_
    rw [List.length_map] at hj
    rw [getElem_mapFrom _ _ _ j hj, Nat.zero_add, List.getElem_map, evictCell]
    refine ite_congr (propext ⟨fun hc => hc.2.2, fun hc => ?_⟩) (fun _ => rfl) (fun _ => rfl)
    obtain ⟨_, hr, hb⟩ := hcov j hj hc.1
    cases hr
    exact ⟨hb.1, hb.2, hc⟩

/-- **Window eviction commutes with the abstraction** (one sequence): `updateSlidingWindow` for `seq`
    is the spec's `evict` of everything of `seq` below `lowest − window`. -/
theorem slideSeq_abs (c : Cache) (w : Int) (seq : Nat) (low : Int) (h : Inv c) :
    abs (slideSeq c w seq low) = evict (abs c) seq (low - w) := by
  have hr : (slideSeq c w seq low).rows = c.rows := by unfold slideSeq; cases c.ranges seq <;> rfl
  rw [abs, slideSeq_cells c w seq low h, hr, evict, abs, List.zip_map_left, List.filterMap_map, List.filterMap_filterMap]
  exact filterMap_congr fun x _ => entryOf_evict seq _ x.1 x.2

theorem slide_abs (c : Cache) (b : List Tok) (h : Inv c) :
    abs (slide c b) = match c.window with
      | none => abs c
      | some w => specSlide (abs c) w b := by
  unfold slide
  cases c.window with
  | none => rfl
  | some w =>
    refine (List.foldl_rel (r := fun c s => Inv c ∧ abs c = s) ⟨h, rfl⟩ fun seq _ c s hr => ?_).2
    cases lowest b seq with
    | none => exact hr
    | some low => exact ⟨slideSeq_inv c w seq low hr.1, hr.2 ▸ slideSeq_abs c w seq low hr.1⟩

/-- what a pass that does not store its batch leaves of the abstract state: the window eviction for the
    batch's sequences, nothing else -/
def evictedSpec (c : Cache) (b : List Tok) : Spec :=
  match c.window with
  | none => abs c
  | some w => specSlide (abs c) w b

theorem startForward_slide_abs (c : Cache) (b : List Tok) (h : Inv c) :
    abs (slide { c with curBatch := b, except := [] } b) = evictedSpec c b :=
  slide_abs { c with curBatch := b, except := [] } b (h.of_eq rfl rfl rfl rfl)

theorem visible_evictedSpec (c : Cache) (b : List Tok) (t : Tok) (ht : t ∈ b) :
    (visible c.window (evictedSpec c b) t.seq t.pos).map key = (visible c.window (abs c) t.seq t.pos).map key := by
  unfold evictedSpec
  cases c.window with
  | none => rfl
  | some w => exact specSlide_invisible (abs c) w b t ht

theorem forward_exposes_of_store_perm (c : Cache) (b : List Tok) (ids : List Nat) (h : Inv c)
    (hok : (startForward c b).2 = .ok)
    (hperm : (abs (put (startForward c b).1 ids)).Perm (KV.store (evictedSpec c b) (b.zip ids)))
    (t : Tok) (ht : t ∈ b) :
    ((exposedEntries (put (startForward c b).1 ids) t).map key).Perm
      ((visible c.window (KV.store (abs c) (b.zip ids)) t.seq t.pos).map key) := by
  rw [mask_exact c b ids h hok t ht, show (put (startForward c b).1 ids).window = c.window from (startForward_fields c b).2.1,
    visible_store, List.map_append, ← visible_evictedSpec c b t ht, ← List.map_append, ← visible_store]
  exact (hperm.filter _).map key

/-- **End-to-end, one forward pass (placement without defrag).**  For every cache satisfying the
    invariant and every accepted batch that fits without defragmentation: what each batch token is
    shown (position, data identity, shift — as a multiset) is exactly what the location-free spec says
    about the state *before* the pass with the batch stored on top: the entries of the token's sequence
    at positions ≤ its own, inside the window.  The window eviction the pass performed is invisible. -/
theorem forward_exposes_stored_history (c : Cache) (b : List Tok) (ids : List Nat) (h : Inv c)
    (hids : ids.length = b.length) (loc : Nat)
    (hfit : findStart (slide { c with curBatch := b, except := [] } b).cells b.length = some loc)
    (t : Tok) (ht : t ∈ b) :
    ((exposedEntries (put (startForward c b).1 ids) t).map key).Perm
      ((visible c.window (KV.store (abs c) (b.zip ids)) t.seq t.pos).map key) := by
  have hok : (startForward c b).2 = .ok := by simp only [startForward, hfit]
  refine forward_exposes_of_store_perm c b ids h hok ?_ t ht
  rw [← startForward_slide_abs c b h]
  simpa only [placeBase, hfit] using startForward_put_abs_perm c b ids h hids hok

/-! ### WrapperCache: a rejected batch is unwound -/

/-- the batch continues its sequences: no owned cell of a batch token's sequence at or after it -/
def NoLater (cells : List Cell) (b : List Tok) : Prop :=
  ∀ x ∈ cells, ∀ t ∈ b, t.seq ∈ x.seqs → x.pos < t.pos

/-- **Unwinding an accepted batch restores the abstract state**: placing a batch into a free block
    and then running the wrapper's unwind (`Remove(seq_k, pos_k, MaxInt32)` for every token, with no
    `Put` in between) gives back exactly the abstraction the placement started from. -/
theorem unwind_finishForward_abs (c2 : Cache) (loc : Nat) (b : List Tok)
    (hlen : c2.cells.length = c2.rows.length) (hfit : loc + b.length ≤ c2.cells.length)
    (hholes : ∀ j, loc ≤ j → j < loc + b.length → (c2.cells.getD j Cell.empty).seqs = [])
    (hpb : PosBound c2.cells) (hbp : ∀ t ∈ b, t.pos < maxInt32) (hnl : NoLater c2.cells b) :
    abs (unwind (finishForward c2 loc b) b) = abs c2 := by
  obtain ⟨hcF, hrF, _⟩ := finishForward_fields c2 loc b
  obtain ⟨hc, hr⟩ := unwind_cells (finishForward c2 loc b) b (by
    rw [hcF]
    intro x hx s hs
    rcases mem_placeCells _ _ _ _ hx with h1 | ⟨t, ht, rfl⟩
    · exact hpb x h1 s hs
    · exact hbp t ht)
  have hn : (unwind (finishForward c2 loc b) b).cells.length = c2.cells.length := by
    rw [hc, List.length_map, hcF, length_placeCells]
  rw [abs_eq_range _ (by rw [hn, hr, hrF, hlen]), abs_eq_range _ hlen, hn]
  apply filterMap_congr
  intro j hj
  rw [List.mem_range] at hj
  unfold entryAt
  rw [hc, hr, hrF, hcF, getD_map_lt (unwCell b) _ j (by rw [length_placeCells]; exact hj) _ Cell.empty]
  obtain ⟨hout, hin⟩ := getD_placeCells c2.cells loc b j hfit
  by_cases hblock : loc ≤ j ∧ j < loc + b.length
  · -- inside the block: the placed cell is emptied by its own token's `Remove`, and was free before
    obtain ⟨t, ht, he⟩ := hin hblock.1 hblock.2
    have hempty : (unwCell b ⟨t.pos, [t.seq]⟩).seqs = [] := List.eq_nil_iff_forall_not_mem.mpr fun s hs =>
      unwCell_drops b _ t ht (Int.le_refl _) (List.mem_singleton.mp (unwCell_sub b _ s hs) ▸ hs)
    rw [he, entryOf, entryOf, if_pos hempty, if_pos (hholes j hblock.1 hblock.2)]
  · -- outside: the cell is as before, and no `Remove` of the unwind reaches it
    rw [hout (by omega), unwCell_id b _ fun t ht hs => hnl _ (Basic.getD_mem _ j _ hj) t ht hs]

/-- a successful `StartForward` followed by the wrapper's unwind leaves the abstraction of the state
    placement started from (pre-batch state after window eviction / defrag) -/
theorem startForward_unwind_abs (c : Cache) (b : List Tok) (h : Inv c)
    (hok : (startForward c b).2 = .ok)
    (hpb : PosBound (placeBase c b).cells) (hbp : ∀ t ∈ b, t.pos < maxInt32)
    (hnl : NoLater (placeBase c b).cells b) :
    abs (unwind (startForward c b).1 b) = abs (placeBase c b) := by
  obtain ⟨loc, hf, he⟩ := startForward_ok c b hok
  rw [he]
  exact unwind_finishForward_abs _ loc b (inv_placeBase c b h).len (findStart_fits _ _ _ hf).1
    (findStart_holes _ _ _ hf) hpb hbp hnl

/-- shape of a successful `WrapperCache.StartForward`: every wrapped cache ran its own, successfully -/
theorem wStart_ok (cs : List Cache) (b : List Tok) (cs' : List Cache) (h : wStart cs b = (cs', .ok)) :
    cs' = cs.map (fun c => (startForward c b).1) ∧ ∀ c ∈ cs, (startForward c b).2 = .ok := by
  fun_induction wStart cs b generalizing cs' with cases h
  | case1 => exact ⟨rfl, List.forall_mem_nil _⟩
  | case2 c cs b c1 hs rs hw ih =>
    obtain ⟨e1, e2⟩ := ih rs hw
    rw [List.map_cons, hs, ← e1]
    exact ⟨rfl, List.forall_mem_cons.mpr ⟨by rw [hs], e2⟩⟩
  | case5 _ _ _ _ _ hr => exact absurd rfl hr

/-- shape of a rejected `WrapperCache.StartForward`: the caches before the rejecting one accepted and
    were unwound, the rejecting one keeps its own failed state, the later ones are untouched -/
theorem wStart_full (cs : List Cache) (b : List Tok) (cs' : List Cache) (h : wStart cs b = (cs', .full)) :
    ∃ pre c post, cs = pre ++ c :: post ∧ (∀ x ∈ pre, (startForward x b).2 = .ok) ∧
      (startForward c b).2 = .full ∧
      cs' = pre.map (fun x => unwind (startForward x b).1 b) ++ (startForward c b).1 :: post := by
  fun_induction wStart cs b generalizing cs' with cases h
  | case3 c cs b c1 hs rs hw ih =>
    obtain ⟨pre, c0, post, e1, e2, e3, e4⟩ := ih rs hw
    refine ⟨c :: pre, c0, post, by rw [e1]; rfl, List.forall_mem_cons.mpr ⟨by rw [hs], e2⟩, e3, ?_⟩
    rw [List.map_cons, hs, e4]
    rfl
  | case5 c cs b c1 _ _ hs => exact ⟨[], c, cs, rfl, List.forall_mem_nil _, by rw [hs], by rw [hs]; rfl⟩

/-- **A rejected wrapped batch leaves every cache at its pre-batch history.**  If
    `WrapperCache.StartForward` reports a full cache, then (for batches that continue their sequences,
    positions below `MaxInt32`) every wrapped cache that had accepted the batch has, after the
    unwind, exactly the abstraction of the state its placement started from; the rejecting cache is in
    that state itself and the later caches are untouched.  Nothing of the rejected batch survives. -/
theorem wrapper_rejected_batch_leaves_history (cs : List Cache) (b : List Tok) (cs' : List Cache)
    (hinv : ∀ c ∈ cs, Inv c) (hbp : ∀ t ∈ b, t.pos < maxInt32)
    (hgood : ∀ c ∈ cs, PosBound (placeBase c b).cells ∧ NoLater (placeBase c b).cells b)
    (h : wStart cs b = (cs', .full)) :
    ∃ pre c post, cs = pre ++ c :: post ∧
      cs'.map abs = pre.map (fun x => abs (placeBase x b)) ++ abs (placeBase c b) :: post.map abs := by
  obtain ⟨pre, c, post, rfl, e2, e3, rfl⟩ := wStart_full cs b cs' h
  refine ⟨pre, c, post, rfl, ?_⟩
  -- the rejecting cache: its failed StartForward leaves exactly `placeBase`
  have hc : (startForward c b).1 = placeBase c b := by
    rcases startForward_cases c b with ⟨loc, _, he⟩ | he | ⟨hf, _, he⟩
    · rw [he] at e3; cases e3
    · rw [he] at e3; cases e3
    · rw [he, placeBase, hf]
  rw [List.map_append, List.map_map, List.map_cons, hc]
  refine congrArg (· ++ _) (List.map_congr_left fun x hx => ?_)
  have hg := hgood x (List.mem_append_left _ hx)
  exact startForward_unwind_abs x b (hinv x (List.mem_append_left _ hx)) (e2 x hx) hg.1 hbp hg.2

/-- **mask_exact for every wrapped cache** after a successful `WrapperCache.StartForward` + `Put` -/
theorem wrapper_mask_exact (cs : List Cache) (b : List Tok) (ids : List Nat) (cs' : List Cache)
    (hinv : ∀ c ∈ cs, Inv c) (h : wStart cs b = (cs', .ok)) :
    ∀ c' ∈ wPut cs' ids, ∀ t ∈ b, exposedEntries c' t = visible c'.window (abs c') t.seq t.pos := by
  obtain ⟨rfl, e2⟩ := wStart_ok cs b cs' h
  rw [wPut, List.map_map]
  exact List.forall_mem_map.mpr fun c hc => mask_exact c b ids (hinv c hc) (e2 c hc)

/-! ### EncoderCache -/

def encAbs (s : Enc) : EncSpec := ⟨s.curPos, s.curReserve, if s.cached then some s.encPos else none⟩

theorem encAbs_step (s : Enc) (op : EOp) : encSpecStep (encAbs s) op = encAbs (encStep s op) := by
  obtain ⟨cp, rs, ca, ep, ly⟩ := s
  cases op with
  | start p r => rfl
  | put l id => cases rs <;> rfl
  | remove b e =>
    rw [encStep, apply_ite encAbs]
    cases ca
    · exact (ite_self _).symm
    · rfl

/-- **EncoderCache never offers a removed input's encoder output as cached**: along every history,
    `EncoderCached()` is true exactly when an encoder output was stored by a non-reserve pass and no
    `Remove` has covered its position since, and `encoderPos` is that position. -/
theorem encoder_cached_exact (ops : List EOp) :
    let s := ops.foldl encStep {}
    let g := ops.foldl encSpecStep {}
    s.cached = g.stored.isSome ∧ ∀ p, g.stored = some p → s.encPos = p := by
  intro s g
  have hg : g = encAbs s := List.foldl_hom encAbs (init := {}) encAbs_step
  rw [hg, encAbs]
  cases s.cached
  · exact ⟨rfl, fun p hp => by cases hp⟩
  · exact ⟨rfl, fun p hp => Option.some.inj hp⟩

/-! ### defragmentation (repaired coalescing) commutes with the abstraction -/

/-- **Defragmentation does not change the abstract state** (repaired coalescing, `fixDefrag`): the
    entries — owners, position, and the data found at the entry's location — before and after `defrag`
    are the same up to order, for every cache.  (False for the pinned coalescing: `F14_defrag_swaps_rows`.) -/
theorem defrag_abs_perm_layers (c : Cache) (hlen : c.cells.length = c.rows.length)
    (hfix : c.v.fixDefrag = true) (hl : c.hasLayers = true) : (abs (defrag c)).Perm (abs c) := by
  simp only [defrag, abs, hfix, hl, if_true]
  exact (defragCore_perm c.cells c.rows hlen).2.2

/-- before the first `Put` the row array is untouched (`Init` zeroes it; only `Put`, defrag's block copies
    and `shift` write rows, and the last two do nothing without layer tensors) -/
def RowsFresh (c : Cache) : Prop := c.hasLayers = false → ∀ r ∈ c.rows, r = default

theorem rowsFresh_of (c c' : Cache) (h : RowsFresh c) (h1 : c'.hasLayers = c.hasLayers)
    (h2 : c.hasLayers = false → c'.rows = c.rows) : RowsFresh c' := by
  intro hl r hr
  rw [h1] at hl
  rw [h2 hl] at hr
  exact h hl r hr

/-- **Defragmentation does not change the abstract state**, also before the first `Put` (no layer tensors:
    the real code moves no data and every row is still zero) -/
theorem defrag_abs_perm (c : Cache) (hlen : c.cells.length = c.rows.length)
    (hfix : c.v.fixDefrag = true) (hr : RowsFresh c) : (abs (defrag c)).Perm (abs c) := by
  cases hl : c.hasLayers with
  | true => exact defrag_abs_perm_layers c hlen hfix hl
  | false =>
    obtain ⟨_, h2, hp⟩ := defragCore_perm c.cells c.rows hlen
    rw [eq_of_all_default _ _ h2 (fun x hx => hr hl x (defragCore_rows_sub true _ _ x hx)) (hr hl)] at hp
    simp only [defrag, abs, hfix, hl, Bool.false_eq_true, if_false]
    exact hp

/-- the abstract state placement starts from is the abstract state after window eviction, also when
    the pass had to defragment -/
theorem placeBase_abs_perm (c : Cache) (b : List Tok) (h : Inv c) (hfix : c.v.fixDefrag = true)
    (hr : RowsFresh c) :
    (abs (placeBase c b)).Perm (abs (slide { c with curBatch := b, except := [] } b)) := by
  rcases placeBase_cases c b with he | he
  · rw [he]
  · have hv := slide_fields { c with curBatch := b, except := [] } b
    rw [he]
    exact defrag_abs_perm _ (startForward_slide_inv c b h).len (by rw [hv.1]; exact hfix)
      (rowsFresh_of { c with curBatch := b, except := [] } _ hr hv.2.2.1 (fun _ => hv.2.2.2.1))

theorem startForward_put_refines (c : Cache) (b : List Tok) (ids : List Nat) (h : Inv c)
    (hfix : c.v.fixDefrag = true) (hr : RowsFresh c) (hids : ids.length = b.length)
    (hok : (startForward c b).2 = .ok) :
    (abs (put (startForward c b).1 ids)).Perm (KV.store (evictedSpec c b) (b.zip ids)) := by
  rw [← startForward_slide_abs c b h]
  exact (startForward_put_abs_perm c b ids h hids hok).trans
    (List.Perm.append_right _ (placeBase_abs_perm c b h hfix hr))

/-- **End-to-end, one forward pass, every accepting path** (direct fit or defragment-and-retry; repaired
    coalescing).  What each batch token is shown (position, data identity, shift — as a multiset) is
    exactly what the location-free spec says about the state *before* the pass with the batch stored
    on top.  Neither the window eviction nor the defragmentation of the pass is visible.
    `RowsFresh`: before the first `Put` all rows are still zero (holds along every
    history: `rowsFresh_run`). -/
theorem forward_exposes_stored_history_defrag (c : Cache) (b : List Tok) (ids : List Nat) (h : Inv c)
    (hids : ids.length = b.length) (hfix : c.v.fixDefrag = true) (hr : RowsFresh c)
    (hok : (startForward c b).2 = .ok) (t : Tok) (ht : t ∈ b) :
    ((exposedEntries (put (startForward c b).1 ids) t).map key).Perm
      ((visible c.window (KV.store (abs c) (b.zip ids)) t.seq t.pos).map key) :=
  forward_exposes_of_store_perm c b ids h hok (startForward_put_refines c b ids h hfix hr hids hok) t ht

/-! ### the unwind hypotheses, discharged from the state before the pass -/

def Shrunk (cells' cells : List Cell) : Prop :=
  ∀ x ∈ cells', x.seqs = [] ∨ ∃ y ∈ cells, x.pos = y.pos ∧ ∀ s ∈ x.seqs, s ∈ y.seqs

theorem shrunk_refl (cells : List Cell) : Shrunk cells cells :=
  fun x hx => Or.inr ⟨x, hx, rfl, fun _ h => h⟩

theorem shrunk_trans {a b c : List Cell} (h1 : Shrunk a b) (h2 : Shrunk b c) : Shrunk a c := by
  intro x hx
  rcases h1 x hx with h | ⟨y, hy, hp, hs⟩
  · exact Or.inl h
  · rcases h2 y hy with h | ⟨z, hz, hp2, hs2⟩
    · rw [h] at hs
      exact Or.inl (List.eq_nil_of_subset_nil hs)
    · exact Or.inr ⟨z, hz, hp.trans hp2, fun s h => hs2 s (hs s h)⟩

theorem slideSeq_shrunk (c : Cache) (w : Int) (seq : Nat) (low : Int) : Shrunk (slideSeq c w seq low).cells c.cells := by
  unfold slideSeq
  cases c.ranges seq with
  | none => exact shrunk_refl _
  | some old =>
    intro x hx
    obtain ⟨k, c0, hc0, rfl⟩ := mem_mapFrom hx
    unfold evictCell
    split
    · exact Or.inr ⟨c0, hc0, rfl, fun _ hs => (mem_dropSeq hs).1⟩
    · exact Or.inr ⟨c0, hc0, rfl, fun _ hs => hs⟩

theorem slide_shrunk (c : Cache) (b : List Tok) : Shrunk (slide c b).cells c.cells :=
  slide_ind (P := fun c' => Shrunk c'.cells c.cells)
    (fun c' w seq low h => shrunk_trans (slideSeq_shrunk c' w seq low) h) c b (shrunk_refl _)

theorem defrag_shrunk (c : Cache) : Shrunk (defrag c).cells c.cells :=
  fun x hx => ((defragCore_moved c.v.fixDefrag c.cells c.rows).2.2 x hx).imp_right
    fun h => ⟨x, h, rfl, fun _ hs => hs⟩

theorem placeBase_shrunk (c : Cache) (b : List Tok) : Shrunk (placeBase c b).cells c.cells := by
  rcases placeBase_cases c b with he | he
  · rw [he]; exact slide_shrunk _ b
  · rw [he]; exact shrunk_trans (defrag_shrunk _) (slide_shrunk _ b)

/-- a pass that does not accept its batch only drops owners and moves cells -/
theorem startForward_shrunk_of_not_ok (c : Cache) (b : List Tok) (h : (startForward c b).2 ≠ .ok) :
    Shrunk (startForward c b).1.cells c.cells := by
  rcases startForward_cases c b with ⟨loc, _, he⟩ | he | ⟨_, _, he⟩
  · rw [he] at h; exact absurd rfl h
  · rw [he]; exact slide_shrunk _ b
  · rw [he]; exact shrunk_trans (defrag_shrunk _) (slide_shrunk _ b)

/-- **Unwinding an accepted batch** restores the abstraction placement started from; the hypotheses are
    about the state *before* the pass: stored positions are below `MaxInt32` and the batch continues its
    sequences (nothing at or after a batch token's position is stored for its sequence). -/
theorem startForward_unwind_abs_pre (c : Cache) (b : List Tok) (h : Inv c)
    (hok : (startForward c b).2 = .ok)
    (hpb : PosBound c.cells) (hbp : ∀ t ∈ b, t.pos < maxInt32) (hnl : NoLater c.cells b) :
    abs (unwind (startForward c b).1 b) = abs (placeBase c b) := by
  have hown : ∀ x ∈ (placeBase c b).cells, ∀ s ∈ x.seqs, ∃ y ∈ c.cells, x.pos = y.pos ∧ s ∈ y.seqs := by
    intro x hx s hs
    rcases placeBase_shrunk c b x hx with h0 | ⟨y, hy, hp, hsub⟩
    · rw [h0] at hs; cases hs
    · exact ⟨y, hy, hp, hsub s hs⟩
  refine startForward_unwind_abs c b h hok (fun x hx s hs => ?_) hbp (fun x hx t ht hs => ?_)
  · obtain ⟨y, hy, hp, hsy⟩ := hown x hx s hs
    rw [hp]; exact hpb y hy s hsy
  · obtain ⟨y, hy, hp, hsy⟩ := hown x hx _ hs
    rw [hp]; exact hnl y hy t ht hsy

/-! ### before the first `Put` nothing is owned -/

/-- before the first `Put` no cell is owned (every accepted forward pass `Put`s) -/
def FreshEmpty (c : Cache) : Prop := c.hasLayers = false → ∀ x ∈ c.cells, x.seqs = []

theorem empty_of_shrunk {cells' cells : List Cell} (h : ∀ x ∈ cells, x.seqs = []) (hs : Shrunk cells' cells) :
    ∀ x ∈ cells', x.seqs = [] := by
  intro x hx
  rcases hs x hx with h0 | ⟨y, hy, _, hsub⟩
  · exact h0
  · rw [h y hy] at hsub
    exact List.eq_nil_of_subset_nil hsub

theorem remove_cells_empty (c : Cache) (seq : Nat) (b e : Int) (h : ∀ x ∈ c.cells, x.seqs = []) :
    ∀ x ∈ (Causal.remove c seq b e).1.cells, x.seqs = [] := by
  rw [remove_cells]
  intro x hx
  obtain ⟨j, hj, rfl⟩ := List.getElem_of_mem hx
  rw [length_removeCells] at hj
  have := removeCells_sub seq b e (rmOffset b e) c.cells j hj
  rw [h _ (List.getElem_mem hj)] at this
  exact List.eq_nil_of_subset_nil this

/-- if there are still no layer tensors after an operation, it was not an accepted forward pass (whose `Put`
    creates them): no row has been written and no cell has become owned -/
theorem stepH_keeps (c : Cache) (op : HOp) :
    (stepH c op).v = c.v ∧ (stepH c op).window = c.window ∧
    ((stepH c op).hasLayers = false → c.hasLayers = false ∧ (stepH c op).rows = c.rows ∧
      ((∀ x ∈ c.cells, x.seqs = []) → ∀ x ∈ (stepH c op).cells, x.seqs = [])) := by
  cases op with
  | fwd b ids =>
    have hf := startForward_fields c b
    simp only [stepH]
    split
    · exact ⟨hf.1, hf.2.1, nofun⟩
    · rename_i hnok
      refine ⟨hf.1, hf.2.1, fun hl => ?_⟩
      rw [hf.2.2.1] at hl
      exact ⟨hl, hf.2.2.2.2 hl, fun he => empty_of_shrunk he (startForward_shrunk_of_not_ok c b hnok)⟩
  | cp src dst len =>
    refine ⟨rfl, rfl, fun hl => ⟨hl, rfl, fun he x hx => ?_⟩⟩
    obtain ⟨y, hy, rfl⟩ := List.mem_map.mp hx
    simp [cpCell, cpSeqs, he y hy]
  | rm seq b e =>
    have hf := removeV_fields c seq b e
    simp only [stepH]
    refine ⟨hf.1, hf.2.1, fun hl => ?_⟩
    rw [hf.2.2.1] at hl
    refine ⟨hl, hf.2.2.2 hl, fun he => ?_⟩
    rcases removeV_cases c seq b e with h1 | ⟨h1, _, _⟩
    · rw [h1]; exact remove_cells_empty c seq b e he
    · rw [h1]; exact he
  | sc ex =>
    simp only [stepH, setCausal]
    split <;> exact ⟨rfl, rfl, fun hl => ⟨hl, rfl, id⟩⟩
  | rsv b => exact ⟨rfl, rfl, fun hl => ⟨hl, rfl, id⟩⟩

theorem run_fields (c : Cache) (ops : List HOp) :
    (ops.foldl stepH c).v = c.v ∧ (ops.foldl stepH c).window = c.window := by
  induction ops generalizing c with
  | nil => exact ⟨rfl, rfl⟩
  | cons op rest ih =>
    exact ⟨(ih _).1.trans (stepH_keeps c op).1, (ih _).2.trans (stepH_keeps c op).2.1⟩

theorem stepH_rowsFresh (c : Cache) (op : HOp) (h : RowsFresh c) : RowsFresh (stepH c op) := by
  intro hl
  obtain ⟨hl0, hr, _⟩ := (stepH_keeps c op).2.2 hl
  rw [hr]
  exact h hl0

/-- **Rows stay zero until the first `Put`**, along every history -/
theorem rowsFresh_run (c : Cache) (ops : List HOp) (h : RowsFresh c) : RowsFresh (ops.foldl stepH c) :=
  List.foldlRecOn ops stepH h fun c h op _ => stepH_rowsFresh c op h

theorem stepH_freshEmpty (c : Cache) (op : HOp) (h : FreshEmpty c) : FreshEmpty (stepH c op) := by
  intro hl
  obtain ⟨hl0, _, he⟩ := (stepH_keeps c op).2.2 hl
  exact he (h hl0)

theorem freshEmpty_run (c : Cache) (ops : List HOp) (h : FreshEmpty c) : FreshEmpty (ops.foldl stepH c) :=
  List.foldlRecOn ops stepH h fun c h op _ => stepH_freshEmpty c op h

theorem abs_nil_of_empty (c : Cache) (h : ∀ x ∈ c.cells, x.seqs = []) : abs c = [] :=
  List.filterMap_eq_nil_iff.mpr fun p hp => if_pos (h p.1 (List.of_mem_zip hp).1)

/-! ### refinement to the location-free specification -/

/-- the location-free meaning of one successful cache operation (`none`: the spec refuses a `Remove` that
    would have to shift an entry another sequence still shares) -/
def specStep (W : Option Int) (s : Spec) : HOp → Option Spec
  | .fwd b ids => some (KV.store (match W with | none => s | some w => specSlide s w b) (b.zip ids))
  | .cp src dst len => some (KV.copyPrefix s src dst len)
  | .rm seq b e => KV.remove s seq b e
  | .sc _ => some s
  | .rsv _ => some s

/-- the operation is accepted by the cache (a forward pass also needs one datum per token) -/
def Succeeds (c : Cache) : HOp → Prop
  | .fwd b ids => (startForward c b).2 = .ok ∧ ids.length = b.length
  | .rm seq b e => (removeV c seq b e).2 = .ok
  | _ => True

/-- the cache's answer alone, as a `Bool` (no datum count): what `specStepT` and `runT` are told -/
def accepted (c : Cache) : HOp → Bool
  | .fwd b _ => decide ((startForward c b).2 = .ok)
  | .rm seq b e => decide ((removeV c seq b e).2 = .ok)
  | _ => true

/-- the location-free meaning of one cache operation, given whether the cache accepted it: a rejected batch
    costs only the window eviction the pass had already performed, a refused `Remove` is a no-op -/
def specStepT (W : Option Int) (s : Spec) (op : HOp) (acc : Bool) : Spec :=
  match op with
  | .fwd b ids =>
    let s1 := match W with | none => s | some w => specSlide s w b
    if acc then KV.store s1 (b.zip ids) else s1
  | .cp src dst len => KV.copyPrefix s src dst len
  | .rm seq b e => if acc then (KV.remove s seq b e).getD s else s
  | .sc _ => s
  | .rsv _ => s

def WellFormed : HOp → Prop
  | .fwd b ids => ids.length = b.length
  | _ => True

/-- the specification run over a history (`none` as soon as the spec refuses a step) -/
def runSpec (W : Option Int) : Spec → List HOp → Option Spec
  | s, [] => some s
  | s, op :: ops => (specStep W s op).bind (fun s' => runSpec W s' ops)

def AllSucceed : Cache → List HOp → Prop
  | _, [] => True
  | c, op :: ops => Succeeds c op ∧ AllSucceed (stepH c op) ops

/-- the specification run next to the cache (it is told each answer of the cache) -/
def runT (W : Option Int) : Cache → Spec → List HOp → Spec
  | _, s, [] => s
  | c, s, op :: ops => runT W (stepH c op) (specStepT W s op (accepted c op)) ops

/-- a pass that does not accept its batch (full, or the pinned divide-by-zero) leaves the abstract state
    = before minus the window eviction -/
theorem startForward_not_ok_abs (c : Cache) (b : List Tok) (h : Inv c) (hfix : c.v.fixDefrag = true)
    (hr : RowsFresh c) (hno : (startForward c b).2 ≠ .ok) :
    (abs (startForward c b).1).Perm (evictedSpec c b) := by
  rw [← startForward_slide_abs c b h]
  rcases startForward_cases c b with ⟨loc, _, he⟩ | he | ⟨hf, _, he⟩
  · exact absurd (by rw [he]) hno
  · rw [he]
  · rw [he]
    simpa only [placeBase, hf] using placeBase_abs_perm c b h hfix hr

/-- before the first `Put` nothing is owned and the removal is vacuous on both sides -/
theorem removeV_ok_abs (c : Cache) (seq : Nat) (b e : Int) (h : Inv c) (hfe : FreshEmpty c)
    (hok : (removeV c seq b e).2 = .ok) :
    KV.remove (abs c) seq b e = some (abs (removeV c seq b e).1) := by
  have he := removeV_ok_eq c seq b e hok
  rw [he] at hok ⊢
  cases hl : c.hasLayers with
  | true => exact remove_abs c seq b e h.len h.size hl hok
  | false =>
    rw [abs_nil_of_empty c (hfe hl), abs_nil_of_empty _ (remove_cells_empty c seq b e (hfe hl))]
    rfl

/-- the specification does not depend on the order of the entries -/
theorem specStepT_perm (W : Option Int) (s s' : Spec) (op : HOp) (acc : Bool) (hp : s.Perm s') :
    (specStepT W s op acc).Perm (specStepT W s' op acc) := by
  cases op with
  | fwd b ids =>
    have h1 := evicted_perm W b s s' hp
    cases acc with
    | true => exact h1.append_right _
    | false => exact h1
  | cp src dst len => exact hp.filterMap _
  | rm seq b e =>
    cases acc with
    | false => exact hp
    | true =>
      simp only [specStepT, KV.remove, ← hp.any_eq, if_true]
      split
      · exact hp
      · exact hp.filterMap _
  | _ => exact hp

theorem specStep_perm (W : Option Int) (s s' : Spec) (op : HOp) (hp : s.Perm s') (t : Spec)
    (h : specStep W s op = some t) : ∃ t', specStep W s' op = some t' ∧ t.Perm t' := by
  have hT := specStepT_perm W s s' op true hp
  cases op with
  | rm seq b e =>
    simp only [specStep, KV.remove, ← hp.any_eq] at h ⊢
    split at h
    · cases h
    · rename_i hn
      cases h
      exact ⟨_, if_neg hn, hp.filterMap _⟩
  | _ =>
    -- every other operation is accepted, with the result of `specStepT`
    cases h
    exact ⟨_, rfl, hT⟩

/-- the refinement relation between a cache (variant `v`, window `W`) and a state `s` of the location-free
    specification.  `rows`, `empty`: without layer tensors `Remove` re-shifts no row and defrag copies none, so until the
    first `Put` the relation needs that there is nothing they would have had to move. -/
structure Sim (v : Variant) (W : Option Int) (c : Cache) (s : Spec) : Prop where
  v_eq : c.v = v
  w_eq : c.window = W
  inv : Inv c
  rows : RowsFresh c
  empty : FreshEmpty c
  perm : (abs c).Perm s

namespace Sim

theorem init (v : Variant) (w : Option Int) (maxSeq capacity maxBatch cachePad batchPad : Nat) (hs : Bool)
    (hsz : (Causal.init v w maxSeq capacity maxBatch cachePad batchPad hs).cells.length ≤ maxInt) :
    Sim v w (Causal.init v w maxSeq capacity maxBatch cachePad batchPad hs) [] :=
  have he : ∀ x ∈ (Causal.init v w maxSeq capacity maxBatch cachePad batchPad hs).cells, x.seqs = [] :=
    fun x hx => congrArg Cell.seqs (List.eq_of_mem_replicate hx)
  ⟨rfl, rfl, inv_init v w maxSeq capacity maxBatch cachePad batchPad hs hsz, fun _ r hr => List.eq_of_mem_replicate hr,
    fun _ => he, .of_eq (abs_nil_of_empty _ he)⟩

/-- `hg`: the operation is accepted, or the tree has the repaired `Remove` (a refused removal then changes nothing;
    a rejected batch costs the window eviction on both sides) -/
theorem step {v : Variant} {W : Option Int} {c : Cache} {s : Spec} (h : Sim v W c s) (hfix : v.fixDefrag = true)
    (op : HOp) (hg : v.atomicRemove = true ∧ WellFormed op ∨ Succeeds c op) :
    Sim v W (stepH c op) (specStepT W s op (accepted c op)) ∧
      (Succeeds c op → specStep W s op = some (specStepT W s op (accepted c op))) := by
  obtain ⟨hv, hw, hi, hr, hfe, hp⟩ := h
  subst hv hw
  obtain ⟨kv, kw, _⟩ := stepH_keeps c op
  suffices (abs (stepH c op)).Perm (specStepT c.window (abs c) op (accepted c op)) ∧
      (Succeeds c op → specStep c.window s op = some (specStepT c.window s op (accepted c op))) from
    ⟨⟨kv, kw, stepH_inv c op hi, stepH_rowsFresh c op hr, stepH_freshEmpty c op hfe,
      this.1.trans (specStepT_perm c.window (abs c) s op _ hp)⟩, this.2⟩
  cases op with
  | fwd b ids =>
    have hwf : ids.length = b.length := hg.elim (·.2) (·.2)
    simp only [stepH, specStepT, specStep, Succeeds, accepted, decide_eq_true_eq]
    refine ⟨?_, fun hs => by rw [if_pos hs.1]⟩
    split
    next hok => exact startForward_put_refines c b ids hi hfix hr hwf hok
    next hok => exact startForward_not_ok_abs c b hi hfix hr hok
  | cp src dst len => exact ⟨.of_eq (copyPrefix_abs c src dst len), fun _ => rfl⟩
  | rm seq b e =>
    simp only [stepH, specStepT, specStep, Succeeds, accepted, decide_eq_true_eq] at hg ⊢
    by_cases hok : (removeV c seq b e).2 = .ok
    · -- the spec accepts what the cache accepts; acceptance does not depend on the order of the entries
      have ha := removeV_ok_abs c seq b e hi hfe hok
      have hs : KV.remove s seq b e = some (s.filterMap (rmEntry seq b e)) := by
        simp only [KV.remove, hp.any_eq] at ha ⊢
        split at ha
        · cases ha
        · exact if_neg ‹_›
      rw [if_pos hok, if_pos hok, ha, hs]
      exact ⟨.refl _, fun _ => rfl⟩
    · rw [if_neg hok, removeV_error_unchanged c seq b e (hg.resolve_right hok).1 hok]
      exact ⟨.refl _, fun h => absurd h hok⟩
  | sc ex => exact ⟨.of_eq (setCausal_abs c ex), fun _ => rfl⟩
  | rsv b => exact ⟨.refl _, fun _ => rfl⟩

theorem run {v : Variant} {W : Option Int} (hfix : v.fixDefrag = true) (ops : List HOp) :
    ∀ {c : Cache} {s : Spec}, Sim v W c s → (v.atomicRemove = true ∧ ∀ op ∈ ops, WellFormed op) ∨ AllSucceed c ops →
      Sim v W (ops.foldl stepH c) (runT W c s ops) ∧ (AllSucceed c ops → runSpec W s ops = some (runT W c s ops)) := by
  induction ops with
  | nil => exact fun h _ => ⟨h, fun _ => rfl⟩
  | cons op rest ih =>
    intro c s h hg
    have ⟨h1, h2⟩ := h.step hfix op (hg.imp (.imp_right (· op List.mem_cons_self)) And.left)
    have ⟨h3, h4⟩ := ih h1 (hg.imp (.imp_right fun g o ho => g o (List.mem_cons_of_mem _ ho)) And.right)
    exact ⟨h3, fun hall => by rw [runSpec, h2 hall.1, Option.bind_some]; exact h4 hall.2⟩

theorem exposes {v : Variant} {W : Option Int} {c : Cache} {s : Spec} (h : Sim v W c s) (hfix : v.fixDefrag = true)
    (b : List Tok) (ids : List Nat) (hids : ids.length = b.length) (hok : (startForward c b).2 = .ok)
    (t : Tok) (ht : t ∈ b) :
    ((exposedEntries (put (startForward c b).1 ids) t).map key).Perm
      ((visible W (KV.store s (b.zip ids)) t.seq t.pos).map key) := by
  obtain ⟨hv, hw, hi, hr, hfe, hp⟩ := h
  subst hv hw
  exact (forward_exposes_stored_history_defrag c b ids hi hids hfix hr hok t ht).trans
    (((hp.append_right _).filter _).map key)

end Sim

/-- **Refinement, one step**: every operation the cache accepts changes the abstract state exactly as the
    location-free specification prescribes (up to the order of entries): a forward pass = window eviction
    for the batch's sequences + one fresh entry per token; CopyPrefix; Remove (with the shift applied to the
    data of exactly the moved entries); SetCausal and reserve passes change nothing.  Placement, cell reuse,
    range bookkeeping and defragmentation are invisible. -/
theorem refines_step (c : Cache) (op : HOp) (h : Inv c) (hfix : c.v.fixDefrag = true) (hr : RowsFresh c)
    (hfe : FreshEmpty c) (hs : Succeeds c op) :
    ∃ s', specStep c.window (abs c) op = some s' ∧ (abs (stepH c op)).Perm s' :=
  have ⟨h1, h2⟩ := Sim.step (s := abs c) ⟨rfl, rfl, h, hr, hfe, .refl _⟩ hfix op (.inr hs)
  ⟨_, h2 hs, h1.perm⟩

/-- **A rejected batch leaves the history alone**: after `ErrKvCacheFull` the abstract state is the one
    before the pass minus the window eviction the pass had already performed (which is invisible to the
    batch's sequences from their next position on) — nothing of the rejected batch is stored, no live
    entry is lost or altered although the cache has been defragmented. -/
theorem rejected_forward_abs (c : Cache) (b : List Tok) (h : Inv c) (hfix : c.v.fixDefrag = true)
    (hr : RowsFresh c) (hfull : (startForward c b).2 = .full) :
    (abs (startForward c b).1).Perm (match c.window with | none => abs c | some w => specSlide (abs c) w b) :=
  startForward_not_ok_abs c b h hfix hr (by simp [hfull])

/-- **Refinement along a history**: if the abstract state is (a permutation of) `s`, then after any
    history of accepted operations the abstract state is (a permutation of) what the location-free
    specification computes from `s` — and the specification accepts every step. -/
theorem refines_run (c : Cache) (ops : List HOp) (s : Spec) (hp : (abs c).Perm s) (h : Inv c)
    (hfix : c.v.fixDefrag = true) (hr : RowsFresh c) (hfe : FreshEmpty c) (hs : AllSucceed c ops) :
    ∃ s', runSpec c.window s ops = some s' ∧ (abs (ops.foldl stepH c)).Perm s' :=
  have ⟨h1, h2⟩ := Sim.run hfix ops ⟨rfl, rfl, h, hr, hfe, hp⟩ (.inr hs)
  ⟨_, h2 hs, h1.perm⟩

/-- **The cache refines the location-free specification**: from any initial configuration (repaired
    coalescing), along every history of accepted operations — forward passes with any placement, cell reuse,
    window eviction and defragmentation, prefix copies, removals with position shift, SetCausal, reserve
    passes — the entries the cache holds (owners, position, stored data, applied shift) are exactly those the
    specification, which knows nothing about locations, computes from the empty state. -/
theorem refines_all_histories (v : Variant) (hv : v.fixDefrag = true) (w : Option Int)
    (maxSeq capacity maxBatch cachePad batchPad : Nat) (hs : Bool) (ops : List HOp)
    (hsz : (Causal.init v w maxSeq capacity maxBatch cachePad batchPad hs).cells.length ≤ maxInt)
    (hok : AllSucceed (Causal.init v w maxSeq capacity maxBatch cachePad batchPad hs) ops) :
    ∃ s', runSpec w [] ops = some s' ∧
      (abs (ops.foldl stepH (Causal.init v w maxSeq capacity maxBatch cachePad batchPad hs))).Perm s' :=
  have ⟨h1, h2⟩ := Sim.run hv ops (Sim.init v w maxSeq capacity maxBatch cachePad batchPad hs hsz) (.inr hok)
  ⟨_, h2 hok, h1.perm⟩

/-- **Refinement for every history** (tree with the repaired coalescing): start from any initial
    configuration, run any history of forward passes (accepted or rejected), prefix copies, removals
    (accepted, refused, unsupported) and SetCausal calls; then any batch that `StartForward` accepts —
    by direct fit or after defragmenting — is shown exactly the entries the location-free spec derives
    from the abstract state before the pass. -/
theorem forward_exposes_all_histories (v : Variant) (hv : v.fixDefrag = true) (w : Option Int)
    (maxSeq capacity maxBatch cachePad batchPad : Nat) (hs : Bool) (ops : List HOp) (b : List Tok) (ids : List Nat)
    (hsz : (Causal.init v w maxSeq capacity maxBatch cachePad batchPad hs).cells.length ≤ maxInt)
    (hids : ids.length = b.length) :
    let c := ops.foldl stepH (Causal.init v w maxSeq capacity maxBatch cachePad batchPad hs)
    (startForward c b).2 = .ok →
    ∀ t ∈ b, ((exposedEntries (put (startForward c b).1 ids) t).map key).Perm
      ((visible c.window (KV.store (abs c) (b.zip ids)) t.seq t.pos).map key) := by
  intro c hok t ht
  have hi := Sim.init v w maxSeq capacity maxBatch cachePad batchPad hs hsz
  exact forward_exposes_stored_history_defrag c b ids (inv_run _ ops hi.inv) hids
    (by rw [(run_fields _ ops).1]; exact hv) (rowsFresh_run _ ops hi.rows) hok t ht

instance (c : Cache) (op : HOp) : Decidable (Succeeds c op) := by
  cases op <;> unfold Succeeds <;> infer_instance

instance decAllSucceed : (c : Cache) → (ops : List HOp) → Decidable (AllSucceed c ops)
  | _, [] => isTrue trivial
  | c, op :: ops =>
    have := decAllSucceed (stepH c op) ops
    by unfold AllSucceed; infer_instance

/-- non-vacuity of the refinement theorems: a history with a shifting middle removal, a forward
    pass that is only accepted after defragmenting, a fork, SetCausal and a reserve pass is accepted step by
    step, and the specification's run gives the 5 entries the cache then holds -/
theorem refines_nonvacuous :
    let c0 := Causal.init { fixDefrag := true } none 1 5 5 1 1 true
    let ops := [HOp.fwd [⟨0, 0⟩, ⟨0, 1⟩, ⟨0, 2⟩, ⟨0, 3⟩, ⟨0, 4⟩] [1, 2, 3, 4, 5], .rm 0 0 2, .rm 0 2 maxInt32,
      .fwd [⟨0, 2⟩, ⟨0, 3⟩, ⟨0, 4⟩] [6, 7, 8], .sc [1], .cp 0 1 2, .rsv [⟨1, 2⟩]]
    AllSucceed c0 ops ∧ ((runSpec none [] ops).map List.length) = some 5 ∧
    (abs (ops.foldl stepH c0)).length = 5 := by decide

/-- **End to end, histories of accepted operations.**  Start from any configuration (capacity, batch size, paddings, window;
    tree with the repaired defrag coalescing), run any history of accepted operations — stores with any
    placement and cell reuse, window evictions, defragmentations, prefix copies, removals with position
    shift, SetCausal, reserve passes — and let `s'` be what the location-free specification, which has no
    cache locations at all, computes from the empty state for that history.  Then for every batch the cache
    accepts next, every token of it is shown (position, data identity, applied shift; as a multiset) exactly
    the entries of `s'` plus the batch that belong to its sequence, lie at positions not after its own and
    inside the window: nothing of another sequence, of a removed range or of a later position, nothing
    missing, each with the data stored for it.
    (Guards: `AllSucceed` — a refused `Remove` is outside: pinned it leaves a half-done removal, F28; for
    windowed caches the specification contains the eviction, i.e. F15 is part of the spec.) -/
theorem history_exposes_spec (v : Variant) (hv : v.fixDefrag = true) (w : Option Int)
    (maxSeq capacity maxBatch cachePad batchPad : Nat) (hs : Bool) (ops : List HOp) (b : List Tok) (ids : List Nat)
    (hsz : (Causal.init v w maxSeq capacity maxBatch cachePad batchPad hs).cells.length ≤ maxInt)
    (hids : ids.length = b.length)
    (hall : AllSucceed (Causal.init v w maxSeq capacity maxBatch cachePad batchPad hs) ops) :
    let c := ops.foldl stepH (Causal.init v w maxSeq capacity maxBatch cachePad batchPad hs)
    (startForward c b).2 = .ok →
    ∃ s', runSpec w [] ops = some s' ∧
      ∀ t ∈ b, ((exposedEntries (put (startForward c b).1 ids) t).map key).Perm
        ((visible w (KV.store s' (b.zip ids)) t.seq t.pos).map key) := by
  have ⟨h1, h2⟩ := Sim.run hv ops (Sim.init v w maxSeq capacity maxBatch cachePad batchPad hs hsz) (.inr hall)
  exact fun hok => ⟨_, h2 hall, h1.exposes hv b ids hids hok⟩

/-- without a window a forward pass of the specification only stores (no eviction anywhere) -/
theorem specStep_none_fwd (s : Spec) (b : List Tok) (ids : List Nat) :
    specStep none s (.fwd b ids) = some (KV.store s (b.zip ids)) := rfl

/-! ### a full cache is reported as an error only when it is full -/

/-- **`ErrKvCacheFull` only without room** (repaired coalescing).  If `StartForward` rejects a non-empty
    batch, then the cache — after the window eviction of the pass — has fewer unowned cells than the batch
    has tokens: fragmentation alone never causes the error, because `defrag` compacts
    (`defragCore_compact`, both variants) and keeps the number of free cells (`defragCore_freeCount`).
    Contrapositive: with at least `b.length` free cells the batch is not rejected as full. -/
theorem full_only_without_room (c : Cache) (b : List Tok) (h : Inv c) (hfix : c.v.fixDefrag = true)
    (hb : b ≠ []) (hfull : (startForward c b).2 = .full) :
    freeCount (slide { c with curBatch := b, except := [] } b).cells < b.length := by
  rcases startForward_cases c b with ⟨loc, _, he⟩ | he | ⟨_, hf2, he⟩
  · rw [he] at hfull; cases hfull
  · rw [he] at hfull; cases hfull
  · simp only [defrag, (slide_fields _ b).1, hfix] at hf2
    rw [← defragCore_freeCount _ _ (startForward_slide_inv c b h).len]
    exact findStart_compact_none _ _ (List.length_pos_iff.mpr hb) (defragCore_compact _ _ _) hf2

/-! ### wrapped caches at the level of the specification -/

/-- **A rejected wrapped batch leaves every wrapped cache's history alone** (spec level): the caches before
    the rejecting one accepted the batch and were unwound, the rejecting one defragmented in vain — the
    abstract state of each of them is its state before the pass minus the window eviction for the batch's
    sequences; the caches after it are untouched. -/
theorem wrapper_rejected_batch_spec (cs : List Cache) (b : List Tok) (cs' : List Cache)
    (hinv : ∀ c ∈ cs, Inv c) (hfix : ∀ c ∈ cs, c.v.fixDefrag = true) (hfresh : ∀ c ∈ cs, RowsFresh c)
    (hbp : ∀ t ∈ b, t.pos < maxInt32)
    (hgood : ∀ c ∈ cs, PosBound c.cells ∧ NoLater c.cells b)
    (h : wStart cs b = (cs', .full)) :
    ∃ pre c post, cs = pre ++ c :: post ∧
      cs' = pre.map (fun x => unwind (startForward x b).1 b) ++ (startForward c b).1 :: post ∧
      (∀ x ∈ pre, (abs (unwind (startForward x b).1 b)).Perm (evictedSpec x b)) ∧
      (abs (startForward c b).1).Perm (evictedSpec c b) := by
  obtain ⟨pre, c, post, rfl, e2, e3, e4⟩ := wStart_full cs b cs' h
  refine ⟨pre, c, post, rfl, e4, fun x hx => ?_, ?_⟩
  · have hx' : x ∈ pre ++ c :: post := List.mem_append_left _ hx
    have hi := hinv x hx'
    rw [startForward_unwind_abs_pre x b hi (e2 x hx) (hgood x hx').1 hbp (hgood x hx').2, ← startForward_slide_abs x b hi]
    exact placeBase_abs_perm x b hi (hfix x hx') (hfresh x hx')
  · have hc : c ∈ pre ++ c :: post := by simp
    exact rejected_forward_abs c b (hinv c hc) (hfix c hc) (hfresh c hc) e3

/-- **An accepted wrapped batch is stored in every wrapped cache exactly as the specification prescribes**:
    each cache's abstract state afterwards is its own window eviction + one fresh entry per token. -/
theorem wrapper_forward_refines (cs : List Cache) (b : List Tok) (ids : List Nat) (cs' : List Cache)
    (hinv : ∀ c ∈ cs, Inv c) (hfix : ∀ c ∈ cs, c.v.fixDefrag = true) (hfresh : ∀ c ∈ cs, RowsFresh c)
    (hfe : ∀ c ∈ cs, FreshEmpty c) (hids : ids.length = b.length) (h : wStart cs b = (cs', .ok)) :
    wPut cs' ids = cs.map (fun c => put (startForward c b).1 ids) ∧
    ∀ c ∈ cs, (abs (put (startForward c b).1 ids)).Perm (KV.store (evictedSpec c b) (b.zip ids)) := by
  obtain ⟨e1, e2⟩ := wStart_ok cs b cs' h
  exact ⟨by rw [e1, wPut, List.map_map]; rfl, fun c hc =>
    startForward_put_refines c b ids (hinv c hc) (hfix c hc) (hfresh c hc) hids (e2 c hc)⟩

/-- a reserve pass on a wrapper is a reserve pass on every wrapped cache: each mask is exact, no state changes -/
theorem wrapper_reserve_mask_exact (cs : List Cache) (b : List Tok) (hinv : ∀ c ∈ cs, Inv c)
    (hn : ∀ c ∈ cs, 0 < c.cells.length) :
    (wStartReserve cs b).map abs = cs.map abs ∧
    ∀ c ∈ cs, ∀ t, exposedEntries (startReserve c b) t = visible c.window (abs c) t.seq t.pos :=
  ⟨by rw [wStartReserve, List.map_map]; rfl, fun c hc t => reserve_mask_exact c b (hinv c hc) (hn c hc) t⟩

/-! ### refinement at full strength for the repaired tree: no operation is excluded -/

/-- **Refinement, one step, every outcome** (repaired defrag and repaired `Remove`): whatever the cache
    answers — batch accepted or rejected, removal carried out or refused — the abstract state changes exactly
    as `specStepT` prescribes for that answer. -/
theorem refines_step_total (c : Cache) (op : HOp) (h : Inv c) (hfix : c.v.fixDefrag = true)
    (hat : c.v.atomicRemove = true) (hr : RowsFresh c) (hfe : FreshEmpty c) (hwf : WellFormed op) :
    (abs (stepH c op)).Perm (specStepT c.window (abs c) op (accepted c op)) :=
  (Sim.step (s := abs c) ⟨rfl, rfl, h, hr, hfe, .refl _⟩ hfix op (.inl ⟨hat, hwf⟩)).1.perm

/-- **Refinement along EVERY history** (repaired tree): no guard on the operations but one datum per token
    (`WellFormed`) — rejected batches and refused removals included. -/
theorem refines_run_total (c : Cache) (ops : List HOp) (s : Spec) (hp : (abs c).Perm s) (h : Inv c)
    (hfix : c.v.fixDefrag = true) (hat : c.v.atomicRemove = true) (hr : RowsFresh c) (hfe : FreshEmpty c)
    (hwf : ∀ op ∈ ops, WellFormed op) :
    (abs (ops.foldl stepH c)).Perm (runT c.window c s ops) :=
  (Sim.run hfix ops ⟨rfl, rfl, h, hr, hfe, hp⟩ (.inl ⟨hat, hwf⟩)).1.perm

/-- **THE PROPERTY for the repaired tree, no guard but one datum per token** (`WellFormed`): from any configuration, after ANY history (accepted
    and rejected batches, accepted and refused removals, prefix copies, SetCausal, reserve passes), every token
    of the next accepted batch is shown exactly the entries the location-free specification holds for that
    history plus the batch, filtered by sequence, position ≤ own, window. -/
theorem history_exposes_spec_total (v : Variant) (hv : v.fixDefrag = true) (hat : v.atomicRemove = true) (w : Option Int)
    (maxSeq capacity maxBatch cachePad batchPad : Nat) (hs : Bool) (ops : List HOp) (b : List Tok) (ids : List Nat)
    (hsz : (Causal.init v w maxSeq capacity maxBatch cachePad batchPad hs).cells.length ≤ maxInt)
    (hids : ids.length = b.length) (hwf : ∀ op ∈ ops, WellFormed op) :
    let c0 := Causal.init v w maxSeq capacity maxBatch cachePad batchPad hs
    let c := ops.foldl stepH c0
    (startForward c b).2 = .ok →
    ∀ t ∈ b, ((exposedEntries (put (startForward c b).1 ids) t).map key).Perm
      ((visible w (KV.store (runT w c0 [] ops) (b.zip ids)) t.seq t.pos).map key) :=
  (Sim.run hv ops (Sim.init v w maxSeq capacity maxBatch cachePad batchPad hs hsz) (.inl ⟨hat, hwf⟩)).1.exposes
    hv b ids hids

/-! ### windowed caches, append-only use: nothing inside the window is missing -/

def fwdOps (bs : List (List Tok × List Nat)) : List HOp := bs.map (fun x => .fwd x.1 x.2)

/-- the passes of a forward-only history with the cache's answers -/
def annotate : Cache → List (List Tok × List Nat) → List Pass
  | _, [] => []
  | c, (b, ids) :: rest => (b, ids, accepted c (.fwd b ids)) :: annotate (stepH c (.fwd b ids)) rest

/-- operations of append-only use: forward passes, SetCausal, reserve passes (no CopyPrefix, no Remove) -/
def AppendOnly : HOp → Prop
  | .fwd _ _ => True
  | .sc _ => True
  | .rsv _ => True
  | _ => False

/-- the forward passes of a history with the cache's answers (SetCausal / reserve passes store nothing) -/
def annotateOps : Cache → List HOp → List Pass
  | _, [] => []
  | c, op :: rest =>
    match op with
    | .fwd b ids => (b, ids, accepted c (.fwd b ids)) :: annotateOps (stepH c op) rest
    | _ => annotateOps (stepH c op) rest

theorem annotateOps_fwdOps (c : Cache) (bs : List (List Tok × List Nat)) :
    annotateOps c (fwdOps bs) = annotate c bs := by
  induction bs generalizing c with
  | nil => rfl
  | cons x rest ih => exact congrArg (_ :: ·) (ih _)

theorem runT_appendOnly (w : Int) (c : Cache) (s : Spec) (ops : List HOp) (h : ∀ op ∈ ops, AppendOnly op) :
    runT (some w) c s ops = runS w s (annotateOps c ops) := by
  induction ops generalizing c s with
  | nil => rfl
  | cons op rest ih =>
    cases op with
    | fwd b ids | sc ex | rsv b => exact ih _ _ fun o ho => h o (List.mem_cons_of_mem _ ho)
    | cp src dst len | rm seq b e => exact (h _ List.mem_cons_self).elim

/-- **"Nothing missing" under append-only use, with SetCausal and reserve passes in the history** (repaired
    tree): the statement of `window_exact_append_only` for every history without CopyPrefix / Remove. -/
theorem window_exact_append_only_ops (v : Variant) (hv : v.fixDefrag = true) (hat : v.atomicRemove = true) (w : Int)
    (maxSeq capacity maxBatch cachePad batchPad : Nat) (hs : Bool) (ops : List HOp)
    (b : List Tok) (ids : List Nat)
    (hsz : (Causal.init v (some w) maxSeq capacity maxBatch cachePad batchPad hs).cells.length ≤ maxInt)
    (hids : ids.length = b.length) (hwf : ∀ op ∈ ops, WellFormed op) (hao : ∀ op ∈ ops, AppendOnly op) :
    let c0 := Causal.init v (some w) maxSeq capacity maxBatch cachePad batchPad hs
    let c := ops.foldl stepH c0
    (startForward c b).2 = .ok →
    ∀ t ∈ b, NotBelow (annotateOps c0 ops) t.seq t.pos →
      ((exposedEntries (put (startForward c b).1 ids) t).map key).Perm
        ((visible (some w) (KV.store (runI [] (annotateOps c0 ops)) (b.zip ids)) t.seq t.pos).map key) := by
  intro c0 c hok t ht hnb
  refine (history_exposes_spec_total v hv hat (some w) maxSeq capacity maxBatch cachePad batchPad hs ops b ids
    hsz hids hwf hok t ht).trans ?_
  rw [runT_appendOnly w c0 [] ops hao, visible_store, visible_store _ (runI ..), List.map_append, List.map_append,
    runS_visible_eq_runI w _ [] [] _ _ rfl hnb]

/-- **"Nothing missing" for a sliding-window cache under append-only use** (repaired tree).  After any
    forward-only history (batches accepted or rejected, any placement, eviction, defragmentation), every token
    of the next accepted batch whose position is not below the lowest position an earlier pass had for its
    sequence is shown exactly the IDEAL windowed history: every entry ever stored for its sequence at a position
    ≤ its own and inside the window — the evictions the cache performed are invisible.  (What breaks this is
    exactly F15: a middle `Remove` shifts later positions below an earlier eviction threshold.) -/
theorem window_exact_append_only (v : Variant) (hv : v.fixDefrag = true) (hat : v.atomicRemove = true) (w : Int)
    (maxSeq capacity maxBatch cachePad batchPad : Nat) (hs : Bool) (bs : List (List Tok × List Nat))
    (b : List Tok) (ids : List Nat)
    (hsz : (Causal.init v (some w) maxSeq capacity maxBatch cachePad batchPad hs).cells.length ≤ maxInt)
    (hids : ids.length = b.length) (hwf : ∀ x ∈ bs, x.2.length = x.1.length) :
    let c0 := Causal.init v (some w) maxSeq capacity maxBatch cachePad batchPad hs
    let c := (fwdOps bs).foldl stepH c0
    (startForward c b).2 = .ok →
    ∀ t ∈ b, NotBelow (annotate c0 bs) t.seq t.pos →
      ((exposedEntries (put (startForward c b).1 ids) t).map key).Perm
        ((visible (some w) (KV.store (runI [] (annotate c0 bs)) (b.zip ids)) t.seq t.pos).map key) := by
  intro c0 c hok t ht
  rw [← annotateOps_fwdOps]
  exact window_exact_append_only_ops v hv hat w maxSeq capacity maxBatch cachePad batchPad hs (fwdOps bs) b ids
    hsz hids (List.forall_mem_map.mpr hwf) (List.forall_mem_map.mpr fun _ _ => trivial) hok t ht

/-! ### `CanResume` (repaired, F15b) is sound: an approved position has its whole window present -/

theorem countFrom_abs (seq : Nat) (r : Range) (lo hi : Int) (i : Nat) (cells : List Cell) (rows : List Row) (acc : Int)
    (hlen : cells.length = rows.length)
    (hcov : ∀ k (hk : k < cells.length), seq ∈ cells[k].seqs → r.min ≤ i + k ∧ i + k ≤ r.max) :
    countFrom seq r lo hi i cells acc = acc + specCount ((cells.zip rows).filterMap entryOf) seq lo hi := by
  induction cells generalizing rows i acc with
  | nil => exact (Int.add_zero acc).symm
  | cons x xs ih =>
    obtain _ | ⟨r0, rs⟩ := rows
    · cases hlen
    have h0 := hcov 0 (Nat.zero_lt_succ _)
    rw [countFrom, ih (i + 1) rs _ (Nat.succ.inj hlen) fun k hk hs => by
      rw [Nat.add_right_comm]; exact hcov (k + 1) (Nat.succ_lt_succ hk) hs,
      specCount_eq_countP, specCount_eq_countP, List.zip_cons_cons]
    by_cases hq : seq ∈ x.seqs ∧ lo ≤ x.pos ∧ x.pos < hi
    · rw [if_pos ⟨(h0 hq.1).1, (h0 hq.1).2, hq⟩,
        List.filterMap_cons_some (show entryOf (x, r0) = _ from if_neg (List.ne_nil_of_mem hq.1)),
        List.countP_cons_of_pos (by simp [hq]), Int.natCast_succ, Int.add_right_comm, Int.add_assoc]
    · rw [if_neg fun h => hq h.2.2]
      by_cases hx : x.seqs = []
      · rw [List.filterMap_cons_none (show entryOf (x, r0) = _ from if_pos hx)]
      · rw [List.filterMap_cons_some (show entryOf (x, r0) = _ from if_neg hx),
          List.countP_cons_of_neg (by simpa [and_comm] using hq)]

/-- **`CanResume` is sound** (repaired variant `fixResume`, F15b): if a sliding-window cache approves resuming
    sequence `seq` at `pos`, every position of the window below `pos` — `max 0 (pos − W) ≤ p < pos` — is held
    by the sequence, so the resumed token will be shown a complete window.  `hnd`: the sequence holds no
    position twice (true for every history in which positions continue their sequence). -/
theorem canResume_sound (c : Cache) (seq : Nat) (pos w : Int) (h : Inv c) (hw : c.window = some w)
    (hfix : c.v.fixResume = true) (hnd : (seqPositions (abs c) seq).Nodup)
    (hres : canResume c seq pos = true) (p : Int) (h1 : max 0 (pos - w) ≤ p) (h2 : p < pos) :
    ∃ e ∈ abs c, seq ∈ e.seqs ∧ e.pos = p := by
  cases hr : c.ranges seq with
  | none => simp [canResume, hw, hr] at hres
  | some r =>
    simp only [canResume, hw, hr, hfix, Bool.not_true, Bool.false_or] at hres
    split at hres
    · cases hres
    · have hcnt := of_decide_eq_true (Bool.and_eq_true_iff.mp hres).2
      rw [countFrom_abs seq r _ _ 0 c.cells c.rows 0 h.len (fun k hk hs => by
        obtain ⟨r', hr', hmm⟩ := h.cover k hk seq hs
        rw [Nat.zero_add]
        exact Option.some.inj (hr.symm.trans hr') ▸ hmm), Int.zero_add] at hcnt
      exact window_present (abs c) seq _ pos hnd hcnt p h1 h2

/-! ### an approved resume is shown a complete window -/

/-- a removal to the end keeps every entry below the cut -/
theorem mem_abs_remove_inf (c : Cache) (seq : Nat) (pos : Int) (hpb : PosBound c.cells) (e : Entry)
    (he : e ∈ abs c) (hlt : e.pos < pos) : e ∈ abs (Causal.remove c seq pos maxInt32).1 := by
  obtain ⟨h1, h2, _⟩ := remove_inf c seq pos hpb
  unfold abs at he ⊢
  obtain ⟨⟨x, r⟩, hxr, hent⟩ := List.mem_filterMap.mp he
  have hsame : rmInf seq pos x = x := by
    cases (Option.ite_none_left_eq_some.mp hent).2
    exact if_neg fun hh => Int.not_le.mpr hlt hh.2
  rw [h1, h2, List.zip_map_left]
  exact List.mem_filterMap.mpr ⟨(x, r), List.mem_map.mpr ⟨(x, r), hxr, congrArg (·, r) hsame⟩, hent⟩

/-- **An approved resume is shown a complete window** (repaired tree).  If a sliding-window cache approves
    `CanResume(seq, pos)`, the caller cuts the sequence back with `Remove(seq, pos, MaxInt32)` and the next
    accepted batch contains the token `(seq, pos)`, then for every position of that token's window below it —
    `max 0 (pos − W) ≤ p < pos` — the token is shown an entry at position `p`: the resumed token attends to a
    complete window (this is what F15b violated). -/
theorem approved_resume_sees_complete_window (c : Cache) (seq : Nat) (pos w : Int) (h : Inv c)
    (hw : c.window = some w) (hfix : c.v.fixDefrag = true) (hfr : c.v.fixResume = true) (hr : RowsFresh c)
    (hpb : PosBound c.cells) (hnd : (seqPositions (abs c) seq).Nodup) (hres : canResume c seq pos = true)
    (b : List Tok) (ids : List Nat) (hids : ids.length = b.length) (ht : (⟨seq, pos⟩ : Tok) ∈ b)
    (hok : (startForward (removeV c seq pos maxInt32).1 b).2 = .ok) (p : Int) (h1 : max 0 (pos - w) ≤ p) (h2 : p < pos) :
    ∃ k ∈ (exposedEntries (put (startForward (removeV c seq pos maxInt32).1 b).1 ids) ⟨seq, pos⟩).map key, k.1 = p := by
  obtain ⟨e, he, hes, rfl⟩ := canResume_sound c seq pos w h hw hfr hnd hres p h1 h2
  rw [removeV_inf c seq pos hpb] at hok ⊢
  have hf := remove_fields c seq pos maxInt32
  have hperm := forward_exposes_stored_history_defrag _ b ids
    (remove_inv c seq pos maxInt32 h) hids (hf.1 ▸ hfix) (rowsFresh_of c _ hr hf.2.2.1 hf.2.2.2) hok ⟨seq, pos⟩ ht
  rw [hf.2.1, hw] at hperm
  refine ⟨key e, hperm.mem_iff.mpr (List.mem_map_of_mem (List.mem_filter.mpr
    ⟨List.mem_append_left _ (mem_abs_remove_inf c seq pos hpb e he h2), ?_⟩)), rfl⟩
  simpa [vis, inWindow, hes] using And.intro (Int.le_of_lt h2) (Int.le_trans (Int.le_max_right 0 _) h1)

/-! ### `ErrKvCacheFull` in location-free terms -/

/-- **`ErrKvCacheFull` in location-free terms**: a non-empty batch is rejected only if the entries the cache
    holds (after the window eviction of the pass) plus the batch exceed the number of cells — no matter how the
    entries are spread over the cells. -/
theorem full_only_over_capacity (c : Cache) (b : List Tok) (h : Inv c) (hfix : c.v.fixDefrag = true)
    (hb : b ≠ []) (hfull : (startForward c b).2 = .full) :
    c.cells.length < (evictedSpec c b).length + b.length := by
  have hcl : _ = c.cells.length := (slide_fields { c with curBatch := b, except := [] } b).2.2.2.2.2
  rw [← startForward_slide_abs c b h, ← hcl, ← length_abs_zip _ _ (startForward_slide_inv c b h).len]
  exact Nat.add_lt_add_left (full_only_without_room c b h hfix hb hfull) _

/-! ### positions stay below `MaxInt32` along histories that keep the contract -/

theorem posBound_of_abs (c : Cache) (hlen : c.cells.length = c.rows.length) (h : PosBoundS (abs c)) :
    PosBound c.cells := by
  intro x hx s hs
  obtain ⟨j, hj, rfl⟩ := List.getElem_of_mem hx
  have hz : j < (c.cells.zip c.rows).length := by
    rw [List.length_zip, ← hlen, Nat.min_self]; exact hj
  exact h ⟨_, c.cells[j].pos, _, _⟩ (List.mem_filterMap.mpr ⟨_, List.getElem_mem hz,
    by rw [List.getElem_zip, entryOf, if_neg (List.ne_nil_of_mem hs)]⟩)

def BoundedOp : HOp → Prop
  | .fwd b _ => ∀ t ∈ b, t.pos < maxInt32
  | .rm _ b e => b ≤ e
  | _ => True

theorem specStepT_pos (Q : Int → Prop) (W : Option Int) (s : Spec) (op : HOp) (acc : Bool) (h : ∀ e ∈ s, Q e.pos)
    (hfwd : ∀ b ids, op = .fwd b ids → ∀ t ∈ b, Q t.pos)
    (hrm : ∀ seq b e, op = .rm seq b e → ∀ p, Q p → Q (p + rmOffset b e)) : ∀ e ∈ specStepT W s op acc, Q e.pos := by
  cases op with
  | fwd b ids =>
    have h1 := evicted_ind (P := fun s => ∀ e ∈ s, Q e.pos)
      (fun _ seq thr hs => (ownerMap_evict seq thr).pos hs) W s b h
    simp only [specStepT]
    split
    · intro e he
      simp only [KV.store, List.mem_append, List.mem_map] at he
      rcases he with he | ⟨t, ht, rfl⟩
      · exact h1 e he
      · exact hfwd b ids rfl t.1 (List.of_mem_zip ht).1
    · exact h1
  | cp src dst len => exact (ownerMap_cp src dst len).pos h
  | rm seq b e =>
    simp only [specStepT]
    split
    · unfold KV.remove
      split
      · exact h
      · intro y hy
        obtain ⟨x, hx, hxy⟩ := List.mem_filterMap.mp hy
        rcases rmEntry_pos seq b e x y hxy with hp | hp
        · exact hp ▸ h x hx
        · exact hp ▸ hrm seq b e rfl _ (h x hx)
    · exact h
  | _ => exact h

theorem posBoundS_specStepT (W : Option Int) (s : Spec) (op : HOp) (acc : Bool) (h : PosBoundS s)
    (hb : BoundedOp op) : PosBoundS (specStepT W s op acc) :=
  specStepT_pos (· < maxInt32) W s op acc h (fun b ids hop => by subst hop; exact hb) fun seq b e hop p hp => by
    subst hop
    have hbe : b ≤ e := hb
    show p + rmOffset b e < maxInt32
    rcases rmOffset_eq b e with ho | ho <;> omega

theorem posBoundS_runT (W : Option Int) (c : Cache) (s : Spec) (ops : List HOp) (h : PosBoundS s)
    (hb : ∀ op ∈ ops, BoundedOp op) : PosBoundS (runT W c s ops) := by
  induction ops generalizing c s with
  | nil => exact h
  | cons op rest ih =>
    rw [List.forall_mem_cons] at hb
    exact ih _ _ (posBoundS_specStepT W s op _ h hb.1) hb.2

/-- **Positions stay below the `MaxInt32` sentinel** in every cell, along every history (repaired tree) whose
    batches have positions below it and whose removals have `begin ≤ end` — the `PosBound` hypothesis of the
    unwind / resume theorems is an invariant of such histories. -/
theorem posBound_run (v : Variant) (hv : v.fixDefrag = true) (hat : v.atomicRemove = true) (w : Option Int)
    (maxSeq capacity maxBatch cachePad batchPad : Nat) (hs : Bool) (ops : List HOp)
    (hsz : (Causal.init v w maxSeq capacity maxBatch cachePad batchPad hs).cells.length ≤ maxInt)
    (hwf : ∀ op ∈ ops, WellFormed op) (hb : ∀ op ∈ ops, BoundedOp op) :
    PosBound (ops.foldl stepH (Causal.init v w maxSeq capacity maxBatch cachePad batchPad hs)).cells := by
  have S := (Sim.run hv ops (Sim.init v w maxSeq capacity maxBatch cachePad batchPad hs hsz) (.inl ⟨hat, hwf⟩)).1
  exact posBound_of_abs _ S.inv.len fun e he =>
    posBoundS_runT _ _ [] ops (fun _ he => nomatch he) hb e (S.perm.mem_iff.mp he)

/-! ### no sequence holds a position twice, along histories that keep the contract -/

/-- the history keeps the contract under which positions stay distinct: batches bring new, distinct positions
    for their sequences; removals go to the end (`MaxInt32`; a middle removal shifts positions) -/
def OnContract (s : Spec) : HOp → Prop
  | .fwd b _ => FreshPositionsB s b
  | .rm _ _ e => e = maxInt32
  | _ => True

theorem nodupPos_specStepT (W : Option Int) (s : Spec) (op : HOp) (acc : Bool) (h : NodupPos s)
    (hc : OnContract s op) (hwf : WellFormed op) : NodupPos (specStepT W s op acc) := by
  cases op with
  | fwd b ids =>
    have h2 := evicted_ind (P := fun s' => ∀ q, (seqPositions s' q).Sublist (seqPositions s q))
      (fun s' seq thr hs q => ((ownerMap_evict seq thr).sublist s' q).trans (hs q)) W s b
      (fun q => List.Sublist.refl _)
    simp only [specStepT]
    split
    · exact nodupPos_store s _ b ids hwf h h2 hc
    · exact fun q => (h q).sublist (h2 q)
  | cp src dst len => exact fun q => (h _).sublist ((ownerMap_cp src dst len).sublist s q)
  | rm seq b e =>
    cases (hc : e = maxInt32)
    simp only [specStepT]
    split
    · unfold KV.remove
      split
      · exact h
      · exact fun q => (h q).sublist ((ownerMap_rmInf seq b).sublist s q)
    · exact h
  | _ => exact h

/-- the contract along a history (stated on the location-free state, next to the cache's answers) -/
def ContractRun (W : Option Int) : Cache → Spec → List HOp → Prop
  | _, _, [] => True
  | c, s, op :: ops => OnContract s op ∧ WellFormed op ∧ ContractRun W (stepH c op) (specStepT W s op (accepted c op)) ops

theorem contractRun_wf (W : Option Int) (c : Cache) (s : Spec) (ops : List HOp) (h : ContractRun W c s ops) :
    ∀ op ∈ ops, WellFormed op := by
  induction ops generalizing c s with
  | nil => exact fun _ hop => nomatch hop
  | cons o rest ih => exact List.forall_mem_cons.mpr ⟨h.2.1, ih _ _ h.2.2⟩

theorem nodupPos_runT (W : Option Int) (c : Cache) (s : Spec) (ops : List HOp) (h : NodupPos s)
    (hc : ContractRun W c s ops) : NodupPos (runT W c s ops) := by
  induction ops generalizing c s with
  | nil => exact h
  | cons op rest ih =>
    exact ih _ _ (nodupPos_specStepT W s op _ h hc.1 hc.2.1) hc.2.2

theorem nodup_of_sim {v : Variant} {W : Option Int} {c : Cache} {s : Spec} (h : Sim v W c s) (hn : NodupPos s) (seq : Nat) :
    (seqPositions (abs c) seq).Nodup :=
  ((h.perm.filter _).map _).nodup_iff.mpr (hn seq)

/-- **`CanResume` is sound along every history that keeps the contract** (repaired tree, sliding window `w`):
    no hypothesis about the cache state is left — if `CanResume(seq, pos)` approves, every position of the window
    below `pos` is held by the sequence. -/
theorem canResume_sound_on_contract (v : Variant) (hv : v.fixDefrag = true) (hat : v.atomicRemove = true)
    (hfr : v.fixResume = true) (w : Int) (maxSeq capacity maxBatch cachePad batchPad : Nat) (hs : Bool) (ops : List HOp)
    (hsz : (Causal.init v (some w) maxSeq capacity maxBatch cachePad batchPad hs).cells.length ≤ maxInt)
    (hc : ContractRun (some w) (Causal.init v (some w) maxSeq capacity maxBatch cachePad batchPad hs) [] ops)
    (seq : Nat) (pos : Int) :
    let c := ops.foldl stepH (Causal.init v (some w) maxSeq capacity maxBatch cachePad batchPad hs)
    canResume c seq pos = true → ∀ p, max 0 (pos - w) ≤ p → p < pos → ∃ e ∈ abs c, seq ∈ e.seqs ∧ e.pos = p := by
  intro c
  have S := (Sim.run hv ops (Sim.init v (some w) maxSeq capacity maxBatch cachePad batchPad hs hsz)
    (.inl ⟨hat, contractRun_wf _ _ _ _ hc⟩)).1
  exact canResume_sound c seq pos w S.inv S.w_eq ((congrArg (·.fixResume) S.v_eq).trans hfr)
    (nodup_of_sim S (nodupPos_runT _ _ [] ops (fun _ => List.nodup_nil) hc) seq)

/-- **Resume on a sliding-window cache, end to end and without hypotheses on the state** (repaired tree).
    Along every history that keeps the contract (batches bring new, distinct, bounded positions for their
    sequences; removals go to the end), if `CanResume(seq, pos)` approves, the sequence is cut back with
    `Remove(seq, pos, MaxInt32)` and the next accepted batch contains `(seq, pos)`, then that token is shown an
    entry at every position `p` of its window, `max 0 (pos − W) ≤ p < pos`. -/
theorem approved_resume_on_contract (v : Variant) (hv : v.fixDefrag = true) (hat : v.atomicRemove = true)
    (hfr : v.fixResume = true) (w : Int) (maxSeq capacity maxBatch cachePad batchPad : Nat) (hs : Bool) (ops : List HOp)
    (hsz : (Causal.init v (some w) maxSeq capacity maxBatch cachePad batchPad hs).cells.length ≤ maxInt)
    (hc : ContractRun (some w) (Causal.init v (some w) maxSeq capacity maxBatch cachePad batchPad hs) [] ops)
    (hbd : ∀ op ∈ ops, BoundedOp op)
    (seq : Nat) (pos : Int) (b : List Tok) (ids : List Nat) (hids : ids.length = b.length) (ht : (⟨seq, pos⟩ : Tok) ∈ b) :
    let c := ops.foldl stepH (Causal.init v (some w) maxSeq capacity maxBatch cachePad batchPad hs)
    canResume c seq pos = true → (startForward (removeV c seq pos maxInt32).1 b).2 = .ok →
    ∀ p, max 0 (pos - w) ≤ p → p < pos →
      ∃ k ∈ (exposedEntries (put (startForward (removeV c seq pos maxInt32).1 b).1 ids) ⟨seq, pos⟩).map key, k.1 = p := by
  intro c hres
  have hwf := contractRun_wf _ _ _ _ hc
  have S := (Sim.run hv ops (Sim.init v (some w) maxSeq capacity maxBatch cachePad batchPad hs hsz) (.inl ⟨hat, hwf⟩)).1
  have hcv : c.v = v := S.v_eq
  exact approved_resume_sees_complete_window c seq pos w S.inv S.w_eq (hcv ▸ hv) (hcv ▸ hfr) S.rows
    (posBound_run v hv hat (some w) maxSeq capacity maxBatch cachePad batchPad hs ops hsz hwf hbd)
    (nodup_of_sim S (nodupPos_runT _ _ [] ops (fun _ => List.nodup_nil) hc) seq) hres b ids hids ht

/-! ### WrapperCache: the recovery after any `Remove`; the other wrapped operations -/

/-- **Any `Remove` followed by the documented recovery is a clean clear** (pinned `Remove`, accepted or
    refused): after `Remove(seq, b, e)` — whatever it answered — `Remove(seq, 0, MaxInt32)` leaves exactly the
    abstract state that clearing the sequence right away would have left. -/
theorem remove_then_clear (c : Cache) (seq : Nat) (b e : Int) (h : Inv c) (hl : c.hasLayers = true)
    (hb : 0 ≤ b) (hbe : b ≤ e) (hpb : PosBound c.cells) (hpos : ∀ x ∈ c.cells, seq ∈ x.seqs → 0 ≤ x.pos) :
    abs (Causal.remove (Causal.remove c seq b e).1 seq 0 maxInt32).1 = abs (Causal.remove c seq 0 maxInt32).1 :=
  remove_then_clear_any c seq b e hb hbe hpb hpos

/-- what `wrapper_remove_then_clear` asks of a wrapped cache (its proof uses `bound` and `nonneg`) -/
structure ClearOK (c : Cache) (seq : Nat) : Prop where
  inv : Inv c
  layers : c.hasLayers = true
  bound : PosBound c.cells
  nonneg : ∀ x ∈ c.cells, seq ∈ x.seqs → 0 ≤ x.pos

theorem removeV_then_clear (c : Cache) (seq : Nat) (b e : Int) (hb : 0 ≤ b) (hbe : b ≤ e) (h : ClearOK c seq) :
    PosBound (removeV c seq b e).1.cells ∧
    abs (Causal.remove (removeV c seq b e).1 seq 0 maxInt32).1 = abs (Causal.remove c seq 0 maxInt32).1 := by
  rcases removeV_cases c seq b e with h1 | ⟨h1, _, _⟩
  · rw [h1]
    exact ⟨posBound_remove c seq b e hbe h.bound, remove_then_clear_any c seq b e hb hbe h.bound h.nonneg⟩
  · rw [h1]; exact ⟨h.bound, rfl⟩

theorem wRemove_clear (cs : List Cache) (seq : Nat) (h : ∀ c ∈ cs, PosBound c.cells) :
    wRemove cs seq 0 maxInt32 = (cs.map (fun c => (Causal.remove c seq 0 maxInt32).1), .ok) := by
  induction cs with
  | nil => rfl
  | cons c rest ih =>
    rw [List.forall_mem_cons] at h
    have hok := (remove_inf c seq 0 h.1).2.2
    rw [wRemove_cons, removeV_inf c seq 0 h.1, if_pos hok, if_pos hok, ih h.2]
    rfl

/-- **WrapperCache under its contract** (F29's guard made a theorem): whatever `WrapperCache.Remove(seq, b, e)`
    answers — carried out everywhere, or refused by some wrapped cache after others had carried it out — the
    recovery `cache.go` / `wrapper.go` prescribe, `Remove(seq, 0, MaxInt32)`, cannot fail and leaves EVERY wrapped
    cache exactly as if the sequence had been cleared right away; the other sequences are never affected. -/
theorem wrapper_remove_then_clear (cs : List Cache) (seq : Nat) (b e : Int) (hb : 0 ≤ b) (hbe : b ≤ e)
    (h : ∀ c ∈ cs, ClearOK c seq) :
    (wRemove (wRemove cs seq b e).1 seq 0 maxInt32).2 = .ok ∧
    (wRemove (wRemove cs seq b e).1 seq 0 maxInt32).1.map abs
      = cs.map (fun c => abs (Causal.remove c seq 0 maxInt32).1) := by
  induction cs with
  | nil => exact ⟨rfl, rfl⟩
  | cons c rest ih =>
    rw [List.forall_mem_cons] at h
    obtain ⟨hpb, habs⟩ := removeV_then_clear c seq b e hb hbe h.1
    have hok := (remove_inf _ seq 0 hpb).2.2
    simp only [wRemove_cons, removeV_inf _ seq 0 hpb, if_pos hok, List.map_cons, habs]
    split
    · exact ⟨(ih h.2).1, congrArg _ (ih h.2).2⟩
    · rw [wRemove_clear rest seq fun x hx => (h.2 x hx).bound]
      exact ⟨rfl, congrArg _ (List.map_map ..)⟩

/-- `WrapperCache.CopyPrefix` is the spec's `copyPrefix` in every wrapped cache -/
theorem wrapper_copyPrefix_abs (cs : List Cache) (src dst : Nat) (len : Int) :
    (wCopyPrefix cs src dst len).map abs = cs.map (fun c => KV.copyPrefix (abs c) src dst len) := by
  simp [wCopyPrefix, List.map_map, Function.comp_def, copyPrefix_abs]

/-- an accepted `WrapperCache.Remove` is the spec's `remove` in every wrapped cache -/
theorem wrapper_remove_ok_refines (cs : List Cache) (seq : Nat) (b e : Int)
    (h : ∀ c ∈ cs, Inv c ∧ c.hasLayers = true) (hok : (wRemove cs seq b e).2 = .ok) :
    (wRemove cs seq b e).1.map (fun c => some (abs c)) = cs.map (fun c => KV.remove (abs c) seq b e) := by
  induction cs with
  | nil => rfl
  | cons c rest ih =>
    rw [List.forall_mem_cons] at h
    rw [wRemove_cons] at hok ⊢
    split at hok
    · rename_i hr
      have he := removeV_ok_eq c seq b e hr
      rw [if_pos hr, List.map_cons, List.map_cons, ih h.2 hok, he, remove_abs c seq b e h.1.1.len h.1.1.size h.1.2 (he ▸ hr)]
    · exact absurd hok ‹_›

/-- `SetCausal` on every wrapped cache changes no abstract state -/
theorem wrapper_setCausal_abs (cs : List Cache) (ex : List Nat) : (wSetCausal cs ex).map abs = cs.map abs := by
  simp [wSetCausal, List.map_map, Function.comp_def, setCausal_abs]

/-- `WrapperCache.CanResume` approves only if every wrapped sliding-window cache holds the complete window
    (repaired `CanResume`; full-attention caches always approve) -/
theorem wrapper_canResume_sound (cs : List Cache) (seq : Nat) (pos : Int) (h : wCanResume cs seq pos = true)
    (c : Cache) (hc : c ∈ cs) (w : Int) (hinv : Inv c) (hw : c.window = some w) (hfr : c.v.fixResume = true)
    (hnd : (seqPositions (abs c) seq).Nodup) (p : Int) (h1 : max 0 (pos - w) ≤ p) (h2 : p < pos) :
    ∃ e ∈ abs c, seq ∈ e.seqs ∧ e.pos = p :=
  canResume_sound c seq pos w hinv hw hfr hnd (List.all_eq_true.mp h c hc) p h1 h2

/-! ### the ideal windowed history, with approved resumes and forks in the history -/

/-- the contract of the ideal-window theorem: removals go to the end -/
def NoMiddle : HOp → Prop
  | .rm _ _ e => e = maxInt32
  | _ => True

theorem contractRun_noMiddle (W : Option Int) (c : Cache) (s : Spec) (ops : List HOp) (h : ContractRun W c s ops) :
    ∀ op ∈ ops, NoMiddle op := by
  induction ops generalizing c s with
  | nil => exact List.forall_mem_nil _
  | cons o rest ih =>
    refine List.forall_mem_cons.mpr ⟨?_, ih _ _ h.2.2⟩
    cases o with
    | rm seq b e => exact h.1
    | _ => trivial

/-- **The actual state stays inside the ideal one**: running the specification with the window (evictions) and
    without it (`W = none`: nothing is ever evicted) next to the same cache, everything a sequence holds in the
    first it holds in the second. -/
theorem subQ_specStepT (w : Int) (S I : Spec) (op : HOp) (acc : Bool) (h : SubQ S I) (hnm : NoMiddle op)
    (hbS : PosBoundS S) (hbI : PosBoundS I) :
    SubQ (specStepT (some w) S op acc) (specStepT none I op acc) := by
  cases op with
  | fwd b ids =>
    simp only [specStepT]
    split
    · exact subQ_store _ _ _ (subQ_specSlide w b S I h)
    · exact subQ_specSlide w b S I h
  | cp src dst len => exact (ownerMap_cp src dst len).subQ h
  | rm seq b e =>
    obtain rfl : e = maxInt32 := hnm
    simp only [specStepT]
    split
    · rw [specRemove_inf_some S seq b fun x hx _ => hbS x hx, specRemove_inf_some I seq b fun x hx _ => hbI x hx]
      exact (ownerMap_rmInf seq b).subQ h
    · exact h
  | _ => exact h

theorem subQ_runT (w : Int) (c : Cache) (S I : Spec) (ops : List HOp) (h : SubQ S I)
    (hnm : ∀ op ∈ ops, NoMiddle op) (hbd : ∀ op ∈ ops, BoundedOp op) (hbS : PosBoundS S) (hbI : PosBoundS I) :
    SubQ (runT (some w) c S ops) (runT none c I ops) := by
  induction ops generalizing c S I with
  | nil => exact h
  | cons op rest ih =>
    rw [List.forall_mem_cons] at hnm hbd
    exact ih _ _ _ (subQ_specStepT w S I op _ h hnm.1 hbS hbI) hnm.2 hbd.2
      (posBoundS_specStepT _ S op _ hbS hbd.1) (posBoundS_specStepT _ I op _ hbI hbd.1)

def NonNegOp : HOp → Prop
  | .fwd b _ => ∀ t ∈ b, 0 ≤ t.pos
  | _ => True

theorem nonNegS_runT (W : Option Int) (c : Cache) (s : Spec) (ops : List HOp) (h : NonNegS s) (hb : PosBoundS s)
    (hnm : ∀ op ∈ ops, NoMiddle op) (hnn : ∀ op ∈ ops, NonNegOp op) (hbd : ∀ op ∈ ops, BoundedOp op) :
    NonNegS (runT W c s ops) := by
  induction ops generalizing c s with
  | nil => exact h
  | cons op rest ih =>
    rw [List.forall_mem_cons] at hnm hnn hbd
    refine ih _ _ (specStepT_pos (0 ≤ ·) W s op _ h (fun b ids hop => by subst hop; exact hnn.1) fun seq b e hop p hp => ?_)
      (posBoundS_specStepT W s op _ hb hbd.1) hnm.2 hnn.2 hbd.2
    subst hop
    cases (hnm.1 : e = maxInt32)
    show 0 ≤ p + rmOffset b maxInt32
    rwa [rmOffset, if_pos rfl, Int.add_zero]

/-- **The ideal windowed history, with approved resumes and forks in the history** (repaired tree, window `w`).
    Run any history of forward passes (accepted or rejected), SetCausal, reserve passes, CopyPrefix and removals
    to the end that keeps the contract — batches bring new, distinct, bounded, non-negative positions for their
    sequences, both for the cache's state and for the IDEAL state in which nothing is ever evicted
    (`runT none`).  Then for every token `(seq, pos)` of the next accepted batch such that the ideal state holds
    nothing of `seq` at or after `pos` (the batch continues or resumes the sequence there) and `CanResume(seq, pos)`
    approves on the state before the pass, the token is shown exactly what it would be shown if the cache had
    never evicted anything: every entry ever stored or copied for its sequence and not removed, at a position
    ≤ its own and inside the window.  (`CanResume` is what the runner consults before resuming; for a token
    that simply continues its sequence it holds whenever the window is complete.) -/
theorem window_exact_on_contract (v : Variant) (hv : v.fixDefrag = true) (hat : v.atomicRemove = true)
    (hfr : v.fixResume = true) (w : Int) (maxSeq capacity maxBatch cachePad batchPad : Nat) (hs : Bool) (ops : List HOp)
    (hsz : (Causal.init v (some w) maxSeq capacity maxBatch cachePad batchPad hs).cells.length ≤ maxInt)
    (hcS : ContractRun (some w) (Causal.init v (some w) maxSeq capacity maxBatch cachePad batchPad hs) [] ops)
    (hcI : ContractRun none (Causal.init v (some w) maxSeq capacity maxBatch cachePad batchPad hs) [] ops)
    (hbd : ∀ op ∈ ops, BoundedOp op) (hnn : ∀ op ∈ ops, NonNegOp op)
    (b : List Tok) (ids : List Nat) (hids : ids.length = b.length) :
    let c0 := Causal.init v (some w) maxSeq capacity maxBatch cachePad batchPad hs
    let c := ops.foldl stepH c0
    (startForward c b).2 = .ok →
    ∀ t ∈ b, canResume c t.seq t.pos = true →
      (∀ e ∈ runT none c0 [] ops, t.seq ∈ e.seqs → e.pos < t.pos) →
      ((exposedEntries (put (startForward c b).1 ids) t).map key).Perm
        ((visible (some w) (KV.store (runT none c0 [] ops) (b.zip ids)) t.seq t.pos).map key) := by
  intro c0 c hok t ht hres hbelow
  have hwf := contractRun_wf _ _ _ _ hcS
  have hnm := contractRun_noMiddle _ _ _ _ hcS
  refine (history_exposes_spec_total v hv hat (some w) maxSeq capacity maxBatch cachePad batchPad hs ops b ids
    hsz hids hwf hok t ht).trans ?_
  have hperm := (Sim.run hv ops (Sim.init v (some w) maxSeq capacity maxBatch cachePad batchPad hs hsz) (.inl ⟨hat, hwf⟩)).1.perm
  have hndS := nodupPos_runT (some w) c0 [] ops (fun _ => List.nodup_nil) hcS
  have hndI := nodupPos_runT none c0 [] ops (fun _ => List.nodup_nil) hcI
  have hsub := subQ_runT w c0 [] [] ops (fun _ => List.forall_mem_nil _) hnm hbd (List.forall_mem_nil _) (List.forall_mem_nil _)
  have hnnI := nonNegS_runT none c0 [] ops (List.forall_mem_nil _) (List.forall_mem_nil _) hnm hnn hbd
  rw [visible_store, visible_store _ (runT none c0 [] ops), List.map_append, List.map_append]
  -- `CanResume` approved: the window below `pos` is complete in the cache's state
  exact List.Perm.append_right _ (visible_complete_eq w _ _ t.seq t.pos hsub (hndI t.seq) (hndS t.seq)
    (fun e he _ => hnnI e he) hbelow fun p' h1 h2 =>
      (canResume_sound_on_contract v hv hat hfr w maxSeq capacity maxBatch cachePad batchPad hs ops hsz hcS t.seq t.pos
        hres p' h1 h2).imp fun e he => ⟨hperm.mem_iff.mp he.1, he.2⟩)

/-! ### Witnesses of the defects the model shares with the code; non-vacuity -/

def fwd (c : Cache) (b : List (Tok × Nat)) : Cache :=
  put (startForward c (b.map (·.1))).1 (b.map (·.2))

/-- the minimal F14 history (corpus line 1): 5 cells; store pos 0..4 (ids 1..5); Remove(0,0,2);
    Remove(0,2,∞); store 3 tokens (ids 6..8) ⇒ defrag fills holes 0,1 from cells 3,2 -/
def f14 (v : Variant) : Cache :=
  let c1 := fwd (Causal.init v none 1 5 5 1 1 true) [(⟨0, 0⟩, 1), (⟨0, 1⟩, 2), (⟨0, 2⟩, 3), (⟨0, 3⟩, 4), (⟨0, 4⟩, 5)]
  let c2 := (Causal.remove c1 0 0 2).1
  let c3 := (Causal.remove c2 0 2 maxInt32).1
  fwd c3 [(⟨0, 2⟩, 6), (⟨0, 3⟩, 7), (⟨0, 4⟩, 8)]

/-- **F14 witness.** Pinned `defrag`: the cell labelled position 1 holds the row stored for position 0
    (id 3) and vice versa; the repaired variant keeps every row with its cell. -/
theorem F14_defrag_swaps_rows :
    (abs (f14 {})).map (fun e => (e.pos, e.id)) = [(1, 3), (0, 4), (2, 6), (3, 7), (4, 8)] ∧
    (abs (f14 { fixDefrag := true })).map (fun e => (e.pos, e.id)) = [(0, 3), (1, 4), (2, 6), (3, 7), (4, 8)] := by
  decide

/-- **F3 witness** (the defect is the caller's, C07): `Remove(seq, 0, −1)` is not "everything":
    nothing is removed and every position is shifted by +1. -/
theorem F3_remove_minus_one_is_not_infinity :
    let c := fwd (Causal.init {} none 1 4 4 1 1 true) [(⟨0, 0⟩, 1), (⟨0, 1⟩, 2), (⟨0, 2⟩, 3)]
    (abs (Causal.remove c 0 0 (-1)).1).map (fun e => (e.pos, e.id, e.shift)) = [(1, 1, 1), (2, 2, 1), (3, 3, 1)] ∧
    (abs (Causal.remove c 0 0 maxInt32).1) = [] := by
  decide

/-- **F23 witness.** First batch larger than the cache: pinned `StartForward` panics (division by the
    number of layers = 0 inside defrag) instead of reporting a full cache. -/
theorem F23_defrag_without_layers :
    (startForward (Causal.init {} none 1 1 3 1 1 true) [⟨0, 0⟩, ⟨0, 1⟩]).2 = .panic ∧
    (startForward (Causal.init { fixDiv := true } none 1 1 3 1 1 true) [⟨0, 0⟩, ⟨0, 1⟩]).2 = .full := by
  decide

/-- **F15 witness** (window 1): after two middle removals the token stored at position 1 should see
    the entry stored for position 0 (id 1) — the spec without eviction has it in the window — but the
    cache evicted it when position 2 was stored. -/
theorem F15_window_entry_missing :
    let c0 := Causal.init {} (some 1) 1 2 2 1 1 true
    let c1 := fwd c0 [(⟨0, 0⟩, 1), (⟨0, 1⟩, 2)]
    let c2 := fwd c1 [(⟨0, 2⟩, 3)]
    let c3 := (Causal.remove (Causal.remove c2 0 1 2).1 0 1 2).1
    let c4 := fwd c3 [(⟨0, 1⟩, 4)]
    (exposedEntries c4 ⟨0, 1⟩).map (·.id) = [4] ∧
    (do let s1 ← KV.remove (store (store [] [(⟨0, 0⟩, 1), (⟨0, 1⟩, 2)]) [(⟨0, 2⟩, 3)]) 0 1 2
        let s2 ← KV.remove s1 0 1 2
        pure ((visible (some 1) (store s2 [(⟨0, 1⟩, 4)]) 0 1).map (·.id))) = some [1, 4] := by
  decide

/-- window 2: positions 0..9 stored one by one, then sequence 1 forked off the first 8 -/
def f15b (v : Variant) : Cache :=
  let c := (List.range 10).foldl (fun c i => fwd c [(⟨0, Int.ofNat i⟩, i + 1)]) (Causal.init v (some 2) 2 16 4 1 1 true)
  Causal.copyPrefix c 0 1 8

/-- **F15b witness** (window 2): fork of a sequence whose window has slid; `CanResume` approves
    position 8 although position 6 is not in the cache; the repaired variant refuses. -/
theorem F15b_canResume_unsound :
    canResume (f15b {}) 1 8 = true ∧ (abs (f15b {})).map (fun e => (e.pos, e.seqs)) = [(9, [0]), (7, [0, 1]), (8, [0])] ∧
    canResume (f15b { fixResume := true }) 1 8 = false := by
  decide

/-- the two sliding-window sizings of `Init` (variant bit 8; probed from the tree with this very
    configuration): window 2, 2 sequences, context 16, batch 4.  All theorems above are stated for every
    `Variant`, hence for both sizings. -/
theorem swa_capacity_variants :
    (Causal.init {} (some 2) 2 16 4 1 1 true).cells.length = 8 ∧
    (Causal.init { perSeqBatch := true } (some 2) 2 16 4 1 1 true).cells.length = 12 := by decide

/-- non-vacuity of the wrapper theorems: the gemma-style pair (window 4 + full), 2 sequences × context 5,
    two 4-token prompts, then a 3-token batch the sliding-window cache accepts and the causal cache rejects -/
example :
    let mk := fun (w : Option Int) =>
      fwd (fwd (Causal.init { fixDefrag := true, fixResume := true } w 2 5 4 1 1 true)
        [(⟨0, 0⟩, 1), (⟨0, 1⟩, 2), (⟨0, 2⟩, 3), (⟨0, 3⟩, 4)]) [(⟨1, 0⟩, 5), (⟨1, 1⟩, 6), (⟨1, 2⟩, 7), (⟨1, 3⟩, 8)]
    (wStart [mk (some 4), mk none] [⟨0, 4⟩, ⟨0, 5⟩, ⟨0, 6⟩]).2 = .full ∧
    (startForward (mk (some 4)) [⟨0, 4⟩, ⟨0, 5⟩, ⟨0, 6⟩]).2 = .ok ∧
    ((wStart [mk (some 4), mk none] [⟨0, 4⟩, ⟨0, 5⟩, ⟨0, 6⟩]).1.map abs) = [abs (mk (some 4)), abs (mk none)] := by
  decide

/-- `StartForward` on a concrete non-trivial state: one batch rejected as full, one accepted -/
example : (startForward (f14 {}) [⟨0, 5⟩]).2 = .full ∧
    (startForward (Causal.remove (f14 {}) 0 3 maxInt32).1 [⟨0, 3⟩]).2 = .ok := by decide

/-- the F14 state before its last batch: 5 cells, two live cells left in the middle -/
def f14pre (v : Variant) : Cache :=
  let c1 := fwd (Causal.init v none 1 5 5 1 1 true) [(⟨0, 0⟩, 1), (⟨0, 1⟩, 2), (⟨0, 2⟩, 3), (⟨0, 3⟩, 4), (⟨0, 4⟩, 5)]
  (Causal.remove (Causal.remove c1 0 0 2).1 0 2 maxInt32).1

/-- non-vacuity of `defrag_abs_perm` / `forward_exposes_stored_history_defrag`: in the F14 state the 3-token batch
    is only accepted after defragmenting, the cache has layers, the variant carries the repaired coalescing, and
    defrag really moved a cell -/
example :
    (f14pre { fixDefrag := true }).v.fixDefrag = true ∧
    findStart (f14pre { fixDefrag := true }).cells 3 = none ∧
    (startForward (f14pre { fixDefrag := true }) [⟨0, 1⟩, ⟨0, 2⟩, ⟨0, 3⟩]).2 = .ok ∧
    (defrag (f14pre { fixDefrag := true })).cells ≠ (f14pre { fixDefrag := true }).cells := by decide

/-- non-vacuity of `full_only_without_room`: the 5-cell F14 state (two owned cells in the middle) rejects
    a 4-token batch — 3 free cells — and accepts a 3-token one although its free cells are not contiguous -/
example :
    (startForward (f14pre { fixDefrag := true }) [⟨0, 2⟩, ⟨0, 3⟩, ⟨0, 4⟩, ⟨0, 5⟩]).2 = .full ∧
    freeCount (f14pre { fixDefrag := true }).cells = 3 ∧
    findStart (f14pre { fixDefrag := true }).cells 3 = none ∧
    (startForward (f14pre { fixDefrag := true }) [⟨0, 2⟩, ⟨0, 3⟩, ⟨0, 4⟩]).2 = .ok := by decide

/-- non-vacuity of `reserve_mask_exact`: on the F14 state a reserve pass covers all 5 cells and shows the
    query (seq 0, pos 1) the two live entries -/
example :
    (startReserve (f14pre {}) [⟨0, 0⟩, ⟨0, 1⟩]).curRange = ⟨0, 4⟩ ∧
    (exposedEntries (startReserve (f14pre {}) [⟨0, 0⟩, ⟨0, 1⟩]) ⟨0, 1⟩).length = 2 ∧
    0 < (f14pre {}).cells.length := by decide

/-- non-vacuity of `canResume_sound`: window 2, positions 0..3 stored one by one (position 0 already evicted):
    resuming at 3 is approved, the sequence holds no position twice; resuming at 5 (beyond what is stored) is refused -/
example :
    let c := fwd (fwd (fwd (fwd (Causal.init { fixResume := true } (some 2) 1 16 4 1 1 true)
      [(⟨0, 0⟩, 1)]) [(⟨0, 1⟩, 2)]) [(⟨0, 2⟩, 3)]) [(⟨0, 3⟩, 4)]
    c.window = some 2 ∧ canResume c 0 3 = true ∧ (seqPositions (abs c) 0).Nodup ∧ canResume c 0 5 = false ∧
    (abs c).length = 3 := by decide

/-- non-vacuity of `wrapper_rejected_batch_spec`: the gemma-style pair of the wrapper example satisfies its
    hypotheses (positions bounded, the batch continues sequence 0) and the batch is rejected by the second cache -/
example :
    let mk := fun (w : Option Int) =>
      fwd (fwd (Causal.init { fixDefrag := true, fixResume := true } w 2 5 4 1 1 true)
        [(⟨0, 0⟩, 1), (⟨0, 1⟩, 2), (⟨0, 2⟩, 3), (⟨0, 3⟩, 4)]) [(⟨1, 0⟩, 5), (⟨1, 1⟩, 6), (⟨1, 2⟩, 7), (⟨1, 3⟩, 8)]
    let b : List Tok := [⟨0, 4⟩, ⟨0, 5⟩, ⟨0, 6⟩]
    (wStart [mk (some 4), mk none] b).2 = .full ∧
    (∀ c ∈ [mk (some 4), mk none], (∀ x ∈ c.cells, ∀ s ∈ x.seqs, x.pos < maxInt32) ∧
      (∀ x ∈ c.cells, ∀ t ∈ b, t.seq ∈ x.seqs → x.pos < t.pos)) := by decide

/-! ### F28: a refused `Remove` (pinned) has already changed the cache -/

/-- sequence 0 holds positions 0..3, all shared with sequence 1 (`CopyPrefix(0, 1, 4)`) -/
def f28 (v : Variant) : Cache :=
  Causal.copyPrefix (fwd (Causal.init v none 2 8 8 1 1 true) [(⟨0, 0⟩, 10), (⟨0, 1⟩, 11), (⟨0, 2⟩, 12), (⟨0, 3⟩, 13)]) 0 1 4

/-- sequence 0 holds positions 0..3 on a cache without `shiftFn` -/
def f28n (v : Variant) : Cache :=
  fwd (Causal.init v none 1 8 8 1 1 false) [(⟨0, 0⟩, 10), (⟨0, 1⟩, 11), (⟨0, 2⟩, 12), (⟨0, 3⟩, 13)]

/-- **F28 witness (`shared`).**  Pinned: `Remove(0, 1, 2)` must shift positions 2, 3, which sequence 1 shares —
    it is refused (the spec refuses too), but position 1 had already been taken from sequence 0: the abstract
    state changed and the next token of sequence 0 is shown a history with a hole.  Repaired: nothing changed. -/
theorem F28_refused_remove_shared :
    (removeV (f28 {}) 0 1 2).2 = .shared ∧ KV.remove (abs (f28 {})) 0 1 2 = none ∧
    (visible none (abs (f28 {})) 0 4).map key = [(0, 10, 0), (1, 11, 0), (2, 12, 0), (3, 13, 0)] ∧
    (visible none (abs (removeV (f28 {}) 0 1 2).1) 0 4).map key = [(0, 10, 0), (2, 12, 0), (3, 13, 0)] ∧
    (removeV (f28 { atomicRemove := true }) 0 1 2).2 = .shared ∧
    abs (removeV (f28 { atomicRemove := true }) 0 1 2).1 = abs (f28 { atomicRemove := true }) := by decide

/-- **F28 witness (`notsup`).**  Pinned, no `shiftFn`: `Remove(0, 1, 2)` returns `ErrNotSupported` after the
    metadata has been changed: positions 2, 3 are now labelled 1, 2 while their data was never re-shifted
    (shift 0 where the spec's removal has −1).  Repaired: nothing changed. -/
theorem F28_refused_remove_notsup :
    (removeV (f28n {}) 0 1 2).2 = .notsup ∧
    (abs (removeV (f28n {}) 0 1 2).1).map key = [(0, 10, 0), (1, 12, 0), (2, 13, 0)] ∧
    (KV.remove (abs (f28n {})) 0 1 2).map (·.map key) = some [(0, 10, 0), (1, 12, -1), (2, 13, -1)] ∧
    (removeV (f28n { atomicRemove := true }) 0 1 2).2 = .notsup ∧
    abs (removeV (f28n { atomicRemove := true }) 0 1 2).1 = abs (f28n { atomicRemove := true }) := by decide

/-- non-vacuity of `removeV_error_unchanged` / `remove_ok_of_guard_none` -/
example :
    (f28 { atomicRemove := true }).v.atomicRemove = true ∧ (removeV (f28 { atomicRemove := true }) 0 1 2).2 ≠ .ok ∧
    removeGuard (f28 { atomicRemove := true }) 0 3 4 = none ∧ (removeV (f28 { atomicRemove := true }) 0 3 4).2 = .ok := by
  decide

/-- non-vacuity of `refused_remove_then_clear`: the F28 state meets its hypotheses, the refused removal has
    changed the state, and after the recovery sequence 1 still holds all four entries -/
example :
    (Causal.remove (f28 {}) 0 1 2).2 ≠ .ok ∧
    (∀ x ∈ (f28 {}).cells, ∀ s ∈ x.seqs, x.pos < maxInt32) ∧ (∀ x ∈ (f28 {}).cells, 0 ∈ x.seqs → 0 ≤ x.pos) ∧
    abs (Causal.remove (f28 {}) 0 1 2).1 ≠ abs (f28 {}) ∧
    (abs (Causal.remove (Causal.remove (f28 {}) 0 1 2).1 0 0 maxInt32).1).map (fun e => (e.seqs, e.pos, e.id))
      = [([1], 0, 10), ([1], 1, 11), ([1], 2, 12), ([1], 3, 13)] := by decide

/-! ### non-vacuity of the window, resume, capacity and wrapper theorems; F29 -/

/-- non-vacuity: window 2, positions 0..4 stored one by one — positions 0 and 1 have been evicted —
    then the token at position 5 is not below any earlier pass and the ideal history still holds all 5 entries -/
theorem window_exact_nonvacuous :
    let c0 := Causal.init { fixDefrag := true, atomicRemove := true } (some 2) 1 16 4 1 1 true
    let bs : List (List Tok × List Nat) := [([⟨0, 0⟩], [1]), ([⟨0, 1⟩], [2]), ([⟨0, 2⟩], [3]), ([⟨0, 3⟩], [4]), ([⟨0, 4⟩], [5])]
    (startForward ((fwdOps bs).foldl stepH c0) [⟨0, 5⟩]).2 = .ok ∧
    (annotate c0 bs).all (fun pass => decide ((lowest pass.1 0).getD 0 ≤ 5)) = true ∧
    (runI [] (annotate c0 bs)).length = 5 ∧ (abs ((fwdOps bs).foldl stepH c0)).length = 3 := by decide

instance (s : Spec) (op : HOp) : Decidable (OnContract s op) := by
  cases op <;> unfold OnContract <;> infer_instance

instance (op : HOp) : Decidable (BoundedOp op) := by
  cases op <;> unfold BoundedOp <;> infer_instance

instance (op : HOp) : Decidable (WellFormed op) := by
  cases op <;> unfold WellFormed <;> infer_instance

instance decContractRun (W : Option Int) : (c : Cache) → (s : Spec) → (ops : List HOp) → Decidable (ContractRun W c s ops)
  | _, _, [] => isTrue trivial
  | c, s, op :: ops =>
    have := decContractRun W (stepH c op) (specStepT W s op (accepted c op)) ops
    by unfold ContractRun; infer_instance

/-- non-vacuity of `canResume_sound_on_contract`: window 2, positions 0..4 one by one, a fork of the
    first 4 positions, the fork cut back to 3 — the history keeps the contract; `CanResume` approves resuming the
    source at 4 (window 2..3 present) and refuses the fork at 3 (position 1 was evicted before the fork) -/
theorem canResume_contract_nonvacuous :
    let c0 := Causal.init { fixDefrag := true, fixResume := true, atomicRemove := true } (some 2) 2 16 4 1 1 true
    let ops := [HOp.fwd [⟨0, 0⟩] [1], .fwd [⟨0, 1⟩] [2], .fwd [⟨0, 2⟩] [3], .fwd [⟨0, 3⟩] [4], .fwd [⟨0, 4⟩] [5],
      .cp 0 1 4, .rm 1 3 maxInt32, .rm 0 4 maxInt32]
    ContractRun (some 2) c0 [] ops ∧ (∀ op ∈ ops, BoundedOp op) ∧ canResume (ops.foldl stepH c0) 0 4 = true ∧
    (startForward (removeV (ops.foldl stepH c0) 0 4 maxInt32).1 [⟨0, 4⟩]).2 = .ok ∧
    canResume (ops.foldl stepH c0) 1 3 = false := by decide

/-- non-vacuity of `approved_resume_sees_complete_window`: window 2, positions 0..4 stored one by one; resuming at 4
    is approved, positions are bounded and distinct, and the batch `(0,4)` is accepted after the cut -/
example :
    let c := fwd (fwd (fwd (fwd (fwd (Causal.init { fixDefrag := true, fixResume := true } (some 2) 1 16 4 1 1 true)
      [(⟨0, 0⟩, 1)]) [(⟨0, 1⟩, 2)]) [(⟨0, 2⟩, 3)]) [(⟨0, 3⟩, 4)]) [(⟨0, 4⟩, 5)]
    canResume c 0 4 = true ∧ (seqPositions (abs c) 0).Nodup ∧ (∀ x ∈ c.cells, ∀ s ∈ x.seqs, x.pos < maxInt32) ∧
    (startForward (removeV c 0 4 maxInt32).1 [⟨0, 4⟩]).2 = .ok ∧
    ((exposedEntries (put (startForward (removeV c 0 4 maxInt32).1 [⟨0, 4⟩]).1 [9]) ⟨0, 4⟩).map key)
      = [(3, 4, 0), (4, 9, 0), (2, 3, 0)] := by decide

/-- non-vacuity of `full_only_over_capacity`: the 5-cell F14 state holds 2 entries; a 4-token batch is rejected -/
example :
    (startForward (f14pre { fixDefrag := true }) [⟨0, 2⟩, ⟨0, 3⟩, ⟨0, 4⟩, ⟨0, 5⟩]).2 = .full ∧
    (f14pre { fixDefrag := true }).cells.length = 5 ∧ (abs (f14pre { fixDefrag := true })).length = 2 := by decide

/-- non-vacuity of `wrapper_remove_then_clear`: in F29's state the wrapped removal is refused after the
    window cache carried it out; layers exist, positions are bounded and non-negative; after the recovery both
    caches hold exactly what a plain clear of sequence 0 leaves -/
theorem wrapper_clear_nonvacuous :
    let mk := fun (w : Option Int) =>
      Causal.copyPrefix (fwd (fwd (fwd (fwd (Causal.init { atomicRemove := true } w 2 8 8 1 1 true) [(⟨0, 0⟩, 1)]) [(⟨0, 1⟩, 2)]) [(⟨0, 2⟩, 3)]) [(⟨0, 3⟩, 4)]) 0 1 2
    let cs := [mk (some 1), mk none]
    (wRemove cs 0 0 1).2 = .shared ∧
    (∀ c ∈ cs, c.hasLayers = true ∧ (∀ x ∈ c.cells, ∀ s ∈ x.seqs, x.pos < maxInt32) ∧ (∀ x ∈ c.cells, 0 ∈ x.seqs → 0 ≤ x.pos)) ∧
    ((wRemove cs 0 0 1).1.map (fun c => (abs c).map key)) ≠ (cs.map (fun c => (abs c).map key)) ∧
    ((wRemove (wRemove cs 0 0 1).1 0 0 maxInt32).1.map (fun c => (abs c).map key))
      = cs.map (fun c => (abs (Causal.remove c 0 0 maxInt32).1).map key) := by decide

instance (op : HOp) : Decidable (NonNegOp op) := by
  cases op <;> unfold NonNegOp <;> infer_instance

/-- non-vacuity of `window_exact_on_contract`: window 2, sequence 0 stores positions 0..4 one by one
    (0 and 1 get evicted), sequence 1 is forked off its first 4 positions and resumed at 4: the history keeps both
    contracts, `CanResume(1, 4)` approves, the ideal state holds nothing of sequence 1 at or after 4, the batch is
    accepted — and the ideal state has 5 entries where the cache's has 3 -/
theorem window_contract_nonvacuous :
    let c0 := Causal.init { fixDefrag := true, fixResume := true, atomicRemove := true } (some 2) 2 16 4 1 1 true
    let ops := [HOp.fwd [⟨0, 0⟩] [1], .fwd [⟨0, 1⟩] [2], .fwd [⟨0, 2⟩] [3], .fwd [⟨0, 3⟩] [4], .fwd [⟨0, 4⟩] [5], .cp 0 1 4]
    ContractRun (some 2) c0 [] ops ∧ ContractRun none c0 [] ops ∧ (∀ op ∈ ops, BoundedOp op) ∧ (∀ op ∈ ops, NonNegOp op) ∧
    (startForward (ops.foldl stepH c0) [⟨1, 4⟩]).2 = .ok ∧ canResume (ops.foldl stepH c0) 1 4 = true ∧
    (runT none c0 [] ops).all (fun e => !(decide (1 ∈ e.seqs)) || decide (e.pos < 4)) = true ∧
    (runT none c0 [] ops).length = 5 ∧ (runT (some 2) c0 [] ops).length = 3 := by decide

def acceptTrace : Cache → List HOp → List Bool
  | _, [] => []
  | c, op :: ops => accepted c op :: acceptTrace (stepH c op) ops

/-- non-vacuity of the total refinement: on the repaired tree a history with a rejected batch
    (5 cells, 6th token) and a refused `Remove` (cells shared after a fork) is covered — the specification's
    run, told the cache's answers, holds the 4 entries the cache holds -/
theorem refines_total_nonvacuous :
    let c0 := Causal.init { fixDefrag := true, atomicRemove := true } none 1 5 5 1 1 true
    let ops := [HOp.fwd [⟨0, 0⟩, ⟨0, 1⟩, ⟨0, 2⟩, ⟨0, 3⟩, ⟨0, 4⟩] [1, 2, 3, 4, 5], .fwd [⟨0, 5⟩] [6], .cp 0 1 5,
      .rm 0 1 2, .rsv [⟨0, 5⟩], .rm 1 0 maxInt32, .rm 0 1 2]
    acceptTrace c0 ops = [true, false, true, false, true, true, true] ∧
    (runT none c0 [] ops).map key = [(0, 1, 0), (1, 3, -1), (2, 4, -1), (3, 5, -1)] ∧
    (abs (ops.foldl stepH c0)).map key = [(0, 1, 0), (1, 3, -1), (2, 4, -1), (3, 5, -1)] := by decide

/-- **F29 witness.**  Window 1 + full cache ([SWA, causal]): sequence 0 stores positions 0..3, `CopyPrefix(0,1,2)`
    shares positions 0,1 — only in the full cache, the window cache has evicted them.  `Remove(0,0,1)`: the window
    cache carries it out (its cells of sequence 0 are not shared), the full cache refuses.  Pinned: the wrapper returns
    the error with the window cache already shifted — the two caches now disagree about sequence 0's positions.
    Repaired: nothing changed. -/
theorem F29_wrapper_remove_half_done :
    let mk := fun (v : Variant) (w : Option Int) =>
      Causal.copyPrefix (fwd (fwd (fwd (fwd (Causal.init v w 2 8 8 1 1 true) [(⟨0, 0⟩, 1)]) [(⟨0, 1⟩, 2)]) [(⟨0, 2⟩, 3)]) [(⟨0, 3⟩, 4)]) 0 1 2
    let pinned := [mk { atomicRemove := true } (some 1), mk { atomicRemove := true } none]
    let fixed := [mk { atomicRemove := true, atomicWrapperRemove := true } (some 1), mk { atomicRemove := true, atomicWrapperRemove := true } none]
    (wRemoveV pinned 0 0 1).2 = .shared ∧
    ((wRemoveV pinned 0 0 1).1.map (fun c => (abs c).map key)) ≠ (pinned.map (fun c => (abs c).map key)) ∧
    (wRemoveV fixed 0 0 1).2 = .shared ∧
    ((wRemoveV fixed 0 0 1).1.map (fun c => (abs c).map key)) = (fixed.map (fun c => (abs c).map key)) := by decide

end OllamaVerif.C06
