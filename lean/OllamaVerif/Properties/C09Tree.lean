/-
  C09 — the property as an invariant of every history, for the variant that /repo runs
  (`verify = true`, `staged = false`: layers are re-hashed before `Link`, but `Chunked` still
  writes into the final blob file).

  `history_linked_layers_verified` (Properties/C09.lean) needs the `staged` variant because of
  finding F10d: a manifest that declares an already cached digest with ANOTHER size defeats the
  size shortcut and the blob is overwritten in place.  Here the same invariant is proved for the
  tree itself under the guard that excludes exactly that input class: sizes are a function of the
  digest (`l.size = sz l.digest` for every layer of every manifest the registry serves during the
  history and of every manifest linked before it).  No assumption on `H`.

  The core is a run-level invariant (`RunInv`): a blob file that has its declared size when
  `Pull` starts is never opened for writing — every layer naming it takes the `c.Get` shortcut or
  gets the file-less pre-validated Chunker — whatever plans, faults, completion order, MaxStreams.

  Last section: the branch-tagged `advanceT`/`stepT`/`runStepsT` of Model/RegistryCov.lean compute
  the model's `advance`/`step`/`runSteps` (`pullRun_traced`), so the coverage counters the check
  prints are counters of the functions the theorems are about; `exchangeTagsFrom` gives one tag
  per physical request of `exchangeFrom` (equal lengths, `exchangeTagsFrom_length`).
-/
import OllamaVerif.Properties.C09
import OllamaVerif.Model.RegistryCov

namespace OllamaVerif.C09
open OllamaVerif OllamaVerif.Registry

section
variable {D : Type} [DecidableEq D]

/-- the blob file of `d` has the size `sz` declares for `d` (content not looked at) -/
def Complete (sz : D → Nat) (files : D → Option Bytes) (d : D) : Prop :=
  ∃ f, files d = some f ∧ f.length = sz d

/-- the main goroutine's remaining program is well formed: every chunk (waiting or not) belongs to
    the layer of the `beginL` before it (`cur`), and every layer's size is the declared one -/
def OpsOK (sz : D → Nat) : Option (Layer D) → List (Op D) → Prop
  | _, [] => True
  | _, .beginL _ l _ :: rest => l.size = sz l.digest ∧ OpsOK sz (some l) rest
  | cur, .chunk _ l _ :: rest => cur = some l ∧ OpsOK sz cur rest
  | _, .launch _ _ _ :: _ => False
  | cur, .closeL _ :: rest => OpsOK sz cur rest

/-- … except that its first instruction may be a chunk that has passed the marker check and waits in
    `g.Go` for a free slot (then the layer is not a skipped one) -/
def ProgOK (sz : D → Nat) (st : Run D) (cur : Option (Layer D)) : List (Op D) → Prop
  | .launch _ l _ :: rest => cur = some l ∧ st.skipLayer = false ∧ OpsOK sz cur rest
  | ops => OpsOK sz cur ops

omit [DecidableEq D] in
theorem ProgOK_of_OpsOK {sz : D → Nat} {st : Run D} {cur : Option (Layer D)} {ops : List (Op D)}
    (h : OpsOK sz cur ops) : ProgOK sz st cur ops := by
  cases ops with
  | nil => exact h
  | cons o rest => cases o <;> first | exact h | (simp only [OpsOK] at h)

/-- run-level invariant, relative to the blob files `F0` at the start of the attempt -/
structure RunInv (sz : D → Nat) (F0 : D → Option Bytes) (st : Run D) (cur : Option (Layer D)) : Prop where
  /-- a blob that was complete at the start has not been touched -/
  files : ∀ d, Complete sz F0 d → st.cache.files d = F0 d
  /-- a chunk goroutine on such a blob holds the file-less pre-validated Chunker -/
  tasks : ∀ t ∈ st.inflight, Complete sz F0 t.layer.digest → t.prevalid = true
  /-- the layer being planned: skipped, or pre-validated, if its blob was complete at the start -/
  cur : ∀ l, cur = some l → l.size = sz l.digest ∧
    (Complete sz F0 l.digest → st.skipLayer = true ∨ st.prevalid = true)

omit [DecidableEq D] in
theorem Good.complete {sz : D → Nat} {H : Bytes → D} {c : Cache D} {d : D} :
    Good H c d (sz d) → Complete sz c.files d := Exists.imp fun _ h => ⟨h.1, h.2.1⟩

theorem setWork_files_ne (v : Variant) (c : Cache D) (d x : D) (f : Bytes) (h : x ≠ d) :
    (c.setWork v d f).files x = c.files x := by
  unfold Cache.setWork Cache.setFile
  split <;> simp [h]

theorem ensureFile_files_ne (v : Variant) (c : Cache D) (d x : D) (h : x ≠ d) :
    (ensureFile v c d).files x = c.files x := by
  unfold ensureFile; split
  · rfl
  · exact setWork_files_ne v c d x [] h

omit [DecidableEq D] in
theorem prevalidated_of_complete (sz : D → Nat) {F0 : D → Option Bytes} (c : Cache D) (l : Layer D)
    (hl : l.size = sz l.digest) (h : Complete sz F0 l.digest) (hc : c.files l.digest = F0 l.digest) :
    prevalidated c l = true := by
  obtain ⟨f, hf, hlen⟩ := h
  unfold prevalidated; rw [hc, hf]; simp [hlen, hl]

omit [DecidableEq D] in
theorem layerOps_ok (sz : D → Nat) (thr : Nat) (plans : List (PlanResp D)) (ls : List (Layer D))
    (i : Nat) (cur : Option (Layer D)) (h : ∀ l ∈ ls, l.size = sz l.digest) :
      OpsOK sz cur (layerOps thr plans i ls) := by
  fun_induction layerOps thr plans i ls generalizing cur with
  | case1 => trivial
  | case2 i l ls ih =>
    refine ⟨h l (List.mem_cons_self ..), ?_⟩
    generalize planOf thr l plans[i]? = cs
    induction cs with
    | nil => exact ih (some l) fun x hx => h x (List.mem_cons_of_mem _ hx)
    | cons c cs ihc => exact ⟨rfl, ihc⟩

theorem advance_inv (sz : D → Nat) (F0 : D → Option Bytes) (v : Variant) (limit : Option Nat)
    (st : Run D) (ops : List (Op D)) :
    ∀ cur, RunInv sz F0 st cur → ProgOK sz st cur ops →
      ∃ cur', RunInv sz F0 (advance v limit st ops) cur' ∧
        ProgOK sz (advance v limit st ops) cur' (advance v limit st ops).ops := by
  -- a chunk goroutine launched for the layer being planned (not a skipped one) keeps `tasks`
  have launch : ∀ (st : Run D) e l cs cur, RunInv sz F0 st cur → cur = some l → st.skipLayer = false →
      RunInv sz F0 { st with inflight := st.inflight ++ [⟨e, l, cs, st.prevalid⟩] } cur := by
    intro st e l cs cur hi hcur hsk
    refine ⟨hi.files, fun t ht hcomp => ?_, hi.cur⟩
    rcases List.mem_append.mp ht with ht | ht
    · exact hi.tasks t ht hcomp
    · cases List.mem_singleton.mp ht
      exact ((hi.cur l hcur).2 hcomp).resolve_left (by rw [hsk]; nofun)
  fun_induction advance v limit st ops with
  -- below, `⟨hi.files, hi.tasks, hi.cur⟩` where `hi` will not do: the state differs, in fields
  -- `RunInv` never reads
  | case1 st => exact fun cur hi _ => ⟨cur, ⟨hi.files, hi.tasks, hi.cur⟩, trivial⟩
  | case2 st e l big rest hsc ih =>
    intro cur hi hops
    refine ih (some l) ⟨hi.files, hi.tasks, fun l' hl' => ?_⟩ (ProgOK_of_OpsOK hops.2)
    cases hl'; exact ⟨hops.1, fun _ => .inl rfl⟩
  | case3 st e l big rest hsc ih =>
    intro cur hi hops
    have hcomp : Complete sz F0 l.digest → prevalidated st.cache l = true := fun hc =>
      prevalidated_of_complete sz st.cache l hops.1 hc (hi.files _ hc)
    refine ih (some l) ⟨fun d hd => ?_, hi.tasks, fun l' hl' => ?_⟩ (ProgOK_of_OpsOK hops.2)
    · show (if prevalidated st.cache l = true then st.cache else ensureFile v st.cache l.digest).files d = F0 d
      split
      · exact hi.files d hd
      · rename_i hp
        rw [ensureFile_files_ne v st.cache l.digest d fun he => hp (hcomp (he ▸ hd))]
        exact hi.files d hd
    · cases hl'; exact ⟨hops.1, fun hc => .inr (hcomp hc)⟩
  | case4 st e l cs rest hskip ih =>
    exact fun cur hi hops => ih cur hi (ProgOK_of_OpsOK hops.2)
  | case5 st e l cs rest hskip hm ih | case7 st e l cs rest hskip hm hfree hc ih =>
    exact fun cur hi hops => ih cur ⟨hi.files, hi.tasks, hi.cur⟩ (ProgOK_of_OpsOK hops.2)
  | case6 st e l cs rest hskip hm hfree =>
    intro cur hi hops
    have hsk : st.skipLayer = false ∧ st.skipChunks = false := by simpa using hskip
    exact ⟨cur, ⟨hi.files, hi.tasks, hi.cur⟩, hops.1, hsk.1, hops.2⟩
  | case8 st e l cs rest hskip hm hfree hc ih =>
    intro cur hi hops
    have hsk : st.skipLayer = false ∧ st.skipChunks = false := by simpa using hskip
    exact ih cur (launch st e l cs cur hi hops.1 hsk.1) (ProgOK_of_OpsOK hops.2)
  | case9 st e l cs rest hfree | case13 st e rest hskip hfree =>
    exact fun cur hi hops => ⟨cur, ⟨hi.files, hi.tasks, hi.cur⟩, hops⟩
  | case10 st e l cs rest hfree hc ih =>
    exact fun cur hi hops => ih cur ⟨hi.files, hi.tasks, hi.cur⟩ (ProgOK_of_OpsOK hops.2.2)
  | case11 st e l cs rest hfree hc ih =>
    exact fun cur hi hops =>
      ih cur (launch st e l cs cur hi hops.1 hops.2.1) (ProgOK_of_OpsOK hops.2.2)
  | case12 st e rest hskip ih =>
    exact fun cur hi hops => ih cur hi (ProgOK_of_OpsOK hops)
  | case14 st e rest hskip hfree ih =>
    exact fun cur hi hops => ih cur ⟨hi.files, hi.tasks, hi.cur⟩ (ProgOK_of_OpsOK hops)

theorem applyTask_frame (H : Bytes → D) (v : Variant) (st : Run D) (t : Registry.Task D) (r : ChunkResp) :
    (applyTask H v st t r).ops = st.ops ∧ (applyTask H v st t r).inflight = st.inflight ∧
    (applyTask H v st t r).skipLayer = st.skipLayer ∧ (applyTask H v st t r).prevalid = st.prevalid := by
  fun_cases applyTask H v st t r <;> exact ⟨rfl, rfl, rfl, rfl⟩

/-- a chunk goroutine that holds a real Chunker writes only the blob of its own layer -/
theorem applyTask_files_ne (H : Bytes → D) (v : Variant) (st : Run D) (t : Registry.Task D) (r : ChunkResp)
    (d : D) (h : t.prevalid = true ∨ d ≠ t.layer.digest) :
    (applyTask H v st t r).cache.files d = st.cache.files d := by
  fun_cases applyTask H v st t r
  case case4 => exact setWork_files_ne v _ _ d _ (h.resolve_left ‹_›)
  case case5 => exact setWork_files_ne v _ _ d _ (h.resolve_left ‹_›)
  all_goals rfl

omit [DecidableEq D] in
theorem ProgOK_congr {sz : D → Nat} {st st' : Run D} {cur : Option (Layer D)} {ops : List (Op D)}
    (h : st'.skipLayer = st.skipLayer) (hp : ProgOK sz st cur ops) : ProgOK sz st' cur ops := by
  cases ops with
  | nil => exact hp
  | cons o rest =>
    cases o <;> first | exact hp | (simp only [ProgOK] at hp ⊢; rw [h]; exact hp)

/-- **A complete blob file is never opened for writing.**  For every tree variant, manifest whose
    layer sizes are the declared ones, chunk plans, fault script, completion order and MaxStreams:
    a blob file that has its declared size when `Pull` starts is byte for byte the same when
    `g.Wait()` returns. -/
theorem pullRun_keeps_complete_files (H : Bytes → D) (cfg : Cfg) (sz : D → Nat) (c : Cache D) (m : Manifest D)
    (hm : ∀ l ∈ m.all, l.size = sz l.digest)
    (a : Attempt D) (st : Run D) (h : pullRun H cfg c m a = some st) (d : D) (hd : Complete sz c.files d) :
    st.cache.files d = c.files d := by
  have hok : ∃ cur, RunInv sz c.files st cur ∧ ProgOK sz st cur st.ops := by
    refine pullRun_induct H cfg (fun st => ∃ cur, RunInv sz c.files st cur ∧ ProgOK sz st cur st.ops)
      (fun st ⟨cur, hi, hp⟩ => advance_inv sz c.files _ _ st st.ops cur hi hp) ?_ ?_ h
      ⟨none, ⟨fun _ _ => rfl, nofun, nofun⟩,
        ProgOK_of_OpsOK (layerOps_ok sz cfg.thr a.plans m.all 0 none hm)⟩
    · -- a chunk goroutine writes only its own layer's blob, and only with a real Chunker
      intro st k t r ht ⟨cur, hi, hp⟩
      obtain ⟨f1, f2, f3, f4⟩ := applyTask_frame H cfg.variant { st with inflight := st.inflight.eraseIdx k } t r
      refine ⟨cur, ⟨fun d hd => ?_, fun t' ht' hc => ?_, fun l hl => ?_⟩, ?_⟩
      · rw [applyTask_files_ne H cfg.variant _ t r d]
        · exact hi.files d hd
        · by_cases hdt : d = t.layer.digest
          · exact .inl (hi.tasks t (List.mem_of_getElem? ht) (hdt ▸ hd))
          · exact .inr hdt
      · rw [f2] at ht'
        exact hi.tasks t' (List.mem_of_mem_eraseIdx ht') hc
      · rw [f3, f4]; exact hi.cur l hl
      · rw [f1]; exact ProgOK_congr f3 hp
    · intro st c e ⟨cur, hi, hp⟩
      exact ⟨cur, ⟨hi.files, nofun, hi.cur⟩, ProgOK_congr rfl hp⟩
  obtain ⟨cur, hi, _⟩ := hok
  exact hi.files d hd

def Sized (sz : D → Nat) (m : Manifest D) : Prop := ∀ l ∈ m.all, l.size = sz l.digest

def AttemptSized (sz : D → Nat) (a : Attempt D) : Prop := ∀ m, a.man = .ok m → Sized sz m

theorem verifyPass_preserves_sized (H : Bytes → D) (cfg : Cfg) (hs : cfg.staged = false) (sz : D → Nat)
    {c : Cache D} {m : Manifest D} (hm : Sized sz m) {d : D} (hg : Good H c d (sz d)) :
    Good H (verifyPass H cfg c m).1 d (sz d) := by
  fun_cases verifyPass H cfg c m with
  | case1 h => rw [hs, Bool.and_false] at h; cases h
  | case2 _ _ l hfind =>
    -- the blob removed failed the re-hash at its declared size: it is not the verified `d`
    have hbad : ¬ layerGood H c l = true := by simpa using List.find?_some hfind
    have hne : d ≠ l.digest := fun he => hbad <| (layerGood_iff H c l).mpr <| by
      rw [hm l (List.mem_of_find?_eq_some hfind), ← he]; exact hg
    obtain ⟨f, hf, h⟩ := hg
    exact ⟨f, (if_neg hne).trans hf, h⟩
  | _ => exact hg

/-- **No pull damages a verified blob — on the tree as it is (no staging), for size-consistent
    manifests.**  Every blob that is in the cache with its declared size and the right whole-file
    hash is still there, unchanged, after EVERY pull of a manifest whose layer sizes are the
    declared ones: any name, plans, fault script, completion order, outcome.  The guard excludes
    exactly the input class of finding F10d (a digest declared with two different sizes). -/
theorem pull_preserves_verified_blobs_sized (H : Bytes → D) (cfg : Cfg) (hs : cfg.staged = false)
    (sz : D → Nat) (c : Cache D) (a : Attempt D) (ha : AttemptSized sz a) (d : D)
    (hg : Good H c d (sz d)) : Good H (pull H cfg c a).1 d (sz d) :=
  pull_preserves_good H cfg c a d (sz d)
    (fun m st hm hst => pullRun_keeps_complete_files H cfg sz c m (ha m hm) a st hst d hg.complete)
    (fun m c1 hm h => verifyPass_preserves_sized H cfg hs sz (ha m hm) h) hg

def LinkedVerifiedSized (sz : D → Nat) (H : Bytes → D) (c : Cache D) : Prop :=
  ∀ n m, c.links n = some m → Sized sz m ∧ ∀ l ∈ m.all, Good H c l.digest l.size

/-- **The property as an invariant of every history, on the tree as it is in /repo.**  Start from
    an empty cache (or any cache in which every linked name is verified).  After ANY sequence of
    pulls of size-consistent manifests — successes, failures part-way, retries, other names,
    broken / repeated / overlapping chunk plans, chunks past the layer end, any faults, completion
    orders, MaxStreams — every linked name's manifest has every layer (config included) in the
    cache as a file of exactly the manifest's size whose whole-file hash is the manifest's
    digest.  In particular a failed pull leaves every linked model complete, and the model a
    successful pull links is complete.  No assumption on `H`.  Without the guard the statement
    is false on this tree: `F10d_size_lie_overwrites_verified_blob`. -/
theorem history_linked_layers_verified_tree (H : Bytes → D) (cfg : Cfg) (hv : cfg.verify = true)
    (hs : cfg.staged = false) (sz : D → Nat) (as : List (Attempt D)) :
    (∀ a ∈ as, AttemptSized sz a) →
    ∀ c : Cache D, LinkedVerifiedSized sz H c → LinkedVerifiedSized sz H (pullHistory H cfg c as).1 :=
  -- `LinkedVerifiedSized sz` is `LinkedIn` for the class "size is the declared one"
  history_keeps_linkedIn (fun d s => s = sz d) (AttemptSized sz) H cfg hv (fun h => by rw [hs] at h; cases h)
    (fun a m ha hm => ha m hm)
    (fun c a d s ha hk => hk ▸ pull_preserves_verified_blobs_sized H cfg hs sz c a ha d) as

/-- the same through the retry loop of `handlePull`, however it ends (success, permanent error,
    client gone while retrying) -/
theorem handlePull_linked_layers_verified_tree (H : Bytes → D) (cfg : Cfg) (hv : cfg.verify = true)
    (hs : cfg.staged = false) (sz : D → Nat) (as : List (Attempt D)) :
    (∀ a ∈ as, AttemptSized sz a) →
    ∀ c : Cache D, LinkedVerifiedSized sz H c → LinkedVerifiedSized sz H (handlePull H cfg c as).1 := by
  intro hall c h
  rw [handlePull_eq_history]
  exact history_linked_layers_verified_tree H cfg hv hs sz _ (fun a ha => hall a (List.mem_of_mem_take ha)) c h

theorem linkedVerifiedSized_empty (sz : D → Nat) (H : Bytes → D) :
    LinkedVerifiedSized sz H (Cache.empty : Cache D) := by
  intro n m h; simp [Cache.empty] at h

end

/-! ### Witness and non-vacuity (`D := Bytes`, `H := id`, declared size = length of the pre-image) -/

def tcfg : Cfg := ⟨6, none, true, true, false⟩

/-- **The guard is needed on this tree** (finding F10d): pull `d1` links name 0 to a verified
    4-byte blob; pull `d2` (another name) is served a manifest declaring the same digest with size
    5 — not `Sized` — fails, and leaves name 0 linked to a blob whose first bytes were overwritten. -/
theorem F10d_breaks_unguarded_invariant_on_tree :
    (pullHistory id tcfg Cache.empty [d1, d2]).2 = [.ok, .err .digest] ∧
    (pullHistory id tcfg Cache.empty [d1, d2]).1.links 0 = some mABCD ∧
    (pullHistory id tcfg Cache.empty [d1, d2]).1.files abcd = some [1, 2, 99, 100] ∧
    ¬ AttemptSized (fun d : Bytes => d.length) d2 := by
  refine ⟨by decide +kernel, by decide +kernel, by decide +kernel, fun h => ?_⟩
  exact absurd (h mLie rfl ⟨abcd, 5⟩ (by decide)) (by decide)

theorem sized_mABCD : Sized (fun d : Bytes => d.length) mABCD := by
  intro l hl
  have : l = ⟨abcd, 4⟩ := by simpa [Manifest.all, mABCD] using hl
  subst this; rfl

/-- non-vacuity of `history_linked_layers_verified_tree`: the history "chunk past the layer end,
    then two honest retries" (`o1, o2, o3`: ErrIncomplete, ErrIncomplete with the oversized blob
    removed, ok) consists of `Sized` attempts, ends with name 0 linked, and the theorem gives the
    verified blob -/
example :
    (pullHistory id rcfg Cache.empty [o1, o2, o3]).1.links 0 = some mABCD ∧
    LinkedVerifiedSized (fun d : Bytes => d.length) id (pullHistory id rcfg Cache.empty [o1, o2, o3]).1 := by
  refine ⟨by decide +kernel, ?_⟩
  apply history_linked_layers_verified_tree id rcfg rfl rfl
  · intro a ha m hm
    simp only [List.mem_cons, List.not_mem_nil, or_false] at ha
    rcases ha with rfl | rfl | rfl <;> (injection hm with hm; subst hm; exact sized_mABCD)
  · exact linkedVerifiedSized_empty _ _

/-- non-vacuity of `pullRun_keeps_complete_files` / `pull_preserves_verified_blobs_sized`: a
    verified blob in the cache, and a later pull that lists its digest (chunked, with a plan that
    would overwrite it) leaves it alone -/
example : Good id (pullHistory id tcfg Cache.empty [d1]).1 abcd (abcd.length) ∧
    (pull id rcfg (pullHistory id tcfg Cache.empty [d1]).1 o1).1.files abcd = some abcd :=
  ⟨⟨abcd, by decide +kernel, by decide, rfl⟩, by decide +kernel⟩

/-! ### Branch tracing (Model/RegistryCov.lean) is the model -/

section
variable {D : Type} [DecidableEq D]

theorem advanceT_fst (v : Variant) (limit : Option Nat) (st : Run D) (ops : List (Op D)) :
    (advanceT v limit st ops).1 = advance v limit st ops := by
  fun_induction advance v limit st ops <;> simp_all [advanceT]

theorem stepT_fst (H : Bytes → D) (v : Variant) (limit : Option Nat) (st : Run D) (s : Step) :
    (stepT H v limit st s).map (·.1) = step H v limit st s := by
  cases s with
  | release k r =>
    simp only [stepT, step]
    cases st.inflight[k]? with
    | none => rfl
    | some t =>
      simp only []
      by_cases hr : isRedirect r = true
      · simp [hr]
      · simp [hr, advanceT_fst]
  | cancel => simp [stepT, step, advanceT_fst]
  | timeout => simp [stepT, step, advanceT_fst]

theorem runStepsT_fst (H : Bytes → D) (v : Variant) (limit : Option Nat) (ss : List Step) :
    ∀ st : Run D, (runStepsT H v limit st ss).map (·.1) = runSteps H v limit st ss := by
  intro st
  fun_induction runStepsT H v limit st ss with
  | case1 => rfl
  | case2 st s ss hs => simp [runSteps, ← stepT_fst, hs]
  | case3 st s ss st' t hs hr ih => simp [runSteps, ← stepT_fst, hs, ← ih, hr]
  | case4 st s ss st' t hs st'' t' hr ih => simp [runSteps, ← stepT_fst, hs, ← ih, hr]

/-- the traced attempt reaches exactly the state of `pullRun`: the branch counters the check prints
    (oracle command `pullcov`, `historyTags`) are counters of the model the theorems are about -/
theorem pullRun_traced (H : Bytes → D) (cfg : Cfg) (c : Cache D) (m : Manifest D) (a : Attempt D) :
    (runStepsT H cfg.variant cfg.limit
      (advanceT cfg.variant cfg.limit { cache := c, ops := layerOps cfg.thr a.plans 0 m.all }
        (layerOps cfg.thr a.plans 0 m.all)).1 a.steps).map (·.1) = pullRun H cfg c m a := by
  rw [runStepsT_fst, advanceT_fst]; rfl

end

/-- one tag per physical request: the tagged walk is as long as the walk of `exchangeFrom` -/
theorem exchangeTagsFrom_length (fuel : Nat) : ∀ (sent : Nat) (m : Method) (b : BodyKind) (rs : List Resp),
    (exchangeTagsFrom fuel sent m b rs).length = (exchangeFrom fuel sent m b rs).1.length := by
  induction fuel with
  | zero => intro sent m b rs; simp [exchangeTagsFrom, exchangeFrom]
  | succ fuel ih =>
    intro sent m b rs
    unfold exchangeTagsFrom exchangeFrom
    simp only
    generalize rs.headD ⟨200, false⟩ = r
    by_cases h0 : r.status = 0
    · rw [if_pos h0, if_pos h0]; rfl
    · rw [if_neg h0, if_neg h0]
      cases hf : follow m b r with
      | none => rfl
      | some p =>
        obtain ⟨m', b'⟩ := p
        simp only []
        by_cases hs : sent ≥ 10
        · rw [if_pos hs, if_pos hs]; rfl
        · rw [if_neg hs, if_neg hs]; simp [ih]

end OllamaVerif.C09
