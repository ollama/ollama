/-
  C11 — the limit the count is compared with is the CONFIGURED one.

  `live_count_le_max` bounds the number of live runners by the state field `maxRunners`, which `pLookup` may write
  (`effMax`: the HACK that sets OLLAMA_MAX_LOADED_MODELS when it is unset).  This file proves that the field never
  changes once it is positive (`maxRunners_stable`), hence
    * with OLLAMA_MAX_LOADED_MODELS = mr > 0 the limit in force is mr in every reachable state (`configured_limit`) and
      the NUMBER of live runners never exceeds mr (`live_count_le_configured`);
    * with the variable unset the limit is 0 until the first placement decision, which fixes it for good to the number of
      GPUs (unreliable free-memory reporting) or three times that (`auto_limit_shape`), never again changed.
  Plus concrete runs of the situations of `reuse_compatible` / `incompatible_expires` from `init` (non-vacuity).
-/
import OllamaVerif.Properties.C02Chan

namespace OllamaVerif.C11
open OllamaVerif.Sched OllamaVerif.C01

theorem effMax_of_pos (s : State) (fit : Fit) (q : ReqId) (h : 0 < s.maxRunners) : effMax s fit q = s.maxRunners := by
  unfold effMax
  split
  · rename_i hc; omega
  · rfl

/-- only the placement decision writes the limit -/
theorem step_maxRunners {v : Variant} {s s' : State} {a : Act} (hs : step v s a = some s') :
    s'.maxRunners = s.maxRunners ∨ ∃ fit q, fit.ngpus ≠ 0 ∧ s'.maxRunners = effMax s fit q := by
  cases Step.of_step hs
  case cFin q r _ _ =>
    obtain ⟨_, _, e, _⟩ := cFin_writes s q r
    rw [e]; exact Or.inl rfl
  all_goals first
    | exact Or.inl rfl
    | exact Or.inr ⟨_, _, ‹_›, rfl⟩

theorem maxRunners_stable {v : Variant} {s s' : State} (a : Act) (hs : step v s a = some s') (hpos : 0 < s.maxRunners) :
    s'.maxRunners = s.maxRunners := by
  rcases step_maxRunners hs with h | ⟨fit, q, _, h⟩
  · exact h
  · rw [h, effMax_of_pos s fit q hpos]

/-- **The limit in force is the configured one**: with OLLAMA_MAX_LOADED_MODELS = mr > 0 it is mr in every reachable state -/
theorem configured_limit {v : Variant} {mr mq ds : Nat} {s : State} (h : Reach v (Sched.init mr mq ds) s) (hpos : 0 < mr) :
    s.maxRunners = mr := by
  induction h with
  | init => rfl
  | step a _ hs ih => rw [maxRunners_stable a hs (by omega), ih]

/-- **C11, clause 1 against the configured value**: with OLLAMA_MAX_LOADED_MODELS = mr > 0 the number of started and not
    shut-down runners never exceeds mr, in every reachable state -/
theorem live_count_le_configured {mr mq ds : Nat} {s : State} (h : Reach Variant.good (Sched.init mr mq ds) s) (hpos : 0 < mr) :
    OllamaVerif.C02Chan.liveCount s ≤ mr := by
  have := OllamaVerif.C02Chan.live_count h
  rwa [configured_limit h hpos] at this

/-- with the variable unset: still 0, or fixed by a placement decision to n or 3·n for a GPU count n ≥ 1 -/
theorem auto_limit_shape {v : Variant} {mq ds : Nat} {s : State} (h : Reach v (Sched.init 0 mq ds) s) :
    s.maxRunners = 0 ∨ ∃ n, 1 ≤ n ∧ (s.maxRunners = n ∨ s.maxRunners = 3 * n) := by
  induction h with
  | init => left; rfl
  | @step s s' a _ hs ih =>
    by_cases hpos : 0 < s.maxRunners
    · rw [maxRunners_stable a hs hpos]; exact ih
    · have h0 : s.maxRunners = 0 := by omega
      rcases step_maxRunners hs with h | ⟨fit, q, hn, h⟩
      · left; rw [h, h0]
      · rw [h]
        unfold effMax
        split
        · right; refine ⟨fit.ngpus, by omega, ?_⟩
          split
          · right; rfl
          · left; rfl
        · left; exact h0

/-! ### instances on reachable states -/

/-- the situation of `reuse_compatible` on a reachable state: same options ⇒ request 1 gets runner 0, nothing is started -/
theorem reuse_instance :
    (run Variant.good (init0 0 512 1) (reuseTrace 0 ++ [.pLookup fit0, .pNeedsReload, .pUse])).map
      (fun s => ((s.reqs 1).gotRunner, s.nRunners, s.ppc)) = some (some 0, 1, .idle) := by decide

/-- and the negative companion: other options ⇒ the loaded runner is told to expire, request 1 is not granted it -/
theorem incompatible_instance :
    (run Variant.good (init0 0 512 1) (reuseTrace 1 ++ [.pLookup fit0, .pNeedsReload])).map
      (fun s => ((s.reqs 1).gotRunner, s.ppc)) = some (none, .expire 1 0) := by decide

example : ∃ s, Reach Variant.good (init0 0 512 1) s ∧ s.ppc = .eval 1 ∧ lookup s.loaded (s.reqs 1).model = some 0 ∧
    (s.runners 0).opts = (s.reqs 1).opts ∧ (s.runners 0).locked = false :=
  ⟨_, reach_run_getD (reuseTrace 0) (by decide), by decide, by decide, by decide, by decide⟩

end OllamaVerif.C11
