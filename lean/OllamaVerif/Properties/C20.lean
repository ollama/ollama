/-
  C20 — Tokenizing then detokenizing returns the original text.

  Property theorems over the model in Model/Tokenizer.lean (helper lemmas: Proofs/Tokenizer*.lean).
  All property theorems quantify over EVERY vocabulary (`Vocab`: arbitrary lookup functions), every
  pre-tokenizer `split`, every list of special tokens and every input string; nothing is bounded.
  `_hne` (`hne` in the two `*_special_literal`), `_hsc`: inputs on which the real `Encode` returns at all; unused by the proofs (see `bpe_roundtrip`).
-/
import OllamaVerif.Proofs.Tokenizer
import OllamaVerif.Proofs.TokenizerVocab
import OllamaVerif.Proofs.TokenizerAdj
import OllamaVerif.Proofs.TokenizerPtr
import OllamaVerif.Proofs.TokenizerSplit

namespace OllamaVerif.C20
open OllamaVerif.Tok

/-! ## byte <-> rune map -/

/-- **Repaired table (third range from 0x7f): Decode's map inverts Encode's on every byte but NUL.** -/
theorem byteMap_roundtrip_fixed : ∀ b, b < 256 → b ≠ 0 → decRune (encByte false b) = some b :=
  fun b h h0 => dec_enc_table false b h h0 (by simp)

/-- **Repaired table: the byte -> rune map is injective on all 256 bytes** (NUL included: it is the
    only byte sent to U+0100). -/
theorem byteMap_injective_fixed :
    ∀ a, a < 256 → ∀ b, b < 256 → encByte false a = encByte false b → a = b := by
  intro a ha b hb h
  -- `Decode`'s map is a left inverse except at NUL, which it sends to `none`
  have e : (if a = 0 then none else some a) = (if b = 0 then none else some b) := by
    rw [← dec_enc_all a ha, ← dec_enc_all b hb, h]
  by_cases ha0 : a = 0
  · by_cases hb0 : b = 0
    · rw [ha0, hb0]
    · rw [if_pos ha0, if_neg hb0] at e
      cases e
  · by_cases hb0 : b = 0
    · rw [if_neg ha0, if_pos hb0] at e
      cases e
    · rw [if_neg ha0, if_neg hb0] at e
      exact Option.some.inj e

/-- **Pinned table, partial:** the inverse property holds for every byte except NUL and `~` (0x7e). -/
theorem byteMap_roundtrip_pinned_partial :
    ∀ b, b < 256 → b ≠ 0 → b ≠ 0x7e → decRune (encByte true b) = some b :=
  fun b h h0 h7 => dec_enc_table true b h h0 (fun _ => h7)

/-! ## special-token splitting -/

/-- **Splitting on special tokens partitions the text**: the literals of the fragments, in order,
    concatenate to the input (any specials, any text). -/
theorem fragments_concat (specials : List Special) (s : Str) :
    ((fragments specials s).map Frag.lit).flatten = s := fragments_lit specials s

/-! ## merge loop -/

/-- **The merge loop (either family, any queue order) preserves the concatenation of the parts.** -/
theorem merge_preserves_concat (cfg : Cfg) (rs : Str) :
    ((mergeAll cfg rs).map (·.runes)).flatten = rs := mergeAll_concat cfg rs

/-- **BPE: if every single rune of the piece is a token, every part left by the merge loop is a token**
    (so the `TODO: rune isn't in the vocabulary` branch never drops anything). -/
theorem merge_parts_in_vocab (V : Vocab) (rs : Str) (h1 : ∀ r ∈ rs, (V.tokId [r]).isSome = true) :
    ∀ p ∈ mergeAll (bpeCfg V) rs, (V.tokId p.runes).isSome = true :=
  mergeAll_all (fun t => (V.tokId t).isSome = true) _ (bpeCfg_ok V) rs h1

/-! ## BPE round trip -/

/-- **BPE round trip** (both variants of the byte switch).
    For every well-formed vocabulary that covers every (admissible) byte, every pre-tokenizer that
    partitions its input, every list of special tokens whose vocabulary string decodes to the literal,
    and every text whose bytes are non-NUL (and, for the pinned switch only, not `~`):
    `Decode (Encode s) = s`.
    `_hne` (no special token is the empty string) is the TERMINATION guard of the real code: with an empty special
    literal the Go loop never returns (`goSplitPass_empty_diverges`), so nothing is claimed there; the proof about the
    model function does not need it, the link to the Go-shaped loop (`goBpeEncode_eq`) does. -/
theorem bpe_roundtrip (pinned : Bool) (V : Vocab) (split : Str → List Str) (specials : List Special)
    (s : Str) (hwf : V.Wf) (hcov : V.CoversBytes pinned) (_hne : ∀ q ∈ specials, q.lit ≠ [])
    (hsplit : ∀ t, Frag.text t ∈ fragments specials s → (split t).flatten = t)
    (hsp : ∀ q ∈ specials, decodeRunes (V.tokStr q.id) = q.lit)
    (hs : ∀ b ∈ s, byteOk pinned b) :
    bpeDecode V (bpeEncode pinned V split specials noAdd s) = s :=
  (bpeEncode_decode pinned V split specials s hwf hsplit (fun b hb => hcov b (hs b hb)) fun q hq ⟨a, b, hab⟩ => by
    rw [hsp q (fragments_from specials s q hq), decodeRunes_map_enc pinned q.lit fun x hx => hs x (by rw [hab]; simp [hx])]).trans
    (decodeRunes_map_enc pinned s hs)

/-- **BPE round trip for the repaired switch: every text without NUL bytes.** -/
theorem bpe_roundtrip_fixed (V : Vocab) (split : Str → List Str) (specials : List Special)
    (s : Str) (hwf : V.Wf) (hcov : V.CoversBytes false) (hne : ∀ q ∈ specials, q.lit ≠ [])
    (hsplit : ∀ t, Frag.text t ∈ fragments specials s → (split t).flatten = t)
    (hsp : ∀ q ∈ specials, decodeRunes (V.tokStr q.id) = q.lit)
    (hs : ∀ b ∈ s, b < 256 ∧ b ≠ 0) :
    bpeDecode V (bpeEncode false V split specials noAdd s) = s :=
  bpe_roundtrip false V split specials s hwf hcov hne hsplit hsp
    (fun b hb => ⟨(hs b hb).1, (hs b hb).2, by simp⟩)

/-- **Every id `Encode` returns is inside the vocabulary** (any text, any `addSpecial` configuration
    whose BOS/EOS are in range, no covering assumption). -/
theorem bpe_ids_in_range (pinned : Bool) (V : Vocab) (split : Str → List Str) (specials : List Special)
    (c : AddCfg) (s : Str) (hwf : V.Wf) (_hne : ∀ q ∈ specials, q.lit ≠ []) (hsp : ∀ q ∈ specials, q.id < V.size)
    (hbos : c.bos < V.size) (heos : c.eos < V.size) :
    ∀ id ∈ bpeEncode pinned V split specials c s, id < V.size := by
  intro id hid
  unfold bpeEncode at hid
  rcases mem_addSpecials c _ id hid with h | ⟨_, _, rfl⟩ | ⟨_, _, rfl⟩
  · simp only [List.mem_flatMap] at h
    obtain ⟨fr, hfr, hidf⟩ := h
    cases fr with
    | text t =>
      simp only [bpeFrag, List.mem_flatMap] at hidf
      obtain ⟨piece, _, hp⟩ := hidf
      obtain ⟨u, hu⟩ := bpePiece_ids pinned V piece id hp
      exact (hwf _ _ hu).2
    | special q =>
      simp only [bpeFrag, List.mem_singleton] at hidf
      subst hidf
      exact hsp q (fragments_from specials s q hfr)
  · exact hbos
  · exact heos

theorem foldl_split_text_noOcc (l : List Special) (t : Str) (h : ∀ q ∈ l, indexOf t q.lit = none) :
    l.foldl (fun frs sp => splitFrags sp frs) [Frag.text t] = [Frag.text t] := by
  induction l with
  | nil => rfl
  | cons q l ih =>
    have hq := h q (by simp)
    simp only [List.foldl_cons]
    have : splitFrags q [Frag.text t] = [Frag.text t] := by
      simp [splitFrags, splitSpecial, hq]
    rw [this]
    exact ih (fun x hx => h x (List.mem_cons_of_mem _ hx))

theorem foldl_split_special (l : List Special) (sp : Special) :
    l.foldl (fun frs sp => splitFrags sp frs) [Frag.special sp] = [Frag.special sp] := by
  induction l with
  | nil => rfl
  | cons q l ih => simp only [List.foldl_cons]; simpa [splitFrags] using ih

theorem fragments_special_literal (pre post : List Special) (sp : Special)
    (hpre : ∀ q ∈ pre, indexOf sp.lit q.lit = none) :
    fragments (pre ++ sp :: post) sp.lit = [Frag.special sp] := by
  unfold fragments
  rw [List.foldl_append, List.foldl_cons, foldl_split_text_noOcc pre sp.lit hpre]
  have : splitFrags sp [Frag.text sp.lit] = [Frag.special sp] := by
    simp [splitFrags, splitSpecial, indexOf_eq, Basic.indexOf_of_prefix]
  rw [this, foldl_split_special]

/-- **A special token's literal encodes to exactly its id**, whenever no other special token's
    literal occurs inside it. -/
theorem bpe_special_literal (pinned : Bool) (V : Vocab) (split : Str → List Str)
    (pre post : List Special) (sp : Special) (hne : sp.lit ≠ [])
    (hother : ∀ q ∈ pre ++ post, indexOf sp.lit q.lit = none) :
    bpeEncode pinned V split (pre ++ sp :: post) noAdd sp.lit = [sp.id] := by
  unfold bpeEncode
  rw [addSpecials_noAdd, fragments_special_literal pre post sp fun q hq => hother q (by simp [hq])]
  simp [bpeFrag]

/-- **Splitting leaves no special token's literal inside a text fragment** (both families; any list of special
    tokens with non-empty literals, any text): (1) the fragments partition the text and (2) NO remaining text fragment
    contains the literal of ANY special token; the other four clauses restate the definitions of the encoders (`Encode`
    is the concatenation of the per-fragment encodings, a special fragment is encoded as exactly its id).  Which of two
    overlapping literals is cut out depends on the order of the list (`special_order_witness`). -/
theorem special_occurrences_consumed (specials : List Special) (hne : ∀ q ∈ specials, q.lit ≠ []) (s : Str) :
    ((fragments specials s).map Frag.lit).flatten = s ∧
    (∀ q ∈ specials, ∀ u, Frag.text u ∈ fragments specials s → ¬ Occurs q.lit u) ∧
    (∀ pinned V split c, bpeEncode pinned V split specials c s
        = addSpecials c ((fragments specials s).flatMap (bpeFrag pinned V split))) ∧
    (∀ V c, spmEncode V specials c s = addSpecials c ((fragments specials s).flatMap (spmFrag V))) ∧
    (∀ pinned V split q, bpeFrag pinned V split (Frag.special q) = [q.id]) ∧
    (∀ V q, spmFrag V (Frag.special q) = [q.id]) :=
  ⟨fragments_lit specials s, fun q hq => fragments_noOcc specials hne s q hq,
   fun _ _ _ _ => rfl, fun _ _ => rfl, fun _ _ _ _ => rfl, fun _ _ => rfl⟩

/-! ## histories of calls on one tokenizer -/

/-- **No state between calls.**  For every history of calls on one tokenizer object (either family: `enc` is
    any encoder parameterised by the special-token list, e.g. `bpeEncode pinned V split · c` or
    `spmEncode V · c`), starting from a fresh object or from one that has been used before, the i-th result is
    the single-call result on the i-th input: the only state carried between calls is the cache of the
    special-token list, and it is either empty or equal to what `SpecialVocabulary` computes. -/
theorem history_stateless {α} (enc : List Special → α → List Nat) (compute : List Special)
    (st : TokState) (hst : st.special = none ∨ st.special = some compute) (xs : List α) :
    runHistory enc compute st xs = xs.map (enc compute) := by
  induction xs generalizing st with
  | nil => rfl
  | cons x xs ih =>
    simp only [runHistory, encodeCall, List.map_cons]
    rcases hst with h | h
    · simp only [specialVocabulary, h]
      rw [ih _ (Or.inr rfl)]
    · simp only [specialVocabulary, h]
      rw [ih _ (Or.inr h)]

theorem bpe_history_stateless (pinned : Bool) (V : Vocab) (split : Str → List Str) (specials : List Special)
    (c : AddCfg) (texts : List Str) :
    runHistory (fun sps s => bpeEncode pinned V split sps c s) specials TokState.init texts
      = texts.map (bpeEncode pinned V split specials c) :=
  history_stateless _ specials _ (Or.inl rfl) texts

theorem spm_history_stateless (V : Vocab) (specials : List Special) (c : AddCfg) (texts : List Str) :
    runHistory (fun sps s => spmEncode V sps c s) specials TokState.init texts
      = texts.map (spmEncode V specials c) :=
  history_stateless _ specials _ (Or.inl rfl) texts

/-! ## SentencePiece -/

/-- **SPM merge loop, with exactly the Go code's size-only staleness test: every part it leaves is a token
    or a single rune of the input** (any vocabulary, any scores, any input).  Invariant: every queue entry
    was created from two strings whose join is a token and whose byte sizes it records, parts only grow by
    appending, UTF-8 length is strictly monotone — so an entry that passes the size test is not stale. -/
theorem spm_merge_parts_tokens (V : Vocab) (rs : Str) :
    ∀ p ∈ mergeAll (spmCfg V) rs, (V.tokId p.runes).isSome = true ∨ ∃ r, p.runes = [r] :=
  spm_mergeAll_parts V rs

/-- **SentencePiece round trip, partial.**  For every well-formed vocabulary that has the 256 byte
    tokens (and the token `▁` if the text contains a space), every list of special tokens
    (vocabulary string = literal, not of the byte-token shape) and every text (as code points, all valid) that
    (guard 1) does not itself contain U+2581 and (guard 2) has no contiguous piece that is BOTH a token of
    the vocabulary and a byte-token literal `<0x??>`:
    `Decode (Encode s)` is the UTF-8 encoding of `s`.
    Both guards are necessary (witnesses below): they are inherent to the scheme. -/
theorem spm_roundtrip_partial (V : Vocab) (specials : List Special) (s : Str)
    (hwf : V.Wf) (_hne : ∀ q ∈ specials, q.lit ≠ []) (hbt : V.HasByteTokens) (hsep : 32 ∈ s → (V.tokId [sepRune]).isSome = true)
    (hsp : ∀ q ∈ specials, V.tokStr q.id = q.lit ∧ parseByteTok (utf8s q.lit) = none)
    (hvalid : ∀ r ∈ s, r < 0x110000) (hnosep : sepRune ∉ s) (hnolit : NoByteLit V s) :
    spmDecode V (spmEncode V specials noAdd s) = some (utf8s s) := by
  refine fragments_decode (spmDecode_hom V) ⟨rfl, utf8s_append⟩ _ specials s fun fr hfr => ?_
  have ok : SpmOk V fr.lit := SpmOk.of_occurs ⟨hsep, hvalid, hnosep, hnolit⟩ (fragments_occurs specials s fr hfr)
  cases fr with
  | text t => exact spmText_decode V hwf hbt t ok
  | special q =>
    obtain ⟨hstr, hnl⟩ := hsp q (fragments_from specials s q hfr)
    simp [spmFrag, spmDecode, spmDecodeTok, hstr, map_sepToSpace_id q.lit ok.nosep, hnl, Frag.lit]

theorem spmText_ids (V : Vocab) (t : Str) : ∀ id ∈ spmText V t, ∃ u, V.tokId u = some id := by
  intro id hid
  unfold spmText at hid
  simp only at hid
  split at hid
  · rename_i i hi
    simp at hid; subst hid; exact ⟨_, hi⟩
  · simp only [List.mem_flatMap] at hid
    obtain ⟨p, _, hp⟩ := hid
    unfold spmToken at hp
    split at hp
    · rename_i i hi
      simp at hp; subst hp; exact ⟨_, hi⟩
    · simp only [List.mem_filterMap] at hp
      obtain ⟨b, _, hb⟩ := hp
      exact ⟨_, hb⟩

/-- **SentencePiece: every id `Encode` returns is inside the vocabulary.** -/
theorem spm_ids_in_range (V : Vocab) (specials : List Special) (c : AddCfg) (s : Str) (hwf : V.Wf)
    (_hne : ∀ q ∈ specials, q.lit ≠ []) (hsp : ∀ q ∈ specials, q.id < V.size) (hbos : c.bos < V.size) (heos : c.eos < V.size) :
    ∀ id ∈ spmEncode V specials c s, id < V.size := by
  intro id hid
  unfold spmEncode at hid
  rcases mem_addSpecials c _ id hid with h | ⟨_, _, rfl⟩ | ⟨_, _, rfl⟩
  · simp only [List.mem_flatMap] at h
    obtain ⟨fr, hfr, hidf⟩ := h
    cases fr with
    | text t =>
      obtain ⟨u, hu⟩ := spmText_ids V t id hidf
      exact (hwf _ _ hu).2
    | special q =>
      simp only [spmFrag, List.mem_singleton] at hidf
      subst hidf
      exact hsp q (fragments_from specials s q hfr)
  · exact hbos
  · exact heos

/-- a small sentencepiece vocabulary: id 0..255 = byte tokens, 256 = `▁`, 257 = `a` -/
def spmVocab : Vocab where
  tokId s := if s = [sepRune] then some 256 else if s = [97] then some 257 else
    match s with
    | [60, 48, 120, c1, c2, 62] =>
      (match hexVal c1, hexVal c2 with
       | some x, some y => if byteTok (16 * x + y) = s then some (16 * x + y) else none
       | _, _ => none)
    | _ => none
  tokStr i := if i = 256 then [sepRune] else if i = 257 then [97] else byteTok i
  rank _ _ := none
  score _ := 0
  size := 258

/-- **Guard 1 is necessary:** the text `▁` decodes to a space. -/
theorem spm_sep_witness :
    spmDecode spmVocab (spmEncode spmVocab [] noAdd [sepRune]) = some [32] ∧
    utf8s [sepRune] = [0xE2, 0x96, 0x81] := by decide

/-- **Guard 2 is necessary:** the text `<0x41>` is found by the whole-fragment shortcut as the byte
    token and decodes to `A`. -/
theorem spm_byte_literal_witness :
    spmDecode spmVocab (spmEncode spmVocab [] noAdd (byteTok 0x41)) = some [0x41] := by decide

/-- non-vacuity of `spm_roundtrip_partial`: `spmVocab` has the byte tokens and `▁`, and the text
    "a a" meets both guards' easy half (no U+2581) and round-trips -/
example : spmVocab.HasByteTokens ∧ (spmVocab.tokId [sepRune]).isSome = true ∧
    spmDecode spmVocab (spmEncode spmVocab [] noAdd [97, 32, 97]) = some [97, 32, 97] := by
  refine ⟨by unfold Vocab.HasByteTokens; decide +kernel, by decide, by decide⟩

/-! ## findings: Lean-checked witnesses on the model -/

/-- a tiny covering vocabulary: every rune is the token whose id is the rune; no merges -/
def idVocab : Vocab where
  tokId s := match s with | [r] => if r < 0x180 then some r else none | _ => none
  tokStr i := [i]
  rank _ _ := none
  score _ := 0
  size := 0x180

/-- one piece per byte -/
def byteSplit (s : Str) : List Str := s.map fun b => [b]

theorem byteSplit_flatten (t : Str) : (byteSplit t).flatten = t := by
  induction t with
  | nil => rfl
  | cons b t ih => simpa [byteSplit] using ih

/-- **Witness of finding F2 (pinned switch).**  `~` (0x7e) and the space (0x20) are both sent to
    U+0120, and `"a~b"` decodes to `"a b"`; with the repaired switch it round-trips. -/
theorem F2_pinned_tilde_collides_with_space :
    encByte true 0x7e = encByte true 0x20 ∧
    bpeDecode idVocab (bpeEncode true idVocab byteSplit [] noAdd [97, 126, 98]) = [97, 32, 98] ∧
    bpeDecode idVocab (bpeEncode false idVocab byteSplit [] noAdd [97, 126, 98]) = [97, 126, 98] := by
  decide

/-! ### the vocabulary's merge table and token list are independent: the merge loop's token guard -/

/-- the BPE queue configuration WITHOUT the `vocab.Encode(pair.value) < 0 → skip` guard -/
def bpeCfgNoGuard (V : Vocab) : Cfg := { bpeCfg V with ok := fun c l r => l ++ r == c.value }

/-- covering vocabulary (every rune is a token) with the merge rule "a b" whose product "ab" is NOT a token -/
def gapVocab : Vocab := { idVocab with rank := fun l r => if l = [97] ∧ r = [98] then some 0 else none }

theorem bpe_guard_needed_witness :
    -- with the guard (the code as it is) the rule is skipped and "ab" keeps its two tokens
    (mergeAll (bpeCfg gapVocab) [97, 98]).map (·.runes) = [[97], [98]] ∧
    bpeDecode gapVocab (bpeEncode false gapVocab (fun s => [s]) [] noAdd [97, 98]) = [97, 98] ∧
    -- without it the two parts are fused into a string that has no id and is dropped by the final loop
    (mergeAll (bpeCfgNoGuard gapVocab) [97, 98]).map (·.runes) = [[97, 98]] ∧
    ((mergeAll (bpeCfgNoGuard gapVocab) [97, 98]).filterMap fun p => gapVocab.tokId p.runes) = [] := by
  decide

/-- **Witness of finding F2b (ids 105/106 are always special).**  In a byte-level vocabulary such as
    llama 3's, `Values[105]` is the one-rune string U+00AC (the remapped byte 0xAC).  Treated as a
    special token, the text `¬` (bytes C2 AC) becomes the single id 105, which decodes to the single
    byte AC: the hypothesis `hsp` of `bpe_roundtrip` fails for it and so does the round trip. -/
theorem F2b_token105_witness :
    let sp : Special := ⟨[0xC2, 0xAC], [0xAC], 0xAC⟩
    decodeRunes (idVocab.tokStr sp.id) ≠ sp.lit ∧
    bpeDecode idVocab (bpeEncode false idVocab byteSplit [sp] noAdd [0xC2, 0xAC]) = [0xAC] ∧
    bpeDecode idVocab (bpeEncode false idVocab byteSplit [] noAdd [0xC2, 0xAC]) = [0xC2, 0xAC] := by
  decide

/-- `idVocab` without a token for `b` (0x62) -/
def holeVocab : Vocab := { idVocab with tokId := fun s => if s = [98] then none else idVocab.tokId s }

/-- **The covering hypothesis is necessary, and "ids in range" does not imply "nothing dropped"**: with a vocabulary that
    lacks one byte, `"abc"` encodes to ids that are all in range and decodes to `"ac"` — the part that is not a token is
    silently dropped by the final loop (the `TODO` in the source). -/
theorem bpe_cover_needed_witness :
    bpeEncode false holeVocab byteSplit [] noAdd [97, 98, 99] = [97, 99] ∧
    (∀ i ∈ bpeEncode false holeVocab byteSplit [] noAdd [97, 98, 99], i < holeVocab.size) ∧
    bpeDecode holeVocab (bpeEncode false holeVocab byteSplit [] noAdd [97, 98, 99]) = [97, 99] := by
  decide

/-- non-vacuity: `idVocab` is well-formed and covers every byte, `byteSplit` partitions (hypotheses of
    `bpe_roundtrip_fixed`), and a special token's id is in range (hypothesis of `bpe_ids_in_range`) -/
example : idVocab.Wf ∧ idVocab.CoversBytes false ∧ (∀ t, (byteSplit t).flatten = t) ∧
    (∀ q ∈ [(⟨[60, 62], [60, 62], 0x17f⟩ : Special)], q.id < idVocab.size) := by
  refine ⟨?_, ?_, byteSplit_flatten, by decide⟩
  · intro t i h
    unfold idVocab at h ⊢
    simp only at h ⊢
    split at h
    · split at h
      · cases h; exact ⟨rfl, by assumption⟩
      · cases h
    · cases h
  · have : ∀ b, b < 256 → (idVocab.tokId [encByte false b]).isSome = true := by decide +kernel
    intro b hb; exact this b hb.1

/-! ## the theorems instantiated at the vocabulary the code builds from `Values` / `Types` / `Merges` -/

theorem decodeRunes_ascii (q : Str) (h : ∀ r ∈ q, r < 0x80) : decodeRunes q = utf8s q := by
  induction q with
  | nil => rfl
  | cons r q ih =>
    have hr := h r (by simp)
    have h1 : decRune r = some r := by
      unfold decRune
      rw [if_neg (by omega), if_neg (by omega), if_neg (by omega), if_neg (by omega), Nat.mod_eq_of_lt (by omega)]
    have h2 : utf8 r = [r] := if_pos hr
    rw [decodeRunes, List.filterMap_cons, h1, utf8s, List.flatMap_cons, h2]
    exact congrArg (r :: ·) (ih fun x hx => h x (List.mem_cons_of_mem _ hx))

theorem utf8s_ne_nil (x : Str) (h : x ≠ []) : utf8s x ≠ [] := by
  intro hc
  exact h (utf8s_length_eq_zero x (by rw [hc]; rfl))

theorem specialsOf_lit_ne (D : VocabData) (toLit : Str → Str) (htl : ∀ x, x ≠ [] → toLit x ≠ []) (sps : List Str)
    (hne : [] ∉ sps) : ∀ q ∈ D.specialsOf toLit sps, q.lit ≠ [] := by
  intro q hq
  simp only [VocabData.specialsOf, List.mem_map] at hq
  obtain ⟨x, hx, rfl⟩ := hq
  exact htl x (fun hc => hne (hc ▸ hx))

/-- **Ids in range, for the vocabulary the code builds.**  Guards = exactly the inputs on which the real code returns:
    `hsp`: `SpecialVocabulary()` does not panic (`Types` long enough) and returns `sps`; `hne`: no special token is the
    empty string (otherwise `Encode` never terminates: finding `empty-special-hang`; with the repaired loop, `sk = true`,
    `hne` is a theorem: `concrete_bpe_ids_in_range_repaired`).  No other hypothesis on `Values` / `Types` / `Merges`
    (duplicates, any token types); the special tokens' ids come from `vocab.Encode(special)`; BOS/EOS are configuration. -/
theorem concrete_bpe_ids_in_range (pinned sk : Bool) (D : VocabData) (sps : List Str)
    (hsp : D.specialStrings sk = some sps) (hne : [] ∉ sps) (split : Str → List Str) (c : AddCfg) (s : Str)
    (hbos : c.bos < D.values.length) (heos : c.eos < D.values.length) :
    ∀ i ∈ bpeEncode pinned D.vocab split (D.specialsOf utf8s sps) c s, i < D.values.length :=
  bpe_ids_in_range pinned D.vocab split _ c s D.vocab_wf (specialsOf_lit_ne D utf8s utf8s_ne_nil sps hne)
    (fun q hq => (D.specialsOf_wf sk utf8s sps hsp q hq).1) hbos heos

theorem concrete_bpe_ids_in_range_repaired (pinned : Bool) (D : VocabData) (sps : List Str)
    (hsp : D.specialStrings true = some sps) (split : Str → List Str) (c : AddCfg) (s : Str)
    (hbos : c.bos < D.values.length) (heos : c.eos < D.values.length) :
    ∀ i ∈ bpeEncode pinned D.vocab split (D.specialsOf utf8s sps) c s, i < D.values.length :=
  concrete_bpe_ids_in_range pinned true D sps hsp (specialStringsFrom_skip_nonempty _ _ _ _ hsp) split c s hbos heos

/-- SPM: additionally `hsc` — `Scores` is at least as long as `Values` (the real `pairwise` reads `Scores[id]` for the id of
    every merge candidate and panics otherwise; the model's `score` would silently read 0) -/
theorem concrete_spm_ids_in_range (sk : Bool) (D : VocabData) (sps : List Str)
    (hsp : D.specialStrings sk = some sps) (hne : [] ∉ sps) (_hsc : D.ScoresOk) (c : AddCfg) (s : Str)
    (hbos : c.bos < D.values.length) (heos : c.eos < D.values.length) :
    ∀ i ∈ spmEncode D.vocab (D.specialsOf (fun x => x) sps) c s, i < D.values.length :=
  spm_ids_in_range D.vocab _ c s D.vocab_wf (specialsOf_lit_ne D _ (fun _ h => h) sps hne)
    (fun q hq => (D.specialsOf_wf sk _ sps hsp q hq).1) hbos heos

/-- **BPE round trip for the vocabulary the code builds**: `Wf` is proved (not assumed), the special tokens are the
    ones `SpecialVocabulary()` returns (`hsp`: it does not panic) with the ids `Encode` looks up, none of them empty
    (`hne`: termination), and `bpe_roundtrip`'s hypothesis on the special tokens is replaced by the decidable condition on
    the data "every special token's string is ASCII" (the excluded case is the known finding BPE-nonascii-special). -/
theorem concrete_bpe_roundtrip (sk : Bool) (D : VocabData) (sps : List Str)
    (hsp : D.specialStrings sk = some sps) (hne : [] ∉ sps) (split : Str → List Str) (s : Str)
    (hcov : ∀ b, b < 256 → b ≠ 0 → [encByte false b] ∈ D.values)
    (hascii : ∀ q ∈ sps, ∀ r ∈ q, r < 0x80)
    (hsplit : ∀ t, Frag.text t ∈ fragments (D.specialsOf utf8s sps) s → (split t).flatten = t)
    (hs : ∀ b ∈ s, b < 256 ∧ b ≠ 0) :
    bpeDecode D.vocab (bpeEncode false D.vocab split (D.specialsOf utf8s sps) noAdd s) = s := by
  apply bpe_roundtrip_fixed D.vocab split _ s D.vocab_wf _ (specialsOf_lit_ne D utf8s utf8s_ne_nil sps hne) hsplit _ hs
  · intro b hb
    exact lastIdxFrom_isSome _ _ _ (hcov b hb.1 hb.2.1)
  · intro q hq
    obtain ⟨_, h2, h3, h4⟩ := D.specialsOf_wf sk utf8s sps hsp q hq
    rw [h2, h3]
    exact decodeRunes_ascii _ (hascii _ h4)

/-- **SPM round trip for the vocabulary the code builds** (same two necessary guards on the text; `hsc`: no `Scores` panic). -/
theorem concrete_spm_roundtrip_partial (sk : Bool) (D : VocabData) (sps : List Str)
    (hsp : D.specialStrings sk = some sps) (hne : [] ∉ sps) (_hsc : D.ScoresOk) (s : Str)
    (hbt : ∀ b, b < 256 → byteTok b ∈ D.values) (hsep : 32 ∈ s → [sepRune] ∈ D.values)
    (hshape : ∀ q ∈ sps, parseByteTok (utf8s q) = none)
    (hvalid : ∀ r ∈ s, r < 0x110000) (hnosep : sepRune ∉ s) (hnolit : NoByteLit D.vocab s) :
    spmDecode D.vocab (spmEncode D.vocab (D.specialsOf (fun x => x) sps) noAdd s) = some (utf8s s) := by
  apply spm_roundtrip_partial D.vocab _ s D.vocab_wf (specialsOf_lit_ne D _ (fun _ h => h) sps hne) _ _ _ hvalid hnosep hnolit
  · intro b hb; exact lastIdxFrom_isSome _ _ _ (hbt b hb)
  · intro h; exact lastIdxFrom_isSome _ _ _ (hsep h)
  · intro q hq
    obtain ⟨_, h2, h3, h4⟩ := D.specialsOf_wf sk _ sps hsp q hq
    refine ⟨by rw [h2, h3], ?_⟩
    rw [h3]
    exact hshape _ h4

/-- a concrete `Vocabulary`: DUPLICATE value "a" (ids 0 and 2), a control token, a turn marker typed NORMAL -/
def dupData : VocabData :=
  ⟨[[97], [98], [97], [60, 115, 62], startOfTurn], [1, 1, 1, 3, 1], [0, 0, 0, 0, 0], [[97, 32, 98], [97, 32, 98]]⟩

/-- non-vacuity / behaviour on duplicates: `Encode("a")` is the LAST index 2, the duplicate merge line has the LAST
    rank 1, the specials are `<s>` (CONTROL) and `<start_of_turn>` (by name), with their ids -/
example : dupData.vocab.tokId [97] = some 2 ∧ dupData.vocab.rank [97] [98] = some 1 ∧
    dupData.specialStrings false = some [[60, 115, 62], startOfTurn] ∧
    (dupData.specials false id).map (·.id) = [3, 4] := by decide

/-- `Types` shorter than `Values`: the model reports the index-out-of-range panic of `SpecialVocabulary` -/
example : (⟨[[97], [98]], [1], [], []⟩ : VocabData).specialStrings false = none := by decide

/-- a run of `mergeAll` that really merges ("aaaa" with the rules a+a, aa+aa) -/
example : (mergeAll (bpeCfg ⟨fun s => if s = [97, 97] then some 1 else if s = [97, 97, 97, 97] then some 2 else none,
      fun _ => [], fun l r => if l = r then some l.length else none, fun _ => 0, 3⟩) [97, 97, 97, 97]).map (·.runes)
    = [[97, 97, 97, 97]] := by decide

/-- a byte-level vocabulary as data: the 256 remapped bytes (ids 0..255) and the control token `<s>` (id 256) -/
def byteData : VocabData :=
  ⟨(List.range 256).map (fun b => [encByte false b]) ++ [[60, 115, 62]], List.replicate 256 1 ++ [3], [], []⟩

/-- non-vacuity of `concrete_bpe_roundtrip`: `byteData` meets the covering and the ASCII-specials hypotheses, its
    special list is `<s>` with id 256, and a text with the special literal in it round-trips -/
example : (∀ b, b < 256 → b ≠ 0 → [encByte false b] ∈ byteData.values) ∧
    byteData.specialStrings false = some [[60, 115, 62]] ∧
    (byteData.specialsOf utf8s [[60, 115, 62]]).map (fun q => (q.lit, q.id)) = [([60, 115, 62], 256)] ∧
    bpeEncode false byteData.vocab byteSplit (byteData.specialsOf utf8s [[60, 115, 62]]) noAdd [104, 60, 115, 62, 0xC3, 0xA9]
      = [104, 256, 0xC3, 0xA9 ] ∧
    bpeDecode byteData.vocab [104, 256, 0xC3, 0xA9] = [104, 60, 115, 62, 0xC3, 0xA9] := by
  refine ⟨fun b hb _ => ?_, ?_, by decide +kernel, by decide +kernel, by decide +kernel⟩
  · exact List.mem_append_left _ (List.mem_map.mpr ⟨b, List.mem_range.mpr hb, rfl⟩)
  · unfold VocabData.specialStrings
    rw [specialStringsFrom_eq_filter _ _ _ _ (by decide +kernel)]
    decide +kernel

/-! ## the adjacency invariant (Proofs/TokenizerAdj.lean) -/

/-- **Indexing both ends of a popped candidate directly, as the Go loop does, gives the same parts as the model's
    successor lookup** — for either family, any vocabulary, any queue order, any input: every queue entry of every
    reachable state has no live part strictly between its two ends. -/
theorem merge_direct_indexing (cfg : Cfg) (rs : Str) : mergeAllDirect cfg rs = mergeAll cfg rs :=
  mergeAll_eq_direct cfg rs

/-- non-vacuity: a run with stale candidates ("aaaa": the middle pair dies) computed by the direct loop -/
example : (mergeAllDirect (bpeCfg ⟨fun s => if s = [97, 97] then some 1 else if s = [97, 97, 97, 97] then some 2 else none,
      fun _ => [], fun l r => if l = r then some l.length else none, fun _ => 0, 3⟩) [97, 97, 97, 97]).map (·.runes)
    = [[97, 97, 97, 97]] := by decide

/-! ## the NUL guard is exactly the loss: full statement for every byte text -/

def dropNul (s : Str) : Str := s.filter (fun b => b != 0)

theorem decodeRunes_map_enc_all (bs : Str) (h : ∀ b ∈ bs, b < 256) :
    decodeRunes (bs.map (encByte false)) = dropNul bs := by
  induction bs with
  | nil => rfl
  | cons b bs ih =>
    have hb := h b (by simp)
    have e := dec_enc_all b hb
    have ih' := ih (fun x hx => h x (by simp [hx]))
    simp only [decodeRunes, List.map_cons, List.filterMap_cons, e] at ih' ⊢
    by_cases h0 : b = 0
    · simp [h0, dropNul] at ih' ⊢; exact ih'
    · simp [h0, dropNul] at ih' ⊢; exact ih'

/-- **BPE, full statement (no NUL guard).**  For every well-formed vocabulary that has a token for each of the 256
    remapped bytes, every partitioning pre-tokenizer, every specials list (vocabulary string decodes to the literal,
    literal without NUL) and EVERY byte text: `Decode (Encode s)` is `s` with its NUL bytes removed — the NUL
    exclusion in the property statement is exactly the loss (U+0100 is skipped by `Decode`), nothing else is. -/
theorem bpe_roundtrip_nul (V : Vocab) (split : Str → List Str) (specials : List Special) (s : Str)
    (hwf : V.Wf) (hcov : ∀ b, b < 256 → (V.tokId [encByte false b]).isSome = true)
    (hsplit : ∀ t, Frag.text t ∈ fragments specials s → (split t).flatten = t)
    (hsp : ∀ q ∈ specials, decodeRunes (V.tokStr q.id) = q.lit ∧ 0 ∉ q.lit)
    (hs : ∀ b ∈ s, b < 256) :
    bpeDecode V (bpeEncode false V split specials noAdd s) = dropNul s :=
  (bpeEncode_decode false V split specials s hwf hsplit (fun b hb => hcov b (hs b hb)) fun q hq ⟨a, b, hab⟩ => by
    obtain ⟨h1, h2⟩ := hsp q (fragments_from specials s q hq)
    rw [h1, decodeRunes_map_enc_all q.lit fun x hx => hs x (by rw [hab]; simp [hx])]
    exact (List.filter_eq_self.mpr fun x hx => by simp only [bne_iff_ne, ne_eq]; exact fun h0 => h2 (h0 ▸ hx)).symm).trans
    (decodeRunes_map_enc_all s hs)

/-- non-vacuity + witness that the guard is needed: `idVocab` covers all 256 bytes; "a\0b" comes back as "ab" -/
example : (∀ b, b < 256 → (idVocab.tokId [encByte false b]).isSome = true) ∧
    bpeDecode idVocab (bpeEncode false idVocab byteSplit [] noAdd [97, 0, 98]) = [97, 98] ∧
    dropNul [97, 0, 98] = [97, 98] := by
  refine ⟨by decide +kernel, by decide, by decide⟩


/-! ## `Encode` as the Go code is written: in-place splitting loop, `merges` array with stored pointers -/

/-- **The Go merge procedure with its array and stored pointers** (`Proofs/TokenizerPtr.lean`) leaves the model's parts -/
theorem merge_go_array_refines (cfg : Cfg) (rs : Str) : goMergeAll cfg rs = mergeAll cfg rs := goMergeAll_eq cfg rs

/-- **The in-place special-splitting loops** (`Proofs/TokenizerSplit.lean`) compute the model's `fragments` -/
theorem fragments_go_loop_refines (specials : List Special) (hne : ∀ q ∈ specials, q.lit ≠ []) (s : Str) :
    goFragments specials s = fragments specials s := goFragments_eq specials hne s

/-- one pre-tokenizer piece through the Go-shaped merge procedure -/
def goBpePiece (pinned : Bool) (V : Vocab) (piece : Str) : List Nat :=
  let mapped := piece.map (encByte pinned)
  match V.tokId mapped with
  | some id => [id]
  | none => (goMergeAll (bpeCfg V) mapped).filterMap fun p => V.tokId p.runes

/-- `BytePairEncoding.Encode`, statement by statement: `goFragments` (the slice edited in place while scanned),
    per fragment the pre-tokenizer pieces, per piece `goMergeAll` (array of `merge{p, n, runes}`, both ends of a popped
    pair indexed directly, neighbours through the stored pointers), the final loop over the array, BOS/EOS -/
def goBpeEncode (pinned : Bool) (V : Vocab) (split : Str → List Str) (specials : List Special)
    (c : AddCfg) (s : Str) : List Nat :=
  addSpecials c ((goFragments specials s).flatMap fun fr => match fr with
    | .special sp => [sp.id]
    | .text t => (split t).flatMap (goBpePiece pinned V))

def goSpmText (V : Vocab) (s : Str) : List Nat :=
  let text := s.map spaceToSep
  match V.tokId text with
  | some id => [id]
  | none => (goMergeAll (spmCfg V) text).flatMap fun p => spmToken V p.runes

/-- `SentencePieceModel.Encode` in the same shape -/
def goSpmEncode (V : Vocab) (specials : List Special) (c : AddCfg) (s : Str) : List Nat :=
  addSpecials c ((goFragments specials s).flatMap fun fr => match fr with
    | .special sp => [sp.id]
    | .text t => goSpmText V t)

theorem goBpePiece_eq (pinned : Bool) (V : Vocab) : goBpePiece pinned V = bpePiece pinned V := by
  funext piece
  simp only [goBpePiece, bpePiece, goMergeAll_eq]
  cases V.tokId (piece.map (encByte pinned)) <;> rfl

theorem goSpmText_eq (V : Vocab) : goSpmText V = spmText V := by
  funext t
  simp only [goSpmText, spmText, goMergeAll_eq]
  cases V.tokId (t.map spaceToSep) <;> rfl

/-- **The Go-shaped `Encode` IS the model `bpeEncode`** the theorems are about (special literals non-empty). -/
theorem goBpeEncode_eq (pinned : Bool) (V : Vocab) (split : Str → List Str) (specials : List Special)
    (hne : ∀ q ∈ specials, q.lit ≠ []) (c : AddCfg) (s : Str) :
    goBpeEncode pinned V split specials c s = bpeEncode pinned V split specials c s := by
  unfold goBpeEncode bpeEncode
  rw [goFragments_eq specials hne s, goBpePiece_eq]
  congr 2

theorem goSpmEncode_eq (V : Vocab) (specials : List Special) (hne : ∀ q ∈ specials, q.lit ≠ [])
    (c : AddCfg) (s : Str) : goSpmEncode V specials c s = spmEncode V specials c s := by
  unfold goSpmEncode spmEncode
  rw [goFragments_eq specials hne s, goSpmText_eq]
  congr 2

/-- **Round trip stated for the Go-shaped `Encode`** (repaired switch; every text without NUL). -/
theorem go_bpe_roundtrip (V : Vocab) (split : Str → List Str) (specials : List Special) (s : Str)
    (hwf : V.Wf) (hcov : V.CoversBytes false) (hne : ∀ q ∈ specials, q.lit ≠ [])
    (hsplit : ∀ t, Frag.text t ∈ fragments specials s → (split t).flatten = t)
    (hsp : ∀ q ∈ specials, decodeRunes (V.tokStr q.id) = q.lit)
    (hs : ∀ b ∈ s, b < 256 ∧ b ≠ 0) :
    bpeDecode V (goBpeEncode false V split specials noAdd s) = s := by
  rw [goBpeEncode_eq false V split specials hne]
  exact bpe_roundtrip_fixed V split specials s hwf hcov hne hsplit hsp hs

/-- non-vacuity: the Go-shaped encoder run on a text with a special literal, merges and a stale candidate -/
example :
    let V : Vocab := ⟨fun s => if s = [97] then some 0 else if s = [97, 97] then some 1 else
        if s = [97, 97, 97, 97] then some 2 else if s = [98] then some 3 else none,
      fun _ => [], fun l r => if l = r then some l.length else none, fun _ => 0, 5⟩
    goBpeEncode false V (fun t => [t]) [⟨[60, 62], [60, 62], 4⟩] noAdd [97, 97, 97, 97, 97, 60, 62, 98] = [1, 0, 1, 4, 3] := by
  decide


/-! ## finding `empty-special-hang`; the order of the special tokens -/

/-- **Witness of finding `empty-special-hang`.**  A special token whose string is empty (a `Values[i] == ""` typed CONTROL):
    the model's fuel-driven splitter returns (three specials in front of the text), the Go loop never does — after ANY
    number of iterations its slice has grown by that many fragments and the scan position still points at the same
    text; the repaired `SpecialVocabulary()` never returns the empty string. -/
theorem empty_special_diverges_witness :
    (fragments [⟨[], [], 5⟩] [97, 98]).map Frag.lit = [[], [], [], [97, 98]] ∧
    (∀ fuel, goSplitPass ⟨[], [], 5⟩ fuel [.text [97, 98]] 0
      = List.replicate fuel (.special ⟨[], [], 5⟩) ++ [.text [97, 98]]) ∧
    (∀ (D : VocabData) sps, D.specialStrings true = some sps → [] ∉ sps) := by
  refine ⟨by decide, fun fuel => ?_, fun D sps h => specialStringsFrom_skip_nonempty _ _ _ _ h⟩
  have := goSplitPass_empty_diverges ⟨[], [], 5⟩ rfl [97, 98] (by decide) fuel []
  simpa using this

theorem foldl_split_special_mem (l : List Special) (q : Special) (frs : List Frag) (h : Frag.special q ∈ frs) :
    Frag.special q ∈ l.foldl (fun frs sp => splitFrags sp frs) frs :=
  List.foldlRecOn l _ h fun frs h sp _ => List.mem_flatMap.mpr ⟨Frag.special q, h, by simp⟩

/-- **The first-listed special token that occurs in the text gets a special fragment**: no earlier-listed special occurs
    in the text, `sp`'s literal does ⇒ a special fragment for `sp` is among the fragments (encoded as `[sp.id]` by
    definition of the encoders).  For later-listed specials this can fail: `special_order_witness`. -/
theorem first_listed_special_consumed (pre post : List Special) (sp : Special) (s : Str)
    (hpre : ∀ q ∈ pre, indexOf s q.lit = none) (hocc : Occurs sp.lit s) :
    Frag.special sp ∈ fragments (pre ++ sp :: post) s := by
  unfold fragments
  rw [List.foldl_append, List.foldl_cons, foldl_split_text_noOcc pre s hpre]
  apply foldl_split_special_mem
  cases hi : indexOf s sp.lit with
  | none => exact absurd hocc (indexOf_none _ _ hi)
  | some i =>
    simp only [splitFrags, List.flatMap_cons, List.flatMap_nil, List.append_nil]
    unfold splitSpecial
    simp [hi]

/-- SPM analogue of `bpe_special_literal` -/
theorem spm_special_literal (V : Vocab) (pre post : List Special) (sp : Special) (hne : sp.lit ≠ [])
    (hother : ∀ q ∈ pre ++ post, indexOf sp.lit q.lit = none) :
    spmEncode V (pre ++ sp :: post) noAdd sp.lit = [sp.id] := by
  unfold spmEncode
  rw [addSpecials_noAdd, fragments_special_literal pre post sp fun q hq => hother q (by simp [hq])]
  simp [spmFrag]

/-- **The order of the special list decides which of two overlapping special tokens wins**: with `<` listed before
    `<s>`, the text `<s>` is cut at `<` and the longer token is never produced; listed the other way round it is. -/
theorem special_order_witness :
    (fragments [⟨[60], [60], 300⟩, ⟨[60, 115, 62], [60, 115, 62], 301⟩] [60, 115, 62]).map Frag.lit = [[60], [115, 62]] ∧
    bpeEncode false idVocab byteSplit [⟨[60], [60], 300⟩, ⟨[60, 115, 62], [60, 115, 62], 301⟩] noAdd [60, 115, 62]
      = [300, 115, 62] ∧
    bpeEncode false idVocab byteSplit [⟨[60, 115, 62], [60, 115, 62], 301⟩, ⟨[60], [60], 300⟩] noAdd [60, 115, 62]
      = [301] := by decide

/-! ## SentencePiece: guard 2 as a condition on the text alone -/

theorem utf8s_cons (r : Nat) (m : Str) : utf8s (r :: m) = utf8 r ++ utf8s m := by simp [utf8s]

theorem utf8s_head_ascii (m : Str) (c : Nat) (rest : Str) (hc : c < 0x80) (h : utf8s m = c :: rest) :
    ∃ m', m = c :: m' ∧ utf8s m' = rest := by
  cases m with
  | nil => simp [utf8s] at h
  | cons r m' =>
    rw [utf8s_cons] at h
    have hr : r = c := by
      unfold utf8 at h
      split at h
      · simp at h; exact h.1
      · split at h
        · simp at h; omega
        · split at h
          · simp at h; omega
          · simp at h; omega
    subst hr
    have : utf8 r = [r] := by simp [utf8, hc]
    rw [this] at h
    simp at h
    exact ⟨m', rfl, h⟩

theorem parseByteTok_shape (bs : Str) (h : parseByteTok bs ≠ none) : ∃ c1 c2, bs = [60, 48, 120, c1, c2, 62] := by
  unfold parseByteTok at h
  split at h
  · exact ⟨_, _, rfl⟩
  · exact absurd rfl h

/-- **Guard 2 of the SPM round trip holds for every text that does not contain `<0x`** (any vocabulary): sharper than
    `noByteLit_of_no_lt`, and a condition on the text alone. -/
theorem noByteLit_of_no_0x (V : Vocab) (s : Str) (h : ¬ Occurs [60, 48, 120] s) : NoByteLit V s := by
  intro pre m post hs _
  cases hp : parseByteTok (utf8s m) with
  | none => rfl
  | some x =>
    exfalso
    obtain ⟨c1, c2, hu⟩ := parseByteTok_shape (utf8s m) (by rw [hp]; simp)
    obtain ⟨m1, e1, h1⟩ := utf8s_head_ascii m 60 _ (by decide) hu
    obtain ⟨m2, e2, h2⟩ := utf8s_head_ascii m1 48 _ (by decide) h1
    obtain ⟨m3, e3, _⟩ := utf8s_head_ascii m2 120 _ (by decide) h2
    apply h
    refine ⟨pre, m3 ++ post, ?_⟩
    rw [hs, e1, e2, e3]
    simp

/-- **Guard 2 of the SPM round trip holds for every text without `<`** (a byte-token literal starts with `<`): a
    decidable, purely textual sufficient condition for `NoByteLit`, for every vocabulary. -/
theorem noByteLit_of_no_lt (V : Vocab) (s : Str) (h : 60 ∉ s) : NoByteLit V s :=
  noByteLit_of_no_0x V s fun ⟨a, b, hs⟩ => h (by rw [hs]; simp)

/-- a small sentencepiece vocabulary as DATA: ids 0..255 = byte tokens, 256 = `▁`, 257 = `a`; no special tokens -/
def spmData : VocabData :=
  ⟨(List.range 256).map byteTok ++ [[sepRune], [97]], List.replicate 256 6 ++ [1, 1],
   List.replicate 258 0, []⟩

theorem spmData_specialStrings : spmData.specialStrings false = some [] := by
  unfold VocabData.specialStrings
  rw [specialStringsFrom_eq_filter _ _ _ _ (by decide +kernel)]
  decide +kernel

theorem spmData_scoresOk : spmData.ScoresOk := by unfold VocabData.ScoresOk; decide +kernel

theorem spmData_byteTok (b : Nat) (hb : b < 256) : byteTok b ∈ spmData.values :=
  List.mem_append_left _ (List.mem_map.mpr ⟨b, List.mem_range.mpr hb, rfl⟩)

theorem spmData_sep : [sepRune] ∈ spmData.values := List.mem_append_right _ (by simp)

/-- **`concrete_spm_roundtrip_partial` applied inside Lean**: every hypothesis discharged for `spmData` and the text
    "a a" (guard 2 by `noByteLit_of_no_lt`), the conclusion is the round trip -/
example : spmDecode spmData.vocab (spmEncode spmData.vocab (spmData.specialsOf (fun x => x) []) noAdd [97, 32, 97])
    = some (utf8s [97, 32, 97]) :=
  concrete_spm_roundtrip_partial false spmData [] spmData_specialStrings (by simp) spmData_scoresOk [97, 32, 97]
    spmData_byteTok (fun _ => spmData_sep) (by simp) (by decide) (by decide)
    (noByteLit_of_no_lt _ _ (by decide))

/-- `spm_roundtrip_partial`'s guard 2 exhibited for the abstract `spmVocab` as well -/
example : NoByteLit spmVocab [97, 32, 97] := noByteLit_of_no_lt _ _ (by decide)

/-! ## what is proved about the pre-tokenizer: ANY function whose pieces concatenate to its input -/

def Partitions (split : Str → List Str) : Prop := ∀ t, (split t).flatten = t

/-- **BPE round trip for EVERY partitioning pre-tokenizer.**  Nothing else about the regular expression is used:
    whatever function cuts the text fragments into pieces, as long as the pieces concatenate to the fragment, every
    well-formed covering vocabulary, every list of (non-empty, self-decoding) special tokens and every text without NUL
    round-trip.  That the REAL regexp2 split partitions is not a theorem: it is the L2 clause `split-partition`, evaluated
    on the whole text and on every text fragment of every BPE call and on a sweep over all Unicode scalar values. -/
theorem bpe_roundtrip_any_partitioning_split (V : Vocab) (split : Str → List Str) (hpart : Partitions split)
    (specials : List Special) (s : Str) (hwf : V.Wf) (hcov : V.CoversBytes false)
    (hne : ∀ q ∈ specials, q.lit ≠ []) (hsp : ∀ q ∈ specials, decodeRunes (V.tokStr q.id) = q.lit)
    (hs : ∀ b ∈ s, b < 256 ∧ b ≠ 0) :
    bpeDecode V (bpeEncode false V split specials noAdd s) = s :=
  bpe_roundtrip_fixed V split specials s hwf hcov hne (fun t _ => hpart t) hsp hs

/-- the hypothesis is necessary: a split that loses a character loses it in the round trip (`~` dropped) -/
theorem split_partition_needed_witness :
    let dropSplit : Str → List Str := fun t => (t.filter (· != 126)).map fun b => [b]
    ¬ Partitions dropSplit ∧
    bpeDecode idVocab (bpeEncode false idVocab dropSplit [] noAdd [97, 126, 98]) = [97, 98] := by
  refine ⟨fun h => ?_, by decide⟩
  have := h [126]
  revert this
  decide

/-- non-vacuity: `byteSplit` (one piece per byte) and "one piece" both partition -/
example : Partitions byteSplit ∧ Partitions (fun t => [t]) := by
  exact ⟨byteSplit_flatten, fun t => by simp⟩

/-- **SentencePiece round trip with guards on the TEXT only**, for the vocabulary the code builds: valid code points, no
    U+2581 (necessary: `spm_sep_witness`), no `<0x` — the vocabulary conditions (`hbt`, `hsep`, `hshape`, no panic, no empty
    special, scores) are decidable facts about the data (discharged for `spmData` below: `spmData_roundtrip`;
    the driver evaluates the same three conditions on its own vocabularies before it applies the round-trip monitor). -/
theorem concrete_spm_roundtrip_text_guards (sk : Bool) (D : VocabData) (sps : List Str)
    (hsp : D.specialStrings sk = some sps) (hne : [] ∉ sps) (hsc : D.ScoresOk)
    (hbt : ∀ b, b < 256 → byteTok b ∈ D.values) (hsep : [sepRune] ∈ D.values)
    (hshape : ∀ q ∈ sps, parseByteTok (utf8s q) = none) (s : Str)
    (hvalid : ∀ r ∈ s, r < 0x110000) (hnosep : sepRune ∉ s) (hno0x : ¬ Occurs [60, 48, 120] s) :
    spmDecode D.vocab (spmEncode D.vocab (D.specialsOf (fun x => x) sps) noAdd s) = some (utf8s s) :=
  concrete_spm_roundtrip_partial sk D sps hsp hne hsc s hbt (fun _ => hsep) hshape hvalid hnosep
    (noByteLit_of_no_0x _ _ hno0x)

/-- every vocabulary condition of `concrete_spm_roundtrip_text_guards` discharged for `spmData`: what is left is a statement
    about ALL texts with the three textual guards -/
theorem spmData_roundtrip (s : Str) (hvalid : ∀ r ∈ s, r < 0x110000) (hnosep : sepRune ∉ s)
    (hno0x : ¬ Occurs [60, 48, 120] s) :
    spmDecode spmData.vocab (spmEncode spmData.vocab [] noAdd s) = some (utf8s s) :=
  concrete_spm_roundtrip_text_guards false spmData [] spmData_specialStrings (by simp) spmData_scoresOk
    spmData_byteTok spmData_sep (by simp) s hvalid hnosep hno0x

end OllamaVerif.C20
