/-
  C08 — histories with crashes over the WHOLE disk.

  `history_get_trusted` (Properties/C08.lean) quantifies over histories without crashes; `crash_history_trusted`
  over crash–retry histories of ONE blob file.  Here: any history of Put / Import / Get / Link / Unlink / Resolve
  over all digests and names in which EVERY store may be cut by a crash at any point (the leftovers being the
  starting state of everything that follows), under the per-digest size discipline the cache relies on
  ("a blob is always stored under the length of the content that hashes to it"); a stored blob stays retrievable.
  Then: `Resolve`'s read limit, negative sizes, hand-written manifests, chunker sessions.
-/
import OllamaVerif.Properties.C08

namespace OllamaVerif.C08
open OllamaVerif OllamaVerif.BlobCache

def AllTrusted (hash : Bytes → Digest) (sz : Digest → Nat) (k : Disk) : Prop :=
  ∀ d, Trusted hash (k.blob d) d (sz d)

theorem allTrusted_empty (hash : Bytes → Digest) (sz : Digest → Nat) : AllTrusted hash sz Disk.empty :=
  fun _ => trusted_none

/-- what PERSISTENCE of stored blobs needs on top (`strong` histories): no negative-size `Put` (finding F29), and an
    `Import` stores content whose length is the one `sz` gives its digest -/
def DisciplinedP (hash : Bytes → Digest) (sz : Digest → Nat) : Op → Prop
  | .putNeg .. => False
  | .importB _ s => sz (hash s.data) = s.data.length
  | _ => True

theorem stepOp_allTrusted (hash : Bytes → Digest) (sz : Digest → Nat)
    (fixed zc : Bool) (k : Disk) (op : Op) (hd : Disciplined hash sz k op) (h : AllTrusted hash sz k) :
    AllTrusted hash sz (stepOp hash fixed zc k op).1 :=
  stepOp_forall_blob (P := fun d st => Trusted hash st d (sz d)) fixed zc k op hd.noChunk
    (fun d size s hsz h0 => by cases hsz sz hd; exact single_writer_crash_safe hash d (sz d) s _ h0 _ (cut_full _))
    (fun _ s _ => trusted_hash s.data) (fun _ _ _ => trusted_nil) h

/-- One step of a history with crashes.  `op`: a complete disciplined operation of the repaired cache (Link =
    temp + rename with the zero-length refusal).  `putCut` / `importCut`: a `Put` / `Import` whose process died at
    any crash cut of its effects on the blob file.  `resolveCut`: `Resolve` died inside the `PutBytes` of the manifest
    bytes it had read.  `linkCut`: `Link` died at any cut of its effects on the manifest file (`linkFileEffs`).
    `Unlink` and `Get` have no intermediate states.  `strong = true` adds what persistence of stored blobs needs
    (`DisciplinedP`); the trust theorem holds for either value. -/
inductive CrashStep (hash : Bytes → Digest) (sz : Digest → Nat) (strong : Bool) : Disk → Disk → Prop
  | op (k : Disk) (o : Op) : Disciplined hash sz k o → (strong = true → DisciplinedP hash sz o) →
      CrashStep hash sz strong k (stepOp hash true true k o).1
  | putCut (k : Disk) (d : Digest) (s : Script) (p : List Eff) :
      Cut (copyNamedEffs hash (k.blob d) d (sz d) s).1 p →
      CrashStep hash sz strong k (k.setBlob d (run p (k.blob d)))
  | importCut (k : Disk) (n : Nat) (s : Script) (d : Digest) (es p : List Eff) :
      (importEffs hash n s).1 = some (d, es) → Cut es p → (strong = true → sz (hash s.data) = s.data.length) →
      CrashStep hash sz strong k (k.setBlob d (run p (k.blob d)))
  | resolveCut (k : Disk) (path : MPath) (data : Bytes) (p : List Eff) :
      manGet k.mans path = some data → sz (hash data) = data.length →
      Cut (copyNamedEffs hash (k.blob (hash data)) (hash data) data.length ⟨[data], .eof⟩).1 p →
      CrashStep hash sz strong k (k.setBlob (hash data) (run p (k.blob (hash data))))
  | linkCut (k : Disk) (name : Bytes) (d : Digest) (want : MPath) (q : List Eff) :
      nameToPath name = some want →
      Cut (linkFileEffs hash true (manGet k.mans (manifestPathOf k.mans want)) (k.blob d) d).1 q →
      CrashStep hash sz strong k { k with mans := manSet k.mans (manifestPathOf k.mans want)
                                            (run q (manGet k.mans (manifestPathOf k.mans want))) }

inductive CrashHist (hash : Bytes → Digest) (sz : Digest → Nat) (strong : Bool) : Disk → Disk → Prop
  | refl (k : Disk) : CrashHist hash sz strong k k
  | step (k k' k'' : Disk) : CrashHist hash sz strong k k' → CrashStep hash sz strong k' k'' →
      CrashHist hash sz strong k k''

/-- **Per-file invariants, histories with crashes.**  `stepOp_forall_blob` with every cut of a store in place of the
    complete store (a complete operation is the full cut). -/
theorem CrashHist.forall_blob {hash : Bytes → Digest} {P : Digest → FileSt → Prop} {sz : Digest → Nat} {strong : Bool}
    {k k' : Disk} (hr : CrashHist hash sz strong k k')
    (hstore : ∀ d s st p, Cut (copyNamedEffs hash st d (sz d) s).1 p → P d st → P d (run p st))
    (hrename : ∀ b st, (strong = true → sz (hash b) = b.length) → P (hash b) st → P (hash b) (some b))
    (hneg : strong = false → ∀ d, P d (some []))
    (h0 : ∀ d, P d (k.blob d)) : ∀ d, P d (k'.blob d) := by
  induction hr with
  | refl => exact h0
  | step k' k'' _ hs h =>
    cases hs with
    | op o hd hp =>
      refine stepOp_forall_blob true true k' o hd.noChunk (fun d size s hsz hP => ?_) (fun n s e => ?_) (fun d s e => ?_) h
      · cases hsz sz hd
        exact hstore d s _ _ (cut_full _) hP
      · exact hrename s.data _ (fun hst => by subst e; exact hp hst) (h _)
      · cases strong with
        | false => exact hneg rfl d
        | true => subst e; exact (hp rfl).elim
    | putCut d s p hc => exact forall_setBlob h (hstore d s _ p hc (h d))
    | importCut n s d es p hi hc hsz =>
      obtain ⟨rfl, rfl⟩ := importEffs_some hi
      rcases cut_replace hc with rfl | rfl
      · exact forall_setBlob h (h _)
      · exact forall_setBlob h (hrename s.data _ hsz (h _))
    | resolveCut path data p _ hsz hc =>
      exact forall_setBlob h (hstore (hash data) ⟨[data], .eof⟩ _ p (hsz ▸ hc) (h _))
    | linkCut name d want q _ _ => exact h

/-- **Every history with crashes, whole disk.**  Let `sz` be the size every digest is stored under (the discipline "a
    blob is always stored under one size": `Put(d, …)` is called with `sz d`, and the manifests `Resolve` re-stores have
    the length `sz` gives their digest — constraints on the bytes that actually OCCUR, not on `hash` as a whole; it is
    what rules out a caller lying about the size of an existing digest, see `size_lie_after_crash_present_wrong_content`).
    From any disk whose blob files are trusted — in particular the empty one, `allTrusted_empty` — after ANY sequence
    of complete disciplined operations and crashed Put / Import / Resolve / Link (each cut at any effect, the last
    write at any byte, the leftovers being what the next step starts from), EVERY blob file is trusted under its
    size. -/
theorem crash_history_all_trusted (hash : Bytes → Digest) (sz : Digest → Nat) (strong : Bool)
    (k k' : Disk) (hr : CrashHist hash sz strong k k')
    (h0 : AllTrusted hash sz k) : AllTrusted hash sz k' :=
  hr.forall_blob (P := fun d st => Trusted hash st d (sz d))
    (fun d s st p hc h => single_writer_crash_safe hash d (sz d) s st h p hc)
    (fun b _ _ _ => trusted_hash b) (fun _ _ => trusted_nil) h0

/-- Whatever `Get` reports present with the digest's size, at any moment of any history with crashes from the
    empty disk, has the right content.  (`Get` alone is not the test: a crashed partial file is reported present under
    ITS length; the property speaks of "the size it was stored under".) -/
theorem crash_history_get_trusted (hash : Bytes → Digest) (sz : Digest → Nat) (strong : Bool)
    (k : Disk) (hr : CrashHist hash sz strong Disk.empty k) (d : Digest)
    (hg : getB k d = .entry (sz d)) : ∃ f, k.blob d = some f ∧ f.length = sz d ∧ hash f = d := by
  have hall := crash_history_all_trusted hash sz strong Disk.empty k hr (allTrusted_empty hash sz) d
  obtain ⟨f, hb, hl, hz⟩ := getB_entry hg
  exact ⟨f, hb, hl, hall f hb hz hl⟩

/-! ### a successful store stays retrievable -/

def Present (hash : Bytes → Digest) (sz : Digest → Nat) (k : Disk) (d : Digest) : Prop :=
  ∃ f, k.blob d = some f ∧ f.length = sz d ∧ f.length ≠ 0 ∧ hash f = d

theorem present_get (hash : Bytes → Digest) (sz : Digest → Nat) (k : Disk) (d : Digest)
    (h : Present hash sz k d) : getB k d = .entry (sz d) := by
  obtain ⟨f, hf, hl, hz, _⟩ := h
  exact hl ▸ getB_of_blob hf hz

/-- **A stored blob stays retrievable** along every `strong` history with crashes (disciplined operations, no
    negative-size `Put`, no `Chunked`): once `Get(d)` reports `d` present with its size and right content — e.g. right
    after a successful store, `put_ok_retrievable` — it does so after any number of further complete or crashed
    operations on any digests and names, failing and crashing `Put`s of `d` itself included (a full-size file is never
    reopened).  What the size and negative-size guards exclude is witnessed: `undisciplined_put_destroys_linked_blob`,
    `F29_negative_size_put_destroys_blob`; concurrent faulty writers: F9.  (`Chunked` under the digest's
    size would find the full-size file and issue nothing.) -/
theorem crash_history_present_persists (hash : Bytes → Digest) (sz : Digest → Nat) (k k' : Disk)
    (hr : CrashHist hash sz true k k') (d : Digest) (h0 : Present hash sz k d) : Present hash sz k' d := by
  refine hr.forall_blob (P := fun d' st => d' = d → ∃ f, st = some f ∧ f.length = sz d ∧ f.length ≠ 0 ∧ hash f = d)
    (fun d' s st p hc hP e => ?_) (fun b st hsz hP e => ?_) (fun h => by cases h) (fun d' e => e ▸ h0) d rfl
  · subst e
    obtain ⟨f, rfl, hl, r⟩ := hP rfl
    rw [copyNamed_same (by rw [← hl]; rfl)] at hc
    cases hc
    exact ⟨f, rfl, hl, r⟩
  · -- content renamed in under `d` has `d`'s size, which is not 0 since `d` was present
    obtain ⟨f, _, hl, hz, _⟩ := hP e
    exact ⟨b, rfl, e ▸ (hsz rfl).symm, by rw [← hsz rfl, e, ← hl]; exact hz, e⟩

/-- **A successful store, then anything: still retrievable.**  On a trusted disk a `Put` of `d`
    under its (non-zero) size that answers ok makes `d` `Present`, and it stays `Present` along every strong history with
    crashes that follows. -/
theorem put_ok_stays_retrievable (hash : Bytes → Digest) (sz : Digest → Nat) (k k' : Disk) (d : Digest) (s : Script)
    (hsz : sz d ≠ 0) (h : AllTrusted hash sz k) (hok : (put hash k d (sz d) s).2 = .ok)
    (hr : CrashHist hash sz true (put hash k d (sz d) s).1 k') :
    Present hash sz k' d ∧ getB k' d = .entry (sz d) := by
  obtain ⟨_, f, hf, hl, hh⟩ := put_ok_retrievable hash k d (sz d) s hsz (h d) hok
  have hp : Present hash sz (put hash k d (sz d) s).1 d := ⟨f, hf, hl, by rw [hl]; exact hsz, hh⟩
  have := crash_history_present_persists hash sz _ k' hr d hp
  exact ⟨this, present_get hash sz k' d this⟩

/-- `put_ok_stays_retrievable` for `Import` -/
theorem import_ok_stays_retrievable (hash : Bytes → Digest) (sz : Digest → Nat) (k k' : Disk) (n : Nat) (s : Script)
    (d : Digest) (hok : (importB hash k n s).2 = .digest d) (hsz : sz (hash s.data) = s.data.length)
    (hne : s.data ≠ []) (hr : CrashHist hash sz true (importB hash k n s).1 k') :
    Present hash sz k' d ∧ getB k' d = .entry (sz d) := by
  have hp : Present hash sz (importB hash k n s).1 d := by
    rcases importB_cases hash k n s with ⟨_, h1⟩ | h1
    · rw [h1] at hok; cases hok
    · rw [h1] at hok ⊢
      cases hok
      exact ⟨s.data, setBlob_same .., hsz.symm, mt List.eq_nil_of_length_eq_zero hne, rfl⟩
  have := crash_history_present_persists hash sz _ k' hr d hp
  exact ⟨this, present_get hash sz k' d this⟩

/-- non-vacuity of the hypotheses of the two theorems above: identity hash, `sz = length`; a Put of `[1,2,3]` answers ok, an
    Import its digest, and a failing Put of the same digest is a strong history from the Put's disk -/
example :
    let f : Bytes := [1, 2, 3]
    let sz : Digest → Nat := fun d => d.length
    (put idh Disk.empty f (sz f) ⟨[f], .eof⟩).2 = .ok ∧ (importB idh Disk.empty 3 ⟨[f], .eof⟩).2 = .digest f ∧
    CrashHist idh sz true (put idh Disk.empty f (sz f) ⟨[f], .eof⟩).1
      (stepOp idh true true (put idh Disk.empty f (sz f) ⟨[f], .eof⟩).1 (.put f 3 ⟨[[9]], .err⟩)).1 := by
  refine ⟨by decide, by decide, ?_⟩
  exact .step _ _ _ (.refl _) (CrashStep.op _ (.put [1, 2, 3] 3 ⟨[[9]], .err⟩) rfl (fun _ => trivial))

/-- Non-vacuity of `CrashHist` (at `strong = true`), `Disciplined`, `Present`: with the identity as hash and `sz = length`, a
    Put of `[1,2,3,4]` killed after its first chunk (file `[1,2]`), then an Import of the same content killed before its
    rename (file still `[1,2]`), then a complete Put that repairs it — ending `Present`, `Get` = 4 bytes. -/
theorem crashHist_nonvacuous :
    let c : Bytes := [1, 2, 3, 4]
    let s : Script := ⟨[[1, 2], [3, 4]], .eof⟩
    let k1 := Disk.empty.setBlob c (run [.openCreate false, .pwrite 0 [1, 2]] none)
    let k2 := k1.setBlob c (run [] (k1.blob c))
    let k3 := (stepOp idh true true k2 (.put c 4 s)).1
    CrashHist idh (fun d => d.length) true Disk.empty k3 ∧ k1.blob c = some [1, 2] ∧ getB k3 c = .entry 4 ∧
    Present idh (fun d => d.length) k3 c := by
  intro c s k1 k2 k3
  have h1 : CrashStep idh (fun d => d.length) true Disk.empty k1 :=
    CrashStep.putCut Disk.empty c s [.openCreate false, .pwrite 0 [1, 2]] (.next _ _ _ (.next _ _ _ (.stop _)))
  have h2 : CrashStep idh (fun d => d.length) true k1 k2 :=
    CrashStep.importCut k1 4 ⟨[[1, 2, 3, 4]], .eof⟩ c [.replace [1, 2, 3, 4]] [] (by decide) (Cut.stop _)
      (fun _ => by decide)
  have h3 : CrashStep idh (fun d => d.length) true k2 k3 :=
    CrashStep.op k2 (.put c 4 s) rfl (fun _ => trivial)
  exact ⟨.step _ _ _ (.step _ _ _ (.step _ _ _ (.refl _) h1) h2) h3, by decide, by decide,
    ⟨[1, 2, 3, 4], by decide, by decide, by decide, by decide⟩⟩

/-- **What the size discipline excludes, 1**: a crash left `[1,2]` under the digest of `[1,2,3,4]`; a caller
    that now stores that digest under size 2 is answered `ok` from the same-size shortcut, and `Get` reports the blob
    present with the size it was (just) stored under — content `[1,2]`, wrong. -/
theorem size_lie_after_crash_present_wrong_content :
    let c : Bytes := [1, 2, 3, 4]
    let k1 := Disk.empty.setBlob c (run [.openCreate false, .pwrite 0 [1, 2]] none)
    let r := put idh k1 c 2 ⟨[[9, 9]], .eof⟩
    r.2 = .ok ∧ getB r.1 c = .entry 2 ∧ r.1.blob c = some [1, 2] ∧ ¬ Trusted idh (r.1.blob c) c 2 := by
  decide

/-- **What the size discipline excludes, 2**: no crash — a stored AND linked blob, then a `Put` of the same digest under
    another size from a short source: refused, and its `Truncate(0)` has destroyed the linked blob (`Get` = not exist)
    while the name still resolves to it. -/
theorem undisciplined_put_destroys_linked_blob :
    let f : Bytes := [1, 2, 3]
    let k1 := (put idh Disk.empty f 3 ⟨[f], .eof⟩).1
    let k2 := (linkZ idh true true k1 nm f).1
    let r := put idh k2 f 2 ⟨[[7]], .eof⟩
    getB k2 f = .entry 3 ∧ r.2 = .short ∧ getB r.1 f = .res .notExist ∧
    manGet r.1.mans [[0x68], [0x6e], [0x6d], [0x74]] = some f := by
  decide

/-! ## the read limit of `Resolve`, negative sizes, manifests written behind the cache's back -/

theorem resolveL_plain (hash : Bytes → Digest) (strict : Bool) (lim : Nat) {k : Disk} {name : Bytes} {want : MPath}
    {file : Bytes} (hnd : (splitNameDigest name).2 = []) (hp : nameToPath (splitNameDigest name).1 = some want)
    (hm : manGet k.mans (manifestPathOf k.mans want) = some file) :
    resolveL hash strict lim k name =
      if strict = true ∧ file.length > lim then (k, .res .tooLarge)
      else ((put hash k (hash (file.take lim)) (file.take lim).length ⟨[file.take lim], .eof⟩).1,
        .digest (hash (file.take lim))) := by
  have hok : (put hash k (hash (file.take lim)) (file.take lim).length ⟨[file.take lim], .eof⟩).2 = .ok :=
    copyNamed_exact_ok hash _ _
  unfold resolveL readAndSum
  by_cases hc : strict = true ∧ file.length > lim
  · simp only [hnd, ne_eq, not_true_eq_false, if_false, hp, hm, if_pos hc]
  · simp only [hnd, ne_eq, not_true_eq_false, if_false, hp, hm, if_neg hc, hok]

/-- within the limit, `Resolve` with its `readAndSum(file, 1<<20)` IS `resolve` (both variants): every theorem about
    `resolve` is a theorem about the real `Resolve` of a manifest of at most `lim` bytes -/
theorem resolveL_eq_resolve (hash : Bytes → Digest) (strict : Bool) (lim : Nat) (k : Disk) (name : Bytes)
    (hsmall : ∀ want file, nameToPath (splitNameDigest name).1 = some want →
      manGet k.mans (manifestPathOf k.mans want) = some file → file.length ≤ lim) :
    resolveL hash strict lim k name = resolve hash k name := by
  by_cases hnd : (splitNameDigest name).2 = []
  · cases hp : nameToPath (splitNameDigest name).1 with
    | none => simp only [resolveL, resolve, hnd, hp]
    | some want =>
      cases hm : manGet k.mans (manifestPathOf k.mans want) with
      | none => simp only [resolveL, resolve, hnd, hp, hm]
      | some file =>
        have hl := hsmall want file hp hm
        rw [resolveL_plain hash strict lim hnd hp hm, if_neg (fun h => Nat.not_lt.mpr hl h.2),
          List.take_of_length_le hl, resolve_plain hash hnd hp hm]
  · unfold resolveL resolve
    rw [if_pos hnd, if_pos hnd]

theorem resolveL_eq_resolve_of_small (hash : Bytes → Digest) (strict : Bool) (lim : Nat) (k : Disk) (name : Bytes)
    (hsmall : ∀ e ∈ k.mans, e.2.length ≤ lim) : resolveL hash strict lim k name = resolve hash k name := by
  apply resolveL_eq_resolve
  intro want file _ hm
  obtain ⟨e, he, rfl⟩ := manGet_mem hm
  exact hsmall e he

/-- **Finding F28, general form (unrepaired `readAndSum`, `strict = false`).**  A manifest file LONGER than the limit resolves — without
    error — to the digest of its first `lim` bytes, and that prefix is what gets stored as a blob: not the digest of
    the bytes linked. -/
theorem resolveL_oversize_prefix_digest (hash : Bytes → Digest) (lim : Nat) (k : Disk) (name : Bytes)
    (want : MPath) (file : Bytes) (hnd : (splitNameDigest name).2 = [])
    (hp : nameToPath (splitNameDigest name).1 = some want)
    (hm : manGet k.mans (manifestPathOf k.mans want) = some file) :
    (resolveL hash false lim k name).2 = .digest (hash (file.take lim)) := by
  rw [resolveL_plain hash false lim hnd hp hm, if_neg (fun h => Bool.false_ne_true h.1)]

/-- **With proposed_fixes/C08-F28.patch (`strict`) the clause holds at full strength for every manifest size:**
    whatever digest `Resolve(name)` answers is the hash of the WHOLE manifest file. -/
theorem resolveL_strict_hash_of_whole_file (hash : Bytes → Digest) (lim : Nat) (k : Disk) (name : Bytes)
    (d' : Digest) (hnd : (splitNameDigest name).2 = [])
    (h : (resolveL hash true lim k name).2 = .digest d') :
    ∃ want file, nameToPath (splitNameDigest name).1 = some want ∧
      manGet k.mans (manifestPathOf k.mans want) = some file ∧ d' = hash file := by
  cases hp : nameToPath (splitNameDigest name).1 with
  | none => simp [resolveL, hnd, hp] at h
  | some want =>
    cases hm : manGet k.mans (manifestPathOf k.mans want) with
    | none => simp [resolveL, hnd, hp, hm] at h
    | some file =>
      rw [resolveL_plain hash true lim hnd hp hm] at h
      split at h
      · cases h
      · next hl =>
        rw [List.take_of_length_le (Nat.not_lt.mp fun h => hl ⟨rfl, h⟩)] at h
        exact ⟨want, file, rfl, hm, (Out.digest.inj h).symm⟩

/-- **Finding F28, witness** (limit 2 instead of 2^20; identity as hash): `Put` of a 3-byte manifest, `Link` = ok,
    `Resolve` = ok with the digest of the first 2 bytes — not `d`; the repaired `readAndSum` answers an error. -/
theorem F28_oversize_manifest_resolves_to_prefix_digest :
    let f : Bytes := [1, 2, 3]
    let k1 := (put idh Disk.empty f 3 ⟨[f], .eof⟩).1
    let k2 := linkZ idh true true k1 nm f
    k2.2 = .ok ∧ (resolveL idh false 2 k2.1 nm).2 = .digest [1, 2] ∧
    getB (resolveL idh false 2 k2.1 nm).1 [1, 2] = .entry 2 ∧
    (resolveL idh true 2 k2.1 nm).2 = .res .tooLarge ∧ (resolveL idh true 3 k2.1 nm).2 = .digest f := by
  decide

/-- **Finding F29, witness.**  A stored, retrievable blob; `Put(d, <empty reader>, -1)` answers ok and the blob is
    gone (`Get` = not exist); with any data the answer is "exceeds" and the blob is gone as well.  With
    proposed_fixes/C08-F29.patch (`refuse`) the call is an error and nothing is touched. -/
theorem F29_negative_size_put_destroys_blob :
    let f : Bytes := [1, 2, 3]
    let k1 := (put idh Disk.empty f 3 ⟨[f], .eof⟩).1
    getB k1 f = .entry 3 ∧
    (putNeg false k1 f ⟨[], .eof⟩).2 = .ok ∧ getB (putNeg false k1 f ⟨[], .eof⟩).1 f = .res .notExist ∧
    (putNeg false k1 f ⟨[f], .eof⟩).2 = .exceeds ∧ getB (putNeg false k1 f ⟨[f], .eof⟩).1 f = .res .notExist ∧
    (putNeg true k1 f ⟨[], .eof⟩).2 = .negSize ∧ getB (putNeg true k1 f ⟨[], .eof⟩).1 f = .entry 3 := by
  decide

/-- what a negative-size `Put` can do, for every source and prior file: the file ends as it was (refused) or EMPTY —
    never a file that `Get` reports present, so it cannot break `Trusted` under any size; and it touches no other
    digest -/
theorem putNeg_safe (hash : Bytes → Digest) (refuse : Bool) (k : Disk) (d : Digest) (s : Script) (size : Nat)
    (h0 : Trusted hash (k.blob d) d size) :
    Trusted hash ((putNeg refuse k d s).1.blob d) d size ∧
    (∀ d', d' ≠ d → (putNeg refuse k d s).1.blob d' = k.blob d') ∧
    (refuse = true → (putNeg refuse k d s).1.blob d = k.blob d) := by
  refine ⟨?_, fun d' hd => setBlob_other _ _ _ _ hd, ?_⟩
  · simp only [putNeg, setBlob_same]
    rcases copyNamedNeg_file refuse (k.blob d) s with h1 | h1
    · rw [h1]; exact h0
    · rw [h1]; exact trusted_nil
  · intro hr; subst hr
    simp [putNeg, copyNamedNegEffs, setBlob_same, run]

/-- **A manifest written behind the cache's back is adopted by `Resolve`** (the legacy-cache / hand-edit case its doc
    comment describes): after `edit name data` (no other manifest equal to the name up to case sorting before it),
    `Resolve(name)` answers `hash data` and the bytes are retrievable as that blob, whatever trusted state the blob
    slot was in — in particular when no such blob existed. -/
theorem edit_then_resolve (hash : Bytes → Digest) (k : Disk) (name data : Bytes) (want : MPath)
    (hnd : (splitNameDigest name).2 = []) (hp : nameToPath (splitNameDigest name).1 = some want)
    (hp' : nameToPath name = some want)
    (hfirst : manifestPathOf (manSet k.mans want (some data)) want = want) :
    (resolve hash (edit k name data).1 name).2 = .digest (hash data) ∧
    (data ≠ [] → Trusted hash (k.blob (hash data)) (hash data) data.length →
      getB (resolve hash (edit k name data).1 name).1 (hash data) = .entry data.length) := by
  have hm : manGet (edit k name data).1.mans (manifestPathOf (edit k name data).1.mans want) = some data := by
    simp only [edit, hp', hfirst, manGet_manSet_same]
  rw [resolve_plain hash hnd hp hm]
  exact ⟨rfl, fun hne ht => put_exact_get hash _ data hne (by rw [edit_blob]; exact ht)⟩

example : (splitNameDigest nm).2 = [] ∧ (nameToPath nm).isSome = true ∧
    (∀ want, nameToPath nm = some want → manifestPathOf (manSet Disk.empty.mans want (some [7])) want = want) := by
  refine ⟨by decide, by decide, ?_⟩
  intro want hw
  have : nameToPath nm = some [[0x68], [0x6e], [0x6d], [0x74]] := by decide
  rw [this] at hw; cases hw; decide

/-- **What the oracle runs is what the theorems talk about.**  The history step the oracle evaluates (`stepOpL`: `Resolve`
    with its read limit, negative sizes refused or not) IS `stepOp` on every disk whose manifests are within the limit,
    for either `readAndSum` variant, at `refuse = false` (with the refusal the two differ on `putNeg` operations). -/
theorem stepOpL_eq_stepOp (hash : Bytes → Digest) (fixed zc strict : Bool) (lim : Nat) (k : Disk) (op : Op)
    (hsmall : ∀ e ∈ k.mans, e.2.length ≤ lim) :
    stepOpL hash fixed zc strict false lim k op = stepOp hash fixed zc k op := by
  cases op with
  | resolve name => exact resolveL_eq_resolve_of_small hash strict lim k name hsmall
  | putNeg | put | importB | get | link | linkR | unlink | chunk | session | edit => rfl

example : stepOpL idh true true false false 2 Disk.empty (.resolve nm) = stepOp idh true true Disk.empty (.resolve nm) :=
  stepOpL_eq_stepOp idh true true false 2 Disk.empty (.resolve nm) (by intro e he; cases he)

/-! ## chunker sessions (one `Chunked`, several `Chunker.Put`s: state reused across calls) -/

theorem session_single (hash : Bytes → Digest) (st : FileSt) (size a b : Nat) (cd : Digest) (s : Script) :
    (sessionEffs hash st size [⟨a, b, cd, s⟩]).1 = (chunkEffs hash st size a b cd s).1 ∧
    (sessionEffs hash st size [⟨a, b, cd, s⟩]).2 = [(chunkEffs hash st size a b cd s).2] := by
  unfold sessionEffs chunkEffs chunkPutEffs
  split <;> simp

theorem limitChunks_exact (chunks : List Bytes) (n : Nat) (h : chunks.flatten.length = n) :
    (limitChunks n chunks .eof).1.flatten = chunks.flatten ∧ (limitChunks n chunks .eof).2 = .eof := by
  generalize hfin : SrcEnd.eof = fin
  fun_induction limitChunks n chunks fin with
  | case1 => exact ⟨rfl, rfl⟩
  | case2 c cs fin =>
    rw [List.flatten_cons, List.length_append] at h
    have hc : c = [] := List.eq_nil_of_length_eq_zero (Nat.eq_zero_of_add_eq_zero_right h)
    have hcs : cs.flatten = [] := List.eq_nil_of_length_eq_zero (Nat.eq_zero_of_add_eq_zero_left h)
    exact ⟨by rw [List.flatten_cons, hc, hcs]; rfl, hfin⟩
  | case3 n c cs fin h0 hge =>
    rw [List.flatten_cons, List.length_append] at h
    have hcs : cs.flatten = [] := List.eq_nil_of_length_eq_zero (by omega)
    have hle : c.length ≤ n := by omega
    exact ⟨by simp only [List.flatten_cons, List.flatten_nil, hcs, List.take_of_length_le hle], hfin⟩
  | case4 n c cs fin h0 hge r ih =>
    rw [List.flatten_cons, List.length_append] at h
    have := ih (by omega) hfin
    exact ⟨congrArg (c ++ ·) this.1, this.2⟩

/-- writing the bytes that come next: a chunk whose source delivers `slice` (hashing to `cd`) onto a file that ends
    exactly where the chunk starts appends `slice`, and answers ok -/
theorem copyLoop_append (hash : Bytes → Digest) (slice : Bytes) (base : Nat) :
    ∀ (chunks : List Bytes) (seen f : Bytes), seen ++ chunks.flatten = slice → f.length = base + seen.length →
      slice.length ≠ 0 →
      (copyLoop hash (hash slice) slice.length base seen chunks .eof).2 = .ok ∧
      run (copyLoop hash (hash slice) slice.length base seen chunks .eof).1 (some f) = some (f ++ chunks.flatten) := by
  intro chunks seen f h hf _
  have hok := copyLoop_exact_ok hash slice base chunks seen h
  obtain ⟨cs, he, _, ho⟩ := copyLoop_seq hash (hash slice) slice.length base chunks seen .eof
    (show SeenOK hash (hash slice) slice.length (seen ++ chunks.flatten) from h ▸ ⟨Nat.le_refl _, fun _ => rfl⟩).prefix
  exact ⟨hok, by rw [he, ← hf, run_seqWrites_end, (ho hok).1]⟩

/-- the puts tile `content` from offset `off` upward, contiguously and in order, each source delivering exactly its
    slice, under the slice's own digest (what the registry client does with a manifest's chunk list) -/
def Tiles (hash : Bytes → Digest) (content : Bytes) : Nat → List CPut → Prop
  | off, [] => off = content.length
  | off, c :: cs => c.start = off ∧ c.start ≤ c.stop ∧ c.stop < content.length ∧
      GoodScript ((content.drop c.start).take (c.stop - c.start + 1)) c.s ∧
      c.cd = hash ((content.drop c.start).take (c.stop - c.start + 1)) ∧ Tiles hash content (c.stop + 1) cs

theorem chunkPut_append (hash : Bytes → Digest) (c : CPut) (slice f : Bytes)
    (hn : slice.length = c.stop - c.start + 1) (hgood : GoodScript slice c.s) (hcd : c.cd = hash slice)
    (hf : f.length = c.start) :
    (chunkPutEffs hash c).2 = .ok ∧ run (chunkPutEffs hash c).1 (some f) = some (f ++ slice) := by
  obtain ⟨hflat, hfin⟩ := hgood
  have hlim := limitChunks_exact c.s.chunks slice.length (by rw [hflat])
  have := copyLoop_append hash slice c.start (limitChunks slice.length c.s.chunks .eof).1 [] f
    (by rw [List.nil_append, hlim.1, hflat]) (by rw [hf]; rfl) (by rw [hn]; exact Nat.succ_ne_zero _)
  rw [hlim.1, hflat] at this
  unfold chunkPutEffs
  dsimp only
  rwa [← hn, hfin, hlim.2, hcd]

theorem tiles_run (hash : Bytes → Digest) (content : Bytes) : ∀ (puts : List CPut) (off : Nat),
    Tiles hash content off puts → off ≤ content.length →
    run (puts.flatMap fun c => (chunkPutEffs hash c).1) (some (content.take off)) = some content ∧
    ∀ r ∈ puts.map (fun c => (chunkPutEffs hash c).2), r = .ok := by
  intro puts
  induction puts with
  | nil =>
    intro off h _
    obtain rfl : off = content.length := h
    exact ⟨congrArg some (List.take_length ..), fun r hr => by cases hr⟩
  | cons c cs ih =>
    intro off h hoff
    obtain ⟨rfl, hle, hlt, hgood, hcd, hrest⟩ := h
    have hput := chunkPut_append hash c _ (content.take c.start)
      (by rw [List.length_take, List.length_drop]; omega) hgood hcd (List.length_take_of_le hoff)
    rw [← List.take_add, show c.start + (c.stop - c.start + 1) = c.stop + 1 by omega] at hput
    have := ih (c.stop + 1) hrest hlt
    constructor
    · rw [List.flatMap_cons, run_append, hput.2]
      exact this.1
    · intro r hr
      rcases List.mem_cons.mp hr with rfl | hr
      · exact hput.1
      · exact this.2 r hr

/-- **A chunked download that delivers every chunk stores the blob.**  One `Chunked(d, size)` on an absent file, then
    `Chunker.Put`s that tile the content in order, each verified against its own digest, then `Close`: every Put answers
    ok and the file IS the content — so, if the content hashes to `d`, the blob is present with the right content although
    no whole-file digest was ever checked.  (Out of order, partial or failing sessions: finding F10-cache.) -/
theorem session_tiling_complete (hash : Bytes → Digest) (content : Bytes) (puts : List CPut)
    (ht : Tiles hash content 0 puts) :
    run (sessionEffs hash none content.length puts).1 none = some content ∧
    ∀ r ∈ (sessionEffs hash none content.length puts).2, r = .ok := by
  have := tiles_run hash content puts 0 ht (Nat.zero_le _)
  unfold sessionEffs
  simp only [Option.map_none, reduceCtorEq, if_false]
  refine ⟨?_, this.2⟩
  rw [List.cons_append, run_cons, run_append]
  exact congrArg (run [.close]) this.1

example : Tiles idh [1, 2, 3, 4] 0 [⟨0, 1, [1, 2], ⟨[[1], [2]], .eof⟩⟩, ⟨2, 3, [3, 4], ⟨[[3, 4]], .eof⟩⟩] := by
  simp [Tiles, GoodScript, idh]

/-- A complete chunked download makes the blob `Present` (and by `crash_history_present_persists` it stays so) -/
theorem session_complete_present (hash : Bytes → Digest) (sz : Digest → Nat) (k : Disk) (d : Digest)
    (content : Bytes) (puts : List CPut) (hb : k.blob d = none) (hh : hash content = d) (hne : content ≠ [])
    (hsz : sz d = content.length) (ht : Tiles hash content 0 puts) :
    Present hash sz (session hash k d content.length puts).1 d ∧
    ∀ r ∈ (session hash k d content.length puts).2, r = .ok := by
  have := session_tiling_complete hash content puts ht
  unfold session
  rw [hb]
  refine ⟨⟨content, by simp only [setBlob_same]; exact this.1, hsz.symm, ?_, hh⟩, this.2⟩
  intro h0; exact hne (List.eq_nil_of_length_eq_zero h0)

example :
    let puts : List CPut := [⟨0, 1, [1, 2], ⟨[[1], [2]], .eof⟩⟩, ⟨2, 3, [3, 4], ⟨[[3, 4]], .eof⟩⟩]
    Tiles idh [1, 2, 3, 4] 0 puts ∧ (session idh Disk.empty [1, 2, 3, 4] 4 puts).1.blob [1, 2, 3, 4] = some [1, 2, 3, 4] := by
  refine ⟨by simp [Tiles, GoodScript, idh], by decide⟩

end OllamaVerif.C08
