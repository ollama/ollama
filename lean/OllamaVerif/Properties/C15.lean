/-
  C15 — concurrent API use causes no data race, no use of a torn-down runner, no lock-order
  deadlock.  Every theorem is about an arbitrary table of static access facts and every trace
  (any number of threads, mutexes, locations, any length) of the semantics in `Model/Lockset.lean`.

  * The lockset theorem (`lockset_discipline_race_free`): if the table passes the pairwise check
    for a location class, then in every well-formed interleaving whose accesses instantiate the
    facts, two accesses to one location by different threads are both reads, or separated by the
    release of a common mutex by the first thread, or a pair the table marks as ordered by
    something other than a lock (`exempt`: fresh object, atomics, spawn order, a named channel
    order).  Spawn order and publication order are then derived from `fork` / `publish` events
    (`…_fork`, `…_ordered`); what stays a named hypothesis is `exemptRest`.
  * Object life cycle: a table without stale reads admits no `use` of a torn-down object
    (`stale_rule_sound`; per step, the panic clause `no_nil_deref_panic`).
  * Lock order: a ranked acquisition order admits no wait cycle.
  * Reader/writer exclusion for `sync.RWMutex`.

  Each part ends with its witnesses: a small table and trace that meet its hypotheses (for the
  lockset theorem only as far as evaluation goes: the check passes, the trace is enabled) and, for
  the pairwise check, the stale rule and the lock order, one showing that the rule is needed.
-/
import OllamaVerif.Model.Lockset

namespace OllamaVerif.Lockset

/-! ## Mutex semantics: a held mutex stays held until its holder gives it up -/

theorem run_append (h : Holder) (l1 l2 : List Ev) :
    run h (l1 ++ l2) = (run h l1).bind (fun h' => run h' l2) := by
  induction l1 generalizing h with
  | nil => rfl
  | cons e es ih =>
    simp only [List.cons_append, run]
    cases step h e with
    | none => rfl
    | some h' => exact ih h'

theorem WF_append {l1 l2 : List Ev} (h : WF (l1 ++ l2)) :
    ∃ h1 h2, run Holder.init l1 = some h1 ∧ run h1 l2 = some h2 := by
  obtain ⟨h2, hr⟩ := Option.isSome_iff_exists.mp h
  rw [run_append] at hr
  obtain ⟨h1, hr1, hr2⟩ := Option.bind_eq_some_iff.mp hr
  exact ⟨h1, h2, hr1, hr2⟩

theorem WF_prefix {l1 l2 : List Ev} (h : WF (l1 ++ l2)) : WF l1 := by
  obtain ⟨h1, _, hr, _⟩ := WF_append h
  exact Option.isSome_iff_exists.mpr ⟨h1, hr⟩

theorem Holder.set_self (h : Holder) (m : Lock) (v : Option Thread) : h.set m v m = v :=
  if_pos rfl

theorem Holder.set_ne (h : Holder) (v : Option Thread) {m m' : Lock} (hne : m' ≠ m) :
    h.set m v m' = h m' :=
  if_neg hne

theorem step_eq_some (h h' : Holder) (e : Ev) : step h e = some h' ↔
    match e with
    | .acq t m => h m = none ∧ h.set m (some t) = h'
    | .rel t m => h m = some t ∧ h.set m none = h'
    | .handoff t t' m => h m = some t ∧ h.set m (some t') = h'
    | _ => h = h' := by
  cases e <;> simp [step]

theorem step_persist (h h' : Holder) (e : Ev) (t : Thread) (m : Lock)
    (hs : step h e = some h') (hm : h m = some t) (hnr : ¬ Releases e t m) : h' m = some t := by
  -- a step that sets the holder of `m` itself is an `acq` (disabled: `m` is held) or gives `m` up
  cases e with
  | acq t' m' =>
    obtain ⟨hg, rfl⟩ := (step_eq_some h h' _).mp hs
    by_cases hmm : m = m'
    · rw [← hmm, hm] at hg; cases hg
    · rw [Holder.set_ne h _ hmm, hm]
  | rel t' m' =>
    obtain ⟨hg, rfl⟩ := (step_eq_some h h' _).mp hs
    by_cases hmm : m = m'
    · rw [← hmm, hm] at hg; cases hg
      exact absurd (Or.inl (hmm ▸ rfl)) hnr
    · rw [Holder.set_ne h _ hmm, hm]
  | handoff t' t'' m' =>
    obtain ⟨hg, rfl⟩ := (step_eq_some h h' _).mp hs
    by_cases hmm : m = m'
    · rw [← hmm, hm] at hg; cases hg
      exact absurd (Or.inr ⟨t'', hmm ▸ rfl⟩) hnr
    · rw [Holder.set_ne h _ hmm, hm]
  | acc _ _ _ | fork _ _ _ | publish _ _ => cases (step_eq_some h h' _).mp hs; exact hm

theorem run_persist (evs : List Ev) (h h' : Holder) (t : Thread) (m : Lock)
    (hr : run h evs = some h') (hm : h m = some t) (hnr : ∀ e ∈ evs, ¬ Releases e t m) :
    h' m = some t := by
  fun_induction run h evs with
  | case1 h => cases hr; exact hm
  | case2 => cases hr
  | case3 h e es h1 hs ih =>
    exact ih hr (step_persist h h1 e t m hs hm (hnr e List.mem_cons_self))
      fun e' he' => hnr e' (List.mem_cons_of_mem e he')

theorem mutex_handover (pre mid : List Ev) (t1 t2 : Thread) (m : Lock)
    (hwf : WF (pre ++ mid)) (h1 : holderOf pre m = some t1)
    (h2 : holderOf (pre ++ mid) m = some t2) (hne : t1 ≠ t2) :
    ∃ e ∈ mid, Releases e t1 m := by
  apply Classical.byContradiction
  intro hno
  obtain ⟨hpre, hmid, hp, hq⟩ := WF_append hwf
  rw [holderOf, hp] at h1
  rw [holderOf, run_append, hp, Option.bind_some, hq] at h2
  have := run_persist mid hpre hmid t1 m hq h1 fun e he hr => hno ⟨e, he, hr⟩
  rw [Option.getD_some] at h2
  exact hne (Option.some.inj (this.symm.trans h2))

/-! ## The thread-local lockset is sound for the global holder map -/

theorem localHeld_sound_aux (t : Thread) (m : Lock) (evs : List Ev) (h h' : Holder) (b : Bool)
    (hr : run h evs = some h') (hb : b = true → h m = some t) (hl : localHeld t m evs b = true) :
    h' m = some t := by
  fun_induction run h evs generalizing b with
  | case1 h => cases hr; exact hb hl
  | case2 => cases hr
  | case3 h e es h1 hs ih =>
    -- where `e` leaves the flag as it was, `t` does not give `m` up in `e`
    have keep : ¬ Releases e t m → b = true → h1 m = some t := fun hnr hb' =>
      step_persist h h1 e t m hs (hb hb') hnr
    cases e with
    | acq t' m' =>
      refine ih _ hr (fun hb' => ?_) hl
      by_cases hc : t' = t ∧ m' = m
      · obtain ⟨rfl, rfl⟩ := hc
        obtain ⟨_, rfl⟩ := (step_eq_some h h1 _).mp hs
        exact Holder.set_self h m' _
      · rw [if_neg hc] at hb'
        exact keep (by simp [Releases]) hb'
    | rel t' m' =>
      refine ih _ hr (fun hb' => ?_) hl
      by_cases hc : t' = t ∧ m' = m
      · rw [if_pos hc] at hb'; cases hb'
      · rw [if_neg hc] at hb'
        exact keep (by simpa [Releases] using hc) hb'
    | handoff t' t'' m' =>
      refine ih _ hr (fun hb' => ?_) hl
      by_cases hmm : m' = m
      · subst hmm
        rw [if_pos rfl] at hb'
        by_cases ht : t'' = t
        · subst ht
          obtain ⟨_, rfl⟩ := (step_eq_some h h1 _).mp hs
          exact Holder.set_self h m' _
        · rw [if_neg ht] at hb'
          by_cases ht' : t' = t
          · rw [if_pos ht'] at hb'; cases hb'
          · rw [if_neg ht'] at hb'
            exact keep (by simp [Releases, ht']) hb'
      · rw [if_neg hmm] at hb'
        exact keep (by simp [Releases, hmm]) hb'
    | acc _ _ _ | fork _ _ _ | publish _ _ => exact ih b hr (keep (by simp [Releases])) hl


theorem localHeld_sound (tr : List Ev) (t : Thread) (m : Lock) (hwf : WF tr)
    (hl : localHeld t m tr false = true) : holderOf tr m = some t := by
  obtain ⟨h', hr⟩ := Option.isSome_iff_exists.mp hwf
  rw [holderOf, hr]
  exact localHeld_sound_aux t m tr Holder.init h' false hr (fun hb => by cases hb) hl

/-! ## The pairwise rule on a table -/

theorem checkClass_iff (facts : List Access) (c : Nat) :
    checkClass facts c = true ↔
      ∀ a ∈ facts, ∀ b ∈ facts, a.cls = c → b.cls = c → compat facts a b = true := by
  simp only [checkClass, List.all_eq_true, Bool.or_eq_true, bne_iff_ne, ne_eq,
    ← Decidable.imp_iff_not_or]
  exact ⟨fun h a ha b hb hac => h a ha hac b hb, fun h a ha hac b hb => h a ha b hb hac⟩

theorem checkAll_checkClass (facts : List Access) (h : checkAll facts = true) (c : Nat) :
    checkClass facts c = true := by
  simp only [checkAll, List.all_eq_true, Bool.or_eq_true, bne_iff_ne, ne_eq,
    ← Decidable.imp_iff_not_or] at h
  exact (checkClass_iff facts c).mpr fun a ha b hb hac hbc => h a ha b hb (hac.trans hbc.symm)

theorem any_contains_comm {α : Type} [BEq α] [LawfulBEq α] (l1 l2 : List α) :
    l1.any (fun x => l2.contains x) = l2.any (fun x => l1.contains x) := by
  rw [Bool.eq_iff_iff]
  simp only [List.any_eq_true, List.contains_iff_mem]
  exact ⟨fun ⟨x, h1, h2⟩ => ⟨x, h2, h1⟩, fun ⟨x, h1, h2⟩ => ⟨x, h2, h1⟩⟩

theorem compat_comm (facts : List Access) (a b : Access) : compat facts a b = compat facts b a := by
  simp only [compat, exempt, sameSingle, lockCompat, inter, any_contains_comm b.locks,
    any_contains_comm b.pre a.pre, any_contains_comm b.hb, Bool.or_comm (isWrite facts b),
    Bool.and_comm b.single, Bool.and_comm b.atomic, BEq.comm (a := b.thread)]
  ac_rfl

theorem violatingPairsFrom_complete (facts l : List Access) (a b : Access)
    (ha : a ∈ l) (hb : b ∈ l) (hc : a.cls = b.cls) (hn : compat facts a b = false) :
    ∃ p ∈ violatingPairsFrom facts l, p.1 = a.cls := by
  induction l with
  | nil => cases ha
  | cons x rest ih =>
    have hd : ∀ y ∈ x :: rest, x.cls = y.cls → compat facts x y = false →
        ∃ p ∈ violatingPairsFrom facts (x :: rest), p.1 = x.cls := fun y hy hxy hcm =>
      ⟨_, List.mem_append_left _ (List.mem_map_of_mem
        (List.mem_filter.mpr ⟨hy, by simp [hxy, hcm]⟩)), rfl⟩
    rcases List.mem_cons.mp ha with rfl | ha'
    · exact hd b hb hc hn
    · rcases List.mem_cons.mp hb with rfl | hb'
      · obtain ⟨p, hp, hp1⟩ := hd a ha hc.symm (compat_comm facts b a ▸ hn)
        exact ⟨p, hp, hp1.trans hc.symm⟩
      · obtain ⟨p, hp, hp1⟩ := ih ha' hb'
        exact ⟨p, List.mem_append_right _ hp, hp1⟩

theorem checkClass_of_no_violatingPair (facts : List Access) (c : Nat)
    (h : ∀ p ∈ violatingPairs facts, p.1 ≠ c) : checkClass facts c = true := by
  rw [checkClass_iff]
  intro a ha b hb hac hbc
  cases hcm : compat facts a b with
  | true => rfl
  | false =>
    obtain ⟨p, hp, hp1⟩ := violatingPairsFrom_complete facts facts a b ha hb (hac.trans hbc.symm) hcm
    exact absurd (hp1.trans hac) (h p hp)

/-! ### A table in class order is evaluated class by class

  The translator sorts the table by class, so the scan of `violatingPairsFrom` may stop at the first
  fact of another class (the full scan is quadratic in the table). -/

def clsSorted : List Access → Bool
  | a :: b :: rest => decide (a.cls ≤ b.cls) && clsSorted (b :: rest)
  | _ => true

theorem clsSorted_tail {a : Access} {l : List Access} (h : clsSorted (a :: l) = true) :
    clsSorted l = true := by
  cases l with
  | nil => rfl
  | cons b rest => exact (Bool.and_eq_true_iff.mp h).2

theorem clsSorted_head_le {a : Access} {l : List Access} (h : clsSorted (a :: l) = true) :
    ∀ b ∈ a :: l, a.cls ≤ b.cls := by
  induction l generalizing a with
  | nil => intro b hb; cases List.mem_singleton.mp hb; exact Nat.le_refl _
  | cons x rest ih =>
    intro b hb
    rcases List.mem_cons.mp hb with rfl | hb
    · exact Nat.le_refl _
    · exact Nat.le_trans (of_decide_eq_true (Bool.and_eq_true_iff.mp h).1)
        (ih (clsSorted_tail h) b hb)

theorem filter_cls_eq_takeWhile (n : Nat) (q : Access → Bool) (l : List Access)
    (hs : clsSorted l = true) (hn : ∀ b ∈ l, n ≤ b.cls) :
    l.filter (fun b => n == b.cls && q b) = (l.takeWhile (fun b => n == b.cls)).filter q := by
  induction l with
  | nil => rfl
  | cons x rest ih =>
    cases hx : n == x.cls with
    | true =>
      simp only [List.filter_cons, List.takeWhile_cons, hx, Bool.true_and, if_true]
      rw [ih (clsSorted_tail hs) fun b hb => hn b (List.mem_cons_of_mem x hb)]
    | false =>
      have hlt : n < x.cls := Nat.lt_of_le_of_ne (hn x List.mem_cons_self) (by simpa using hx)
      rw [List.takeWhile_cons, hx, List.filter_eq_nil_iff.mpr]
      · rfl
      · intro y hy
        have := clsSorted_head_le hs y hy
        have : n ≠ y.cls := by omega
        simp [this]

def violatingPairsSorted (facts : List Access) : List Access → List (Nat × Nat × Nat)
  | [] => []
  | a :: rest =>
    (((a :: rest).takeWhile (fun b => a.cls == b.cls)).filter (fun b => !compat facts a b)).map
      (fun b => (a.cls, a.site, b.site)) ++ violatingPairsSorted facts rest

theorem violatingPairsFrom_eq_sorted (facts l : List Access) (hs : clsSorted l = true) :
    violatingPairsFrom facts l = violatingPairsSorted facts l := by
  induction l with
  | nil => rfl
  | cons a rest ih =>
    rw [violatingPairsFrom, violatingPairsSorted, ih (clsSorted_tail hs),
      filter_cls_eq_takeWhile a.cls _ _ hs (clsSorted_head_le hs)]

/-! ## From static facts to traces -/

/-- every access event of `tr` instantiates its fact: right class, right thread class, and the
    fact's mutexes (instantiated for the accessed object) are held by the accessing thread -/
def Conforms (facts : List Access) (tc : Thread → Nat) (tr : List Ev) : Prop :=
  ∀ pre t x f post, tr = pre ++ Ev.acc t x f :: post →
    ∃ a, facts[f]? = some a ∧ a.cls = x.1 ∧ tc t = a.thread ∧
      ∀ l ∈ a.locks, holderOf pre (l.inst x.2) = some t

/-- a thread class flagged `single` has one thread among those that touch location `x` in
    `tr` (the scheduler's two loops: one thread per server; `go x.Run()`: one per object) -/
def SingletonThreads (facts : List Access) (tc : Thread → Nat) (tr : List Ev) (x : Loc) : Prop :=
  ∀ a ∈ facts, a.single = true → ∀ t t' f f', Ev.acc t x f ∈ tr → Ev.acc t' x f' ∈ tr →
    tc t = a.thread → tc t' = a.thread → t = t'

theorem inst_injective (l l' : LockRef) (o : Nat) (h : l.inst o = l'.inst o) : l = l' := by
  cases l with | mk c s => cases l' with | mk c' s' =>
  cases s <;> cases s' <;> simp [LockRef.inst] at h <;> simp <;> omega

/-- two accesses of one trace are ordered by the hand-over of a common mutex -/
def LockOrdered (pre : List Ev) (e1 : Ev) (mid : List Ev) (t1 t2 : Thread) : Prop :=
  ∃ m, holderOf pre m = some t1 ∧ holderOf (pre ++ e1 :: mid) m = some t2 ∧
    ∃ e ∈ mid, Releases e t1 m

/-- `facts` pass the pairwise check for class `c`; the trace is any well-formed interleaving
    whose accesses instantiate the facts.  Then any two accesses to the same location of class
    `c` by different threads, in trace order, are (a) both reads, or (b) separated by a step in
    which the first thread gives up a mutex that both hold at their access, or (c) a pair the
    table marks as ordered by a non-lock mechanism (`exempt`: the named hypotheses). -/
theorem lockset_discipline_race_free
    (facts : List Access) (tc : Thread → Nat)
    (c : Nat) (hcheck : checkClass facts c = true)
    (pre mid post : List Ev) (t1 t2 : Thread) (o f1 f2 : Nat)
    (hsingle : SingletonThreads facts tc
      (pre ++ Ev.acc t1 (c, o) f1 :: (mid ++ Ev.acc t2 (c, o) f2 :: post)) (c, o))
    (hwf : WF (pre ++ Ev.acc t1 (c, o) f1 :: (mid ++ Ev.acc t2 (c, o) f2 :: post)))
    (hconf : Conforms facts tc (pre ++ Ev.acc t1 (c, o) f1 :: (mid ++ Ev.acc t2 (c, o) f2 :: post)))
    (hne : t1 ≠ t2) :
    ∃ a b, facts[f1]? = some a ∧ facts[f2]? = some b ∧
      ((isWrite facts a = false ∧ isWrite facts b = false) ∨
       LockOrdered pre (Ev.acc t1 (c, o) f1) mid t1 t2 ∨
       exempt a b = true) := by
  obtain ⟨a, ha, hac, hat, hal⟩ := hconf pre t1 (c, o) f1 _ rfl
  have hsplit : pre ++ Ev.acc t1 (c, o) f1 :: (mid ++ Ev.acc t2 (c, o) f2 :: post)
      = (pre ++ Ev.acc t1 (c, o) f1 :: mid) ++ Ev.acc t2 (c, o) f2 :: post := by simp
  obtain ⟨b, hb, hbc, hbt, hbl⟩ := hconf (pre ++ Ev.acc t1 (c, o) f1 :: mid) t2 (c, o) f2 post hsplit
  refine ⟨a, b, ha, hb, ?_⟩
  have ham : a ∈ facts := List.mem_of_getElem? ha
  have hbm : b ∈ facts := List.mem_of_getElem? hb
  have hcomp := (checkClass_iff facts c).mp hcheck a ham b hbm hac hbc
  simp only [compat, sameSingle, lockCompat, Bool.or_eq_true, Bool.not_eq_true', Bool.or_eq_false_iff,
    Bool.and_eq_true, beq_iff_eq, List.any_eq_true, List.contains_iff_mem] at hcomp
  rcases hcomp with ((hrd | ⟨⟨hsa, _⟩, hth⟩) | ⟨l, hla, hlb⟩) | hex
  · exact Or.inl hrd
  · -- same singleton thread class: the two threads would be equal
    exact absurd (hsingle a ham hsa t1 t2 f1 f2 (by simp) (by simp) hat (by rw [hbt, hth])) hne
  · have h1 := hal l hla
    have h2 := hbl l hlb
    rw [hsplit] at hwf
    obtain ⟨e, he, hrel⟩ := mutex_handover pre (Ev.acc t1 (c, o) f1 :: mid) t1 t2 (l.inst o) (WF_prefix hwf) h1 h2 hne
    refine Or.inr (Or.inl ⟨l.inst o, h1, h2, ?_⟩)
    rcases List.mem_cons.mp he with rfl | he
    · -- the first access itself gives up nothing
      rcases hrel with hrel | ⟨_, hrel⟩ <;> cases hrel
    · exact ⟨e, he, hrel⟩
  · exact Or.inr (Or.inr hex)

/-! ### The same theorem from the thread-local (syntactic) lockset -/

/-- conformance stated with what a per-goroutine syntactic analysis computes: the fact's mutexes
    were acquired (or handed over) and not given up in the accessing thread's OWN preceding events -/
def ConformsLocal (facts : List Access) (tc : Thread → Nat) (tr : List Ev) : Prop :=
  ∀ pre t x f post, tr = pre ++ Ev.acc t x f :: post →
    ∃ a, facts[f]? = some a ∧ a.cls = x.1 ∧ tc t = a.thread ∧
      ∀ l ∈ a.locks, localHeld t (l.inst x.2) pre false = true

theorem conformsLocal_conforms (facts : List Access) (tc : Thread → Nat) (tr : List Ev)
    (hwf : WF tr) (h : ConformsLocal facts tc tr) : Conforms facts tc tr := by
  intro pre t x f post htr
  subst htr
  obtain ⟨a, ha, hc, ht, hl⟩ := h pre t x f post rfl
  exact ⟨a, ha, hc, ht, fun l hlm => localHeld_sound pre t _ (WF_prefix hwf) (hl l hlm)⟩

theorem lockset_discipline_race_free_local
    (facts : List Access) (tc : Thread → Nat)
    (c : Nat) (hcheck : checkClass facts c = true)
    (pre mid post : List Ev) (t1 t2 : Thread) (o f1 f2 : Nat)
    (hsingle : SingletonThreads facts tc
      (pre ++ Ev.acc t1 (c, o) f1 :: (mid ++ Ev.acc t2 (c, o) f2 :: post)) (c, o))
    (hwf : WF (pre ++ Ev.acc t1 (c, o) f1 :: (mid ++ Ev.acc t2 (c, o) f2 :: post)))
    (hconf : ConformsLocal facts tc (pre ++ Ev.acc t1 (c, o) f1 :: (mid ++ Ev.acc t2 (c, o) f2 :: post)))
    (hne : t1 ≠ t2) :
    ∃ a b, facts[f1]? = some a ∧ facts[f2]? = some b ∧
      ((isWrite facts a = false ∧ isWrite facts b = false) ∨
       LockOrdered pre (Ev.acc t1 (c, o) f1) mid t1 t2 ∨
       exempt a b = true) :=
  lockset_discipline_race_free facts tc c hcheck pre mid post t1 t2 o f1 f2 hsingle hwf
    (conformsLocal_conforms facts tc _ hwf hconf) hne

/-- Corollary with the non-lock orderings as an explicit hypothesis `hsync`: every conflicting
    pair is ordered, by a mutex hand-over or by the assumed synchronisation. -/
theorem race_free_under_sync_hypotheses
    (facts : List Access) (tc : Thread → Nat)
    (SyncOrdered : List Ev → Ev → List Ev → Prop)
    (c : Nat) (hcheck : checkClass facts c = true)
    (pre mid post : List Ev) (t1 t2 : Thread) (o f1 f2 : Nat)
    (hsingle : SingletonThreads facts tc
      (pre ++ Ev.acc t1 (c, o) f1 :: (mid ++ Ev.acc t2 (c, o) f2 :: post)) (c, o))
    (hwf : WF (pre ++ Ev.acc t1 (c, o) f1 :: (mid ++ Ev.acc t2 (c, o) f2 :: post)))
    (hconf : Conforms facts tc (pre ++ Ev.acc t1 (c, o) f1 :: (mid ++ Ev.acc t2 (c, o) f2 :: post)))
    (hsync : ∀ a b, facts[f1]? = some a → facts[f2]? = some b → exempt a b = true →
      SyncOrdered pre (Ev.acc t1 (c, o) f1) mid)
    (hne : t1 ≠ t2) (a b : Access) (ha : facts[f1]? = some a) (hb : facts[f2]? = some b)
    (hconflict : (isWrite facts a || isWrite facts b) = true) :
    LockOrdered pre (Ev.acc t1 (c, o) f1) mid t1 t2 ∨ SyncOrdered pre (Ev.acc t1 (c, o) f1) mid := by
  obtain ⟨a', b', ha', hb', h⟩ :=
    lockset_discipline_race_free facts tc c hcheck pre mid post t1 t2 o f1 f2 hsingle hwf hconf hne
  cases ha.symm.trans ha'
  cases hb.symm.trans hb'
  rcases h with ⟨h1, h2⟩ | h | h
  · simp [h1, h2] at hconflict
  · exact Or.inl h
  · exact Or.inr (hsync a b ha hb h)

/-! ### Witnesses -/

private def rd (site cls : Nat) (locks : List LockRef) (thread : Nat) : Access :=
  { site, cls, kind := .read, locks, thread, single := false, init := false, racy := false,
    atomic := false, pre := [], post := [], hb := [], use := true, live := false, valid := false }
private def wr (site cls : Nat) (locks : List LockRef) (thread : Nat) : Access :=
  { rd site cls locks thread with kind := .write }

/-- a disciplined table: class 0 written and read under global lock 7 -/
def goodFacts : List Access := [wr 0 0 [⟨7, false⟩] 1, rd 1 0 [⟨7, false⟩] 2]
/-- the F13a shape: class 0 written under lock 7, read with no lock -/
def badFacts : List Access := [wr 0 0 [⟨7, false⟩] 1, rd 1 0 [] 2]

/-- a non-trivial enabled trace over a table that passes the check (writer and reader alternate
    under the lock) -/
def goodTrace : List Ev :=
  [.acq 10 (14, 0), .acc 10 (0, 5) 0, .rel 10 (14, 0), .acq 20 (14, 0), .acc 20 (0, 5) 1, .rel 20 (14, 0)]

example : checkClass goodFacts 0 = true ∧ (run Holder.init goodTrace).isSome = true := by
  constructor <;> decide

/-- The check is needed: the F13a-shaped table fails the check, and there is a
    well-formed trace instantiating it in which the unlocked read sits directly next to the
    locked write, inside the writer's critical section (a data race). -/
def racyTrace : List Ev :=
  [.acq 10 (14, 0), .acc 10 (0, 5) 0, .acc 20 (0, 5) 1, .rel 10 (14, 0)]

theorem unlocked_reader_races :
    checkClass badFacts 0 = false ∧ violatingPairs badFacts = [(0, 0, 1)] ∧
    (run Holder.init racyTrace).isSome = true := by
  refine ⟨by decide, by decide, by decide⟩

/-- non-vacuity of the `handoff` step (`Scheduler.load` locks `refMu`, the goroutine it spawns
    unlocks it): the trace is enabled, the receiving thread holds the mutex by its own events, and
    both writes conform to a table that passes the check through the common mutex only -/
def handoffFacts : List Access := [wr 0 0 [⟨1, true⟩] 1, wr 1 0 [⟨1, true⟩] 2]
def handoffTrace : List Ev :=
  [.acq 1 (3, 5), .acc 1 (0, 5) 0, .fork 1 2 9, .handoff 1 2 (3, 5), .acc 2 (0, 5) 1, .rel 2 (3, 5)]

example : checkClass handoffFacts 0 = true ∧ (run Holder.init handoffTrace).isSome = true ∧
    localHeld 2 (3, 5) (handoffTrace.take 4) false = true ∧
    localHeld 1 (3, 5) (handoffTrace.take 4) false = false ∧
    (⟨1, true⟩ : LockRef).inst 5 = (3, 5) := by
  refine ⟨by decide, by decide, by decide, by decide, by decide⟩

/-! ## Spawn order: the `pre` / `post` tags of the facts order their accesses

  `exempt` accepts a pair when one access carries `pre ∋ s` (it precedes spawn statement `s` in
  the function that executes `s`, and `s` runs once) and the other `post ∋ s` (its thread
  descends from the thread `s` creates).  The lockset theorem takes that as a named hypothesis;
  here it is a theorem about traces with `fork` events: a spawned thread does
  nothing before the `fork` that creates it (`ForkWF`, Go's semantics of `go`), hence every event
  of a descendant of spawn `s` comes after a `fork … s` event, and an access tagged `pre ∋ s`
  comes before every such event. -/

/-- Go semantics of a spawn: the new thread is not the spawner, and has done nothing before -/
def ForkWF (tr : List Ev) : Prop :=
  ∀ (j : Nat) t t' s, tr[j]? = some (Ev.fork t t' s) →
    t ≠ t' ∧ ∀ (i : Nat) e, i < j → tr[i]? = some e → evThread e ≠ t'

/-- thread `u` was created by spawn statement `s`, or by a descendant of the thread `s` created -/
inductive Desc (tr : List Ev) (s : Nat) : Thread → Prop
  | direct (t t' : Thread) : Ev.fork t t' s ∈ tr → Desc tr s t'
  | step (t t' : Thread) (s' : Nat) : Desc tr s t → Ev.fork t t' s' ∈ tr → Desc tr s t'

theorem fork_lt_of_evThread {tr : List Ev} (hf : ForkWF tr) {i j : Nat} {t t' : Thread} {s : Nat}
    {e : Ev} (hj : tr[j]? = some (Ev.fork t t' s)) (hi : tr[i]? = some e) (hu : evThread e = t') :
    j < i := by
  obtain ⟨hne, hbefore⟩ := hf j t t' s hj
  refine Nat.lt_of_le_of_ne (Nat.le_of_not_lt fun h => hbefore i e h hi hu) fun h => ?_
  subst h
  cases hj.symm.trans hi
  exact hne hu

theorem desc_after_fork (tr : List Ev) (hf : ForkWF tr) (s : Nat) (u : Thread) (hd : Desc tr s u) :
    ∀ (i : Nat) e, tr[i]? = some e → evThread e = u →
      ∃ (j : Nat) (t t' : Thread), j < i ∧ tr[j]? = some (Ev.fork t t' s) := by
  induction hd with
  | direct t t' hmem =>
    intro i e hi hu
    obtain ⟨j, hj⟩ := List.mem_iff_getElem?.mp hmem
    exact ⟨j, t, t', fork_lt_of_evThread hf hj hi hu, hj⟩
  | step t t' s' _ hmem ih =>
    intro i e hi hu
    obtain ⟨j, hj⟩ := List.mem_iff_getElem?.mp hmem
    obtain ⟨j', t0, t0', hj', hfk⟩ := ih j (Ev.fork t t' s') hj rfl
    exact ⟨j', t0, t0', Nat.lt_trans hj' (fork_lt_of_evThread hf hj hi hu), hfk⟩

/-- what the `pre` / `post` tags of a fact claim about an access event that instantiates it:
    `pre ∋ s` — spawn statement `s` has not been executed yet; `post ∋ s` — the accessing thread
    descends from the thread `s` creates -/
def ForkConforms (facts : List Access) (tr : List Ev) : Prop :=
  ∀ (i : Nat) t x f, tr[i]? = some (Ev.acc t x f) →
    ∃ a, facts[f]? = some a ∧
      (∀ s ∈ a.pre, ∀ (j : Nat) u u', j < i → tr[j]? ≠ some (Ev.fork u u' s)) ∧
      (∀ s ∈ a.post, Desc tr s t)

/-- Two accesses whose facts are exempted by `inter a.pre b.post` are ordered in
    every trace: the `pre` access, then the `fork` of a spawn statement `s` common to both tag
    lists, then the `post` access, whose thread descends from that spawn. -/
theorem fork_tagged_pair_ordered (facts : List Access) (tr : List Ev) (hf : ForkWF tr)
    (hc : ForkConforms facts tr) (i k : Nat) (t1 t2 : Thread) (x1 x2 : Loc) (f1 f2 : Nat)
    (ha : tr[i]? = some (Ev.acc t1 x1 f1)) (hb : tr[k]? = some (Ev.acc t2 x2 f2))
    (a b : Access) (hfa : facts[f1]? = some a) (hfb : facts[f2]? = some b)
    (hin : inter a.pre b.post = true) :
    ∃ (j : Nat) (t t' : Thread) (s : Nat),
      i < j ∧ j < k ∧ tr[j]? = some (Ev.fork t t' s) ∧ s ∈ a.pre ∧ Desc tr s t2 := by
  obtain ⟨a', ha', hpre, _⟩ := hc i t1 x1 f1 ha
  obtain ⟨b', hb', _, hpost⟩ := hc k t2 x2 f2 hb
  cases hfa.symm.trans ha'
  cases hfb.symm.trans hb'
  obtain ⟨s, hsa, hsb⟩ := List.any_eq_true.mp hin
  have hd := hpost s (List.contains_iff_mem.mp hsb)
  obtain ⟨j, t, t', hjk, hj⟩ := desc_after_fork tr hf s t2 hd k _ hb rfl
  have hij : i < j := Nat.lt_of_le_of_ne (Nat.le_of_not_lt fun h => hpre s hsa j t t' h hj)
    fun h => by subst h; cases ha.symm.trans hj
  exact ⟨j, t, t', s, hij, hjk, hj, hsa, hd⟩

/-- `exempt` without its two spawn-order disjuncts: what is still a named hypothesis -/
def exemptNoFork (a b : Access) : Bool :=
  (a.init && !b.racy) || (b.init && !a.racy) || (a.atomic && b.atomic) ||
  inter a.pre b.pre || inter a.hb b.hb

theorem getElem?_split (l1 l2 : List Ev) (e : Ev) : (l1 ++ e :: l2)[l1.length]? = some e := by
  simp

theorem getElem?_split2 (pre mid post : List Ev) (e1 e2 : Ev) :
    (pre ++ e1 :: (mid ++ e2 :: post))[pre.length + 1 + mid.length]? = some e2 := by
  simp [Nat.add_assoc, Nat.add_comm 1]

/-- The lockset theorem with spawn order discharged: same hypotheses as
    `lockset_discipline_race_free` plus Go's spawn semantics (`ForkWF`) and the meaning of the
    `pre`/`post` tags (`ForkConforms`): two accesses of one location by different threads are both
    reads, or ordered by a mutex hand-over, or have a `fork` step strictly between them from which
    the second thread descends, or fall under one of the REMAINING named hypotheses
    (`exemptNoFork`: fresh object, atomics, both before the same once-spawn, `holder`/`doneclose`).
    The disjunct "the later access precedes the spawn the earlier one descends from" is
    impossible. -/
theorem lockset_discipline_race_free_fork
    (facts : List Access) (tc : Thread → Nat)
    (c : Nat) (hcheck : checkClass facts c = true)
    (pre mid post : List Ev) (t1 t2 : Thread) (o f1 f2 : Nat)
    (hsingle : SingletonThreads facts tc
      (pre ++ Ev.acc t1 (c, o) f1 :: (mid ++ Ev.acc t2 (c, o) f2 :: post)) (c, o))
    (hwf : WF (pre ++ Ev.acc t1 (c, o) f1 :: (mid ++ Ev.acc t2 (c, o) f2 :: post)))
    (hconf : Conforms facts tc (pre ++ Ev.acc t1 (c, o) f1 :: (mid ++ Ev.acc t2 (c, o) f2 :: post)))
    (hfwf : ForkWF (pre ++ Ev.acc t1 (c, o) f1 :: (mid ++ Ev.acc t2 (c, o) f2 :: post)))
    (hfc : ForkConforms facts (pre ++ Ev.acc t1 (c, o) f1 :: (mid ++ Ev.acc t2 (c, o) f2 :: post)))
    (hne : t1 ≠ t2) :
    ∃ a b, facts[f1]? = some a ∧ facts[f2]? = some b ∧
      ((isWrite facts a = false ∧ isWrite facts b = false) ∨
       LockOrdered pre (Ev.acc t1 (c, o) f1) mid t1 t2 ∨
       (∃ (j : Nat) (t t' : Thread) (s : Nat), pre.length < j ∧ j < pre.length + 1 + mid.length ∧
          (pre ++ Ev.acc t1 (c, o) f1 :: (mid ++ Ev.acc t2 (c, o) f2 :: post))[j]? = some (Ev.fork t t' s) ∧
          Desc (pre ++ Ev.acc t1 (c, o) f1 :: (mid ++ Ev.acc t2 (c, o) f2 :: post)) s t2) ∨
       exemptNoFork a b = true) := by
  obtain ⟨a, b, ha, hb, h⟩ :=
    lockset_discipline_race_free facts tc c hcheck pre mid post t1 t2 o f1 f2 hsingle hwf hconf hne
  -- an exempt pair: split off the spawn-order disjuncts
  refine ⟨a, b, ha, hb, h.imp_right (Or.imp_right fun hex => ?_)⟩
  have hi := getElem?_split pre (mid ++ Ev.acc t2 (c, o) f2 :: post) (Ev.acc t1 (c, o) f1)
  have hk := getElem?_split2 pre mid post (Ev.acc t1 (c, o) f1) (Ev.acc t2 (c, o) f2)
  by_cases h1 : inter a.pre b.post = true
  · obtain ⟨j, t, t', s, hij, hjk, hj, _, hd⟩ :=
      fork_tagged_pair_ordered facts _ hfwf hfc _ _ t1 t2 (c, o) (c, o) f1 f2 hi hk a b ha hb h1
    exact Or.inl ⟨j, t, t', s, hij, hjk, hj, hd⟩
  · by_cases h2 : inter b.pre a.post = true
    · obtain ⟨j, _, _, _, hkj, hji, _⟩ :=
        fork_tagged_pair_ordered facts _ hfwf hfc _ _ t2 t1 (c, o) (c, o) f2 f1 hk hi b a hb ha h2
      omega
    · right
      simp only [Bool.not_eq_true] at h1 h2
      simpa only [exempt, exemptNoFork, h1, h2, Bool.or_false] using hex

/-- non-vacuity of `fork_tagged_pair_ordered`: the history "write, spawn, the child reads"
    satisfies `ForkWF` and conforms to a table whose write is tagged `pre ∋ 7` and whose read is
    tagged `post ∋ 7` (no lock anywhere: the pair passes `compat` only through the fork tags) -/
def forkFacts : List Access :=
  [{ wr 0 0 [] 1 with pre := [7] }, { rd 1 0 [] 2 with post := [7] }]
def forkTrace : List Ev := [.acc 1 (0, 5) 0, .fork 1 2 7, .acc 2 (0, 5) 1]

example : checkClass forkFacts 0 = true ∧ WF forkTrace ∧ ForkWF forkTrace ∧ ForkConforms forkFacts forkTrace := by
  refine ⟨by decide, by unfold WF; decide, ?_, ?_⟩
  · intro j t t' s h
    match j, h with
    | 1, h =>
      cases h
      refine ⟨by decide, fun i e hi hu => ?_⟩
      match i, hi, hu with
      | 0, _, hu => cases hu; decide
    | 0, h | 2, h | _ + 3, h => cases h
  · intro i t x f h
    match i, h with
    | 0, h =>
      cases h
      exact ⟨_, rfl, fun s _ j u u' hj => by omega, fun s hs => nomatch hs⟩
    | 2, h =>
      cases h
      refine ⟨_, rfl, (fun s hs => nomatch hs), fun s hs => ?_⟩
      cases List.mem_singleton.mp hs
      exact Desc.direct 1 2 (List.mem_cons_of_mem _ List.mem_cons_self)
    | 1, h | _ + 3, h => cases h

/-! ## Publication order: the `init` tag orders its access before every other thread's

  `exempt` accepts a pair when one access is tagged `init` (the object is a fresh local, not yet
  published) and the other side did not get its reference by an unsynchronised read.  With
  `publish` events this is a theorem: a thread other than the creator touches an object only after
  the `publish` step that made it reachable (`PublishWF`), and an `init`-tagged access happens
  before its object is published (`InitConforms`). -/

/-- a thread other than the object's creator reaches it only after it has been published -/
def PublishWF (creator : Nat → Thread) (tr : List Ev) : Prop :=
  ∀ (k : Nat) t x f, tr[k]? = some (Ev.acc t x f) → t ≠ creator x.2 →
    ∃ (j : Nat) (u : Thread), j < k ∧ tr[j]? = some (Ev.publish u x.2)

/-- meaning of the `init` tag: the access is by the creator, before any `publish` of the object -/
def InitConforms (facts : List Access) (creator : Nat → Thread) (tr : List Ev) : Prop :=
  ∀ (i : Nat) t x f, tr[i]? = some (Ev.acc t x f) →
    ∃ a, facts[f]? = some a ∧
      (a.init = true → t = creator x.2 ∧ ∀ (j : Nat) u, j < i → tr[j]? ≠ some (Ev.publish u x.2))

/-- An `init`-tagged access and an access to the same object by another
    thread are ordered in every trace: the `init` access, then a `publish` of the object, then the
    other access — no order of `i`, `k` is assumed: `i < j < k` is concluded. -/
theorem init_tagged_pair_ordered (facts : List Access) (creator : Nat → Thread) (tr : List Ev)
    (hp : PublishWF creator tr) (hc : InitConforms facts creator tr)
    (i k : Nat) (t1 t2 : Thread) (c1 c2 o : Nat) (f1 f2 : Nat)
    (ha : tr[i]? = some (Ev.acc t1 (c1, o) f1)) (hb : tr[k]? = some (Ev.acc t2 (c2, o) f2))
    (hne : t1 ≠ t2) (a : Access) (hfa : facts[f1]? = some a) (hinit : a.init = true) :
    ∃ (j : Nat) (u : Thread), i < j ∧ j < k ∧ tr[j]? = some (Ev.publish u o) := by
  obtain ⟨a', ha', hi⟩ := hc i t1 (c1, o) f1 ha
  cases hfa.symm.trans ha'
  obtain ⟨hcr, hnone⟩ := hi hinit
  have hne2 : t2 ≠ creator o := fun h => hne (by rw [hcr, h])
  obtain ⟨j, u, hjk, hj⟩ := hp k t2 (c2, o) f2 hb hne2
  have hij : i < j := Nat.lt_of_le_of_ne (Nat.le_of_not_lt fun h => hnone j u h hj)
    fun h => by subst h; cases ha.symm.trans hj
  exact ⟨j, u, hij, hjk, hj⟩

/-- `exemptNoFork` without its two `init` disjuncts: what remains a named hypothesis.  The `racy`
    conjuncts go with them: under `PublishWF` an `init` tag alone puts a `publish` between the two
    accesses in trace order; that the later thread got its reference through a synchronisation,
    which is what the static rule's `!racy` asks, a trace cannot tell. -/
def exemptRest (a b : Access) : Bool :=
  (a.atomic && b.atomic) || inter a.pre b.pre || inter a.hb b.hb

/-- The lockset theorem with spawn order and publication order discharged: two accesses of
    one location by different threads are both reads, or ordered by a mutex hand-over, or have a
    `fork` step between them from which the second thread descends, or have a `publish` of the
    object between them, or fall under `exemptRest` (atomics / sync.Map, both before the same
    once-spawn, the named `holder` / `doneclose` orderings).  An `init`-tagged LATER access is
    impossible. -/
theorem lockset_discipline_race_free_ordered
    (facts : List Access) (tc : Thread → Nat) (creator : Nat → Thread)
    (c : Nat) (hcheck : checkClass facts c = true)
    (pre mid post : List Ev) (t1 t2 : Thread) (o f1 f2 : Nat)
    (hsingle : SingletonThreads facts tc
      (pre ++ Ev.acc t1 (c, o) f1 :: (mid ++ Ev.acc t2 (c, o) f2 :: post)) (c, o))
    (hwf : WF (pre ++ Ev.acc t1 (c, o) f1 :: (mid ++ Ev.acc t2 (c, o) f2 :: post)))
    (hconf : Conforms facts tc (pre ++ Ev.acc t1 (c, o) f1 :: (mid ++ Ev.acc t2 (c, o) f2 :: post)))
    (hfwf : ForkWF (pre ++ Ev.acc t1 (c, o) f1 :: (mid ++ Ev.acc t2 (c, o) f2 :: post)))
    (hfc : ForkConforms facts (pre ++ Ev.acc t1 (c, o) f1 :: (mid ++ Ev.acc t2 (c, o) f2 :: post)))
    (hpw : PublishWF creator (pre ++ Ev.acc t1 (c, o) f1 :: (mid ++ Ev.acc t2 (c, o) f2 :: post)))
    (hic : InitConforms facts creator (pre ++ Ev.acc t1 (c, o) f1 :: (mid ++ Ev.acc t2 (c, o) f2 :: post)))
    (hne : t1 ≠ t2) :
    ∃ a b, facts[f1]? = some a ∧ facts[f2]? = some b ∧
      ((isWrite facts a = false ∧ isWrite facts b = false) ∨
       LockOrdered pre (Ev.acc t1 (c, o) f1) mid t1 t2 ∨
       (∃ (j : Nat) (t t' : Thread) (s : Nat), pre.length < j ∧ j < pre.length + 1 + mid.length ∧
          (pre ++ Ev.acc t1 (c, o) f1 :: (mid ++ Ev.acc t2 (c, o) f2 :: post))[j]? = some (Ev.fork t t' s) ∧
          Desc (pre ++ Ev.acc t1 (c, o) f1 :: (mid ++ Ev.acc t2 (c, o) f2 :: post)) s t2) ∨
       (∃ (j : Nat) (u : Thread), pre.length < j ∧ j < pre.length + 1 + mid.length ∧
          (pre ++ Ev.acc t1 (c, o) f1 :: (mid ++ Ev.acc t2 (c, o) f2 :: post))[j]? = some (Ev.publish u o)) ∨
       exemptRest a b = true) := by
  obtain ⟨a, b, ha, hb, h⟩ :=
    lockset_discipline_race_free_fork facts tc c hcheck pre mid post t1 t2 o f1 f2 hsingle hwf hconf hfwf hfc hne
  refine ⟨a, b, ha, hb, h.imp_right (Or.imp_right (Or.imp_right fun hex => ?_))⟩
  have hi := getElem?_split pre (mid ++ Ev.acc t2 (c, o) f2 :: post) (Ev.acc t1 (c, o) f1)
  have hk := getElem?_split2 pre mid post (Ev.acc t1 (c, o) f1) (Ev.acc t2 (c, o) f2)
  by_cases h1 : a.init = true
  · exact Or.inl (init_tagged_pair_ordered facts creator _ hpw hic _ _ t1 t2 c c o f1 f2 hi hk hne a ha h1)
  · by_cases h2 : b.init = true
    · obtain ⟨j, _, hkj, hji, _⟩ :=
        init_tagged_pair_ordered facts creator _ hpw hic _ _ t2 t1 c c o f2 f1 hk hi (Ne.symm hne) b hb h2
      omega
    · right
      simp only [Bool.not_eq_true] at h1 h2
      simpa only [exemptNoFork, exemptRest, h1, h2, Bool.false_and, Bool.false_or] using hex

/-- non-vacuity of `init_tagged_pair_ordered`: create-and-fill, publish, another thread reads -/
def initFacts : List Access := [{ wr 0 0 [] 1 with init := true }, rd 1 0 [] 2]
def initTrace : List Ev := [.acc 1 (0, 5) 0, .publish 1 5, .acc 2 (0, 5) 1]

example : checkClass initFacts 0 = true ∧ WF initTrace ∧ PublishWF (fun _ => 1) initTrace ∧
    InitConforms initFacts (fun _ => 1) initTrace := by
  refine ⟨by decide, by unfold WF; decide, ?_, ?_⟩
  · intro k t x f h hne
    match k, h with
    | 0, h => cases h; exact absurd rfl hne
    | 2, h => cases h; exact ⟨1, 1, by decide, rfl⟩
    | 1, h | _ + 3, h => cases h
  · intro i t x f h
    match i, h with
    | 0, h => cases h; exact ⟨_, rfl, fun _ => ⟨rfl, fun j u hj => by omega⟩⟩
    | 2, h => cases h; exact ⟨_, rfl, fun hi => nomatch hi⟩
    | 1, h | _ + 3, h => cases h

/-! ## Object life cycle: a live or re-validated pointer is never seen torn down -/

def LKeeps (t : Thread) (m : Lock) : LEv → Prop
  | .sync e => ¬ Releases e t m
  | _ => True

theorem lrun_guard_persist (G : Lock) (S : Nat → Lock) (t : Thread) (o : Nat) (m : Lock)
    (hm : m = G ∨ m = S o) (evs : List LEv) (s s' : LState) (hr : lrun G S s evs = some s')
    (hh : s.holder m = some t) (hc : s.cleared o = false)
    (hk : ∀ e ∈ evs, LKeeps t m e) (hself : ∀ e ∈ evs, e ≠ .clear t o) :
    s'.holder m = some t ∧ s'.cleared o = false := by
  fun_induction lrun G S s evs with
  | case1 s => cases hr; exact ⟨hh, hc⟩
  | case2 => cases hr
  | case3 s e es s1 hs ih =>
    suffices h1 : s1.holder m = some t ∧ s1.cleared o = false from
      ih hr h1.1 h1.2 (fun e' he' => hk e' (List.mem_cons_of_mem e he'))
        (fun e' he' => hself e' (List.mem_cons_of_mem e he'))
    have hk := hk e List.mem_cons_self
    have hself := hself e List.mem_cons_self
    cases e with
    | sync e' =>
      simp only [lstep] at hs
      split at hs
      · cases hs
      · next h' hst => cases hs; exact ⟨step_persist s.holder h' e' t m hst hh hk, hc⟩
    | clear t' o' =>
      simp only [lstep, Option.ite_none_right_eq_some, Option.some.injEq] at hs
      obtain ⟨hg, rfl⟩ := hs
      refine ⟨hh, ?_⟩
      by_cases ho : o = o'
      · -- a teardown of `o` needs `m`, which `t` holds: it would be `t`'s own
        subst ho
        have : some t = some t' := by
          rcases hm with rfl | rfl
          · exact hh.symm.trans hg.1
          · exact hh.symm.trans hg.2
        cases this
        exact absurd rfl hself
      · exact (if_neg ho).trans hc
    | lookup t' o' | check t' o' =>
      simp only [lstep, Option.ite_none_right_eq_some, Option.some.injEq] at hs
      obtain ⟨_, rfl⟩ := hs
      exact ⟨hh, hc⟩
    | use _ _ _ => cases hs; exact ⟨hh, hc⟩

/-- Thread `t` finds
    object `o` in the registry (`lookup`, under the registry lock `G`); as long as `t` does not
    give `G` up (and does not tear `o` down itself), `o` is not torn down — whatever the other
    threads do, because every teardown needs `G`.  This is the `live` flag of an access fact. -/
theorem live_pointer_not_torn_down (G : Lock) (S : Nat → Lock) (s0 s1 s2 : LState)
    (pre mid : List LEv) (t : Thread) (o : Nat)
    (hpre : lrun G S s0 pre = some s1)
    (hmid : lrun G S s1 (LEv.lookup t o :: mid) = some s2)
    (hkeep : ∀ e ∈ mid, LKeeps t G e) (hself : ∀ e ∈ mid, e ≠ .clear t o) :
    s2.cleared o = false := by
  have _ := hpre  -- not needed: the statement only places `s1` in a history
  by_cases hg : s1.holder G = some t ∧ s1.cleared o = false
  · have hmid' : lrun G S s1 mid = some s2 := by simpa [lrun, lstep, hg] using hmid
    exact (lrun_guard_persist G S t o G (Or.inl rfl) mid s1 s2 hmid' hg.1 hg.2 hkeep hself).2
  · simp [lrun, lstep, hg] at hmid

/-- `t` re-checks `o` (a cleared field is
    non-nil) while holding `o`'s own lock; as long as `t` keeps that lock, `o` is not torn down,
    because every teardown needs the object's lock too.  This is the `valid` flag. -/
theorem validated_pointer_not_torn_down (G : Lock) (S : Nat → Lock) (s1 s2 : LState)
    (mid : List LEv) (t : Thread) (o : Nat)
    (hmid : lrun G S s1 (LEv.check t o :: mid) = some s2)
    (hkeep : ∀ e ∈ mid, LKeeps t (S o) e) (hself : ∀ e ∈ mid, e ≠ .clear t o) :
    s2.cleared o = false := by
  by_cases hg : s1.holder (S o) = some t ∧ s1.cleared o = false
  · have hmid' : lrun G S s1 mid = some s2 := by simpa [lrun, lstep, hg] using hmid
    exact (lrun_guard_persist G S t o (S o) (Or.inr rfl) mid s1 s2 hmid' hg.1 hg.2 hkeep hself).2
  · simp [lrun, lstep, hg] at hmid

/-- The reader looks the object up under `G`, releases `G`,
    takes the object's lock and uses the object — every access is under some mutex, the pairwise
    lockset rule is satisfied — yet the trace is enabled and the object is torn down at the use. -/
def staleTrace : List LEv :=
  [ .sync (.acq 1 (0, 0)), .lookup 1 7, .sync (.rel 1 (0, 0)),          -- reader: snapshot under G
    .sync (.acq 2 (0, 0)), .sync (.acq 2 (1, 7)), .clear 2 7,            -- scheduler: unload under G and S
    .sync (.rel 2 (1, 7)), .sync (.rel 2 (0, 0)),
    .sync (.acq 1 (1, 7)), .use 1 7 0 ]                                     -- reader: use under S only

theorem stale_pointer_witness :
    ((lrun (0, 0) (fun o => (1, o)) LState.init staleTrace).map (fun s => s.cleared 7)) = some true := by
  decide

/-! ## The stale-pointer RULE is sound for every history

  `live_pointer_not_torn_down` and `validated_pointer_not_torn_down` are about one pointer in one trace.  Here they are lifted to the static
  rule: if a fact table has no stale read (`staleReads … = []`), then in EVERY enabled history
  whose `use` events instantiate the table's facts — a `live` fact's use comes after a `lookup` by
  the same thread that has kept the registry lock since, a `valid` fact's use comes after a
  `check` by the same thread that has kept the object's lock since — no `use` event ever happens
  on an object that has been torn down.  Fresh objects and the holder ordering (C01) enter as the
  explicit hypothesis `Other` / `hother`. -/

theorem lrun_append (G : Lock) (S : Nat → Lock) (s : LState) (l1 l2 : List LEv) :
    lrun G S s (l1 ++ l2) = (lrun G S s l1).bind (fun s' => lrun G S s' l2) := by
  induction l1 generalizing s with
  | nil => rfl
  | cons e es ih =>
    simp only [List.cons_append, lrun]
    cases lstep G S s e with
    | none => rfl
    | some s' => exact ih s'

/-- `t` found `o` in the registry somewhere in `pre` and has kept the registry lock `G` since -/
def LiveAt (G : Lock) (pre : List LEv) (t : Thread) (o : Nat) : Prop :=
  ∃ p1 mid, pre = p1 ++ LEv.lookup t o :: mid ∧ (∀ e ∈ mid, LKeeps t G e) ∧ (∀ e ∈ mid, e ≠ .clear t o)

/-- `t` re-checked `o` somewhere in `pre` and has kept the object's lock `S o` since -/
def ValidAt (S : Nat → Lock) (pre : List LEv) (t : Thread) (o : Nat) : Prop :=
  ∃ p1 mid, pre = p1 ++ LEv.check t o :: mid ∧ (∀ e ∈ mid, LKeeps t (S o) e) ∧ (∀ e ∈ mid, e ≠ .clear t o)

theorem liveAt_not_cleared (G : Lock) (S : Nat → Lock) (s0 s : LState) (pre : List LEv) (t : Thread) (o : Nat)
    (hrun : lrun G S s0 pre = some s) (h : LiveAt G pre t o) : s.cleared o = false := by
  obtain ⟨p1, mid, rfl, hk, hs⟩ := h
  rw [lrun_append] at hrun
  obtain ⟨s1, h1, h2⟩ := Option.bind_eq_some_iff.mp hrun
  exact live_pointer_not_torn_down G S s0 s1 s p1 mid t o h1 h2 hk hs

theorem validAt_not_cleared (G : Lock) (S : Nat → Lock) (s0 s : LState) (pre : List LEv) (t : Thread) (o : Nat)
    (hrun : lrun G S s0 pre = some s) (h : ValidAt S pre t o) : s.cleared o = false := by
  obtain ⟨p1, mid, rfl, hk, hs⟩ := h
  rw [lrun_append] at hrun
  obtain ⟨s1, _, h2⟩ := Option.bind_eq_some_iff.mp hrun
  exact validated_pointer_not_torn_down G S s1 s mid t o h2 hk hs

/-- every `use` event of `tr` instantiates a fact of the table: a used read of a cleared class whose
    `live` / `valid` flags mean what the translator claims (continuity of the hold since the lookup /
    re-check), and whose `init` / holder exemption is the named hypothesis `Other` -/
def UseConforms (facts : List Access) (cleared : List Nat) (holderHb : Nat) (G : Lock) (S : Nat → Lock)
    (Other : List LEv → Thread → Nat → Prop) (tr : List LEv) : Prop :=
  ∀ pre t o f post, tr = pre ++ LEv.use t o f :: post →
    ∃ a, facts[f]? = some a ∧ a.kind = .read ∧ cleared.contains a.cls = true ∧ a.use = true ∧
      (a.live = true → LiveAt G pre t o) ∧ (a.valid = true → ValidAt S pre t o) ∧
      ((a.init = true ∨ a.hb.contains holderHb = true) → Other pre t o)

/-- A table without stale reads, any
    enabled history conforming to it, any `use` event in it: the object is not torn down at that
    point.  (`Gr`/`Sr` = the static names of the registry / object lock; `hother` = fresh objects
    are not in the registry yet, and the holder ordering of C01.) -/
theorem stale_rule_sound (facts : List Access) (cleared : List Nat) (holderHb : Nat) (Gr Sr : LockRef)
    (G : Lock) (S : Nat → Lock) (Other : List LEv → Thread → Nat → Prop)
    (hrule : staleReads facts cleared holderHb Gr Sr = [])
    (hother : ∀ pre t o s, lrun G S LState.init pre = some s → Other pre t o → s.cleared o = false)
    (tr : List LEv) (hconf : UseConforms facts cleared holderHb G S Other tr)
    (pre post : List LEv) (t : Thread) (o f : Nat) (htr : tr = pre ++ LEv.use t o f :: post)
    (s : LState) (hrun : lrun G S LState.init pre = some s) :
    s.cleared o = false := by
  obtain ⟨a, ha, hk, hc, hu, hlive, hvalid, hoth⟩ := hconf pre t o f post htr
  have ham : a ∈ facts := List.mem_of_getElem? ha
  have hns := List.filter_eq_nil_iff.mp (List.map_eq_nil_iff.mp hrule) a ham
  simp only [staleRead, hk, hc, hu, beq_self_eq_true, Bool.true_and, Bool.not_eq_true,
    Bool.not_eq_false', Bool.or_eq_true, Bool.and_eq_true] at hns
  rcases hns with ((h | h) | h) | h
  · exact liveAt_not_cleared G S LState.init s pre t o hrun (hlive h.1)
  · exact validAt_not_cleared G S LState.init s pre t o hrun (hvalid h.1)
  · exact hother pre t o s hrun (hoth (Or.inl h))
  · exact hother pre t o s hrun (hoth (Or.inr h))

/-! ### The panic clause, for the nil dereferences the teardown can cause

  `unload` sets `llama`, `model`, `Options`, `expireTimer` to nil; a handler or scheduler path that
  uses one of them on a torn-down runner dereferences nil and panics (gin recovers it into a 500, or
  the process dies when it happens on a goroutine the handler spawned).  In the life-cycle
  semantics that is a `use` step on a cleared object. -/

/-- the step dereferences a field the teardown has set to nil -/
def panicsAt (s : LState) : LEv → Bool
  | .use _ o _ => s.cleared o
  | _ => false

/-- `stale_rule_sound` for every step of the history -/
theorem no_nil_deref_panic (facts : List Access) (cleared : List Nat) (holderHb : Nat) (Gr Sr : LockRef)
    (G : Lock) (S : Nat → Lock) (Other : List LEv → Thread → Nat → Prop)
    (hrule : staleReads facts cleared holderHb Gr Sr = [])
    (hother : ∀ pre t o s, lrun G S LState.init pre = some s → Other pre t o → s.cleared o = false)
    (tr : List LEv) (hconf : UseConforms facts cleared holderHb G S Other tr)
    (pre post : List LEv) (e : LEv) (htr : tr = pre ++ e :: post)
    (s : LState) (hrun : lrun G S LState.init pre = some s) :
    panicsAt s e = false := by
  cases e with
  | use t o f =>
    exact stale_rule_sound facts cleared holderHb Gr Sr G S Other hrule hother tr hconf pre post t o f htr s hrun
  | _ => rfl

/-- and the stale history does panic: the last step of `staleTrace` dereferences a cleared field -/
example : ((lrun (0, 0) (fun o => (1, o)) LState.init (staleTrace.take 9)).map
    (fun s => panicsAt s (.use 1 7 0))) = some true := by decide

/-- non-vacuity of `stale_rule_sound`: a table with one `live` read of a cleared class has no
    stale read, and the history "take the registry lock, find object 7, use it" is enabled and
    conforms to it (with the empty `Other` hypothesis) -/
def liveFacts : List Access := [{ rd 0 0 [⟨0, false⟩] 1 with live := true }]
def liveTrace : List LEv := [.sync (.acq 1 (0, 0)), .lookup 1 7, .use 1 7 0]

example : staleReads liveFacts [0] 1 ⟨0, false⟩ ⟨1, true⟩ = [] ∧
    (lrun (0, 0) (fun o => (1, o)) LState.init liveTrace).isSome = true ∧
    UseConforms liveFacts [0] 1 (0, 0) (fun o => (1, o)) (fun _ _ _ => False) liveTrace := by
  refine ⟨by decide, by decide, ?_⟩
  intro pre t o f post h
  match pre, h with
  | [_, _], h =>
    cases h
    exact ⟨_, rfl, rfl, rfl, rfl, fun _ => ⟨[.sync (.acq 1 (0, 0))], [], rfl, by simp, by simp⟩,
      (fun hv => nomatch hv), fun hv => hv.elim (fun h => nomatch h) (fun h => nomatch h)⟩
  | [], h | [_], h => cases h
  | _ :: _ :: _ :: _, h => simp [liveTrace] at h

/-- and the rule is needed: a read under the object's lock only, without the `live` flag, is a
    stale read, and `staleTrace` above is an enabled history in which the use sees the object torn down -/
example : staleReads [rd 0 0 [⟨1, true⟩] 1] [0] 1 ⟨0, false⟩ ⟨1, true⟩ = [(0, 0)] := by decide

/-! ## Lock order: a ranked acquisition order admits no wait cycle (no AB-BA deadlock)

  A thread blocked in `acq t m` waits for the holder of `m`.  A deadlock among mutexes is a cycle
  `t0 →(m0) t1 →(m1) … →(mk) t0` in which each `ti` waits for `mi`, held by the next thread.  If
  every waiting thread holds only mutexes ranked below the one it waits for, no such cycle exists
  (the ranks would increase strictly around it).  The static side: the translator lists every
  "acquires B while holding A" site; `Tie.C15.lock_order_ranked` shows by `decide` that the tree's
  relation has a rank function. -/

structure Wait where
  t : Thread
  m : Lock
deriving DecidableEq, Repr

/-- consecutive elements: what `a` waits for is held by the next thread -/
def chainOK (h : Holder) : List Wait → Prop
  | [] => True
  | [_] => True
  | a :: b :: rest => h a.m = some b.t ∧ chainOK h (b :: rest)

def RankOK (rank : Lock → Nat) (h : Holder) (ws : List Wait) : Prop :=
  ∀ w ∈ ws, ∀ m', h m' = some w.t → rank m' < rank w.m

theorem chain_rank_increases (rank : Lock → Nat) (h : Holder) :
    ∀ (rest : List Wait) (a : Wait), RankOK rank h (a :: rest) → chainOK h (a :: rest) →
      ∀ x ∈ a :: rest, rank a.m ≤ rank x.m := by
  intro rest
  induction rest with
  | nil => intro a _ _ x hx; cases List.mem_singleton.mp hx; exact Nat.le_refl _
  | cons b r ih =>
    intro a hr hc x hx
    rcases List.mem_cons.mp hx with rfl | hx
    · exact Nat.le_refl _
    · exact Nat.le_of_lt (Nat.lt_of_lt_of_le (hr b (List.mem_cons_of_mem a List.mem_cons_self) a.m hc.1)
        (ih b (fun w hw => hr w (List.mem_cons_of_mem a hw)) hc.2 x hx))

theorem no_wait_cycle (rank : Lock → Nat) (h : Holder) (a : Wait) (rest : List Wait)
    (hr : RankOK rank h (a :: rest)) (hc : chainOK h (a :: rest))
    (hclose : h ((a :: rest).getLast (by simp)).m = some a.t) : False :=
  -- the thread that closes the cycle holds a mutex ranked at least as high as the one it waits for
  Nat.lt_irrefl _ (Nat.lt_of_le_of_lt
    (chain_rank_increases rank h rest a hr hc _ (List.getLast_mem _))
    (hr a List.mem_cons_self _ hclose))

/-- what the static lock-order table claims about a state: whenever a thread waits for `m` while
    holding `m'`, the pair (class of `m'`, class of `m`) is one of the table's edges; `cls` maps a
    concrete mutex to its class in the static table (all `refMu`s are one class) -/
def LockOrderConforms (edges : List (Nat × Nat)) (cls : Lock → Nat) (h : Holder) (ws : List Wait) : Prop :=
  ∀ w ∈ ws, ∀ m', h m' = some w.t → (cls m', cls w.m) ∈ edges

theorem ranked_lock_order_no_deadlock (edges : List (Nat × Nat)) (cls : Lock → Nat) (classRank : Nat → Nat)
    (hranked : ∀ e ∈ edges, classRank e.1 < classRank e.2)
    (h : Holder) (a : Wait) (rest : List Wait)
    (hconf : LockOrderConforms edges cls h (a :: rest)) (hc : chainOK h (a :: rest))
    (hclose : h ((a :: rest).getLast (by simp)).m = some a.t) : False :=
  no_wait_cycle (fun m => classRank (cls m)) h a rest
    (fun w hw m' hm' => hranked _ (hconf w hw m' hm')) hc hclose

/-- F12c, the order the pinned scheduler had: `updateFreeSpace` takes `loadedMu` then
    `refMu`, the expired handler took `refMu` then `loadedMu`.  The two-edge table has no rank
    function, and the history "t1 holds A, t2 holds B" is enabled while both next acquisitions are
    disabled and form a closed wait chain: a deadlock. -/
theorem abba_deadlock_witness :
    (∀ rank : Nat → Nat, ¬ (∀ e ∈ [((0 : Nat), (3 : Nat)), (3, 0)], rank e.1 < rank e.2)) ∧
    (run Holder.init [.acq 1 (0, 0), .acq 2 (3, 7)]).isSome = true ∧
    ((run Holder.init [.acq 1 (0, 0), .acq 2 (3, 7)]).bind (fun h => step h (.acq 1 (3, 7)))) = none ∧
    ((run Holder.init [.acq 1 (0, 0), .acq 2 (3, 7)]).bind (fun h => step h (.acq 2 (0, 0)))) = none ∧
    chainOK (holderOf [.acq 1 (0, 0), .acq 2 (3, 7)]) [⟨1, (3, 7)⟩, ⟨2, (0, 0)⟩] ∧
    holderOf [.acq 1 (0, 0), .acq 2 (3, 7)] (0, 0) = some 1 := by
  refine ⟨?_, by decide, by decide, by decide, ?_, by decide⟩
  · exact fun rank hall => Nat.lt_asymm (hall (0, 3) (by simp)) (hall (3, 0) (by simp))
  · refine ⟨by decide, trivial⟩

/-- non-vacuity of `ranked_lock_order_no_deadlock`: the tree's shape (one edge registry → object)
    with a real blocked acquisition that conforms: t1 holds the registry lock and waits for the object
    lock held by t2, who waits for nothing -/
example : (∀ e ∈ [((0 : Nat), (3 : Nat))], (fun c => if c = 0 then 1 else 2) e.1 < (fun c => if c = 0 then 1 else 2) e.2) ∧
    LockOrderConforms [(0, 3)] (fun m => m.1) (holderOf [.acq 1 (0, 0), .acq 2 (3, 7)]) [⟨1, (3, 7)⟩] ∧
    chainOK (holderOf [.acq 1 (0, 0), .acq 2 (3, 7)]) [⟨1, (3, 7)⟩] := by
  refine ⟨by simp, ?_, trivial⟩
  intro w hw m' hm'
  cases List.mem_singleton.mp hw
  -- the holder map after the two acquisitions, read at `m'`
  have hh : (if m' = (3, 7) then some 2 else if m' = (0, 0) then some 1 else none) = some 1 := hm'
  by_cases h1 : m' = (3, 7)
  · rw [if_pos h1] at hh; cases hh
  · by_cases h2 : m' = (0, 0)
    · subst h2; exact List.mem_singleton.mpr rfl
    · rw [if_neg h1, if_neg h2] at hh; cases hh

/-! ## Reader/writer exclusion -/

def RWInv (s : RWState) : Prop := ∀ m t, s.writer m = some t → s.readers m = []

theorem rwstep_inv (s s' : RWState) (e : RWEv) (h : RWInv s) (hs : rwstep s e = some s') : RWInv s' := by
  intro m t hw
  cases e with
  | wacq t' m' =>
    simp only [rwstep, Option.ite_none_right_eq_some, Option.some.injEq] at hs
    obtain ⟨hg, rfl⟩ := hs
    by_cases hm : m = m'
    · subst hm; exact hg.2
    · exact h m t ((if_neg hm).symm.trans hw)
  | wrel t' m' =>
    simp only [rwstep, Option.ite_none_right_eq_some, Option.some.injEq] at hs
    obtain ⟨_, rfl⟩ := hs
    by_cases hm : m = m'
    · cases (if_pos hm).symm.trans hw
    · exact h m t ((if_neg hm).symm.trans hw)
  | racq t' m' =>
    simp only [rwstep, Option.ite_none_right_eq_some, Option.some.injEq] at hs
    obtain ⟨hg, rfl⟩ := hs
    by_cases hm : m = m'
    · subst hm; cases hg.symm.trans hw
    · exact (if_neg hm).trans (h m t hw)
  | rrel t' m' =>
    simp only [rwstep, Option.ite_none_right_eq_some, Option.some.injEq] at hs
    obtain ⟨_, rfl⟩ := hs
    by_cases hm : m = m'
    · subst hm; exact (if_pos rfl).trans (by rw [h m t hw]; rfl)
    · exact (if_neg hm).trans (h m t hw)

/-- In every state reachable by enabled steps, a mutex
    that has a writer has no reader (so a write access made under `Lock` and a read access made
    under `RLock` of the same RWMutex never overlap). -/
theorem rw_writer_excludes_readers (evs : List RWEv) :
    ∀ (s s' : RWState), RWInv s → rwrun s evs = some s' → RWInv s' := by
  intro s s' h hr
  fun_induction rwrun s evs with
  | case1 s => cases hr; exact h
  | case2 => cases hr
  | case3 s e es s1 hs ih => exact ih (rwstep_inv s s1 e h hs) hr

theorem rw_init_inv : RWInv RWState.init := by intro m t h; cases h

/-- two readers at once are allowed (what the exclusive-mutex semantics cannot express), a writer
    next to a reader is not -/
example : (rwrun RWState.init [.racq 1 (0, 0), .racq 2 (0, 0)]).isSome = true ∧
    (rwrun RWState.init [.racq 1 (0, 0), .wacq 2 (0, 0)]).isSome = false ∧
    (rwrun RWState.init [.wacq 1 (0, 0), .racq 2 (0, 0)]).isSome = false := by
  refine ⟨by decide, by decide, by decide⟩

end OllamaVerif.Lockset
