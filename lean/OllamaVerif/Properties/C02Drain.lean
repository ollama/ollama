/-
  C02, second sentence — the scheduler drains (`drain`) — and the liveness half of the first: in a stuck state every
  request that can be answered has been answered (`all_answered`, by the same argument and group 8).

  "Once all requests have finished and their keep-alive periods have elapsed, every runner that
   was started has been shut down and nothing is reported as loaded."

  Formal statement (good variant, every reachable state): if no scheduler-internal or timer action
  is enabled any more (`Stuck`: both loops, all helper goroutines and all keep-alive timers have
  nothing left to do), every request's context is finished and no load is in flight, then every
  started runner is shut down and `loaded` is empty.  Proof: every open runner has a wake-up
  pending (group 6: it is held, loading, has its timer armed, or an expired event for it is in
  flight) and every holder has a finish event in flight; each of these enables an action.
  The same argument shows that the completed loop is idle and no finish or expired event is left.

  What the theorem does not say: that `Stuck` states are reached (fairness of the Go scheduler and
  of timers is outside the model), and it holds in the region-level model (see the C02 known
  finding F12d for a deadlock that needs a bounded channel).
-/
import OllamaVerif.Proofs.Sched8
import OllamaVerif.Properties.C02

namespace OllamaVerif.C02
open OllamaVerif.Sched

/-- scheduler-internal and timer actions (everything except the environment's moves) -/
def isProgress : Act → Bool
  | .submit .. => false
  | .done _ => false
  | .loadDone .. => false
  | .explicitUnload _ => false
  | .setPing .. => false
  | .setPingBlock _ => false
  | .setPingOpen _ => false
  | .pingDone _ ok => !ok          -- a parked health check times out by itself (10 s): `pingDone r false`
  | _ => true

/-- nothing internal is enabled: both loops, every helper goroutine and every timer are done -/
def Stuck (s : State) : Prop := ∀ a, isProgress a = true → step Variant.good s a = none

theorem not_enabled_of_stuck {s : State} (hs : Stuck s) (a : Act) (ha : isProgress a = true) : ¬ Enabled s a :=
  step_eq_none.mp (hs a ha)

/-- what `Stuck` with no load in flight implies (`Stuck.quiet`); sufficient for `Stuck`: `Quiescent` in C02Live.lean -/
structure Quiet (s : State) : Prop where
  unlocked : ∀ r, (s.runners r).locked = false
  cpc : s.cpc = .idle
  finishedQ : s.finishedQ = []
  expiredQ : s.expiredQ = []
  requeuers : s.requeuers = []
  timerCbs : s.timerCbs = []

theorem Stuck.quiet {s : State} (hs : Stuck s) (h : InvAll s) (hl : s.loaders = []) : Quiet s := by
  have hu : ∀ r, (s.runners r).locked = false := by
    intro r
    have h1 : (s.runners r).refMuHeld = false := by
      by_cases hr : r < s.nRunners
      · cases hh : (s.runners r).refMuHeld with
        | false => rfl
        | true =>
          have := h.base.i2.ldr r hr hh
          rw [hl] at this; simp at this
      · rw [h.i7.z r (Nat.le_of_not_lt hr)]
    have h2 : (s.runners r).pingHeld = false := by
      cases hh : (s.runners r).pingHeld with
      | false => rfl
      | true =>
        -- the parked health check times out by itself
        have hp := h.i7.ph r hh
        unfold PPC.isPinging at hp
        split at hp
        · rename_i q r' heq
          cases (show r' = r by simpa using hp)
          exact absurd ⟨q, heq⟩ (not_enabled_of_stuck hs (.pingDone r false) rfl)
        · cases hp
    simp [Runner.locked, h1, h2]
  -- with no load in flight the completed loop always has a move when it is not idle
  have hc : s.cpc = .idle := by
    cases hc : s.cpc with
    | idle => rfl
    | fin q r => exact absurd ⟨q, r, hc, hu r⟩ (not_enabled_of_stuck hs .cFin rfl)
    | exp r => exact absurd ⟨r, hc, hu r⟩ (not_enabled_of_stuck hs .cExp rfl)
    | vram r => exact absurd ⟨r, hc⟩ (not_enabled_of_stuck hs .cVram rfl)
  refine ⟨hu, hc, ?_, ?_, ?_, ?_⟩
  · cases hq : s.finishedQ with
    | nil => rfl
    | cons q rest => exact absurd ⟨hc, q, rest, hq⟩ (not_enabled_of_stuck hs .cTakeFinished rfl)
  · cases hq : s.expiredQ with
    | nil => rfl
    | cons r rest => exact absurd ⟨hc, r, rest, hq⟩ (not_enabled_of_stuck hs .cTakeExpired rfl)
  · cases hq : s.requeuers with
    | nil => rfl
    | cons r rest => exact absurd (show r ∈ s.requeuers by simp [hq]) (not_enabled_of_stuck hs (.requeue r) rfl)
  · cases hq : s.timerCbs with
    | nil => rfl
    | cons r rest =>
      exact absurd ⟨show r ∈ s.timerCbs by simp [hq], hu r⟩ (not_enabled_of_stuck hs (.timerCb r) rfl)

theorem cpc_idle_of_stuck {s : State} (h : InvAll s) (hl : s.loaders = []) (hs : Stuck s) : s.cpc = .idle :=
  (hs.quiet h hl).cpc

theorem held_has_waiter {s : State} (h : InvAll s) (hf : s.finishedQ = []) (hc : s.cpc = .idle) {r : Rid}
    (hrn : r < s.nRunners) (hunl : (s.runners r).locked = false) (hpos : 0 < (s.runners r).refCount) :
    ∃ q, q ∈ (s.runners r).holders ∧ q ∈ s.finishWaiters := by
  have hun : (s.runners r).refMuHeld = false := by
    simp [Runner.locked] at hunl; exact hunl.1
  have hc2 := h.base.i4.c2 r hrn
  rw [hun] at hc2
  have hne : (s.runners r).holders ≠ [] := by
    intro e; rw [e] at hc2; simp at hc2; omega
  obtain ⟨q, hq⟩ := List.exists_mem_of_ne_nil _ hne
  have htok := h.i6.t1 r q hrn hq
  simp only [tokens, hf, hc, CPC.tok, List.append_nil] at htok
  exact ⟨q, hq, List.count_pos_iff.mp htok⟩

/-- `drain` needs only the requests that still hold a runner to be finished -/
theorem drained_of_stuck {mr mq ds : Nat} {s : State} (hreach : Reach Variant.good (Sched.init mr mq ds) s)
    (hs : Stuck s) (hl : s.loaders = [])
    (hheld : ∀ r q, r < s.nRunners → q ∈ (s.runners r).holders → (s.reqs q).done = true) :
    (∀ r, r < s.nRunners → (s.runners r).closed = true) ∧ s.loaded = [] ∧
    s.cpc = .idle ∧ s.finishedQ = [] ∧ s.expiredQ = [] := by
  have h := reach_invAll hreach
  obtain ⟨hu, hc, hf, he, hr, ht⟩ := hs.quiet h hl
  have hclosed : ∀ r, r < s.nRunners → (s.runners r).closed = true := by
    intro r hrn
    cases hcl : (s.runners r).closed with
    | true => rfl
    | false =>
      exfalso
      rcases h.i6.w r hrn hcl with hw | hw | hw | hw | hw | hw | hw
      · -- held: some holder, whose finish event can move
        obtain ⟨q, hq, hmem⟩ := held_has_waiter h hf hc hrn (hu r) hw
        exact not_enabled_of_stuck hs (.finishSend q) rfl ⟨hmem, hheld r q hrn hq⟩
      · have := hu r; simp [Runner.locked, hw] at this
      · exact not_enabled_of_stuck hs (.timerFire r) rfl ⟨hrn, hw⟩
      · rw [ht] at hw; cases hw
      · rw [he] at hw; cases hw
      · rw [hr] at hw; cases hw
      · rw [hc] at hw; cases hw
  refine ⟨hclosed, ?_, hc, hf, he⟩
  cases hld : s.loaded with
  | nil => rfl
  | cons p rest =>
    have hw := h.base.i3.wf p (by rw [hld]; simp)
    have := hclosed p.2 hw.1
    rw [hw.2.2] at this; cases this

theorem drain {mr mq ds : Nat} {s : State} (hreach : Reach Variant.good (Sched.init mr mq ds) s)
    (hs : Stuck s) (hdone : ∀ q, q < s.nReqs → (s.reqs q).done = true) (hl : s.loaders = []) :
    (∀ r, r < s.nRunners → (s.runners r).closed = true) ∧ s.loaded = [] ∧
    s.cpc = .idle ∧ s.finishedQ = [] ∧ s.expiredQ = [] :=
  have i4 := (reach_invAll hreach).base.i4
  drained_of_stuck hreach hs hl (fun r q hr hq => hdone q (i4.g1 q r (i4.g2 r q hr hq)).2.1)

/-- non-vacuity: a drained run.  One request is served, completes, its keep-alive timer fires, the
    runner is unloaded; the final state is reachable, stuck, all requests are done, no load in flight. -/
def drainedTrace : List Act := [
  .submit 0 0 none, .pTake, .pLookup {}, .pLoad true, .loadDone 0 true,
  .done 0, .finishSend 0, .cTakeFinished, .cFin, .timerFire 0, .timerCb 0, .cTakeExpired, .cExp, .cVram, .pDrainUnloaded]

theorem drained_trace_runs :
    (run Variant.good (Sched.init 0 512 1) drainedTrace).map
      (fun s => (s.runners 0).closed && s.loaded.isEmpty && s.loaders.isEmpty && (s.reqs 0).done &&
                s.nReqs == 1 && s.nRunners == 1 && s.ppc == .idle && s.cpc == .idle && s.pendingQ.isEmpty &&
                s.finishedQ.isEmpty && s.expiredQ.isEmpty && s.unloadedQ == 0 && s.finishWaiters.isEmpty &&
                s.requeuers.isEmpty && s.delayed.isEmpty && s.timerCbs.isEmpty && s.unloaders.isEmpty &&
                !(s.runners 0).timerArmed) = some true := by decide

/-- **Every request that can be answered has been answered** (first sentence of C02, liveness half):
    in every reachable state of the good variant in which nothing internal is enabled, no load is
    in flight and every request that holds a runner has finished ("loads in flight finish and the
    requests ahead of it eventually complete"), the pending loop is idle and nothing is queued or
    waiting to be re-queued — so, by `never_lost`, every accepted request has received its single
    reply, or was skipped because its caller had already cancelled it. -/
theorem all_answered {mr mq ds : Nat} {s : State} (hreach : Reach Variant.good (Sched.init mr mq ds) s)
    (hs : Stuck s) (hl : s.loaders = []) (hq : 0 < s.maxQueue)
    (hheld : ∀ r q, r < s.nRunners → q ∈ (s.runners r).holders → (s.reqs q).done = true) :
    s.ppc = .idle ∧ s.pendingQ = [] ∧ s.delayed = [] ∧
    ∀ q, q < s.nReqs → ((s.reqs q).replies = 1 ∨ ((s.reqs q).replies = 0 ∧ (s.reqs q).dropped = true ∧ (s.reqs q).done = true)) := by
  have h8 := reach_invAll8 hreach
  have h := h8.all
  obtain ⟨hu, hc, hf, he, hr, ht⟩ := hs.quiet h hl
  -- the pending loop is idle
  have hp : s.ppc = .idle := by
    cases hpc : s.ppc with
    | idle => rfl
    | eval q => exact absurd ⟨⟨q, hpc⟩, by decide⟩ (not_enabled_of_stuck hs (.pLookup {}) rfl)
    | needsReload q r => exact absurd ⟨q, r, hpc, hu r⟩ (not_enabled_of_stuck hs .pNeedsReload rfl)
    | pinging q r => exact absurd ⟨q, hpc⟩ (not_enabled_of_stuck hs (.pingDone r false) rfl)
    | use q r => exact absurd ⟨q, r, hpc, hu r⟩ (not_enabled_of_stuck hs .pUse rfl)
    | expire q r => exact absurd ⟨q, r, hpc, hu r⟩ (not_enabled_of_stuck hs .pExpire rfl)
    | load q => exact absurd ⟨q, hpc⟩ (not_enabled_of_stuck hs (.pLoad true) rfl)
    | waitUnload q r =>
      exfalso
      rcases h8.i8.u q r hpc with hw | hw | hw | hw | hw | hw | ⟨hw, _⟩
      · exact not_enabled_of_stuck hs .pWaitUnload rfl ⟨⟨q, r, hpc⟩, hw⟩
      · rw [hc] at hw; cases hw
      · rw [he] at hw; cases hw
      · rw [hc] at hw; cases hw
      · rw [hr] at hw; cases hw
      · rw [ht] at hw; cases hw
      · -- still held: but every started runner is shut down, and a shut-down runner has no holder
        have hrn : r < s.nRunners := by
          by_cases hlt : r < s.nRunners
          · exact hlt
          · rw [h.i7.z r (Nat.le_of_not_lt hlt)] at hw; cases hw
        have hc2 := h.base.i4.c2 r hrn
        have hun : (s.runners r).refMuHeld = false := by
          have := hu r; simp [Runner.locked] at this; exact this.1
        rw [h.base.i4.d r hrn ((drained_of_stuck hreach hs hl hheld).1 r hrn), hun] at hc2
        simp at hc2; omega
  have hpq : s.pendingQ = [] := by
    cases hq' : s.pendingQ with
    | nil => rfl
    | cons q rest => exact absurd ⟨hp, q, rest, hq'⟩ (not_enabled_of_stuck hs .pTake rfl)
  have hd : s.delayed = [] := by
    cases hd' : s.delayed with
    | nil => rfl
    | cons q rest =>
      exact absurd ⟨by simp [hd'], by simp [hpq, hq]⟩ (not_enabled_of_stuck hs (.delayedRequeue q) rfl)
  refine ⟨hp, hpq, hd, ?_⟩
  intro q hqn
  have hcount : (pendingSet s).count q = 0 := by
    simp [pendingSet, hpq, hd, hl, hp, PPC.req]
  rcases never_lost hreach q hqn with h1 | h2 | h3
  · exact Or.inl h1.1
  · exact Or.inr ⟨h2.1, h2.2.2.1, h2.2.2.2⟩
  · rw [hcount] at h3; omega

end OllamaVerif.C02
