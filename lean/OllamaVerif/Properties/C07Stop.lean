/-
  C07 — the cut of the slot's record when a stop string truncates the generated text
  (processBatch, stop branch: `tokenLen` next to `common.TruncateStop`).
-/
import OllamaVerif.Model.Runner
import OllamaVerif.Proofs.Basic

namespace OllamaVerif.C07
open OllamaVerif OllamaVerif.Runner

/-- number of leading pieces that the split-back loop of TruncateStop returns in full, given the piece
    lengths and the length of the text before the stop -/
def keptFull : List Nat → Nat → Nat
  | [], _ => 0
  | len :: ls, r => if r = 0 then 0 else if len > r then 0 else 1 + keptFull ls (r - len)

theorem keptFull_le (ls : List Nat) (r : Nat) : keptFull ls r ≤ ls.length := by
  fun_induction keptFull ls r with
  | case1 => exact Nat.le_refl _
  | case2 | case3 => exact Nat.zero_le _
  | case4 len ls r _ _ ih => simp only [List.length_cons]; omega

/-- all pieces are returned in full only if the text before the stop is at least as long as all of them -/
theorem keptFull_all (ls : List Nat) (r : Nat) (h : keptFull ls r = ls.length) : ls.sum ≤ r := by
  fun_induction keptFull ls r with
  | case1 => exact Nat.zero_le _
  | case2 | case3 => cases h
  | case4 len ls r h1 h2 ih =>
    simp only [List.length_cons, List.sum_cons] at h ⊢
    have := ih (by omega); omega

/-- **The split-back loop of TruncateStop**: the pieces it returns spell exactly the text before the stop;
    the first `keptFull` of them are the original pieces, unchanged; there is one more (a cut piece) iff it
    reports `tokenTruncated`. -/
theorem splitBack_spec : ∀ (pieces : List Str) (rem : Str), rem <+: pieces.flatten →
    (splitBack (pieces.map List.length) rem).1.flatten = rem ∧
    (splitBack (pieces.map List.length) rem).1.length =
      keptFull (pieces.map List.length) rem.length + (if (splitBack (pieces.map List.length) rem).2 then 1 else 0) ∧
    (splitBack (pieces.map List.length) rem).1.take (keptFull (pieces.map List.length) rem.length) =
      pieces.take (keptFull (pieces.map List.length) rem.length) := by
  intro pieces
  induction pieces with
  | nil =>
    intro rem h
    have : rem = [] := by simpa using h
    subst this
    simp [splitBack, keptFull]
  | cons p ps ih =>
    intro rem h
    simp only [List.map_cons]
    unfold splitBack keptFull
    by_cases he : rem.isEmpty
    · have : rem = [] := by simpa using he
      subst this
      simp
    · have hne : rem.length ≠ 0 := by
        intro h0; apply he; simpa using h0
      simp only [he, Bool.false_eq_true, if_false, hne]
      by_cases hgt : p.length > rem.length
      · simp [hgt]
      · simp only [hgt, if_false]
        have hL := List.prefix_iff_eq_take.mp h
        simp only [List.flatten_cons] at hL
        have htake : rem.take p.length = p := by
          rw [hL, List.take_take, Nat.min_eq_left (by omega), List.take_left']
          rfl
        have hdrop : rem.drop p.length <+: ps.flatten := by
          rw [hL, List.drop_take, List.drop_left' rfl]
          exact List.take_prefix _ _
        obtain ⟨h1, h2, h3⟩ := ih (rem.drop p.length) hdrop
        simp only [List.length_drop] at h2 h3
        refine ⟨?_, ?_, ?_⟩
        · simp only [List.flatten_cons, h1, List.take_append_drop]
        · simp only [List.length_cons, h2]; omega
        · rw [Nat.add_comm 1, List.take_succ_cons, List.take_succ_cons, h3, htake]

theorem indexOf_eq (sub s : Str) : indexOf sub s = Basic.indexOf sub s := by
  induction s with
  | nil => rfl
  | cons c t ih => simp only [indexOf, Basic.indexOf, ih]; rfl

/-- **What TruncateStop returns**, for a stop string that occurs: the text before the stop, split at the
    original piece boundaries; `kept` leading pieces are returned in full, and `kept` is smaller than the number
    of pieces whenever the stop string is not empty. -/
theorem truncateStop_spec (pieces : List Str) (stop : Str) (idx : Nat)
    (hidx : indexOf stop pieces.flatten = some idx) :
    let tr := truncateStop pieces stop
    let kept := keptFull (pieces.map List.length) idx
    tr.1.flatten = pieces.flatten.take idx ∧
    tr.1.length = kept + (if tr.2 then 1 else 0) ∧
    tr.1.take kept = pieces.take kept ∧
    (stop ≠ [] → kept < pieces.length) := by
  have hb := Basic.indexOf_add_le (indexOf_eq stop _ ▸ hidx)
  have hlen : (pieces.flatten.take idx).length = idx := by simp only [List.length_take]; omega
  obtain ⟨h1, h2, h3⟩ := splitBack_spec pieces (pieces.flatten.take idx) (List.take_prefix _ _)
  rw [hlen] at h2 h3
  simp only [truncateStop, hidx]
  refine ⟨h1, h2, h3, ?_⟩
  intro hs
  have hsl : 0 < stop.length := List.length_pos_iff.mpr hs
  have hle := keptFull_le (pieces.map List.length) idx
  rw [List.length_map] at hle
  refine Nat.lt_of_le_of_ne hle fun heq => ?_
  have := keptFull_all _ idx (by rw [List.length_map]; exact heq)
  rw [← List.length_flatten] at this
  omega

/-- **The "defense-in-depth" decrement of `tokenLen` is dead code**: when the stop string (not empty) occurs,
    TruncateStop either removes at least one piece or reports a cut piece. -/
theorem stop_removes_or_truncates (pieces : List Str) (stop : Str) (idx : Nat) (hs : stop ≠ [])
    (hidx : indexOf stop pieces.flatten = some idx) :
    (truncateStop pieces stop).2 = true ∨ (truncateStop pieces stop).1.length < pieces.length := by
  obtain ⟨_, h2, _, h4⟩ := truncateStop_spec pieces stop idx hidx
  have := h4 hs
  cases ht : (truncateStop pieces stop).2 with
  | true => exact Or.inl rfl
  | false => right; simp only [ht, Bool.false_eq_true, if_false] at h2; omega

/-- **The record after a stop holds exactly the inputs whose text is returned.**  Let the slot's record be
    `base ++ toks`, where `toks` are the tokens of the held-back pieces except the newest one (which was sampled
    but not yet submitted to Decode, so `pieces.length = toks.length + 1`).  When a non-empty stop string occurs
    in the held-back text, the cut `Inputs[:tokenLen]` of processBatch leaves `base ++ toks.take kept`: the
    inputs before the held-back pieces and the tokens of the `kept` pieces that TruncateStop returns in full —
    the tokens of removed pieces and of a piece cut in the middle are dropped from the record. -/
theorem stop_cut_record (base toks : List Tok) (pieces : List Str) (stop : Str) (idx : Nat) (hs : stop ≠ [])
    (hp : pieces.length = toks.length + 1) (hidx : indexOf stop pieces.flatten = some idx) :
    let tr := truncateStop pieces stop
    let kept := keptFull (pieces.map List.length) idx
    (base ++ toks).take (stopTokenLen (base ++ toks).length pieces.length tr.1.length tr.2).toNat =
      base ++ toks.take kept ∧ kept ≤ toks.length ∧ tr.1.take kept = pieces.take kept ∧
      tr.1.flatten = pieces.flatten.take idx := by
  obtain ⟨h1, h2, h3, h4⟩ := truncateStop_spec pieces stop idx hidx
  have hk := h4 hs
  simp only
  refine ⟨?_, by omega, h3, h1⟩
  have hdead := stop_removes_or_truncates pieces stop idx hs hidx
  have hval : (stopTokenLen (base ++ toks).length pieces.length (truncateStop pieces stop).1.length (truncateStop pieces stop).2).toNat =
      base.length + keptFull (pieces.map List.length) idx := by
    unfold stopTokenLen
    simp only [List.length_append]
    cases ht : (truncateStop pieces stop).2 with
    | true =>
      simp only [ht, if_true, Bool.true_or] at h2 ⊢
      omega
    | false =>
      simp only [ht, Bool.false_eq_true, if_false, Nat.add_zero, Bool.false_or] at h2 ⊢
      rcases hdead with hd | hd
      · rw [ht] at hd; cases hd
      · have hne : ¬ pieces.length = (truncateStop pieces stop).1.length := by omega
        simp only [hne, decide_false, Bool.false_eq_true, if_false]
        omega
  rw [hval, List.take_length_add_append]

/-- non-vacuity: pieces `a`, `bc`, `d`, stop `cd`: the text returned is `ab` (first piece in full, second cut),
    the record `9 8 | 0 1` (two prompt inputs, tokens of `a` and `bc`) is cut to `9 8 0` -/
example : truncateStop [['a'], ['b', 'c'], ['d']] ['c', 'd'] = ([['a'], ['b']], true) ∧
    keptFull [1, 2, 1] 2 = 1 ∧
    ([9, 8] ++ [0, 1]).take (stopTokenLen 4 3 2 true).toNat = [9, 8] ++ [0] := by decide +kernel

end OllamaVerif.C07
