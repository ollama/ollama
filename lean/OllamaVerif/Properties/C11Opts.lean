/-
  C11, clause "a request with incompatible options is served by a runner started with its options" / "reuses that
  runner when compatible", END TO END: whenever a step hands runner `r` to request `q`, `r` was started for `q`'s model
  with `q`'s options (`granted_runner_has_request_options`, every reachable state of the good variant).
  Needs the options to be carried along the two grant paths, which the pc invariants of Proofs/Sched*.lean do only for
  the model: `OptsInv` (pending loop in `use` / `pinging` for (q, r) ⇒ opts r = opts q — entered only after needsReload's
  comparison; a loading runner has the options of the request whose load goroutine will be granted it).
  Options of runners and requests are written once, at creation; `Inv s` gives the index bounds for `submit`.
-/
import OllamaVerif.Properties.C11
namespace OllamaVerif.Sched

/-- options carried along the grant paths -/
structure OptsInv (s : State) : Prop where
  oU : ∀ q r, s.ppc = .use q r → (s.runners r).opts = (s.reqs q).opts
  oP : ∀ q r, s.ppc = .pinging q r → (s.runners r).opts = (s.reqs q).opts
  oL : ∀ r, r < s.nRunners → (s.runners r).refMuHeld = true → (s.runners r).opts = (s.reqs (s.runners r).loaderReq).opts

/-- the record `y` may stand where `x` stood: same options and loader, refMu at most released -/
structure Runner.keepsOpts (y x : Runner) : Prop where
  opts : y.opts = x.opts
  loaderReq : y.loaderReq = x.loaderReq
  held : y.refMuHeld = true → x.refMuHeld = true

theorem Runner.keepsOpts.refl (x : Runner) : x.keepsOpts x := ⟨rfl, rfl, id⟩

theorem keepsOpts_upd {f : Rid → Runner} {i : Rid} {y : Runner} (h : y.keepsOpts (f i)) (r : Rid) :
    (upd f i y r).keepsOpts (f r) := by
  unfold upd
  split
  · subst_vars; exact h
  · exact .refl _

theorem OptsInv.frame {s s' : State} (h : OptsInv s)
    (hr : ∀ r, (s'.runners r).keepsOpts (s.runners r)) (hq : ∀ q, (s'.reqs q).opts = (s.reqs q).opts)
    (hU : ∀ q r, s'.ppc = .use q r → (s.runners r).opts = (s.reqs q).opts := by
      first | exact h.oU | (intro _ _ e; cases e))
    (hP : ∀ q r, s'.ppc = .pinging q r → (s.runners r).opts = (s.reqs q).opts := by
      first | exact h.oP | (intro _ _ e; cases e))
    (hn : s'.nRunners = s.nRunners := by rfl) : OptsInv s' := by
  refine ⟨?_, ?_, ?_⟩
  · intro q r hpc
    rw [(hr r).opts, hq]
    exact hU q r hpc
  · intro q r hpc
    rw [(hr r).opts, hq]
    exact hP q r hpc
  · intro r hlt hh
    rw [(hr r).opts, hq, (hr r).loaderReq]
    exact h.oL r (hn ▸ hlt) ((hr r).held hh)

theorem optsInv_step {v : Variant} {s s' : State} {a : Act} (hi : Inv s) (h : OptsInv s) (hs : Step v s a s') : OptsInv s' := by
  have same : ∀ r, (s.runners r).keepsOpts (s.runners r) := fun _ => .refl _
  -- the new request is referred to by nothing yet
  have key : ∀ (rq : ReqId → Req) (pq : List ReqId), (∀ q, q < s.nReqs → (rq q).opts = (s.reqs q).opts) →
      OptsInv { s with nReqs := s.nReqs + 1, reqs := rq, pendingQ := pq } := fun rq pq hq =>
    ⟨fun q r hpc => (h.oU q r hpc).trans (hq q (hi.i3.ltU q r hpc)).symm,
     fun q r hpc => (h.oP q r hpc).trans (hq q (hi.i3.ltPg q r hpc)).symm,
     fun r hr hh => (h.oL r hr hh).trans (hq _ (hi.i2.loaderReq_lt hr hh)).symm⟩
  cases hs
  case submit_queued | submit_full => exact key _ _ (fun q hq => by simp only [upd, if_neg (Nat.ne_of_lt hq)])
  -- a runner is started with the options of the request it is started for
  case pLoad_ok q hpc =>
    refine ⟨(fun _ _ e => by cases e), (fun _ _ e => by cases e), ?_⟩
    intro r hr hh
    simp only [upd] at hh ⊢
    split
    · rfl
    · rename_i hne
      rw [if_neg hne] at hh
      exact h.oL r (by have : r < s.nRunners + 1 := hr; omega) hh
  -- `use` and `pinging` are entered past needsReload's comparison only (`use` also from `pinging`)
  case pNeedsReload_ok ho _ _ => exact h.frame same (fun _ => rfl) (fun _ _ e => by cases e; exact ho)
  case pNeedsReload_parks ho _ =>
    exact h.frame (keepsOpts_upd ⟨rfl, rfl, id⟩) (fun _ => rfl) (hP := fun _ _ e => by cases e; exact ho)
  case pingDone r ok q hpc =>
    refine h.frame (keepsOpts_upd ⟨rfl, rfl, id⟩) (fun _ => rfl) (fun _ _ e => ?_) (fun _ _ e => ?_)
    · cases ok <;> cases e; exact h.oP _ _ hpc
    · cases ok <;> cases e
  case cFin q r _ _ =>
    obtain ⟨rs, _, e, hr⟩ := cFin_writes s q r
    rw [e]
    exact h.frame (fun j => ⟨hr Runner.opts (fun _ _ _ _ _ _ => rfl) j, hr Runner.loaderReq (fun _ _ _ _ _ _ => rfl) j,
      fun e => hr Runner.refMuHeld (fun _ _ _ _ _ _ => rfl) j ▸ e⟩) (upd_congr Req.opts (by rfl))
  -- the load goroutine releases refMu
  case loadDone_ok | loadDone_fail => exact h.frame (keepsOpts_upd ⟨rfl, rfl, nofun⟩) (upd_congr Req.opts (by rfl))
  case cExp_unload => exact h.frame (keepsOpts_upd (by split <;> exact ⟨rfl, rfl, id⟩)) (fun _ => rfl)
  -- every other branch writes no runner or a record that keeps the three fields, and no request or one with the same options
  all_goals first
    | exact h.frame same (fun _ => rfl)
    | exact h.frame same (upd_congr Req.opts (by rfl))
    | exact h.frame (keepsOpts_upd ⟨rfl, rfl, id⟩) (fun _ => rfl)
    | exact h.frame (keepsOpts_upd ⟨rfl, rfl, id⟩) (upd_congr Req.opts (by rfl))

theorem optsInv_init (mr mq ds : Nat) : OptsInv (Sched.init mr mq ds) := by
  refine ⟨?_, ?_, ?_⟩ <;> intros <;> simp_all [Sched.init]

theorem reach_optsInv {mr mq ds : Nat} {s : State} (h : Reach Variant.good (Sched.init mr mq ds) s) : OptsInv s :=
  Reach.induction (optsInv_init mr mq ds) (fun hprev ih hs => optsInv_step (reach_inv (inv_init mr mq ds) hprev) ih hs) h

end OllamaVerif.Sched

namespace OllamaVerif.C11
open OllamaVerif.Sched OllamaVerif.C01

set_option linter.unusedVariables false in  -- `hq` (the property's "accepted request") is not needed
/-- **A granted runner was started with the request's model and options**: a step that hands runner `r` to request `q`
    (its reply changes from "no runner" to `r`) hands out a runner whose load options equal the request's (reuse only when
    compatible; a request with other options is never served by the old runner) and whose model is the request's. -/
theorem granted_runner_has_request_options {mr mq ds : Nat} {s s' : State}
    (h : Reach Variant.good (init0 mr mq ds) s) (a : Act) (hs : step Variant.good s a = some s')
    (q : ReqId) (r : Rid) (hq : q < s.nReqs) (hbefore : (s.reqs q).gotRunner = none)
    (hafter : (s'.reqs q).gotRunner = some r) :
    (s.runners r).opts = (s.reqs q).opts ∧ (s.runners r).model = (s.reqs q).model := by
  have hi := reach_inv (inv_init mr mq ds) h
  rcases grant_cases hs hbefore hafter with ⟨_, hr, hheld, hl⟩ | ⟨_, hpc, _⟩
  · rw [← hl]
    exact ⟨(reach_optsInv h).oL r hr hheld, hi.i4.lr r hr hheld⟩
  · exact ⟨(reach_optsInv h).oU q r hpc, (hi.i4.mU q r hpc).2⟩

/-- instance: the reuse of `reuse_instance` hands out a runner with the request's options -/
example : (run Variant.good (init0 0 512 1) (reuseTrace 0 ++ [.pLookup fit0, .pNeedsReload, .pUse])).map
    (fun s => ((s.runners 0).opts == (s.reqs 1).opts) && ((s.reqs 1).gotRunner == some 0)) = some true := by decide

end OllamaVerif.C11
