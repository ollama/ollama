/-
  C05 — GGUF written by Ollama decodes to the same metadata, tensors and tensor bytes.

  Property theorems; the lemmas are in Proofs/Gguf*.lean.
-/
import OllamaVerif.Proofs.GgufFull
import OllamaVerif.Proofs.GgufShift

namespace OllamaVerif.C05
open OllamaVerif OllamaVerif.Gguf

/-- the (aligned) start of the tensor data section, as the decoder computes it -/
def dataBase (align : Nat) (head : Bytes) : Nat := head.length + padding head.length align

/-- **Tensor bytes at their declared, aligned location.**  For every key/value list and every
    tensor list (any count, any kind, any size residue), if the writer succeeds then every
    tensor's bytes are found at `dataBase + declaredOffset`, and both are multiples of the
    alignment. -/
theorem bytes_at_declared_offset (kvs : List (Bytes × KVal)) (ts : List TIn) (file : Bytes)
    (align : Nat) (halign : alignmentIn kvs = .ok align) (hpos : 0 < align)
    (henc : encode false kvs ts = .ok file) (hwf : ∀ t ∈ ts, WfT t) :
    let head := encHead false align kvs ts
    dataBase align head % align = 0 ∧
    ∀ t o, (t, o) ∈ ts.zip (offsets false align ts 0) →
      o % align = 0 ∧ slice file (dataBase align head + o) t.data.length = t.data := by
  intro head
  obtain ⟨_, hbase, _, hplace⟩ := encode_places kvs ts file align halign hpos henc hwf
  exact ⟨hbase, fun t o hmem => ⟨(hplace t o hmem).1, (hplace t o hmem).2.2⟩⟩

/-- a 4-byte F32 tensor -/
def t4 (n : UInt8) : TIn := ⟨[n], 0, [1], [n, n, n, n]⟩

/-- **Witness of finding F1 (pinned upstream accumulator).**  Three 4-byte F32 tensors: the
    pinned accumulator declares offsets 0, 32, 32 (the third aliases the second); the repaired
    one declares 0, 32, 64. -/
theorem F1_pinned_offsets_alias :
    offsets true 32 [t4 1, t4 2, t4 3] 0 = [0, 32, 32] ∧
    offsets false 32 [t4 1, t4 2, t4 3] 0 = [0, 32, 64] := by decide +kernel

/-- non-vacuity: the hypotheses of `bytes_at_declared_offset` are met by a concrete input -/
example : alignmentIn [] = .ok 32 ∧ (∀ t ∈ [t4 1, t4 2, t4 3], WfT t) ∧
    (encode false [] [t4 1, t4 2, t4 3]).isOk = true := by
  refine ⟨rfl, ?_, by decide +kernel⟩
  intro t ht
  simp only [List.mem_cons, List.not_mem_nil, or_false] at ht
  rcases ht with rfl | rfl | rfl <;> (unfold WfT; decide)

/-- **Round trip** (`Gguf.decode_encode`, Proofs/GgufRoundTrip.lean): writing keys/values (given in key
    order, distinct keys, none of them `general.parameter_count`) and tensors and decoding the file
    yields the same keys and values (+ the parameter count), the same tensor names, kinds and
    dimension-reversed shapes with the declared offsets, the aligned data start, and an end offset
    equal to the file length — for every input meeting the size bounds a real file meets (lengths
    and counts below 2^63 / 2^64, element values in range) and every `maxArraySize`. -/
theorem decode_encode (kvs : List (Bytes × KVal)) (ts : List TIn) (file : Bytes) (align : Nat) (maxArraySize : Int)
    (hsorted : sortKVs kvs = kvs) (hnodup : (kvs.map (·.1)).Nodup)
    (hnoparam : ∀ kv ∈ kvs, kv.1 ≠ keyParamCount)
    (hwkv : ∀ kv ∈ kvs, WfKV kv) (hwt : ∀ t ∈ ts, WfTensor t ∧ WfT t)
    (hnk : kvs.length < two64) (hnt : ts.length < two64)
    (halign : alignmentIn kvs = .ok align) (hpos : 0 < align)
    (hoff : ∀ o ∈ offsets false align ts 0, o < two64)
    (henc : encode false kvs ts = .ok file) (hlen : file.length < two63) :
    decode file maxArraySize none
      = .ok ⟨3, kvs.map (fun kv => (kv.1, toVal (if maxArraySize = 0 then 1024 else maxArraySize) kv.2)) ++
                [(keyParamCount, .scalar 10 (sumParameters (infosOf ts (offsets false align ts 0))))],
             infosOf ts (offsets false align ts 0),
             (encHead false align kvs ts).length + padding (encHead false align kvs ts).length align, file.length⟩ :=
  OllamaVerif.Gguf.decode_encode kvs ts file align maxArraySize hsorted hnodup hnoparam hwkv hwt hnk hnt halign hpos
    hoff henc hlen

/-- **Round trip, keys given in any order** (the writer sorts them: `slices.Sort(keys)`): the decoder
    returns the written keys and values in key order (`sortKVs kvs`; for a Go map the order is
    immaterial) followed by the parameter count. -/
theorem decode_encode_any_key_order (kvs : List (Bytes × KVal)) (ts : List TIn) (file : Bytes) (align : Nat)
    (maxArraySize : Int)
    (hnodup : (kvs.map (·.1)).Nodup)
    (hnoparam : ∀ kv ∈ kvs, kv.1 ≠ keyParamCount)
    (hwkv : ∀ kv ∈ kvs, WfKV kv) (hwt : ∀ t ∈ ts, WfTensor t ∧ WfT t)
    (hnk : kvs.length < two64) (hnt : ts.length < two64)
    (halign : alignmentIn kvs = .ok align) (hpos : 0 < align)
    (hoff : ∀ o ∈ offsets false align ts 0, o < two64)
    (henc : encode false kvs ts = .ok file) (hlen : file.length < two63) :
    decode file maxArraySize none
      = .ok ⟨3, (sortKVs kvs).map (fun kv => (kv.1, toVal (if maxArraySize = 0 then 1024 else maxArraySize) kv.2)) ++
                [(keyParamCount, .scalar 10 (sumParameters (infosOf ts (offsets false align ts 0))))],
             infosOf ts (offsets false align ts 0),
             (encHead false align kvs ts).length + padding (encHead false align kvs ts).length align, file.length⟩ := by
  have h := decode_written kvs ts file [] align 0 maxArraySize Guards.tree hnodup hnoparam (fun kv h => (hwkv kv h).2.typed)
    (fun t h => ⟨(hwt t h).1.typed, (hwt t h).2⟩) halign hpos (Nat.zero_mod _) henc (by omega)
  simp only [List.append_nil, Nat.zero_add] at h
  exact h

/-- **The property in one statement, at full strength** (Proofs/GgufFull.lean).  For every key/value list over the
    eight value types the writer supports (keys in any order and distinct — a Go map —, empty strings and arrays
    included, `general.alignment` any non-zero uint32), every tensor list (any count, names, kinds, shapes, size
    residues) and every `maxArraySize`: if the writer produced `file`, the decoder returns a value `d` with
    `RoundTrip`: the written keys and values (as the list in key order and as look-ups; nothing else but the parameter
    count), tensor by tensor the written name, kind and dimension-reversed shape, the written bytes at
    `d.tensorOffset + offset`, that location inside the file and a multiple of the alignment, and
    `d.endOffset = file.length`.
    The only size bound is `file.length < 2^63` (a part of the file is no longer than the file); `decode_encode`,
    `decode_encode_any_key_order`, `end_offset_is_file_length`, `create_takes_written_file_whole` are weaker forms with
    a separate bound on every part (`Gguf.decode_written` is behind them all).  What is left
    as hypotheses: Go's types (`TypedVal`, `TypedTensor`), the data-source contract `WfT` (a tensor's `WriterTo` writes
    `Size()` bytes), no written `general.parameter_count` (the decoder overwrites it), alignment ≠ 0. -/
theorem write_decode_full (kvs : List (Bytes × KVal)) (ts : List TIn) (file : Bytes) (align : Nat) (maxArraySize : Int)
    (hnodup : (kvs.map (·.1)).Nodup)
    (hnoparam : ∀ kv ∈ kvs, kv.1 ≠ keyParamCount)
    (htv : ∀ kv ∈ kvs, TypedVal kv.2) (htt : ∀ t ∈ ts, TypedTensor t ∧ WfT t)
    (halign : alignmentIn kvs = .ok align) (hpos : 0 < align)
    (henc : encode false kvs ts = .ok file) (hlen : file.length < two63) :
    ∃ d, decode file maxArraySize none = .ok d ∧
      RoundTrip kvs ts file align (if maxArraySize = 0 then 1024 else maxArraySize) d :=
  OllamaVerif.Gguf.write_decode_full kvs ts file align maxArraySize hnodup hnoparam htv htt halign hpos henc hlen

/-- non-vacuity of `write_decode_full`: keys out of order (the alignment key after `zz`), an empty string, an empty
    array, a two-element array; three tensors whose size (4) is not a multiple of the alignment (8) -/
def kvFull : List (Bytes × KVal) :=
  [([122, 122], .str []), (keyAlignment, .u32 8), ([97], .astr []), ([98], .ai32 [4294967295, 0])]

example : (kvFull.map (·.1)).Nodup ∧ (∀ kv ∈ kvFull, kv.1 ≠ keyParamCount ∧ TypedVal kv.2) ∧
    alignmentIn kvFull = .ok 8 ∧ (∀ t ∈ [t4 1, t4 2, t4 3], TypedTensor t ∧ WfT t) ∧
    (encode false kvFull [t4 1, t4 2, t4 3]).isOk = true := by
  refine ⟨by decide, ?_, rfl, ?_, by decide +kernel⟩
  · simp only [kvFull, List.forall_mem_cons, List.not_mem_nil, false_imp_iff, implies_true, TypedVal, and_true]
    decide
  · intro t ht
    simp only [List.mem_cons, List.not_mem_nil, or_false] at ht
    rcases ht with rfl | rfl | rfl <;>
      exact ⟨⟨by decide, by decide, by decide⟩, by unfold WfT; decide⟩

/-- **A written file decoded as the 2nd, 3rd, … model of an upload** (Proofs/GgufShift.lean): with the reader at file
    position `p`, a multiple of the file's alignment (the decoder pads to absolute file offsets), and whatever bytes
    follow the file, the decode succeeds and ends at `p + file.length` — where the next model starts.
    (`Gguf.decode_written` gives the whole decoded value: same keys, values, tensor infos; data start moved by `p`.) -/
theorem decode_written_file_at (file tail : Bytes) (align p : Nat) (maxArraySize : Int) (hw : Written file align)
    (hp : p % align = 0) (hlen : p + file.length < two63) :
    ∃ d, decodeFrom ⟨file ++ tail, p⟩ maxArraySize none = .ok d ∧ d.endOffset = p + file.length :=
  decode_written_at file tail align p maxArraySize hw hp hlen

/-- **create on several written files uploaded back to back** (`server/create.go ggufLayers`, the use of the end offset
    the property names): two or more non-empty written files, each starting at a multiple of its own alignment: create
    answers with exactly one layer per file; layer i starts where file i starts and is exactly as long as file i
    (`LayersMatch`) — every layer is exactly one model. -/
theorem create_layers_of_written_files (fs : List (Bytes × Nat)) (maxSeek : Nat)
    (h2 : 2 ≤ fs.length) (hpos : ∀ f ∈ fs, 0 < f.1.length)
    (haw : AlignedWritten 0 fs)
    (hlt : (fs.map (·.1)).flatten.length < two63) (hms : (fs.map (·.1)).flatten.length ≤ maxSeek) :
    ∃ out, ggufLayers (fs.map (·.1)).flatten none Guards.tree maxSeek = some (.ok out) ∧
      LayersMatch out (startsFrom 0 (fs.map (·.1))) (fs.map (·.1)) :=
  OllamaVerif.Gguf.create_layers_of_written_files fs maxSeek h2 hpos haw hlt hms

/-- non-vacuity: a file written with alignment 1 (any start is aligned), uploaded twice -/
def kvA1 : List (Bytes × KVal) := [(keyAlignment, .u32 1)]
example : (encode false kvA1 [t4 1]).isOk = true := by decide +kernel
example (f : Bytes) (h : encode false kvA1 [t4 1] = .ok f) : AlignedWritten 0 [(f, 1), (f, 1)] := by
  have hw : Written f 1 := ⟨⟨kvA1, [t4 1], by decide, by
    intro kv hkv; simp only [kvA1, List.mem_singleton] at hkv; subst hkv; decide, by
    intro kv hkv; simp only [kvA1, List.mem_singleton] at hkv; subst hkv; unfold TypedVal; decide, by
    intro t ht; simp only [List.mem_singleton] at ht; subst ht
    exact ⟨⟨by decide, by decide, by decide⟩, by unfold WfT; decide⟩, rfl, by decide, h⟩⟩
  exact ⟨hw, Nat.mod_one _, hw, Nat.mod_one _, trivial⟩

/-- **The round trip for the tensor list the caller passed** (the writer sorts the list before writing; `written` is any
    permutation of `ts`): every tensor of the caller's list is found with its name, kind, reversed shape and bytes at an
    aligned location inside the file, and the decoded list has the same length (Proofs/GgufFull.lean). -/
theorem write_decode_caller_list (kvs : List (Bytes × KVal)) (ts written : List TIn) (file : Bytes) (align : Nat)
    (maxArraySize : Int) (hperm : written.Perm ts)
    (hnodup : (kvs.map (·.1)).Nodup)
    (hnoparam : ∀ kv ∈ kvs, kv.1 ≠ keyParamCount)
    (htv : ∀ kv ∈ kvs, TypedVal kv.2) (htt : ∀ t ∈ ts, TypedTensor t ∧ WfT t)
    (halign : alignmentIn kvs = .ok align) (hpos : 0 < align)
    (henc : encode false kvs written = .ok file) (hlen : file.length < two63) :
    ∃ d, decode file maxArraySize none = .ok d ∧ d.endOffset = file.length ∧ d.tensors.length = ts.length ∧
      ∀ t ∈ ts, ∃ (i : Nat) (hi : i < d.tensors.length),
        d.tensors[i].name = t.name ∧ d.tensors[i].kind = t.kind ∧ d.tensors[i].shape = t.shape.reverse ∧
        d.tensors[i].offset % align = 0 ∧
        d.tensorOffset + d.tensors[i].offset + t.data.length ≤ file.length ∧
        slice file (d.tensorOffset + d.tensors[i].offset) t.data.length = t.data :=
  OllamaVerif.Gguf.write_decode_caller_list kvs ts written file align maxArraySize hperm hnodup hnoparam htv htt halign hpos henc hlen

/-! ### finding F1c: the writer accepts a `general.alignment` its own decoder rejects

  `WriteGGUF` reads the alignment with `kv.Uint("general.alignment", 32)`; `keyValue[uint32]` treats a key stored with
  another type as missing, so the file is laid out with 32 and the key is written with its own type; a `uint32(0)` is
  only noticed when a tensor has to be padded.  `Decode` insists on a non-zero uint32.  The guard
  `alignmentIn kvs = .ok align` ∧ `0 < align` of the theorems above excludes exactly these inputs.  The repaired writer
  (`encode … (strict := true)`, proposed_fixes/C05-F1c-writer-alignment.patch) refuses them. -/

/-- the written bytes of a tensorless file (kernel-reducible for the witnesses: `sortKVs` of one pair) -/
def fileOf1 (kv : Bytes × KVal) : Bytes := encHeader 0 1 ++ encKV kv

/-- outcome tests usable with `decide` -/
def okIs (x : Except Err Nat) (n : Nat) : Bool := match x with | .ok a => a == n | .error _ => false
def errIs {α : Type} (x : Except Err α) (e : Err) : Bool := match x with | .error e' => e' == e | .ok _ => false

/-- **Witness F1c (alignment stored as a string)**: the lenient writer succeeds — laying the file out with 32 — and the
    decoder rejects what it wrote; the repaired writer refuses the input. -/
theorem F1c_writer_accepts_what_decoder_rejects :
    okIs (writerAlignment false [(keyAlignment, .str [97, 98, 99])]) 32 = true ∧
    errIs (decode (fileOf1 (keyAlignment, .str [97, 98, 99])) 0 none) (.invalid "alignment type") = true ∧
    errIs (writerAlignment true [(keyAlignment, .str [97, 98, 99])]) (.invalid "general.alignment") = true := by decide +kernel

/-- **Witness F1c (alignment `uint32(0)`, no tensors)** -/
theorem F1c_zero_alignment_without_tensors :
    okIs (writerAlignment false [(keyAlignment, .u32 0)]) 0 = true ∧
    errIs (decode (fileOf1 (keyAlignment, .u32 0)) 0 none) (.invalid "alignment zero") = true ∧
    errIs (writerAlignment true [(keyAlignment, .u32 0)]) (.invalid "general.alignment") = true := by decide +kernel

theorem fileOf1_is_encode (kv : Bytes × KVal) (a : Nat) (h : writerAlignment false [kv] = .ok a) :
    encode false [kv] [] = .ok (fileOf1 kv) := by
  unfold encode
  rw [h]
  simp [bind, Except.bind, pure, Except.pure, encHead, fileOf1, sortKVs, encTInfos, encData]

/-- **The round trip for the repaired writer: no alignment hypothesis left.**  If the strict writer produced `file`, the
    decoder returns the `RoundTrip` value for the alignment the key/values ask for. -/
theorem write_decode_full_repaired_writer (kvs : List (Bytes × KVal)) (ts : List TIn) (file : Bytes) (maxArraySize : Int)
    (hnodup : (kvs.map (·.1)).Nodup)
    (hnoparam : ∀ kv ∈ kvs, kv.1 ≠ keyParamCount)
    (htv : ∀ kv ∈ kvs, TypedVal kv.2) (htt : ∀ t ∈ ts, TypedTensor t ∧ WfT t)
    (henc : encode false kvs ts true = .ok file) (hlen : file.length < two63) :
    ∃ align d, alignmentIn kvs = .ok align ∧ 0 < align ∧ decode file maxArraySize none = .ok d ∧
      RoundTrip kvs ts file align (if maxArraySize = 0 then 1024 else maxArraySize) d := by
  obtain ⟨align, ha, hpos, henc'⟩ := encode_strict kvs ts file henc
  obtain ⟨d, hd, hr⟩ := OllamaVerif.Gguf.write_decode_full kvs ts file align maxArraySize hnodup hnoparam htv htt ha hpos henc' hlen
  exact ⟨align, d, ha, hpos, hd, hr⟩

/-- non-vacuity: the strict writer accepts `kvFull` (alignment 8) -/
example : (encode false kvFull [t4 1, t4 2, t4 3] true).isOk = true := by decide +kernel

/-- **create on ANY single written file** (`Written`; the only bound is the file length): one layer, the uploaded blob itself -/
theorem create_takes_any_written_file_whole (file : Bytes) (align : Nat) (hw : Written file align) (hlen : file.length < two63) :
    ∃ d m, decode file 0 none = .ok d ∧ d.endOffset = file.length ∧
      ggufLayers file = some (.ok [⟨0, file.length, true, m, d⟩]) := by
  obtain ⟨d, hd, hend⟩ := decode_written_at file [] align 0 0 hw (Nat.zero_mod _) (by omega)
  simp only [List.append_nil, Nat.zero_add] at hd hend
  obtain ⟨m, hm⟩ := mediaType_all d.kvs
  exact ⟨d, m, hd, hend, ggufLayers_single file none Guards.tree _ d m hd hend (by unfold two63 at *; omega) hm⟩

/-- non-vacuity of `create_layers_of_written_files` with the DEFAULT alignment: a file whose length (96) is a multiple of
    32 — its single F32 tensor has 8 elements — uploaded twice -/
def t32 : TIn := ⟨[116], 0, [8], List.replicate 32 7⟩
def file96 : Bytes := encHeader 1 0 ++ encTInfo t32 0 ++ List.replicate 7 0 ++ t32.data
theorem file96_written : encode false [] [t32] = .ok file96 ∧ file96.length = 96 := by
  refine ⟨?_, by decide⟩
  have hs : sortKVs [] = [] := by simp [sortKVs]
  have hpad : padding 57 32 = 7 := by decide
  have hlen : (encHeader 1 0 ++ encTInfo t32 0).length = 57 := by decide
  unfold encode writerAlignment
  simp only [List.find?_nil, Option.map_none, bind, Except.bind, pure, Except.pure, encHead, hs, List.flatMap_nil,
    List.length_nil, List.length_cons, List.append_nil, offsets, encTInfos, encData]
  rw [if_neg (by decide)]
  have h0 : (0 : Nat) + padding 0 32 = 0 := by decide
  simp only [h0, hlen, hpad, file96, List.append_assoc]

example : AlignedWritten 0 [(file96, 32), (file96, 32)] := by
  have hw : Written file96 32 := by
    refine ⟨⟨[], [t32], by decide, ?_, ?_, ?_, rfl, by decide, file96_written.1⟩⟩
    · intro kv hkv; cases hkv
    · intro kv hkv; cases hkv
    · intro t ht
      simp only [List.mem_singleton] at ht; subst ht
      exact ⟨⟨by decide, by decide, by decide⟩, by unfold WfT; decide⟩
  exact ⟨hw, by decide, hw, by rw [file96_written.2], trivial⟩

/-- the writer's sort keeps the set of keys (of the decoded keys `RoundTrip.lookup` and `RoundTrip.only` speak) -/
theorem decoded_keys_are_written_keys (kvs : List (Bytes × KVal)) (k : Bytes) :
    k ∈ (sortKVs kvs).map (·.1) ↔ k ∈ kvs.map (·.1) :=
  ((sortKVs_perm kvs).map (·.1)).mem_iff

theorem end_offset_is_file_length (kvs : List (Bytes × KVal)) (ts : List TIn) (file : Bytes) (align : Nat) (maxA : Int)
    (hsorted : sortKVs kvs = kvs) (hnodup : (kvs.map (·.1)).Nodup)
    (hnoparam : ∀ kv ∈ kvs, kv.1 ≠ keyParamCount)
    (hwkv : ∀ kv ∈ kvs, WfKV kv) (hwt : ∀ t ∈ ts, WfTensor t ∧ WfT t)
    (hnk : kvs.length < two64) (hnt : ts.length < two64)
    (halign : alignmentIn kvs = .ok align) (hpos : 0 < align)
    (hoff : ∀ o ∈ offsets false align ts 0, o < two64)
    (henc : encode false kvs ts = .ok file) (hlen : file.length < two63) :
    (decode file maxA none).toOption.map (·.endOffset) = some file.length := by
  obtain ⟨d, hd, hr⟩ := write_decode_full kvs ts file align maxA hnodup hnoparam (fun kv h => (hwkv kv h).2.typed)
    (fun t h => ⟨(hwt t h).1.typed, (hwt t h).2⟩) halign hpos henc hlen
  rw [hd, ← hr.endOffset]
  rfl

/-- **What create does with a file Ollama wrote** (`server/create.go ggufLayers`, the use of the end
    offset the property names): the upload is recognised as exactly one model and becomes one layer
    that is the uploaded blob itself — whole file, offset 0, nothing copied or cut. -/
theorem create_takes_written_file_whole (kvs : List (Bytes × KVal)) (ts : List TIn) (file : Bytes) (align : Nat)
    (hsorted : sortKVs kvs = kvs) (hnodup : (kvs.map (·.1)).Nodup)
    (hnoparam : ∀ kv ∈ kvs, kv.1 ≠ keyParamCount)
    (hwkv : ∀ kv ∈ kvs, WfKV kv) (hwt : ∀ t ∈ ts, WfTensor t ∧ WfT t)
    (hnk : kvs.length < two64) (hnt : ts.length < two64)
    (halign : alignmentIn kvs = .ok align) (hpos : 0 < align)
    (hoff : ∀ o ∈ offsets false align ts 0, o < two64)
    (henc : encode false kvs ts = .ok file) (hlen : file.length < two63) :
    ∃ d m, decode file 0 none = .ok d ∧ ggufLayers file = some (.ok [⟨0, file.length, true, m, d⟩]) := by
  obtain ⟨d, m, hd, _, hl⟩ := create_takes_any_written_file_whole file align ⟨⟨kvs, ts, hnodup, hnoparam,
    fun kv h => (hwkv kv h).2.typed, fun t h => ⟨(hwt t h).1.typed, (hwt t h).2⟩, halign, hpos, henc⟩⟩ hlen
  exact ⟨d, m, hd, hl⟩

/-- **Layers of a multi-model upload do not overlap**: whatever the upload holds, each layer create
    cuts out of it ends where or before the next one starts — each layer is its own model's extent
    (upstream copied n instead of n − offset bytes: a layer held its model plus part of the next ones;
    finding F1b, repaired in /repo). -/
theorem create_layers_disjoint (bs : Bytes) (budget : Option Nat) (maxSeek : Nat) (out : List GLayer)
    (h : ggufLayers bs budget Guards.tree maxSeek = some (.ok out)) : Disjoint out :=
  ggufLayers_disjoint bs budget Guards.tree rfl maxSeek out h

/-- the hypotheses of `decode_encode` on the key/values and tensors are met by a concrete input: one key (the
    alignment) and three tensors -/
def kvEx : List (Bytes × KVal) := [(keyAlignment, .u32 32)]

example : sortKVs kvEx = kvEx ∧ (kvEx.map (·.1)).Nodup ∧ alignmentIn kvEx = .ok 32 ∧
    (∀ kv ∈ kvEx, kv.1 ≠ keyParamCount ∧ WfKV kv) ∧
    (∀ t ∈ [t4 1, t4 2, t4 3], WfTensor t ∧ WfT t) := by
  refine ⟨by simp [sortKVs, kvEx], by decide, rfl, ?_, ?_⟩
  · intro kv hkv
    simp only [kvEx, List.mem_singleton] at hkv
    subst hkv
    exact ⟨by decide, by unfold WfKV WfVal; decide⟩
  · intro t ht
    simp only [List.mem_cons, List.not_mem_nil, or_false] at ht
    rcases ht with rfl | rfl | rfl <;>
      exact ⟨⟨by decide, by decide, by decide, by decide⟩, by unfold WfT; decide⟩

end OllamaVerif.C05
