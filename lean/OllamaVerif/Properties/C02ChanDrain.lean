/-
  C02 — `drain` and `all_answered` LIFTED TO THE BOUNDED MODEL.

  The two liveness theorems of Properties/C02Drain.lean are about the base model with unbounded event channels; F12d shows
  that with bounded channels a goroutine can park for good.  Here: in every reachable state of the bounded model with /repo's
  parameters in which NO goroutine is parked inside a region and no expireRunner call holds loadedMu, "nothing internal is
  enabled in the bounded model" implies "nothing internal is enabled in the base model" (`stepB_enabled_of_step`: whatever
  the base model can do, the bounded model can do too — as the step itself or by parking the sender on a full channel), so
  `drain_bounded` and `all_answered_bounded` hold.  Complement, stated by the hypotheses: a quiescent bounded state that is
  not drained / not answered has a parked goroutine (the F12d class, `F12d_expiredCh_capacity_wedges`) or an expireRunner
  call that holds loadedMu.
-/
import OllamaVerif.Properties.C02Chan
import OllamaVerif.Properties.C02Drain
namespace OllamaVerif.C02Chan
open OllamaVerif.Sched OllamaVerif.SchedChan OllamaVerif.C02

theorem acquire_none_of_free (b : BState) (me : Act) :
    ∀ (ls held : List Lock), (∀ l, l ∈ ls → lockFree b me l = true) → acquire b me ls held = none := by
  intro ls
  induction ls with
  | nil => intro held _; rfl
  | cons l rest ih =>
    intro held h
    simp only [acquire, h l (by simp), if_true]
    exact ih _ (fun l' hl' => h l' (by simp [hl']))

theorem profile_locks_unlocked {s : State} {a : Act} (he : Enabled s a) :
    ∀ r, Lock.refMu r ∈ (profile Cfg.repo s a).1 → (s.runners r).locked = false := by
  intro r hr
  cases a
  case pNeedsReload | pUse | pExpire | cFin =>
    obtain ⟨q, r0, hpc, hl⟩ := he
    simp only [profile, hpc, List.mem_singleton, Lock.refMu.injEq] at hr
    exact hr ▸ hl
  case cExp =>
    obtain ⟨r0, hpc, hl⟩ := he
    simp [profile, Cfg.repo, hpc] at hr
    exact hr ▸ hl
  case timerCb r0 | unloadRun r0 =>
    simp [profile] at hr
    exact hr ▸ he.2
  case unloadBind m =>
    simp only [profile] at hr
    split at hr
    · simp at hr
    · split at hr
      · simp at hr
      · rename_i hl
        simp at hr
        subst hr
        exact Bool.eq_false_iff.mpr hl
  all_goals (simp [profile] at hr)

/-- the regions that wait for mutexes are entered whoever holds the mutexes -/
theorem enabled_unlockAll {s : State} {a : Act} (ht : takesLocks a = true) (he : Enabled s a) :
    Enabled (unlockAll s) a := by
  cases a
  case pNeedsReload | pUse | pExpire | cFin => obtain ⟨q, r, hpc, _⟩ := he; exact ⟨q, r, hpc, rfl⟩
  case cExp => obtain ⟨r, hpc, _⟩ := he; exact ⟨r, hpc, rfl⟩
  case timerCb | unloadRun => exact ⟨he.1, rfl⟩
  all_goals cases ht

theorem entered_of_enabled {s : State} {a : Act} (he : Enabled s a) : entered Variant.good s a = true := by
  unfold entered
  split
  · exact step_isSome.mpr (enabled_unlockAll ‹_› he)
  · exact step_isSome.mpr he

/-- with nobody parked and no expireRunner call holding loadedMu, whatever the base model can do the bounded model can
    do too (as the step itself, or by parking the sender on a full channel) -/
theorem stepB_enabled_of_step {b : BState} {s' : State} {a : Act} (hp : b.parked = []) (hu : b.base.unloaders = [])
    (hs : step Variant.good b.base a = some s') : (stepB Variant.good Cfg.repo b a).isSome = true := by
  have hacq : acquire b a (profile Cfg.repo b.base a).1 [] = none := by
    apply acquire_none_of_free
    intro l hl
    cases l with
    | loadedMu => simp [lockFree, hp, hu]
    | refMu r => simp [lockFree, hp, profile_locks_unlocked (Enabled.of_step hs) r hl]
  unfold stepB
  simp only [entered_of_enabled (Enabled.of_step hs), hacq, hp, hs]
  simp only [Cfg.repo]
  simp
  split <;> (try split) <;> simp

theorem stuck_of_stuckB {b : BState} (hp : b.parked = []) (hu : b.base.unloaders = [])
    (hs : ∀ a, isProgress a = true → stepB Variant.good Cfg.repo b a = none) : Stuck b.base := by
  intro a ha
  cases hst : step Variant.good b.base a with
  | none => rfl
  | some s' =>
    have := stepB_enabled_of_step hp hu hst
    rw [hs a ha] at this
    cases this

/-- **Drain, bounded model**: in every reachable state of the bounded model (/repo's parameters) in which NO goroutine is
    parked inside a region, no expireRunner call holds loadedMu, nothing internal is enabled, every request is done and no
    load is in flight, every started runner is shut down and nothing is loaded.  (Complement: a quiescent state that is not
    drained has a parked goroutine — F12d — or an expireRunner call holding loadedMu.) -/
theorem drain_bounded {mr mq ds : Nat} {b : BState} (h : ReachB Variant.good Cfg.repo (initB mr mq ds) b)
    (hp : b.parked = []) (hu : b.base.unloaders = [])
    (hs : ∀ a, isProgress a = true → stepB Variant.good Cfg.repo b a = none)
    (hdone : ∀ q, q < b.base.nReqs → (b.base.reqs q).done = true) (hl : b.base.loaders = []) :
    (∀ r, r < b.base.nRunners → (b.base.runners r).closed = true) ∧ b.base.loaded = [] := by
  have := drain (reachB_reach h) (stuck_of_stuckB hp hu hs) hdone hl
  exact ⟨this.1, this.2.1⟩

/-- **Every request that can be answered has been answered, bounded model** (hypotheses as `all_answered`, plus: nobody is
    parked inside a region) -/
theorem all_answered_bounded {mr mq ds : Nat} {b : BState} (h : ReachB Variant.good Cfg.repo (initB mr mq ds) b)
    (hp : b.parked = []) (hu : b.base.unloaders = [])
    (hs : ∀ a, isProgress a = true → stepB Variant.good Cfg.repo b a = none)
    (hl : b.base.loaders = []) (hq : 0 < b.base.maxQueue)
    (hheld : ∀ r q, r < b.base.nRunners → q ∈ (b.base.runners r).holders → (b.base.reqs q).done = true) :
    b.base.ppc = .idle ∧ b.base.pendingQ = [] ∧ b.base.delayed = [] ∧
    ∀ q, q < b.base.nReqs → ((b.base.reqs q).replies = 1 ∨
      ((b.base.reqs q).replies = 0 ∧ (b.base.reqs q).dropped = true ∧ (b.base.reqs q).done = true)) :=
  all_answered (reachB_reach h) (stuck_of_stuckB hp hu hs) hl hq hheld

/-- non-vacuity: the drained one-request history runs in the bounded model without anybody parking, and ends in a state in
    which no candidate internal action of the bounded model is enabled -/
theorem drained_trace_runs_bounded :
    (runB Variant.good Cfg.repo (initB 0 512 1) drainedTrace).map
      (fun b => b.parked.isEmpty && b.base.unloaders.isEmpty && b.base.loaders.isEmpty &&
                (candidates b.base).all (fun a => (stepB Variant.good Cfg.repo b a).isNone) &&
                (b.base.runners 0).closed && b.base.loaded.isEmpty) = some true := by decide

end OllamaVerif.C02Chan
