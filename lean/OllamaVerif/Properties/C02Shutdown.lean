/-
  Server shutdown (routes.go Serve, signal handler): `srvr.Close(); schedDone(); sched.unloadAllRunners()`.

  `unloadAllRunners` takes loadedMu and calls `llama.Close()` for every entry of `loaded` whose `llama != nil`.  It does
  not take the runner's refMu, does not look at refCount and does not set `llama = nil`.  Cancelling the scheduler's
  context does not stop the two loops at once: each returns the next time its `select` picks `ctx.Done()`, and Go's select
  chooses at random among the ready cases, so any scheduler action may still follow.  Hence the model: a `shutdown`
  action, enabled once in any state, that closes every loaded runner that is not closed yet, after which the base
  actions remain enabled (over-approximation of "the loops stop at some select").

    `shutdown_closes_every_started_runner`  C02's drain clause at shutdown (good variant, every reachable state): right
        after unloadAllRunners every runner that was ever started has had exactly one Close()
    `shutdown_closes_runner_in_use`         witness: shutdown closes a runner under a request in progress — by design (the
        process exits); shutdown is not among the events C01 quantifies over
    `shutdown_then_expiry_closes_twice`     witness: if the completed loop handles one more expired event after
        unloadAllRunners (its select may pick expiredCh although ctx is done), `unload()` calls Close() a second time,
        because unloadAllRunners left `llama` non-nil.  Outside C01's quantifier (shutdown); recorded in notes/SCHED.md.
-/
import OllamaVerif.Properties.C01

namespace OllamaVerif.C02Shutdown
open OllamaVerif.Sched OllamaVerif.C01

/-- Scheduler.unloadAllRunners -/
def closeAll (s : State) : State :=
  { s with runners := fun r =>
      if s.loaded.any (fun p => p.2 = r) && !(s.runners r).closed then
        { s.runners r with closeCount := (s.runners r).closeCount + 1 }
      else s.runners r }

inductive SAct
  | sched (a : Act)
  | shutdown
deriving Repr, DecidableEq

structure SState where
  base : State := {}
  shut : Bool := false

def stepS (v : Variant) (s : SState) : SAct → Option SState
  | .sched a => (step v s.base a).map fun b => { s with base := b }
  | .shutdown => if s.shut then none else some { base := closeAll s.base, shut := true }

def runS (v : Variant) : SState → List SAct → Option SState
  | s, [] => some s
  | s, a :: as => match stepS v s a with
    | some s' => runS v s' as
    | none => none

/-- **Drain at shutdown**: in every reachable state of the good variant, right after `unloadAllRunners` every runner that
    was ever started has had exactly one Close() — the ones already unloaded by the scheduler and the ones still loaded -/
theorem shutdown_closes_every_started_runner {mr mq ds : Nat} {s : State}
    (h : Reach Variant.good (init0 mr mq ds) s) (r : Rid) (hr : r < s.nRunners) :
    ((closeAll s).runners r).closeCount = 1 := by
  have hi := reach_inv (inv_init mr mq ds) h
  have hcc := hi.i1.cc r hr
  unfold closeAll
  simp only []
  cases hc : (s.runners r).closed with
  | true => simp [hc] at hcc ⊢; exact hcc
  | false =>
    have hl := lookup_some_mem _ _ _ (hi.i3.live r hr hc)
    have hany : s.loaded.any (fun p => p.2 = r) = true := by
      apply List.any_eq_true.mpr
      exact ⟨_, hl, by simp⟩
    simp [hc] at hcc
    simp [hany, hcc]

def useTrace : List Act := [.submit 0 0 none, .pTake, .pLookup fit0, .pLoad true, .loadDone 0 true]

/-- shutdown closes a runner that a request in progress is using (by design: the process is exiting) -/
theorem shutdown_closes_runner_in_use :
    (runS Variant.good { base := init0 0 512 1 } (useTrace.map .sched ++ [.shutdown])).map
      (fun s => ((s.base.runners 0).closeCount, (s.base.runners 0).holders, (s.base.reqs 0).done)) = some (1, [0], false) := by
  decide

def idleExpiredTrace : List Act :=
  useTrace ++ [.done 0, .finishSend 0, .cTakeFinished, .cFin, .timerFire 0, .timerCb 0]

/-- the completed loop handles one more expired event after unloadAllRunners: a second Close() of the same runner -/
theorem shutdown_then_expiry_closes_twice :
    (runS Variant.good { base := init0 0 512 1 }
        (idleExpiredTrace.map .sched ++
         [.shutdown, .sched .cTakeExpired, .sched .cExp])).map
      (fun s => ((s.base.runners 0).closeCount, (s.base.runners 0).closed)) = some (2, true) := by decide

end OllamaVerif.C02Shutdown
