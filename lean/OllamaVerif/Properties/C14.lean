/-
  C14 — Streamed text stops before stop sequences and is always whole UTF-8.

  Property theorems over the model of `runner/common/stop.go`, `flushPending` and the per-token
  loop of `processBatch` (Model/Stop.lean; helper lemmas in Proofs/Stop.lean).  Every theorem is
  for ALL event lists (pieces / EOS), stop lists and limits; `run pinned limit stops init evs` is the
  state after the script `evs` has been offered to the loop, `f.out` the chunks streamed,
  `f.genText` the concatenation of the pieces sampled up to the terminating event.
  `pinned = true`: the `FindStop` that returns the first LISTED stop (F7, "the pinned code"); `false`: the EARLIEST
  occurrence ("the repaired code", which the tree has: Tie/C14Variant.lean).  After the stream itself: the cache length
  kept when a stop string ends the run, what the `completion` handler hands to the client, the empty stop and stops of
  arbitrary bytes, and witnesses of the defects the model shares with the code (F7, F20).
-/
import OllamaVerif.Proofs.Stop

namespace OllamaVerif.C14
open OllamaVerif OllamaVerif.Stop

/-! ### 1. every streamed chunk is valid UTF-8 (and non-empty) — no hypothesis at all -/

theorem chunks_valid (pinned : Bool) (limit : Int) (stops : List Bytes) (evs : List Ev) :
    ∀ c ∈ (run pinned limit stops init evs).out, validUtf8 c = true ∧ c ≠ [] := by
  refine run_preserves (Q := fun o _ _ => ∀ c ∈ o, validUtf8 c = true ∧ c ≠ []) (fun _ _ _ _ h => h)
    (fun _ _ _ _ _ _ h => h) (fun st hi c hc => ?_) pinned limit stops evs init nofun
  rcases flush_out_chunks st with h | ⟨c', h, hv, hne⟩
  · rw [h] at hc; exact hi c hc
  · rw [h] at hc
    rcases List.mem_append.mp hc with hc | hc
    · exact hi c hc
    · rw [List.mem_singleton.mp hc]; exact ⟨hv, hne⟩

/-! ### 2. the finish reason: the map the code implements (two values for three causes) -/

theorem reason_map (pinned : Bool) (limit : Int) (stops : List Bytes) (evs : List Ev) :
    let f := run pinned limit stops init evs
    (f.done = some .length ↔ f.cause = some .limit) ∧
    (f.done = some .stop ↔ (f.cause = some .eos ∨ ∃ s, f.cause = some (.stopString s))) ∧
    (f.done = none ↔ f.cause = none) := by
  suffices ∀ st : St, st.done = none → st.cause = none →
      let f := run pinned limit stops st evs
      (f.done = some .length ↔ f.cause = some .limit) ∧
      (f.done = some .stop ↔ (f.cause = some .eos ∨ ∃ s, f.cause = some (.stopString s))) ∧
      (f.done = none ↔ f.cause = none) from this init rfl rfl
  intro st
  fun_induction run pinned limit stops st evs with
  | case1 | case3 | case4 => intro _ _; simp
  | case2 st _ => intro h1 h2; simp [h1, h2]
  | case5 st _ _ p st' hd =>
    intro h1 h2
    obtain ⟨s, (hc : st'.cause = _), (hdone : st'.done = _)⟩ := (stepPiece_cause pinned stops st p h1 h2).1 hd
    simp [hc, hdone]
  | case6 st _ _ p st' hd ih =>
    intro h1 h2
    obtain ⟨h1', h2'⟩ := (stepPiece_cause pinned stops st p h1 h2).2 (by simpa using hd)
    exact ih h1' h2'

/-- **What "generated text" and "cause" mean in terms of the script.**  The pieces sampled (`f.gen`)
    are exactly the first events of the script, all of them pieces; the cause says why the next
    event was not consumed: EOS ⇒ the next event is EOS; limit ⇒ the limit is positive and exactly
    `limit` pieces were sampled; still running ⇒ the whole script was consumed and the limit is not
    reached; stop string ⇒ the limit was not exceeded. -/
theorem cause_spec (pinned : Bool) (limit : Int) (stops : List Bytes) (evs : List Ev) :
    let f := run pinned limit stops init evs
    f.gen.map Ev.piece <+: evs ∧
    (f.cause = some .eos → evs[f.gen.length]? = some .eos ∧ f.numPredicted = f.gen.length + 1) ∧
    (f.cause = some .limit → limit > 0 ∧ (f.gen.length : Int) = limit ∧ f.numPredicted = f.gen.length) ∧
    (f.cause = none → f.gen.length = evs.length ∧ ¬ (limit > 0 ∧ (f.gen.length : Int) ≥ limit)) ∧
    (∀ s, f.cause = some (.stopString s) → f.numPredicted = f.gen.length ∧
      ¬ (limit > 0 ∧ (f.gen.length : Int) > limit)) := by
  intro f
  obtain ⟨ps, h1, h2, h3, h4, h5, h6⟩ :=
    consumed_gen pinned limit stops evs init rfl rfl rfl (by intro h; simp [init]; omega)
  have hg : f.gen = ps := by
    have : f.gen = init.gen ++ ps := h1
    simpa [init] using this
  rw [← hg] at h2 h3 h5
  exact ⟨h2, h3, h4, fun h => ⟨(h5 h).1, (h5 h).2.1⟩, h6⟩

/-! ### 3. for ANY bytes: the output is the generated text with some bytes deleted -/

theorem out_sublist_gen (pinned : Bool) (limit : Int) (stops : List Bytes) (evs : List Ev) :
    let f := run pinned limit stops init evs
    (f.outText ++ f.pending.flatten).Sublist f.genText := by
  refine run_preserves (Q := fun o q g => (o.flatten ++ q.flatten).Sublist g.flatten) (fun o q g p h => ?_)
    (fun o q g s idx hidx h => ?_) (fun st h => ?_) pinned limit stops evs init (List.Sublist.refl _)
  · simp only [List.flatten_append, List.flatten_cons, List.flatten_nil, List.append_nil, ← List.append_assoc]
    exact h.append (List.Sublist.refl _)
  · rw [truncateStop_flatten hidx]
    exact ((List.Sublist.refl _).append (List.take_sublist _ _)).trans h
  · rw [flush_out, List.flatten_nil, List.append_nil]
    exact ((List.Sublist.refl _).append (trimValid_prefix _).sublist).trans h

/-! ### 4. generated text that is (a prefix of) valid UTF-8: the output is a prefix of it — ANY stops -/

theorem prefix_valid (pinned : Bool) (limit : Int) (stops : List Bytes) (evs : List Ev) :
    let f := run pinned limit stops init evs
    ValidPrefix f.genText → f.outText <+: f.genText ∧ validUtf8 f.outText = true := by
  have hfin : ∀ (st : St) r c, st.genText = st.outText ++ st.pending.flatten ∧ validUtf8 st.outText = true →
      (st.finish r c).outText <+: (st.finish r c).genText ∧ validUtf8 (st.finish r c).outText = true := fun st r c h => by
    rw [finish_trim h.1 h.2]
    exact ⟨trimValid_prefix _, trimValid_valid _⟩
  refine run_ind_valid (I := fun st => st.genText = st.outText ++ st.pending.flatten ∧ validUtf8 st.outText = true)
    (Q := fun f => f.outText <+: f.genText ∧ validUtf8 f.outText = true) (fun st h => ⟨⟨_, h.1.symm⟩, h.2⟩)
    (fun st h => hfin st _ _ h) (fun st h => hfin { st with numPredicted := st.numPredicted + 1 } _ _ h)
    (fun st p h hvp => ?_) evs init ⟨rfl, validUtf8_nil⟩
  have := step_split pinned stops p h.1 h.2 hvp
  exact ⟨fun _ => this.1, fun hd => ⟨this.2 hd, this.1.2⟩⟩

/-- **No streamed piece splits a character.**  Every boundary between streamed chunks (the end of
    the first `k` chunks, any `k`) is a character boundary of the generated text: what was
    streamed up to there is valid UTF-8, is a prefix of the generated text, and whatever valid
    text the generation is completed to, the part after the boundary is valid on its own. -/
theorem no_split (pinned : Bool) (limit : Int) (stops : List Bytes) (evs : List Ev) (k : Nat) :
    let f := run pinned limit stops init evs
    let cut := (f.out.take k).flatten
    ValidPrefix f.genText →
      validUtf8 cut = true ∧ cut <+: f.genText ∧
      ∀ r, validUtf8 (f.genText ++ r) = true → validUtf8 ((f.genText ++ r).drop cut.length) = true := by
  intro f cut hvp
  have hcv := chunks_valid pinned limit stops evs
  have hv : validUtf8 cut = true :=
    validUtf8_flatten _ (fun c hc => (hcv c (List.mem_of_mem_take hc)).1)
  have hpre : cut <+: f.genText := by
    have h1 : cut <+: f.out.flatten :=
      ⟨(f.out.drop k).flatten, by rw [← List.flatten_append, List.take_append_drop]⟩
    exact h1.trans (prefix_valid pinned limit stops evs hvp).1
  refine ⟨hv, hpre, ?_⟩
  intro r hr
  obtain ⟨y, hy⟩ := hpre
  rw [← hy, List.append_assoc, List.drop_left]
  rw [← hy, List.append_assoc, validUtf8_append_left hv] at hr
  exact hr

/-! ### 5. stop strings (non-empty stops; generated text a prefix of valid UTF-8) -/

/-- **A stop ended the run** ⇒ the output is exactly the generated text before that stop's first
    occurrence, the reason is "stop", and no stop occurred before the last token ("as soon as").
    Which stop: with the first-listed `FindStop` the first *listed* stop occurring in the generated text; with
    the repaired one a stop whose first occurrence is the earliest of all stops. -/
theorem stop_found (pinned : Bool) (limit : Int) (stops : List Bytes) (evs : List Ev) (hok : StopsOk stops) (s : Bytes) :
    let f := run pinned limit stops init evs
    ValidPrefix f.genText → f.cause = some (.stopString s) →
      f.done = some .stop ∧ s ∈ stops ∧
      (∃ idx, indexOf s f.genText = some idx ∧ f.outText = f.genText.take idx ∧
        (pinned = false → ∀ t ∈ stops, ∀ j, indexOf t f.genText = some j → idx ≤ j)) ∧
      (pinned = true → findStop f.genText stops = some s) ∧
      (∀ t ∈ stops, ¬ Occurs t f.gen.dropLast.flatten) := by
  intro f hvp hc
  have := run_main pinned hok limit evs hvp
  unfold Post at this
  rw [hc] at this
  exact ⟨this.1, this.2.1, this.2.2.2.1, this.2.2.1, this.2.2.2.2.1⟩

/-- **A stop of any bytes ended the run** ⇒ reason stop, and the streamed text is the longest valid-UTF-8 prefix of the
    generated text before that stop's first occurrence (a stop that begins inside a character leaves that character's
    first bytes behind, which `flushPending` drops); on the repaired code that occurrence is the earliest of all stops. -/
theorem stop_found_any (pinned : Bool) (limit : Int) (stops : List Bytes) (evs : List Ev) (hne : StopsNe stops)
    (s : Bytes) :
    let f := run pinned limit stops init evs
    ValidPrefix f.genText → f.cause = some (.stopString s) →
      f.done = some .stop ∧ s ∈ stops ∧
      (∃ idx, indexOf s f.genText = some idx ∧ f.outText = trimValid (f.genText.take idx) ∧
        (pinned = false → ∀ t ∈ stops, ∀ j, indexOf t f.genText = some j → idx ≤ j)) ∧
      (∀ t ∈ stops, ¬ Occurs t f.gen.dropLast.flatten) := by
  intro f hvp hc
  have := run_mainG pinned hne limit evs hvp
  unfold PostG at this
  rw [hc] at this
  exact ⟨this.1, this.2.1, this.2.2.2.1, this.2.2.2.2.1⟩

/-- no stop of any bytes ended the run ⇒ none occurs in the generated text, and at EOS / limit everything generated
    (minus a trailing incomplete character) is streamed -/
theorem ends_at_eos_or_limit_any (pinned : Bool) (limit : Int) (stops : List Bytes) (evs : List Ev) (hne : StopsNe stops) :
    let f := run pinned limit stops init evs
    ValidPrefix f.genText → (∀ s, f.cause ≠ some (.stopString s)) →
      (∀ t ∈ stops, ¬ Occurs t f.genText) ∧
      ((f.cause = some .eos ∨ f.cause = some .limit) → f.outText = trimValid f.genText) ∧
      (f.cause = none → f.outText ++ f.pending.flatten = f.genText) := by
  intro f hvp hc
  have := run_mainG pinned hne limit evs hvp
  unfold PostG at this
  cases hcause : f.cause with
  | none =>
    rw [hcause] at this
    exact ⟨this.noOcc, by simp, fun _ => this.split.symm⟩
  | some c =>
    cases c with
    | stopString s => exact absurd hcause (hc s)
    | eos => rw [hcause] at this; exact ⟨this.2.2.1, fun _ => this.2.1, by simp⟩
    | limit => rw [hcause] at this; exact ⟨this.2.2.1, fun _ => this.2.1, by simp⟩

theorem stopped_iff_occurs (pinned : Bool) (limit : Int) (stops : List Bytes) (evs : List Ev) (hne : StopsNe stops) :
    let f := run pinned limit stops init evs
    ValidPrefix f.genText → ((∃ s, f.cause = some (.stopString s)) ↔ ∃ t ∈ stops, Occurs t f.genText) := by
  intro f hvp
  refine ⟨fun ⟨s, hcs⟩ => ?_, fun ⟨t, ht, hocc⟩ => Classical.byContradiction fun hc => ?_⟩
  · obtain ⟨_, hmem, ⟨idx, hidx, _⟩, _⟩ := stop_found_any pinned limit stops evs hne s hvp hcs
    exact ⟨s, hmem, occurs_of_indexOf hidx⟩
  · exact (ends_at_eos_or_limit_any pinned limit stops evs hne hvp fun s h => hc ⟨s, h⟩).1 t ht hocc

/-- **No stop ended the run** (still running, EOS, or limit) ⇒ no stop occurs anywhere in the
    generated text; at EOS / at the limit the output is all of it (minus a trailing incomplete
    character); while running nothing is lost: output ++ pending = generated. -/
theorem ends_at_eos_or_limit (pinned : Bool) (limit : Int) (stops : List Bytes) (evs : List Ev) (hok : StopsOk stops) :
    let f := run pinned limit stops init evs
    ValidPrefix f.genText → (∀ s, f.cause ≠ some (.stopString s)) →
      (∀ t ∈ stops, ¬ Occurs t f.genText) ∧
      ((f.cause = some .eos ∨ f.cause = some .limit) → f.outText = trimValid f.genText) ∧
      ((f.cause = some .eos ∨ f.cause = some .limit) → validUtf8 f.genText = true → f.outText = f.genText) ∧
      (f.cause = none → f.outText ++ f.pending.flatten = f.genText) := by
  intro f hvp hc
  obtain ⟨hno, htrim, hrun⟩ :=
    ends_at_eos_or_limit_any pinned limit stops evs hok.ne hvp hc
  exact ⟨hno, htrim, fun hcs hv => by rw [htrim hcs, trimValid_of_valid hv], hrun⟩

/-- "as soon as the generated text contains a stop the output ends": if any stop occurs in the
    generated text, the run was ended by a stop string -/
theorem stop_honoured (pinned : Bool) (limit : Int) (stops : List Bytes) (evs : List Ev) (hok : StopsOk stops) :
    let f := run pinned limit stops init evs
    ValidPrefix f.genText → (∃ t ∈ stops, Occurs t f.genText) →
      ∃ s, f.cause = some (.stopString s) ∧ f.done = some .stop := by
  intro f hvp hex
  obtain ⟨s, hcs⟩ := (stopped_iff_occurs pinned limit stops evs hok.ne hvp).mpr hex
  exact ⟨s, hcs, (stop_found pinned limit stops evs hok s hvp hcs).1⟩

theorem no_stop_in_output_of_earliest (pinned : Bool) (limit : Int) (stops : List Bytes) (evs : List Ev)
    (hne : StopsNe stops) :
    let f := run pinned limit stops init evs
    ValidPrefix f.genText →
      (∀ s idx, f.cause = some (.stopString s) → indexOf s f.genText = some idx →
        ∀ t ∈ stops, ∀ j, indexOf t f.genText = some j → idx ≤ j) →
      ∀ t ∈ stops, ¬ Occurs t f.outText := by
  intro f hvp hmin t ht hocc
  by_cases hex : ∃ t ∈ stops, Occurs t f.genText
  · obtain ⟨s, hcs⟩ := (stopped_iff_occurs pinned limit stops evs hne hvp).mpr hex
    obtain ⟨_, _, ⟨idx, hidx, hout, _⟩, _⟩ := stop_found_any pinned limit stops evs hne s hvp hcs
    obtain ⟨y, hy⟩ := trimValid_prefix (f.genText.take idx)
    refine not_occurs_take (hne t ht) (hmin s idx hcs hidx t ht) ?_
    rw [← hy, ← hout]; exact hocc.append_right y
  · obtain ⟨y, hy⟩ := (prefix_valid pinned limit stops evs hvp).1
    exact hex ⟨t, ht, hy ▸ hocc.append_right y⟩

/-- the guard under which the multi-stop clause holds: the first *listed* stop occurring in the
    text is also the one that starts earliest -/
def firstListedIsEarliest (stops : List Bytes) (g : Bytes) : Bool :=
  match findStop g stops with
  | none => true
  | some s => stops.all fun t =>
      match indexOf t g, indexOf s g with
      | some j, some i => decide (i ≤ j)
      | _, _ => true

/-- **Multi-stop clause, partial.**  The full statement ("the output contains no stop") is FALSE with
    the first-listed `FindStop` (finding F7, witness below).  It holds whenever the first listed stop that
    occurs in the generated text is also the earliest occurrence. -/
theorem no_stop_in_output_partial (limit : Int) (stops : List Bytes) (evs : List Ev) (hok : StopsOk stops) :
    let f := run true limit stops init evs
    ValidPrefix f.genText → firstListedIsEarliest stops f.genText = true →
      ∀ t ∈ stops, ¬ Occurs t f.outText := by
  intro f hvp hguard
  refine no_stop_in_output_of_earliest true limit stops evs hok.ne hvp
    fun s idx hcs hidx t ht j hj => ?_
  obtain ⟨_, _, _, hfind, _⟩ := stop_found true limit stops evs hok s hvp hcs
  unfold firstListedIsEarliest at hguard
  rw [hfind rfl] at hguard
  have := List.all_eq_true.mp hguard t ht
  rw [hj, hidx] at this
  simpa using this

theorem no_stop_in_output_any (limit : Int) (stops : List Bytes) (evs : List Ev) (hne : StopsNe stops) :
    let f := run false limit stops init evs
    ValidPrefix f.genText → ∀ t ∈ stops, ¬ Occurs t f.outText := by
  intro f hvp
  refine no_stop_in_output_of_earliest false limit stops evs hne hvp fun s idx hcs hidx => ?_
  obtain ⟨_, _, ⟨idx', hidx', _, hmin⟩, _⟩ := stop_found_any false limit stops evs hne s hvp hcs
  cases hidx.symm.trans hidx'
  exact hmin rfl

/-- **Multi-stop clause, full, for the repaired `FindStop`** (`pinned = false`, the one the tree has:
    Tie/C14Variant.lean): for every script, limit and list of valid non-empty stops, if the generated
    text is a prefix of valid UTF-8 then no stop string occurs in what was streamed. -/
theorem no_stop_in_output_fixed (limit : Int) (stops : List Bytes) (evs : List Ev) (hok : StopsOk stops) :
    let f := run false limit stops init evs
    ValidPrefix f.genText → ∀ t ∈ stops, ¬ Occurs t f.outText :=
  no_stop_in_output_any limit stops evs hok.ne

/-- **Single stop**: the full clause.  If the stop occurs in the generated text, the output is
    exactly the text before its first occurrence, contains no stop, and the reason is "stop";
    otherwise the run was not ended by a stop string. -/
theorem single_stop (pinned : Bool) (limit : Int) (s : Bytes) (evs : List Ev) (hs : s ≠ [] ∧ validUtf8 s = true) :
    let f := run pinned limit [s] init evs
    ValidPrefix f.genText →
      (Occurs s f.genText →
        f.done = some .stop ∧ ¬ Occurs s f.outText ∧
        ∃ idx, indexOf s f.genText = some idx ∧ f.outText = f.genText.take idx) ∧
      (¬ Occurs s f.genText → ∀ s', f.cause ≠ some (.stopString s')) := by
  intro f hvp
  have hok : StopsOk [s] := by intro t ht; simp at ht; subst ht; exact hs
  have hiff := stopped_iff_occurs pinned limit [s] evs hok.ne hvp
  constructor
  · intro hocc
    obtain ⟨s', hc⟩ := hiff.mpr ⟨s, by simp, hocc⟩
    obtain ⟨hd, hmem, ⟨idx, hidx1, hidx2, _⟩, hfind', _⟩ := stop_found pinned limit [s] evs hok s' hvp hc
    obtain rfl : s' = s := by simpa using hmem
    refine ⟨hd, ?_, idx, hidx1, hidx2⟩
    cases pinned with
    | false => exact no_stop_in_output_fixed limit [s'] evs hok hvp s' (by simp)
    | true =>
      apply no_stop_in_output_partial limit [s'] evs hok hvp _ s' (by simp)
      unfold firstListedIsEarliest
      rw [hfind' rfl]
      simp [hidx1]
  · intro hno s' hc
    obtain ⟨t, ht, hocc⟩ := hiff.mp ⟨s', hc⟩
    obtain rfl : t = s := by simpa using ht
    exact hno hocc

/-! ### 6. the reader of `seq.responses` may lag: what it receives does not depend on when it reads -/

/-- **The streamed text is a function of (pieces, stops, limit) only.**  `runSched` is the loop with
    the buffered response channel (any capacity `cap`) and a reader that takes `sched[i]` chunks
    after token `i` (`0` = stalled; `tail` per token afterwards), is forced to take one chunk whenever
    the producer blocks on the full buffer, and drains the channel once it is closed.  For every
    schedule the loop ends in the state `run` computes without any channel, the chunks received plus
    the chunks still buffered are exactly `run`'s chunks in order, and when the sequence is done the
    reader has received all of them — so every theorem above about `f.out` is a theorem about what
    a client receives, however slowly it reads. -/
theorem consumer_schedule_independent (pinned : Bool) (limit : Int) (stops : List Bytes) (evs : List Ev)
    (cap tail : Nat) (sched : List Nat) :
    let r := runSched pinned limit stops cap tail init {} sched evs
    let f := run pinned limit stops init evs
    r.1 = f ∧ r.2.recv ++ r.2.buf = f.out ∧ (f.done.isSome = true → r.2.recv = f.out ∧ r.2.buf = []) := by
  intro r f
  obtain ⟨h1, h2, h3⟩ := runSched_eq_run pinned limit stops cap tail evs init {} sched rfl rfl
  refine ⟨h1, h2, fun hd => ?_⟩
  have hb := h3 hd
  have h2' : r.2.recv ++ r.2.buf = f.out := h2
  have hb' : r.2.buf = [] := hb
  rw [hb', List.append_nil] at h2'
  exact ⟨h2', hb'⟩

/-- two different schedules (non-vacuity): a reader stalled for 3 tokens on a channel of capacity 2
    is forced to read once, and still receives the same chunks as a reader that keeps up -/
example :
    let evs := [Ev.piece [0x61], Ev.piece [0x62], Ev.piece [0x63], Ev.piece [0x64], Ev.eos]
    (runSched true 0 [] 2 0 init {} [] evs).2.recv = [[0x61], [0x62], [0x63], [0x64]] ∧
    (runSched true 0 [] 2 0 init {} [] evs).2.forced = 2 ∧
    (runSched true 0 [] 2 9 init {} [] evs).2.recv = [[0x61], [0x62], [0x63], [0x64]] ∧
    (runSched true 0 [] 2 9 init {} [] evs).2.forced = 0 := by decide +kernel

/-- **Client disconnect.**  The HTTP handler closes `seq.quit` and stops reading when the client goes
    away.  Whenever that happens (after any part `e1` of the script, under any schedule and capacity),
    the chunks the reader holds are a prefix, as a list of chunks, of the chunks `run` streams for
    the whole script `e1 ++ e2` — so all the safety clauses (valid UTF-8 chunks, prefix of the
    generated text, no stop inside) hold for what a disconnecting client received.  (What the decode
    loop does after the disconnect — `DoneReasonConnectionClosed` — is not modelled: the select in
    `flushPending` is then nondeterministic; it cannot change what the reader already holds.) -/
theorem disconnect_prefix (pinned : Bool) (limit : Int) (stops : List Bytes) (cap tail : Nat)
    (sched : List Nat) (e1 e2 : List Ev) :
    (runSched pinned limit stops cap tail init {} sched e1).2.recv <+:
      (run pinned limit stops init (e1 ++ e2)).out := by
  obtain ⟨_, h2, _⟩ := runSched_eq_run pinned limit stops cap tail e1 init {} sched rfl rfl
  refine List.IsPrefix.trans ⟨_, h2⟩ ?_
  rw [run_append pinned limit stops e2 e1 init rfl]
  split
  · exact List.prefix_refl _
  · exact run_out_grows pinned limit stops e2 _

/-- **The stream of a sequence does not depend on its batch-mates.**  `runSkips` is `run` with
    `skips[i]` extra calls of processBatch before the i-th sampling step in which the sequence is in
    `s.seqs` but not sampled (its input did not fit into the batch next to the other sequences); only
    the prediction-limit check at the top of the call is made.  For every such schedule the final
    state (chunks, reason, pending, count) is the one of `run`. -/
theorem batch_mates_independent (pinned : Bool) (limit : Int) (stops : List Bytes) (evs : List Ev)
    (skips : List Nat) :
    runSkips pinned limit stops init skips evs = run pinned limit stops init evs :=
  runSkips_eq_run pinned limit stops evs init skips rfl

/-! ### 7. the property as stated, for the earliest-occurrence `FindStop` (`pinned = false`) -/

/-- **C14 for the current tree, all clauses in one statement.**  For every script of pieces/EOS, every
    list of valid non-empty stops, every limit, and every reader schedule / channel capacity: if the
    text generated up to the terminating event is (a prefix of) valid UTF-8 then
    1. every streamed chunk is valid UTF-8 and the streamed text is a prefix of the generated text;
    2. no stop string occurs in the streamed text;
    3. if some stop occurs in the generated text: the reason is "stop" and the streamed text is the
       generated text up to the earliest first occurrence of a stop (it ends immediately before one);
    4. if none occurs: the run ended at EOS (reason "stop") or at the limit (reason "length") with all
       the generated text streamed (minus a trailing incomplete character), or is still running with
       nothing lost;
    5. once the sequence is done, the reader has received exactly these chunks, whatever its schedule. -/
theorem c14_streamed_text (limit : Int) (stops : List Bytes) (evs : List Ev) (hok : StopsOk stops)
    (cap tail : Nat) (sched : List Nat) :
    let f := run false limit stops init evs
    ValidPrefix f.genText →
      ((∀ c ∈ f.out, validUtf8 c = true ∧ c ≠ []) ∧ f.outText <+: f.genText) ∧
      (∀ t ∈ stops, ¬ Occurs t f.outText) ∧
      ((∃ t ∈ stops, Occurs t f.genText) →
        f.done = some .stop ∧ ∃ s ∈ stops, ∃ idx, indexOf s f.genText = some idx ∧
          (∀ t ∈ stops, ∀ j, indexOf t f.genText = some j → idx ≤ j) ∧ f.outText = f.genText.take idx) ∧
      ((∀ t ∈ stops, ¬ Occurs t f.genText) →
        (f.done = some .stop → f.cause = some .eos ∧ f.outText = trimValid f.genText) ∧
        (f.done = some .length → f.cause = some .limit ∧ f.outText = trimValid f.genText) ∧
        (f.done = none → f.outText ++ f.pending.flatten = f.genText)) ∧
      (f.done.isSome = true → (runSched false limit stops cap tail init {} sched evs).2.recv = f.out) := by
  intro f hvp
  refine ⟨⟨chunks_valid false limit stops evs, (prefix_valid false limit stops evs hvp).1⟩,
    no_stop_in_output_fixed limit stops evs hok hvp, ?_, ?_, ?_⟩
  · intro hex
    obtain ⟨s, hc, hd⟩ := stop_honoured false limit stops evs hok hvp hex
    obtain ⟨_, hmem, ⟨idx, h1, h2, h3⟩, _, _⟩ := stop_found false limit stops evs hok s hvp hc
    exact ⟨hd, s, hmem, idx, h1, h3 rfl, h2⟩
  · intro hno
    have hns : ∀ s, f.cause ≠ some (.stopString s) := fun s hc =>
      let ⟨t, ht, hocc⟩ := (stopped_iff_occurs false limit stops evs hok.ne hvp).mp ⟨s, hc⟩
      hno t ht hocc
    obtain ⟨_, htrim, _, hrun⟩ := ends_at_eos_or_limit false limit stops evs hok hvp hns
    obtain ⟨hlen, hstop, hnone⟩ := reason_map false limit stops evs
    refine ⟨fun hd => ?_, fun hd => ?_, fun hd => hrun (hnone.mp hd)⟩
    · rcases hstop.mp hd with h | ⟨s, h⟩
      · exact ⟨h, htrim (Or.inl h)⟩
      · exact absurd h (hns s)
    · have h := hlen.mp hd
      exact ⟨h, htrim (Or.inr h)⟩
  · intro hd
    exact ((consumer_schedule_independent false limit stops evs cap tail sched).2.2 hd).1

/-! ### 8. the same statement with the hypothesis on the SCRIPT (the input), not on the run's own ghost output -/

def scriptPieces : List Ev → List Bytes
  | [] => []
  | .piece p :: r => p :: scriptPieces r
  | .eos :: r => scriptPieces r

def scriptText (evs : List Ev) : Bytes := (scriptPieces evs).flatten

theorem scriptPieces_append (a b : List Ev) : scriptPieces (a ++ b) = scriptPieces a ++ scriptPieces b := by
  induction a with
  | nil => rfl
  | cons e a ih => cases e <;> simp [scriptPieces, ih]

theorem scriptPieces_map_piece (g : List Bytes) : scriptPieces (g.map Ev.piece) = g := by
  induction g with
  | nil => rfl
  | cons p g ih => simp [scriptPieces, ih]

theorem genText_prefix_script (pinned : Bool) (limit : Int) (stops : List Bytes) (evs : List Ev) :
    (run pinned limit stops init evs).genText <+: scriptText evs := by
  obtain ⟨rest, hrest⟩ := (cause_spec pinned limit stops evs).1
  refine ⟨(scriptPieces rest).flatten, ?_⟩
  have h : scriptPieces evs = (run pinned limit stops init evs).gen ++ scriptPieces rest := by
    have h0 := congrArg scriptPieces hrest
    rw [scriptPieces_append, scriptPieces_map_piece] at h0
    exact h0.symm
  show (run pinned limit stops init evs).gen.flatten ++ _ = (scriptPieces evs).flatten
  rw [h, List.flatten_append]

/-- **C14 stated on the input.**  `c14_streamed_text` with the hypothesis moved from the run's own ghost field
    (`ValidPrefix f.genText`) to the script: if the pieces of the script spell (a prefix of) valid UTF-8 — whatever
    way characters and stop strings are split over the pieces, wherever EOS events sit — then all five clauses hold. -/
theorem c14_script (limit : Int) (stops : List Bytes) (evs : List Ev) (hok : StopsOk stops)
    (cap tail : Nat) (sched : List Nat) (hscript : ValidPrefix (scriptText evs)) :
    let f := run false limit stops init evs
    ((∀ c ∈ f.out, validUtf8 c = true ∧ c ≠ []) ∧ f.outText <+: f.genText) ∧
    (∀ t ∈ stops, ¬ Occurs t f.outText) ∧
    ((∃ t ∈ stops, Occurs t f.genText) →
      f.done = some .stop ∧ ∃ s ∈ stops, ∃ idx, indexOf s f.genText = some idx ∧
        (∀ t ∈ stops, ∀ j, indexOf t f.genText = some j → idx ≤ j) ∧ f.outText = f.genText.take idx) ∧
    ((∀ t ∈ stops, ¬ Occurs t f.genText) →
      (f.done = some .stop → f.cause = some .eos ∧ f.outText = trimValid f.genText) ∧
      (f.done = some .length → f.cause = some .limit ∧ f.outText = trimValid f.genText) ∧
      (f.done = none → f.outText ++ f.pending.flatten = f.genText)) ∧
    (f.done.isSome = true → (runSched false limit stops cap tail init {} sched evs).2.recv = f.out) := by
  intro f
  obtain ⟨y, hy⟩ := genText_prefix_script false limit stops evs
  have hvp : ValidPrefix f.genText := by
    rw [← hy] at hscript
    exact hscript.left
  exact c14_streamed_text limit stops evs hok cap tail sched hvp

/-- non-vacuity of `c14_script` in the case that matters for the repaired `FindStop`: two stops, the first LISTED
    (`"z"`) is not the EARLIEST (`"<|"`), a 4-byte character over three tokens, the stop straddling two pieces.
    The repaired variant streams the emoji and ends on `"<|"`; the first-listed variant streams `"<|"` too (F7). -/
example :
    let stops : List Bytes := [[0x7a], [0x3c, 0x7c]]
    let evs := [Ev.piece [0xf0, 0x9f], Ev.piece [0x98], Ev.piece [0x80, 0x3c], Ev.piece [0x7c, 0x7a],
                Ev.piece [0x71], Ev.eos]
    (∀ t ∈ stops, t ≠ [] ∧ validUtf8 t = true) ∧ validUtf8 (scriptText evs) = true ∧
    (run false 9 stops init evs).out = [[0xf0, 0x9f, 0x98, 0x80]] ∧
    (run false 9 stops init evs).cause = some (.stopString [0x3c, 0x7c]) ∧
    (run false 9 stops init evs).numPredicted = 4 ∧
    (run true 9 stops init evs).out = [[0xf0, 0x9f, 0x98, 0x80, 0x3c, 0x7c]] ∧
    (run true 9 stops init evs).cause = some (.stopString [0x7a]) := by decide +kernel

/-- empty pieces (special tokens that decode to `""`) are ordinary events: `"" "a" "" "b"` with stop `"ab"`
    streams nothing and ends with reason stop after 4 tokens -/
example :
    let f := run false 0 [[0x61, 0x62]] init [Ev.piece [], Ev.piece [0x61], Ev.piece [], Ev.piece [0x62], Ev.eos]
    f.out = [] ∧ f.done = some .stop ∧ f.numPredicted = 4 ∧ f.cause = some (.stopString [0x61, 0x62]) := by decide +kernel

/-! ### 9. cache trimming next to TruncateStop: the inputs kept are those of the tokens streamed in full -/

/-- the pieces returned uncut are the original pieces at the same positions -/
theorem shape_whole : ∀ (res pieces : List Bytes) (t : Bool), Shape res pieces t →
    res.take (res.length - (if t then 1 else 0)) = pieces.take (res.length - (if t then 1 else 0)) := by
  intro res pieces t
  fun_induction Shape res pieces t with
  | case1 => intro _; simp
  | case2 => nofun
  | case3 r p _ t =>
    intro h
    cases t with
    | true => simp
    | false =>
      have : r = p := Classical.not_not.mp fun hrp => absurd (h.2.mpr hrp) (by simp)
      simp [this]
  | case4 r r' rs p ps t ih =>
    intro h
    have hk : (r :: r' :: rs).length - (if t then 1 else 0) =
        ((r' :: rs).length - (if t then 1 else 0)) + 1 := by
      cases t <;> simp
    rw [hk, List.take_succ_cons, List.take_succ_cons, ih h.2, h.1]

/-- **Cache trimming at a stop string.**  `pieces` = `seq.pendingResponses` including the token just sampled
    (whose input is not in the cache yet), `cached = len(seq.cache.Inputs)`; every pending piece but the last has its
    input in the cache (`pieces.length ≤ cached + 1`).  For every pending list and every non-empty stop that occurs:
    * `whole` = the number of pieces `TruncateStop` returns uncut, and those ARE the first `whole` original pieces;
    * the new cache length is `cached + 1 - (pieces.length - whole)`: of the `cached + 1` tokens so far exactly the
      ones whose text is not streamed in full are dropped — the "defense-in-depth" case (`origLen == newLen` with
      nothing truncated) never arises;
    * `0 ≤ tokenLen ≤ cached`: the reslice `seq.cache.Inputs[:tokenLen]` neither panics nor extends the slice, and
      the input of the just-sampled token is never claimed. -/
theorem cacheKeep_spec (pieces : List Bytes) (stop : Bytes) (cached idx : Nat)
    (hstop : stop ≠ []) (hidx : indexOf stop pieces.flatten = some idx) (hc : pieces.length ≤ cached + 1) :
    let r := truncateStop pieces stop
    let whole := r.1.length - (if r.2 then 1 else 0)
    r.1.take whole = pieces.take whole ∧ whole < pieces.length ∧
    cacheKeep cached pieces.length r.1.length r.2 = (cached : Int) + 1 - ((pieces.length - whole : Nat) : Int) ∧
    0 ≤ cacheKeep cached pieces.length r.1.length r.2 ∧
    cacheKeep cached pieces.length r.1.length r.2 ≤ (cached : Int) := by
  intro r whole
  have hs : Shape r.1 pieces r.2 := (truncateStop_shape pieces stop).1 idx hidx
  have hlen := shape_len _ _ _ hs
  have hwhole := shape_whole _ _ _ hs
  have hflat : r.1.flatten = pieces.flatten.take idx := truncateStop_flatten hidx
  have hlt : idx < pieces.flatten.length := by
    have := indexOf_add_le hidx
    have : stop.length ≠ 0 := fun h0 => hstop (List.eq_nil_of_length_eq_zero h0)
    omega
  -- nothing cut and every piece returned would mean the whole text is kept, stop included
  have hcut : r.2 = false → r.1.length < pieces.length := by
    intro h2
    refine Nat.lt_of_le_of_ne hlen fun h3 => ?_
    rw [h2] at hwhole
    simp only [Bool.false_eq_true, if_false, Nat.sub_zero] at hwhole
    rw [List.take_length, h3, List.take_length] at hwhole
    rw [hwhole] at hflat
    have := congrArg List.length hflat
    rw [List.length_take] at this
    omega
  have hne : r.2 = true → 1 ≤ r.1.length := fun h =>
    Nat.pos_of_ne_zero fun h0 => shape_trunc_nonempty r.1 pieces (h ▸ hs) (List.eq_nil_of_length_eq_zero h0)
  have hkeep : whole < pieces.length ∧ cacheKeep cached pieces.length r.1.length r.2 =
      (cached : Int) + 1 - ((pieces.length - whole : Nat) : Int) := by
    simp only [whole, cacheKeep]
    cases h : r.2 with
    | true =>
      have := hne h
      simp only [Bool.true_or, if_true]
      omega
    | false =>
      have hl := hcut h
      have hneq : (pieces.length == r.1.length) = false := by rw [beq_eq_false_iff_ne]; omega
      simp only [Bool.false_or, hneq, Bool.false_eq_true, if_false]
      omega
  exact ⟨hwhole, hkeep.1, hkeep.2, by rw [hkeep.2]; omega, by rw [hkeep.2]; omega⟩

/-- non-vacuity: pending `"a" "b<" "|x"` with stop `"<|"`, 7 inputs cached: `TruncateStop` returns `"a" "b"` with the
    second piece cut, one piece is whole, the cache keeps 6 inputs; with the stop `"b<|x"` ending on a piece boundary
    nothing is cut and 6 are kept as well; a stop inside the first of three pending pieces drops all three tokens -/
example :
    truncateStop [[0x61], [0x62, 0x3c], [0x7c, 0x78]] [0x3c, 0x7c] = ([[0x61], [0x62]], true) ∧
    cacheKeep 7 3 2 true = 6 ∧
    truncateStop [[0x61], [0x62, 0x3c], [0x7c, 0x78]] [0x62, 0x3c, 0x7c, 0x78] = ([[0x61]], false) ∧
    cacheKeep 7 3 1 false = 6 ∧
    truncateStop [[0x61, 0x62], [0x63], [0x64]] [0x62, 0x63, 0x64] = ([[0x61]], true) ∧
    cacheKeep 7 3 1 true = 5 := by decide +kernel

/-! ### 10. an EMPTY stop string (outside `StopsOk`): nothing is ever streamed -/

theorem indexOf_nil (seq : Bytes) : indexOf [] seq = some 0 := by
  cases seq <;> simp [indexOf]

/-- **The empty stop.**  `strings.Index(s, "") = 0`: with `""` among the stops the repaired `FindStop` finds a stop at
    offset 0 of the very first piece, `TruncateStop` keeps nothing, and the run ends: for every script and limit the
    streamed text is empty (the property's reading: the generated text "contains" `""` at its very beginning, the
    output ends immediately before it).  Covers the stop lists `StopsOk` excludes because of an empty member. -/
theorem empty_stop_streams_nothing (limit : Int) (stops : List Bytes) (evs : List Ev) (hmem : ([] : Bytes) ∈ stops) :
    (run false limit stops init evs).outText = [] := by
  let I : St → Prop := fun st => st.outText = [] ∧ st.pending = []
  have hfin : ∀ (st : St) r c, I st → (st.finish r c).outText = [] := by
    intro st r c ⟨ho, hp⟩
    rw [finish_outText, St.outText, flush_out, hp]; exact (List.append_nil _).trans ho
  -- the first piece ends the run: `""` occurs at offset 0, so the earliest stop is found there
  have hstep : ∀ st p, I st → (stepPiece false stops st p).outText = [] ∧
      (stepPiece false stops st p).done.isSome = true := by
    intro st p ⟨ho, _⟩
    obtain ⟨-, -, ⟨s, idx, hs, hidx, hout, -, hd, -⟩ | ⟨hn, -⟩ | ⟨hn, -⟩⟩ := stepPiece_text false stops st p
    · obtain ⟨_, i, hi, hmin⟩ := findStopEarliest_spec (show findStopEarliest _ stops = some s from hs)
      obtain rfl : idx = 0 := by
        have := hmin [] hmem 0 (indexOf_nil _)
        rw [hidx] at hi; cases hi; omega
      rw [hout, hd, ho]; exact ⟨rfl, rfl⟩
    · exact absurd ⟨[], _, rfl⟩ (findStopV_none hn [] hmem)
    · exact absurd ⟨[], _, rfl⟩ (findStopV_none hn [] hmem)
  exact run_ind (I := I) (Q := fun f => f.outText = []) (fun _ hi _ => hi.1) (fun st hi _ => hfin st _ _ hi)
    (fun st hi _ => hfin { st with numPredicted := st.numPredicted + 1 } _ _ hi) (fun st p hi _ _ => (hstep st p hi).1)
    (fun st p hi _ hd => by rw [(hstep st p hi).2] at hd; cases hd) evs init ⟨rfl, rfl⟩

/-- non-vacuity / what it looks like: stops `["x", ""]`, pieces `"a" "b"` then EOS: the first token ends the run with
    reason stop and nothing streamed -/
example :
    let f := run false 0 [[0x78], []] init [Ev.piece [0x61], Ev.piece [0x62], Ev.eos]
    f.out = [] ∧ f.done = some .stop ∧ f.numPredicted = 1 ∧ f.cause = some (.stopString []) := by decide +kernel

/-! ### 11. the reslice of the cache is in range on EVERY reachable state -/

/-- **`seq.cache.Inputs[:tokenLen]` never panics and never extends the cache, along every history.**  For every
    script, limit, list of non-empty stops and prompt length: whenever the sequence is removed, the cache length the
    model computes (`cacheLenRun`, compared exactly with `len(seq.cache.Inputs)` of both runners) is non-negative and at
    most the number of inputs that have been submitted by then — the prompt and every sampled token but the last
    (`promptLen + numPredicted − 1`).  The hypothesis of `cacheKeep_spec`
    (every pending piece but the last has its input in the cache) is discharged here from the loop invariant
    `pending.length ≤ numPredicted`. -/
theorem cacheLen_in_range (pinned : Bool) (limit : Int) (stops : List Bytes) (promptLen : Nat)
    (hne : ∀ t ∈ stops, t ≠ []) :
    ∀ (evs : List Ev) (st : St), st.pending.length ≤ st.numPredicted → st.done = none → st.cause = none → ∀ n,
      cacheLenRun pinned limit stops promptLen st evs = some n →
      0 ≤ n ∧ n ≤ (promptLen : Int) + (run pinned limit stops st evs).numPredicted - 1 := by
  intro evs
  induction evs with
  | nil =>
    intro st _ _ _ n h
    unfold cacheLenRun at h
    unfold run
    split at h
    · rename_i hl
      simp only [hl, and_self, if_true, finish_np]
      injection h with h
      omega
    · cases h
  | cons ev rest ih =>
    intro st hinv hdone hcause n h
    unfold cacheLenRun at h
    unfold run
    split at h
    · rename_i hl
      simp only [hl, and_self, if_true, finish_np]
      injection h with h
      omega
    · rename_i hl
      simp only [hl, if_false]
      cases ev with
      | eos =>
        simp only [finish_np] at h ⊢
        injection h with h
        omega
      | piece p =>
        simp only at h ⊢
        obtain ⟨-, hnp, ⟨s, idx, hs, hidx, -, -, hd, hc⟩ | ⟨-, -, -, hp, hd, hc⟩ | ⟨-, -, -, -, hp, hd, hc⟩⟩ :=
          stepPiece_text pinned stops st p
        · -- a stop string ends the run
          rw [hc] at h
          simp only [hd, Option.isSome_some, if_true]
          rw [hnp]
          injection h with h
          obtain ⟨_, _, _, h0, h1⟩ := cacheKeep_spec (st.pending ++ [p]) s (promptLen + st.numPredicted) idx
            (hne s (findStopV_some hs).1) (by simpa using hidx)
            (by rw [List.length_append, List.length_singleton]; omega)
          rw [h] at h0 h1
          exact ⟨h0, by omega⟩
        all_goals
          rw [hc, hcause] at h
          rw [hdone] at hd
          simp only [hd, Option.isSome_none, Bool.false_eq_true, if_false] at h ⊢
          refine ih _ ?_ hd (hc.trans hcause) n h
          rw [hnp, hp]
          simp only [List.length_append, List.length_singleton, List.length_nil]
          omega

/-- the ghost `cacheLenRun` follows `run` -/
theorem cacheLenRun_isSome_iff (pinned : Bool) (limit : Int) (stops : List Bytes) (promptLen : Nat) :
    ∀ (evs : List Ev) (st : St), st.done = none → st.cause = none →
      ((cacheLenRun pinned limit stops promptLen st evs).isSome = (run pinned limit stops st evs).done.isSome) := by
  intro evs
  induction evs with
  | nil =>
    intro st hd _
    unfold cacheLenRun run
    split
    · simp
    · simp [hd]
  | cons ev rest ih =>
    intro st hdone hcause
    unfold cacheLenRun run
    split
    · simp
    · cases ev with
      | eos => simp
      | piece p =>
        simp only
        obtain ⟨hstop, hgo⟩ := stepPiece_cause pinned stops st p hdone hcause
        by_cases hd : (stepPiece pinned stops st p).done.isSome = true
        · obtain ⟨s, hc, _⟩ := hstop hd
          rw [hc]
          simp [hd]
        · obtain ⟨hd', hc⟩ := hgo (by simpa using hd)
          rw [hc]
          simp only [hd', Option.isSome_none, Bool.false_eq_true, if_false]
          exact ih _ hd' hc

theorem cache_reslice_in_range (pinned : Bool) (limit : Int) (stops : List Bytes) (promptLen : Nat)
    (hne : ∀ t ∈ stops, t ≠ []) (evs : List Ev) (n : Int)
    (h : cacheLenRun pinned limit stops promptLen init evs = some n) :
    0 ≤ n ∧ n ≤ (promptLen : Int) + (run pinned limit stops init evs).numPredicted - 1 :=
  cacheLen_in_range pinned limit stops promptLen hne evs init (by simp [init]) rfl rfl n h

/-- non-vacuity: prompt of 3 inputs, pieces `"a" "b<" "|x"`, stop `"<|"`: at the stop 5 inputs are cached (prompt, `a`,
    `b<`), the cut token `b<` and the unsubmitted `|x` are dropped: 4 remain; with EOS instead of the third piece the
    cache holds all 5; at limit 2 it holds 4 (the second token was never submitted) -/
example :
    cacheLenRun false 0 [[0x3c, 0x7c]] 3 init [Ev.piece [0x61], Ev.piece [0x62, 0x3c], Ev.piece [0x7c, 0x78]] = some 4 ∧
    cacheLenRun false 0 [[0x3c, 0x7c]] 3 init [Ev.piece [0x61], Ev.piece [0x62, 0x3c], Ev.eos] = some 5 ∧
    cacheLenRun false 2 [[0x3c, 0x7c]] 3 init [Ev.piece [0x61], Ev.piece [0x62, 0x3c], Ev.piece [0x7c, 0x78]] = some 4 ∧
    cacheLenRun false 0 [[0x3c, 0x7c]] 3 init [Ev.piece [0x61]] = none := by decide +kernel

/-! ### 12. for the whole run: at a stop string the cache holds the prompt and exactly the tokens streamed in full -/

/-- the number of leading pieces that lie entirely within the first `L` bytes of their concatenation -/
def wholeTokens : List Bytes → Nat → Nat
  | [], _ => 0
  | p :: ps, L => if p.length ≤ L then 1 + wholeTokens ps (L - p.length) else 0

theorem wholeTokens_append (fl ps : List Bytes) (L : Nat) :
    wholeTokens (fl ++ ps) (fl.flatten.length + L) = fl.length + wholeTokens ps L := by
  induction fl with
  | nil => simp
  | cons p fl ih =>
    have h1 : p.length ≤ (p :: fl).flatten.length + L := by simp; omega
    have h2 : (p :: fl).flatten.length + L - p.length = fl.flatten.length + L := by simp; omega
    simp only [List.cons_append, wholeTokens, h1, if_true, h2, ih, List.length_cons]
    omega

theorem splitBack_whole : ∀ (pieces : List Bytes) (rem : Bytes), (∀ p ∈ pieces, p ≠ []) →
    ((splitBack (pieces.map List.length) rem).2 = true → 1 ≤ (splitBack (pieces.map List.length) rem).1.length) ∧
    (splitBack (pieces.map List.length) rem).1.length - (if (splitBack (pieces.map List.length) rem).2 then 1 else 0) =
      wholeTokens pieces rem.length := by
  intro pieces
  induction pieces with
  | nil => intro rem _; simp [splitBack, wholeTokens]
  | cons p ps ih =>
    intro rem hne
    have hp : p.length ≠ 0 := fun h0 => hne p (List.mem_cons_self ..) (List.eq_nil_of_length_eq_zero h0)
    simp only [List.map_cons, splitBack, wholeTokens]
    by_cases hemp : rem.isEmpty = true
    · have : rem.length = 0 := by simp [List.isEmpty_iff.mp hemp]
      simp only [hemp, if_true]
      have : ¬ p.length ≤ rem.length := by omega
      simp [this]
    · simp only [hemp, Bool.false_eq_true, if_false]
      by_cases hgt : p.length > rem.length
      · have : ¬ p.length ≤ rem.length := by omega
        simp [hgt, this]
      · have hle : p.length ≤ rem.length := by omega
        obtain ⟨ih1, ih2⟩ := ih (rem.drop p.length) (fun q hq => hne q (List.mem_cons_of_mem _ hq))
        simp only [hgt, if_false, hle, if_true, List.length_cons]
        rw [List.length_drop] at ih2
        refine ⟨fun _ => by omega, ?_⟩
        rw [← ih2]
        cases h2 : (splitBack (List.map List.length ps) (List.drop p.length rem)).2 with
        | false => simp; omega
        | true => have := ih1 h2; simp; omega

/-- **Cache trimming, for the whole run.**  Every script of non-empty pieces that spells (a prefix of) valid UTF-8, every
    limit, every list of valid non-empty stops, every prompt length: if a stop string ends the run, the cache length at
    removal is `promptLen + wholeTokens gen |streamed text|` — the prompt and exactly those generated tokens whose text
    lies entirely within what was streamed.  (Empty pieces are excluded: an empty piece at the cut belongs to neither
    side; `cacheKeep_spec` and L1 `cachelen` cover them.) -/
theorem cache_is_streamed_tokens (pinned : Bool) (limit : Int) (stops : List Bytes) (promptLen : Nat)
    (hok : StopsOk stops) :
    ∀ (evs : List Ev) (st : St), Stop.Inv stops st →
      (∃ fl : List Bytes, st.gen = fl ++ st.pending ∧ fl.flatten = st.outText ∧
        fl.length + st.pending.length = st.numPredicted) →
      (∀ q ∈ st.gen, q ≠ []) → (∀ q, Ev.piece q ∈ evs → q ≠ []) →
      ValidPrefix (st.genText ++ scriptText evs) → ∀ n s,
      cacheLenRun pinned limit stops promptLen st evs = some n →
      (run pinned limit stops st evs).cause = some (.stopString s) →
      n = (promptLen : Int) + wholeTokens (run pinned limit stops st evs).gen
            (run pinned limit stops st evs).outText.length := by
  intro evs
  induction evs with
  | nil =>
    intro st hinv _ _ _ _ n s _ hc
    unfold run at hc
    split at hc
    · simp at hc
    · rw [hinv.cause] at hc; cases hc
  | cons ev rest ih =>
    intro st hinv ⟨fl, hgen, hfl, hcnt⟩ hgne hsne hvp n s h hc
    unfold cacheLenRun at h
    unfold run at hc ⊢
    split at h
    · rename_i hl; simp only [hl, and_self, if_true] at hc; simp at hc
    · rename_i hl
      simp only [hl, if_false] at hc ⊢
      cases ev with
      | eos => simp at hc
      | piece p =>
        simp only at h hc ⊢
        have hvp' : ValidPrefix ((st.genText ++ p) ++ scriptText rest) := by
          rw [List.append_assoc]; exact hvp
        have hgne1 : ∀ q ∈ st.gen ++ [p], q ≠ [] := by
          intro q hq
          rcases List.mem_append.mp hq with hq | hq
          · exact hgne q hq
          · rw [List.mem_singleton.mp hq]; exact hsne p (List.mem_cons_self ..)
        obtain ⟨hgen1, hnp, hcases⟩ := stepPiece_text pinned stops st p
        rcases hcases with ⟨s', idx, hs, hidx, hout, -, hdone, hcause⟩ | ⟨-, -, hout, hpend, hdone, hcause⟩ |
            ⟨-, -, -, hout, hpend, hdone, hcause⟩
        · -- a stop string ends the run: the cache keeps the prompt, the flushed tokens and the whole pending ones
          rw [hcause] at h
          simp only [hdone, Option.isSome_some, if_true] at hc ⊢
          rw [hcause] at hc
          cases hc
          injection h with h
          have hsmem := (findStopV_some hs).1
          have hidx' : indexOf s (st.pending ++ [p]).flatten = some idx := by simpa using hidx
          have hle := indexOf_add_le hidx
          have hvq : validUtf8 ((st.pending.flatten ++ p).take idx) = true := by
            have hq := hvp'.left
            rw [hinv.split, List.append_assoc] at hq
            exact valid_take_indexOf (hok s hsmem).2 (hok s hsmem).1 (hq.right hinv.outValid) hidx
          obtain ⟨_, hlt, hck, _, _⟩ := cacheKeep_spec (st.pending ++ [p]) s (promptLen + st.numPredicted) idx
            (hok s hsmem).1 hidx' (by rw [List.length_append, List.length_singleton]; omega)
          have hw := (splitBack_whole (st.pending ++ [p]) ((st.pending ++ [p]).flatten.take idx)
            (fun q hq => hgne1 q (by rw [hgen, List.append_assoc]; exact List.mem_append_right _ hq))).2
          rw [List.length_take, Nat.min_eq_left (by have := indexOf_add_le hidx'; omega), ← truncateStop_some hidx'] at hw
          rw [hgen1, hgen, List.append_assoc, hout, trimValid_of_valid hvq, List.length_append, List.length_take,
            Nat.min_eq_left (by omega), ← hfl, wholeTokens_append, ← hw, ← h, hck]
          rw [List.length_append, List.length_singleton] at hlt ⊢
          omega
        all_goals
          have hd' : (stepPiece pinned stops st p).done.isSome = false := by rw [hdone, hinv.done]; rfl
          have hinv' := (step_mainG pinned hok.ne p hinv hvp'.left).2 hd'
          rw [hinv'.cause] at h
          simp only [hd', Bool.false_eq_true, if_false] at h hc ⊢
          refine ih _ hinv' ?_ (hgen1 ▸ hgne1) (fun q hq => hsne q (List.mem_cons_of_mem _ hq))
            (by rw [stepPiece_genText]; exact hvp') n s h hc
        · exact ⟨fl, by rw [hgen1, hpend, hgen, List.append_assoc], by rw [hout]; exact hfl,
            by rw [hpend, hnp, List.length_append, List.length_singleton]; omega⟩
        · refine ⟨st.gen ++ [p], by rw [hgen1, hpend, List.append_nil], ?_, by
            rw [hpend, hnp, hgen, List.length_append, List.length_append, List.length_singleton, List.length_nil]
            omega⟩
          have := hinv'.split
          rw [hpend, List.flatten_nil, List.append_nil, St.genText, hgen1] at this
          exact this

theorem cache_at_stop_is_streamed_tokens (pinned : Bool) (limit : Int) (stops : List Bytes) (promptLen : Nat)
    (hok : StopsOk stops) (evs : List Ev) (hne : ∀ q, Ev.piece q ∈ evs → q ≠ [])
    (hvp : ValidPrefix (scriptText evs)) (n : Int) (s : Bytes)
    (h : cacheLenRun pinned limit stops promptLen init evs = some n)
    (hc : (run pinned limit stops init evs).cause = some (.stopString s)) :
    n = (promptLen : Int) + wholeTokens (run pinned limit stops init evs).gen
          (run pinned limit stops init evs).outText.length :=
  cache_is_streamed_tokens pinned limit stops promptLen hok evs init (inv_init stops hok)
    ⟨[], rfl, rfl, rfl⟩ (by intro q hq; cases hq) hne (by simpa [init, St.genText] using hvp) n s h hc

/-- non-vacuity: prompt of 3 inputs, pieces `"a" "b<" "|x"`, stop `"<|"`: the streamed text is `"ab"` (2 bytes), one token
    (`a`) lies entirely within it, the cache holds 3 + 1 inputs -/
example :
    let evs := [Ev.piece [0x61], Ev.piece [0x62, 0x3c], Ev.piece [0x7c, 0x78]]
    let f := run false 0 [[0x3c, 0x7c]] init evs
    f.cause = some (.stopString [0x3c, 0x7c]) ∧ f.outText = [0x61, 0x62] ∧ wholeTokens f.gen f.outText.length = 1 ∧
    cacheLenRun false 0 [[0x3c, 0x7c]] 3 init evs = some 4 ∧ validUtf8 (scriptText evs) = true := by decide +kernel

/-! ### 13. stop strings of ARBITRARY bytes (non-empty; not necessarily valid UTF-8) -/

/-- **The property for stop lists of arbitrary non-empty byte strings** (repaired `FindStop`): the streamed text contains
    no stop; if some stop occurs in the generated text the reason is stop and the streamed text is the valid part of the
    text before the EARLIEST first occurrence of a stop; otherwise the run ends at EOS / limit with everything streamed or is
    still running with nothing lost.  With `empty_stop_streams_nothing` (a list containing `""`) this covers every stop list. -/
theorem c14_any_stops (limit : Int) (stops : List Bytes) (evs : List Ev) (hne : StopsNe stops)
    (hscript : ValidPrefix (scriptText evs)) :
    let f := run false limit stops init evs
    (∀ t ∈ stops, ¬ Occurs t f.outText) ∧
    ((∃ t ∈ stops, Occurs t f.genText) →
      f.done = some .stop ∧ ∃ s ∈ stops, ∃ idx, indexOf s f.genText = some idx ∧
        (∀ t ∈ stops, ∀ j, indexOf t f.genText = some j → idx ≤ j) ∧ f.outText = trimValid (f.genText.take idx)) ∧
    ((∀ t ∈ stops, ¬ Occurs t f.genText) →
      ((f.cause = some .eos ∨ f.cause = some .limit) ∧ f.outText = trimValid f.genText) ∨
      (f.cause = none ∧ f.outText ++ f.pending.flatten = f.genText)) := by
  intro f
  have hvp : ValidPrefix f.genText := by
    obtain ⟨y, hy⟩ := genText_prefix_script false limit stops evs
    rw [← hy] at hscript; exact hscript.left
  have hiff := stopped_iff_occurs false limit stops evs hne hvp
  refine ⟨no_stop_in_output_any limit stops evs hne hvp, fun hex => ?_, fun hno => ?_⟩
  · obtain ⟨s, hcs⟩ := hiff.mpr hex
    obtain ⟨hd, hmem, ⟨idx, hidx, hout, hmin⟩, _⟩ := stop_found_any false limit stops evs hne s hvp hcs
    exact ⟨hd, s, hmem, idx, hidx, hmin rfl, hout⟩
  · have hns : ∀ s, f.cause ≠ some (.stopString s) := fun s hcs =>
      let ⟨t, ht, hocc⟩ := hiff.mp ⟨s, hcs⟩; hno t ht hocc
    obtain ⟨_, htrim, hrun⟩ := ends_at_eos_or_limit_any false limit stops evs hne hvp hns
    cases hcause : f.cause with
    | none => exact Or.inr ⟨rfl, hrun hcause⟩
    | some c =>
      cases c with
      | stopString s => exact absurd hcause (hns s)
      | eos => exact Or.inl ⟨Or.inl rfl, htrim (Or.inl hcause)⟩
      | limit => exact Or.inl ⟨Or.inr rfl, htrim (Or.inr hcause)⟩

/-- non-vacuity: the stop `"\x82\xac"` (two continuation bytes: not valid UTF-8) occurs inside `€`: pieces `"a€"`, `"b"`:
    the run ends with reason stop, the text before the stop is `"a\xe2"`, its valid part `"a"` is what is streamed -/
example :
    let stops : List Bytes := [[0x82, 0xac]]
    let evs := [Ev.piece [0x61, 0xe2, 0x82, 0xac], Ev.piece [0x62], Ev.eos]
    let f := run false 0 stops init evs
    validUtf8 [0x82, 0xac] = false ∧ validUtf8 (scriptText evs) = true ∧
    f.cause = some (.stopString [0x82, 0xac]) ∧ f.out = [[0x61]] ∧ indexOf [0x82, 0xac] f.genText = some 2 ∧
    trimValid (f.genText.take 2) = [0x61] := by decide +kernel

/-! ### 14. one level up: the `completion` HTTP handler and the client -/

/-- **What the client receives.**  For the handler's lines of any finished or cancelled run: the
    concatenation of the `content` fields is the streamed text `f.outText`, the `done_reason` of the
    final object is the sequence's reason, and therefore (reason_map) it is `length` exactly when the
    prediction limit ended generation and `stop` exactly when EOS or a stop string did — in
    particular when EOS or the token completing a stop string is the last token the limit permits. -/
theorem client_receives (pinned : Bool) (limit : Int) (stops : List Bytes) (evs : List Ev) (promptLen : Nat) :
    let f := run pinned limit stops init evs
    let ls := handlerLines promptLen f
    clientText ls = f.outText ∧
    (clientReason ls = some .length ↔ f.cause = some .limit) ∧
    (clientReason ls = some .stop ↔ (f.cause = some .eos ∨ ∃ s, f.cause = some (.stopString s))) ∧
    (clientReason ls = none ↔ f.cause = none) := by
  intro f ls
  obtain ⟨h1, h2⟩ := client_view promptLen f
  obtain ⟨ha, hb, hc⟩ := reason_map pinned limit stops evs
  rw [show clientReason ls = f.done from h2]
  exact ⟨h1, ha, hb, hc⟩

/-- **EOS on the last permitted token is reported as "stop".**  If the script is `ps` pieces followed
    by EOS, the limit is unlimited or at least `ps.length + 1` (so EOS may be exactly token number
    `limit`), and no stop string ended the run earlier, then EOS ended it and the client reads `stop`. -/
theorem eos_on_last_permitted_token (pinned : Bool) (limit : Int) (stops : List Bytes)
    (ps : List Bytes) (rest : List Ev) (promptLen : Nat)
    (hl : limit ≤ 0 ∨ (ps.length : Int) < limit) :
    let f := run pinned limit stops init (ps.map Ev.piece ++ Ev.eos :: rest)
    (∀ s, f.cause ≠ some (.stopString s)) →
      f.cause = some .eos ∧ clientReason (handlerLines promptLen f) = some .stop := by
  intro f hns
  obtain ⟨hpre, _, hlim, hnone, _⟩ : f.gen.map Ev.piece <+: _ ∧ _ ∧ (f.cause = _ → _ ∧ (f.gen.length : Int) = _ ∧ _) ∧
      (f.cause = none → f.gen.length = _ ∧ _) ∧ _ := cause_spec pinned limit stops (ps.map Ev.piece ++ Ev.eos :: rest)
  have h2 : f.gen.length ≤ ps.length := by
    refine Nat.le_of_not_lt fun hlt => ?_
    have h1 := List.IsPrefix.getElem hpre (show ps.length < (f.gen.map Ev.piece).length by simpa using hlt)
    simp [List.getElem_append_right] at h1
  have hcause : f.cause = some .eos := by
    cases hc : f.cause with
    | none =>
      have := (hnone hc).1
      simp at this; omega
    | some c =>
      cases c with
      | eos => rfl
      | stopString s => exact absurd hc (hns s)
      | limit =>
        obtain ⟨hpos, heq, _⟩ := hlim hc
        rcases hl with h | h <;> omega
  refine ⟨hcause, ?_⟩
  rw [(client_view promptLen f).2]
  exact ((reason_map pinned limit stops _).2.1).mpr (Or.inl hcause)

/-- the boundary situation exists: limit 2, EOS is token 2 → cause EOS, final object says `stop`,
    `eval_count = 2`; with limit 1 the limit ends it first → `length` -/
example :
    handlerLines 3 (run false 2 [] init [Ev.piece [0x61], Ev.eos]) =
      [Line.content [0x61], Line.final .stop 3 2] ∧
    handlerLines 3 (run false 1 [] init [Ev.piece [0x61], Ev.eos]) =
      [Line.content [0x61], Line.final .length 3 1] := by decide +kernel

/-! ### 15. witnesses of the defects the model shares with the code -/

/-- **F7** (`FindStop` takes the first *listed* stop, not the earliest occurrence): one token
    `"}\n\n"` with stops `["\n\n", "}"]` streams `"}"`, which contains the stop `"}"`; with the
    stops listed the other way round — or with the repaired `FindStop` (`pinned = false`) —
    nothing is streamed.  The guard of `no_stop_in_output_partial` is false exactly here. -/
theorem F7_first_listed_not_earliest :
    let evs := [Ev.piece [0x7d, 0x0a, 0x0a], Ev.eos]
    (run true 0 [[0x0a, 0x0a], [0x7d]] init evs).out = [[0x7d]] ∧
    (run true 0 [[0x0a, 0x0a], [0x7d]] init evs).done = some .stop ∧
    contains (run true 0 [[0x0a, 0x0a], [0x7d]] init evs).outText [0x7d] = true ∧
    firstListedIsEarliest [[0x0a, 0x0a], [0x7d]] [0x7d, 0x0a, 0x0a] = false ∧
    (run true 0 [[0x7d], [0x0a, 0x0a]] init evs).out = [] ∧
    (run false 0 [[0x0a, 0x0a], [0x7d]] init evs).out = [] := by decide +kernel

/-- **F20a** (invalid bytes are dropped mid-stream): pieces `"a" "\xff" "b"` with stop `"ab"`
    stream `"a"` then `"b"`: the output `"ab"` is not a prefix of the generated `"a\xffb"` and it
    *is* the stop string.  (The generated text is not valid UTF-8, so the valid-text clauses do not
    apply; the unconditional "prefix of the generated text" clause of the property is violated.) -/
theorem F20_invalid_bytes_dropped :
    let f := run true 0 [[0x61, 0x62]] init [Ev.piece [0x61], Ev.piece [0xff], Ev.piece [0x62], Ev.eos]
    f.out = [[0x61], [0x62]] ∧ f.genText = [0x61, 0xff, 0x62] ∧
    f.outText.isPrefixOf f.genText = false ∧ contains f.outText [0x61, 0x62] = true := by decide +kernel

/-- **F20b** (two reason values for three causes): an EOS-terminated run and a
    stop-string-terminated run report the same reason. -/
theorem F20_reason_not_injective :
    let f1 := run true 0 [[0x78]] init [Ev.piece [0x61], Ev.eos]
    let f2 := run true 0 [[0x78]] init [Ev.piece [0x61], Ev.piece [0x78]]
    f1.cause = some .eos ∧ f2.cause = some (.stopString [0x78]) ∧ f1.done = f2.done := by decide +kernel

/-! ### 16. non-vacuity: the hypotheses are met by non-trivial concrete runs -/

/-- a multi-byte character split across tokens, a stop split across tokens, two stops, a limit:
    `"a\xe2" "\x82\xac<" "|x"` with stops `["<|", "zz"]`, limit 5 -/
example :
    let stops : List Bytes := [[0x3c, 0x7c], [0x7a, 0x7a]]
    let evs := [Ev.piece [0x61, 0xe2], Ev.piece [0x82, 0xac, 0x3c], Ev.piece [0x7c, 0x78], Ev.eos]
    let f := run true 5 stops init evs
    (∀ t ∈ stops, t ≠ [] ∧ validUtf8 t = true) ∧ validUtf8 f.genText = true ∧
    f.cause = some (.stopString [0x3c, 0x7c]) ∧ f.out = [[0x61, 0xe2, 0x82, 0xac]] ∧
    firstListedIsEarliest stops f.genText = true := by decide +kernel

/-- the limit cuts generation inside a character: the text is a `ValidPrefix`, not valid -/
example :
    let f := run true 2 [] init [Ev.piece [0x61], Ev.piece [0xe2, 0x82], Ev.piece [0xac]]
    validUtf8 (f.genText ++ [0xac]) = true ∧ validUtf8 f.genText = false ∧
    f.cause = some .limit ∧ f.out = [[0x61]] := by decide +kernel

end OllamaVerif.C14
