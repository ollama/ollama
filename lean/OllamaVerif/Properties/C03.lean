/-
  C03 — a successful pull leaves exactly the published, digest-verified model.

  Property theorems over `Model/Pull.lean` (helper lemmas are in `Proofs/Pull.lean`): challenge parsing, success, failure,
  no panic, Glob order, retry from a resume state, a pull that joins a transfer, histories of pulls — each with its
  witnesses on a toy hash (the findings, the boundaries of the hypotheses, non-vacuity).
  `hash` is an arbitrary function (SHA-256 uninterpreted, no injectivity).
-/
import OllamaVerif.Proofs.Pull

namespace OllamaVerif.C03
open OllamaVerif OllamaVerif.Pull

/-! ## Challenge parsing -/

/-- decidable guard: no `key=` sits at the very end of the (prefix-trimmed) header -/
def keySafe (s key : Bytes) : Bool :=
  match indexOf (key ++ [61]) s with
  | none => true
  | some idx => decide (idx + key.length + 2 ≤ s.length)

def challengeSafe (hdr : Bytes) : Bool :=
  let s := trimPrefix bearer hdr
  keySafe s kRealm && keySafe s kService && keySafe s kScope

/-- **Witness of F5**: `realm=` at the end of the header makes `getValue` slice out of range. -/
theorem F5_challenge_panics :
    parseChallenge false (kRealm ++ [61]) = none ∧
    parseChallenge false (bearer ++ kRealm ++ [61]) = none ∧
    parseChallenge true (kRealm ++ [61]) = some ⟨[], [], []⟩ := by decide +kernel

theorem getValue_pinned_none_iff (s key : Bytes) :
    getValue false s key = none ↔ keySafe s key = false := by
  unfold getValue keySafe
  cases indexOf (key ++ [61]) s with
  | none => simp
  | some idx =>
    simp only
    by_cases h : idx + key.length + 2 > s.length
    · simp [h]
    · simp [h]

/-- **Challenge parsing panics exactly on the guarded-out headers** (pinned code). -/
theorem challenge_panics_iff (hdr : Bytes) :
    parseChallenge false hdr = none ↔ challengeSafe hdr = false := by
  unfold parseChallenge challengeSafe
  simp only [Bool.and_eq_false_iff, ← getValue_pinned_none_iff]
  cases getValue false (trimPrefix bearer hdr) kRealm with
  | none => simp
  | some r =>
    cases getValue false (trimPrefix bearer hdr) kService with
    | none => simp
    | some sv => cases getValue false (trimPrefix bearer hdr) kScope <;> simp

/-- The pinned code can panic (F5); under the guard it never does … -/
theorem challenge_total_partial (hdr : Bytes) (h : challengeSafe hdr = true) :
    parseChallenge false hdr ≠ none := by
  intro hn
  have := (challenge_panics_iff hdr).1 hn
  simp [h] at this

/-- … and for every header once `getValue` checks its bounds (the proposed fix). -/
theorem challenge_total_fixed (hdr : Bytes) : parseChallenge true hdr ≠ none := by
  obtain ⟨ch, h⟩ := parseChallenge_fixed_some hdr
  rw [h]
  exact Option.some_ne_none ch

/-- non-vacuity: a realistic header satisfies the guard -/
example : challengeSafe (bearer ++ kRealm ++ [61, 34, 97, 34, 44] ++ kService ++ [61, 34, 115, 34]) = true := by decide +kernel

/-! ## Invariants -/

/-- every stored blob hashes to its name -/
def BlobInv (hash : Bytes → Digest) (st : Store) : Prop :=
  ∀ d c, st.blobs d = some c → hash c = d

/-- every name that resolves to a readable manifest has all its layers, intact -/
def NameInv (hash : Bytes → Digest) (st : Store) : Prop :=
  ∀ n m, lookupM n st.manifests = some (.readable m) →
    ∀ l ∈ m.all, ∃ d c, l.digest = .ok d ∧ st.blobs d = some c ∧ hash c = d

/-! ## Success -/

/-- **A successful pull leaves the published, digest-verified model** (pinned `skipVerify` logic) —
    for every store satisfying `BlobInv`, every registry, every fault script, every manifest whose
    digests are pairwise distinct: if `pull` reports success then every layer of the served manifest
    (config included) is addressable, stored, and its bytes hash to its digest; and the name resolves
    to the served manifest.  (Without `Nodup` a fresh download can go unverified in the pinned code:
    `dup_digest_skips_verification`; the repaired code needs no `Nodup`: `pull_success_complete_fixed`.) -/
theorem pull_success_complete (cfg : Cfg) (hash : Bytes → Digest) (name : Name) (reg : Registry)
    (sc : Scripts) (st st' : Store) (log : Log) (hdup : cfg.fixedDup = false)
    (hinv : BlobInv hash st) (hnodup : (reg.manifest.all.map (·.digest)).Nodup)
    (h : pull cfg hash name reg sc st = (.ok (), st', log)) :
    (∀ l ∈ reg.manifest.all, ∃ d c, l.digest = .ok d ∧ st'.blobs d = some c ∧ hash c = d) ∧
    lookupM name st'.manifests = some (.readable reg.manifest) := by
  obtain ⟨_, s, hdl, _, hver, hman, _, hlay⟩ := pull_ok h
  refine ⟨fun l hl => ?_, by rw [hman]; exact lookupM_insertM _ _ _⟩
  obtain ⟨d, c, hd, hc, hc'⟩ := hlay l hl
  refine ⟨d, c, hd, hc', ?_⟩
  cases hearly : cfg.verifyEarly with
  | true => exact (dlLoop_along hdl).blobInv hearly hinv d c hc
  | false =>
    cases hsk : getSkip d s.skip with
    | false =>
      obtain ⟨c', hc', hh⟩ := hver hearly l hl d hd hsk
      rw [hc] at hc'; cases hc'; exact hh
    | true =>
      -- marked `skip`: a cache hit, so (no repeated digests) the blob that was there before
      have := dlLoop_skip_unchanged hdup hdl hnodup l hl d hd hsk
      rw [hc] at this
      exact hinv d c this.symm

/-- **The same for the repaired code, with no condition on the manifest**: once every fresh layer is
    verified right after its download (`verifyEarly`), success implies every served layer is stored
    and hashes to its digest — also when a digest is listed twice. -/
theorem pull_success_complete_fixed (cfg : Cfg) (hash : Bytes → Digest) (name : Name) (reg : Registry)
    (sc : Scripts) (st st' : Store) (log : Log) (hearly : cfg.verifyEarly = true)
    (hinv : BlobInv hash st) (h : pull cfg hash name reg sc st = (.ok (), st', log)) :
    (∀ l ∈ reg.manifest.all, ∃ d c, l.digest = .ok d ∧ st'.blobs d = some c ∧ hash c = d) ∧
    lookupM name st'.manifests = some (.readable reg.manifest) := by
  obtain ⟨_, s, hdl, _, _, hman, _, hlay⟩ := pull_ok h
  refine ⟨fun l hl => ?_, by rw [hman]; exact lookupM_insertM _ _ _⟩
  obtain ⟨d, c, hd, hc, hc'⟩ := hlay l hl
  exact ⟨d, c, hd, hc', (dlLoop_along hdl).blobInv hearly hinv d c hc⟩

/-- The size clause: the code never compares sizes (`size_lie_accepted`); it follows from the digest
    clause when the declared size is the size of whatever hashes to the digest (which is
    what an honest manifest declares, and what collision resistance gives). -/
theorem pull_success_sizes (cfg : Cfg) (hash : Bytes → Digest) (name : Name) (reg : Registry)
    (sc : Scripts) (st st' : Store) (log : Log) (hdup : cfg.fixedDup = false)
    (hinv : BlobInv hash st) (hnodup : (reg.manifest.all.map (·.digest)).Nodup)
    (hsize : ∀ l ∈ reg.manifest.all, ∀ d c, l.digest = .ok d → hash c = d → c.length = l.size)
    (h : pull cfg hash name reg sc st = (.ok (), st', log)) :
    ∀ l ∈ reg.manifest.all, ∃ d c, l.digest = .ok d ∧ st'.blobs d = some c ∧ hash c = d ∧
      c.length = l.size := by
  intro l hl
  obtain ⟨d, c, hd, hc, hh⟩ := (pull_success_complete cfg hash name reg sc st st' log hdup hinv hnodup h).1 l hl
  exact ⟨d, c, hd, hc, hh, hsize l hl d c hd hh⟩

/-! ## Failure -/

/-- **A failed (or crashed) pull never changes what was there**: every blob of the old store is still
    stored with the same bytes and every manifest is unchanged — for the pinned `skipVerify` logic
    and for the fully repaired code.  (The pinned code can *add* blobs: F6.) -/
theorem pull_fail_preserves_store (cfg : Cfg) (hash : Bytes → Digest) (name : Name) (reg : Registry)
    (sc : Scripts) (st st' : Store) (o : Outcome) (log : Log)
    (hvar : cfg.fixedDup = false ∨ cfg.verifyEarly = true) (hne : o ≠ .ok ())
    (h : pull cfg hash name reg sc st = (o, st', log)) :
    (∀ d c, st.blobs d = some c → st'.blobs d = some c) ∧ st'.manifests = st.manifests := by
  obtain ⟨hm, hx⟩ := pull_effect h
  refine ⟨fun d c hc => ?_, by rw [hm, if_neg hne]⟩
  rcases hx hvar d with ⟨ho, _⟩ | e | ⟨hn, _⟩
  · exact absurd ho hne
  · rw [e]; exact hc
  · rw [hn] at hc; cases hc

/-- **After a failed pull no name resolves to a manifest with missing or corrupt layers**
    (given that this was so before). -/
theorem pull_fail_preserves_names (cfg : Cfg) (hash : Bytes → Digest) (name : Name) (reg : Registry)
    (sc : Scripts) (st st' : Store) (o : Outcome) (log : Log)
    (hvar : cfg.fixedDup = false ∨ cfg.verifyEarly = true) (hne : o ≠ .ok ())
    (hinv : NameInv hash st) (h : pull cfg hash name reg sc st = (o, st', log)) :
    NameInv hash st' := by
  obtain ⟨hb, hm⟩ := pull_fail_preserves_store cfg hash name reg sc st st' o log hvar hne h
  intro n m hn l hl
  rw [hm] at hn
  obtain ⟨d, c, hd, hc, hh⟩ := hinv n m hn l hl
  exact ⟨d, c, hd, hb d c hc, hh⟩

/-- `BlobInv` does not survive every failed pull of the pinned code (F6).  What holds there: a failed pull changes the
    blob map only at digests it renamed into place itself; so if it renamed nothing the blob map — and `BlobInv` — is
    exactly what it was. -/
theorem pull_fail_blobs_partial (cfg : Cfg) (hash : Bytes → Digest) (name : Name) (reg : Registry)
    (sc : Scripts) (st st' : Store) (o : Outcome) (log : Log) (hdup : cfg.fixedDup = false) (hne : o ≠ .ok ())
    (h : pull cfg hash name reg sc st = (o, st', log)) :
    (∀ d, d ∉ log.renamed → st'.blobs d = st.blobs d) ∧
    (log.renamed = [] → BlobInv hash st → BlobInv hash st') := by
  have main : ∀ d, d ∉ log.renamed → st'.blobs d = st.blobs d := fun d hd =>
    (((pull_effect h).2 (Or.inl hdup) d).resolve_left fun ho => hne ho.1).resolve_right fun hr => hd hr.2.1
  refine ⟨main, ?_⟩
  intro hnil hinv d c hc
  rw [main d (by simp [hnil])] at hc
  exact hinv d c hc

/-- **The repaired code never leaves a blob that does not hash to its name**: once every fresh layer is verified
    right after its download, `BlobInv` survives a pull whatever its outcome — success, any error, a crash
    (`pull_fail_blobs_partial` without its guard `renamed = []`). -/
theorem pull_fail_preserves (cfg : Cfg) (hash : Bytes → Digest) (name : Name) (reg : Registry)
    (sc : Scripts) (st st' : Store) (o : Outcome) (log : Log) (hearly : cfg.verifyEarly = true)
    (hinv : BlobInv hash st) (h : pull cfg hash name reg sc st = (o, st', log)) :
    BlobInv hash st' := by
  intro x c hx
  rcases (pull_effect h).2 (.inr hearly) x with ⟨_, hn, _⟩ | e | ⟨_, _, hv⟩
  · rw [hn] at hx; cases hx
  · exact hinv x c (e ▸ hx)
  · exact hv hearly c hx

/-- **No registry response crashes the repaired code**: with the `getValue` bounds check and the
    empty digest rejected, `pull` never ends in a panic — for every store, registry, manifest
    (malformed digests included) and fault script. -/
theorem pull_no_panic_fixed (cfg : Cfg) (hash : Bytes → Digest) (name : Name) (reg : Registry)
    (sc : Scripts) (st : Store) (p : PanicSite)
    (hfix : cfg.fixedChallenge = true) (hempty : cfg.fixedEmpty = true) :
    (pull cfg hash name reg sc st).1 ≠ .panic p := by
  generalize hr : pull cfg hash name reg sc st = r
  obtain ⟨o, st', log⟩ := r
  rintro ⟨⟩
  rcases pull_fail (o := .panic p) nofun hr with ⟨_, ho | ⟨_, _, ho, hm⟩⟩ | ⟨_, _, _, hdl, _, ⟨rfl, _⟩ | ⟨_, _, hv⟩⟩
  · cases ho
  · cases ho; exact mrr_no_panic hfix _ _ _ _ _ _ _ hm
  · exact dlLoop_no_panic hfix hempty p _ _ (congrArg Prod.fst hdl)
  · obtain ⟨ho, _⟩ | ⟨_, _, _, _, _, _, ho, _⟩ := verifyLoop_spec hv <;> cases ho

/-! ## Concrete witnesses (toy hash = first byte) -/

def toyHash (b : Bytes) : Digest := b.take 1
def cfgW : Cfg := { nparts := 16, minSize := 100, maxSize := 1000, retries := 6 }
def st0 : Store := ⟨fun _ => none, fun _ => Partial.none, []⟩
def dA : Digest := [1]
def dB : Digest := [2]
def cA : Bytes := [1, 10]
def cB : Bytes := [2, 20]
def regAB : Registry := ⟨⟨[⟨.ok dA, 2, 0⟩, ⟨.ok dB, 2, 0⟩], ⟨.empty, 0, 0⟩⟩, [(dA, cA), (dB, cB)], [0]⟩

theorem st0_inv : BlobInv toyHash st0 ∧ NameInv toyHash st0 := by
  constructor
  · intro d c h; simp [st0] at h
  · intro n m h; simp [st0, lookupM] at h

/-- attempt 1: the CDN answers layer A's chunk with an error page (status is never checked),
    layer B's HEAD is 404 -/
def scF6 : Scripts :=
  ⟨[], [], [(dA, ⟨[], [], [[.body (.junk [9, 9]) none .eof]]⟩), (dB, ⟨[.notfound], [], []⟩)], none⟩

/-- **Witness of F6**: from the empty store, a failed attempt leaves
    layer A under its final name unverified; the following attempt against a completely honest
    registry reports success, installs the manifest, and layer A's bytes do not hash to its digest. -/
theorem F6_failed_pull_then_honest_retry_installs_corrupt_layer :
    let r1 := pull cfgW toyHash 0 regAB scF6 st0
    let r2 := pull cfgW toyHash 0 regAB Scripts.honest r1.2.1
    r1.1 = .err .notfound ∧ r1.2.2.renamed = [dA] ∧
    r2.1 = .ok () ∧ r2.2.1.blobs dA = some [9, 9] ∧ toyHash [9, 9] ≠ dA ∧
    lookupM 0 r2.2.1.manifests = some (.readable regAB.manifest) := by decide +kernel

/-- non-vacuity of `pull_success_complete`: an honest two-layer pull from the empty store succeeds and its digests
    are distinct (`hsize` of `pull_success_sizes` cannot hold for the toy hash: `[1]` hashes to `dA` too) -/
example : (pull cfgW toyHash 0 regAB Scripts.honest st0).1 = .ok () ∧
    (regAB.manifest.all.map (·.digest)).Nodup ∧
    (pull cfgW toyHash 0 regAB Scripts.honest st0).2.1.blobs dB = some cB := by decide +kernel

/-- non-vacuity of the failure theorems: `scF6` is a failing attempt that renames a blob, and a
    404 on the manifest is a failing attempt that renames nothing -/
example : (pull cfgW toyHash 0 regAB scF6 st0).1 ≠ .ok () ∧
    (pull cfgW toyHash 0 regAB ⟨[.notfound], [], [], none⟩ st0).1 = .err .manifest ∧
    (pull cfgW toyHash 0 regAB ⟨[.notfound], [], [], none⟩ st0).2.2.renamed = [] := by decide +kernel

/-! ## The repaired variants on the same witnesses -/

def cfgF : Cfg := { cfgW with fixedChallenge := true, fixedEmpty := true, fixedDup := true, verifyEarly := true }
def cfgD : Cfg := { cfgW with fixedDup := true }

/-- the F6 script against the repaired code: attempt 1 fails with a digest mismatch on layer A at once
    and leaves no blob; the honest retry installs the right bytes -/
theorem F6_repaired :
    let r1 := pull cfgF toyHash 0 regAB scF6 st0
    let r2 := pull cfgF toyHash 0 regAB Scripts.honest r1.2.1
    r1.1 = .err .digestMismatch ∧ r1.2.1.blobs dA = none ∧ r1.2.2.renamed = [] ∧
    r2.1 = .ok () ∧ r2.2.1.blobs dA = some cA ∧ r2.2.1.blobs dB = some cB := by decide +kernel

/-- the repeated digest against the repaired code (with only the `skipVerify` guard, and with all
    fixes): the corrupt download is caught; the empty digest is an error, not a panic -/
theorem dup_and_empty_repaired :
    let reg : Registry := ⟨⟨[⟨.ok dA, 2, 0⟩, ⟨.ok dA, 2, 0⟩], ⟨.empty, 0, 0⟩⟩, [(dA, cA)], [0]⟩
    let sc : Scripts := ⟨[], [], [(dA, ⟨[], [], [[.body (.flip 0) none .eof]]⟩)], none⟩
    let regE : Registry := ⟨⟨[⟨.empty, 0, 0⟩], ⟨.empty, 0, 0⟩⟩, [], [0]⟩
    (pull cfgD toyHash 0 reg sc st0).1 = .err .digestMismatch ∧
    (pull cfgD toyHash 0 reg sc st0).2.1.blobs dA = none ∧
    (pull cfgF toyHash 0 reg sc st0).1 = .err .digestMismatch ∧
    (pull cfgF toyHash 0 reg Scripts.honest st0).1 = .ok () ∧
    (pull cfgF toyHash 0 regE Scripts.honest st0).1 = .err .digestFormat := by decide +kernel

/-- non-vacuity of the repaired-variant theorems -/
example : cfgF.verifyEarly = true ∧ cfgF.fixedChallenge = true ∧ cfgF.fixedEmpty = true ∧
    (pull cfgF toyHash 0 regAB Scripts.honest st0).1 = .ok () ∧
    (pull cfgF toyHash 0 regAB scF6 st0).1 ≠ .ok () := by decide +kernel

/-! ## Resume: Glob order -/

/-- **Resuming does not depend on the order the part records are read in** (the code reads them in
    `filepath.Glob` order, `-partial-10` before `-partial-2`): for every list of records, the parts
    `Prepare` resumes from are exactly the stored records (as a multiset) and `b.Total` is the sum
    of their sizes. -/
theorem resume_plan_order_independent (ps : List Part) :
    ((globParts ps).map (·.2)).Perm ps ∧
    ((globParts ps).map (·.2.size)).sum = (ps.map (·.size)).sum :=
  ⟨globParts_perm ps, resume_total_order_independent ps⟩

/-- the order itself, for 12 records: lexicographic in the decimal suffix -/
theorem glob_order_12 :
    (globParts (List.replicate 12 ⟨0, 1, 0⟩)).map (·.1) = [0, 1, 10, 11, 2, 3, 4, 5, 6, 7, 8, 9] := by decide +kernel

/-! ## Retry -/

/-- the registry really has what its manifest names -/
def HonestReg (hash : Bytes → Digest) (reg : Registry) : Prop :=
  ∀ l ∈ reg.manifest.all, ∃ d c, l.digest = .ok d ∧ lookupC d reg.content = some c ∧ hash c = d

/-- no resume state for the layers that are still missing -/
def CleanFor (st : Store) (reg : Registry) : Prop :=
  ∀ l ∈ reg.manifest.all, ∀ d, l.digest = .ok d → st.blobs d = none → st.partials d = Partial.none

def ResumeOk (st : Store) (reg : Registry) : Prop :=
  ∀ l ∈ reg.manifest.all, ∀ d, l.digest = .ok d → st.blobs d = none → ∀ c, lookupC d reg.content = some c →
    st.partials d = Partial.none ∨ Resume1Ok c (st.partials d)

theorem CleanFor.resumeOk {st : Store} {reg : Registry} (h : CleanFor st reg) : ResumeOk st reg :=
  fun l hl d hd hn _ _ => Or.inl (h l hl d hd hn)

def ResumeOkN (st : Store) (reg : Registry) : Prop :=
  ∀ l ∈ reg.manifest.all, ∀ d, l.digest = .ok d → st.blobs d = none → ∀ c, lookupC d reg.content = some c →
    st.partials d = Partial.none ∨ Resume1Ok c (st.partials d) ∨ ResumeFits c (st.partials d)

theorem ResumeOk.toN {st : Store} {reg : Registry} (h : ResumeOk st reg) : ResumeOkN st reg :=
  fun l hl d hd hn c hc => (h l hl d hd hn c hc).elim Or.inl (fun r => Or.inr (Or.inl r))

/-- **A retry can succeed from any resume state that fits the blob**: honest registry, intact blobs, and for every missing layer
    either no resume state or one that fits the blob (any number of records, any order) ⇒ `pull` reports success (that
    only the bytes no record counts as complete are requested is shown on one input: `multipart_failed_pull_resumes`).
    Excluded — and really not recoverable at once: records whose sizes do not add up to the blob's length
    (`stuck_plan_never_recovers`, known finding C03-stuckplan: never) and a data file that differs from the blob on a
    byte counted as complete (`corrupt_resume_needs_two_retries`: the second retry). -/
theorem retry_can_succeed_resume_multi (cfg : Cfg) (hash : Bytes → Digest) (name : Name) (reg : Registry) (st : Store)
    (hret : 0 < cfg.retries) (hmin : 0 < cfg.minSize) (hmax : 0 < cfg.maxSize)
    (hreg : HonestReg hash reg) (hinv : BlobInv hash st) (hres : ResumeOkN st reg) :
    (pull cfg hash name reg Scripts.honest st).1 = .ok () := by
  obtain ⟨s', hdl, hb'⟩ := dlLoop_honest cfg hash reg hret hmin hmax reg.manifest.all
    ⟨st, { tok := [], nm := 1 }, [], [], false⟩ hreg
    (fun l hl d hd hn c hc => (hres l hl d hd hn c hc).imp_right fun h => h.elim Resume1Ok.fits id) hinv rfl
  have hv : (if cfg.verifyEarly = true then ((R.ok () : Outcome), s'.st)
      else verifyLoop hash s'.skip reg.manifest.all s'.st) = (.ok (), s'.st) := by
    split
    · rfl
    · exact verifyLoop_ok_of_intact hash s'.skip reg.manifest.all s'.st hb' (dlLoop_ok_present hdl)
  unfold Scripts.honest at hdl ⊢
  simp only [pull, Policy.dflt, mrr_pass, hdl, hv]
  simp

/-- **A retry can succeed from the state an interrupted or failed attempt leaves** (single-part layers, i.e. every blob
    below `minDownloadPartSize` = 100 MB, HEAD answered with the true length): against an honest registry, from every
    store whose blobs are intact and whose resume state for each missing layer is either empty or a data file + one
    record that agree with the blob on the completed prefix, `pull` reports success.  (`retry_can_succeed` is the special case
    without resume state; the boundary is `stuck_plan_never_recovers`: a record whose size is not the blob's length.) -/
theorem retry_can_succeed_resume (cfg : Cfg) (hash : Bytes → Digest) (name : Name) (reg : Registry) (st : Store)
    (hret : 0 < cfg.retries) (hmin : 0 < cfg.minSize) (hmax : 0 < cfg.maxSize)
    (hreg : HonestReg hash reg) (hinv : BlobInv hash st) (hres : ResumeOk st reg) :
    (pull cfg hash name reg Scripts.honest st).1 = .ok () :=
  retry_can_succeed_resume_multi cfg hash name reg st hret hmin hmax hreg hinv hres.toN

/-- **A retry can succeed**: against an honest registry (no faults at all), from every store whose
    blobs are intact and that holds no resume state for the missing layers, for every manifest (any
    number of layers, repeated digests allowed), every blob size and every plan constants with
    positive part sizes and at least one try, `pull` reports success.
    (From a store with some other resume state this is false: `stuck_plan_never_recovers`.) -/
theorem retry_can_succeed (cfg : Cfg) (hash : Bytes → Digest) (name : Name) (reg : Registry) (st : Store)
    (hret : 0 < cfg.retries) (hmin : 0 < cfg.minSize) (hmax : 0 < cfg.maxSize)
    (hreg : HonestReg hash reg) (hinv : BlobInv hash st) (hclean : CleanFor st reg) :
    (pull cfg hash name reg Scripts.honest st).1 = .ok () :=
  retry_can_succeed_resume_multi cfg hash name reg st hret hmin hmax hreg hinv hclean.resumeOk.toN

/-- non-vacuity of `retry_can_succeed` -/
example : HonestReg toyHash regAB ∧ BlobInv toyHash st0 ∧ CleanFor st0 regAB := by
  refine ⟨?_, st0_inv.1, ?_⟩
  · intro l hl
    simp only [regAB, Manifest.all] at hl
    simp at hl
    rcases hl with rfl | rfl
    · exact ⟨dA, cA, rfl, by decide, by decide⟩
    · exact ⟨dB, cB, rfl, by decide, by decide⟩
  · intro l _ d _ _; rfl

def regA : Registry := ⟨⟨[⟨.ok dA, 2, 0⟩], ⟨.empty, 0, 0⟩⟩, [(dA, cA)], [0]⟩
def scLie : Scripts := ⟨[], [], [(dA, ⟨[.pass 5], [], []⟩)], none⟩

/-- **Witness (stuck plan)**: one HEAD answer with a Content-Length larger than the blob (5 for a
    2-byte blob) is persisted as the part plan; after that, a pull against the honest registry
    fails with `max retries exceeded` and leaves exactly the same resume state — so does the next. -/
theorem stuck_plan_never_recovers :
    let r1 := pull cfgW toyHash 0 regA scLie st0
    let r2 := pull cfgW toyHash 0 regA Scripts.honest r1.2.1
    let r3 := pull cfgW toyHash 0 regA Scripts.honest r2.2.1
    r1.1 = .err .maxRetries ∧ r1.2.1.partials dA = ⟨some [1, 10, 0, 0, 0], [⟨0, 5, 0⟩]⟩ ∧
    r2.1 = .err .maxRetries ∧ r2.2.1.partials dA = r1.2.1.partials dA ∧ r2.2.1.blobs dA = none ∧
    r3.1 = .err .maxRetries ∧ r3.2.1.partials dA = r1.2.1.partials dA ∧
    HonestReg toyHash regA ∧ BlobInv toyHash st0 := by
  refine ⟨by decide +kernel, by decide +kernel, by decide +kernel, by decide +kernel, by decide +kernel, by decide +kernel, by decide +kernel, ?_, st0_inv.1⟩
  intro l hl
  cases List.mem_singleton.1 hl
  exact ⟨dA, cA, rfl, by decide, by decide⟩

/-- **Witness (repeated digest)**: `skipVerify` is keyed by digest and the second occurrence is a cache
    hit, so a freshly downloaded corrupt blob is never verified and the pull succeeds. -/
theorem dup_digest_skips_verification :
    let reg : Registry := ⟨⟨[⟨.ok dA, 2, 0⟩, ⟨.ok dA, 2, 0⟩], ⟨.empty, 0, 0⟩⟩, [(dA, cA)], [0]⟩
    let sc : Scripts := ⟨[], [], [(dA, ⟨[], [], [[.body (.flip 1) none .eof]]⟩)], none⟩
    let r := pull cfgW toyHash 0 reg sc st0
    r.1 = .ok () ∧ r.2.1.blobs dA = some [1, 245] ∧ [1, 245] ≠ cA := by decide +kernel

/-- **Witness (empty digest)**: a served layer with digest `""` panics in `downloadBlob`. -/
theorem empty_digest_panics :
    let reg : Registry := ⟨⟨[⟨.empty, 0, 0⟩], ⟨.empty, 0, 0⟩⟩, [], [0]⟩
    (pull cfgW toyHash 0 reg Scripts.honest st0).1 = .panic .emptyDigest := by decide +kernel

/-- **Witness (size never compared)**: the manifest declares 7 bytes, the blob has 2, the pull succeeds. -/
theorem size_lie_accepted :
    let reg : Registry := ⟨⟨[⟨.ok dA, 7, 0⟩], ⟨.empty, 0, 0⟩⟩, [(dA, cA)], [0]⟩
    let r := pull cfgW toyHash 0 reg Scripts.honest st0
    r.1 = .ok () ∧ r.2.1.blobs dA = some cA ∧ cA.length ≠ 7 := by decide +kernel

/-! ## Malformed redirects on the direct-URL request: what the model says happens -/

/-- one layer, the blob GET on the registry answered by …
    * 200/307 without `Location`            → error `noLocation`, nothing retried;
    * 301/302/303/308 (handed back)         → error `directStatus`;
    * a `Location` that does not parse      → the client fails, the loop retries, the pull succeeds;
    * a redirect loop (12 × same URL)       → given up after 11 requests, retried, the pull succeeds
                                              (12 requests to the loop + the honest one);
    * a redirect to a host that then fails  → every part fails, `maxRetries`, records stay, and the
                                              honest retry (new direct URL) succeeds.
    None of them is a panic (for every script at all: `pull_no_panic_fixed`). -/
theorem malformed_redirect_outcomes :
    let run := fun (d : List (Reply DirRep)) => pull cfgF toyHash 0 regA ⟨[], [], [(dA, ⟨[], d, []⟩)], none⟩ st0
    (run [.pass .noloc]).1 = .err .noLocation ∧
    (run [.pass .badstatus]).1 = .err .directStatus ∧
    (run [.pass .badloc]).1 = .ok () ∧ (run [.pass .badloc]).2.2.net.nd = 2 ∧
    (run (List.replicate 12 .follow)).1 = .ok () ∧ (run (List.replicate 12 .follow)).2.2.net.nd = 13 ∧
    (run [.pass .redirectDead]).1 = .err .maxRetries ∧ (run [.pass .redirectDead]).2.2.net.nc = 6 ∧
    (pull cfgF toyHash 0 regA Scripts.honest (run [.pass .redirectDead]).2.1).1 = .ok () := by decide +kernel

/-! ## Overlapping pulls that share a layer -/

/-- **A pull that JOINS a transfer leaves only verified blobs** (repaired variant): whatever that transfer
    delivered (`jr` is arbitrary: corrupt bytes, a failure), for every store with intact blobs, every
    manifest, every script: the joining pull never leaves a blob that does not hash to its name (any outcome),
    and if it reports success every layer of its manifest is stored and hashes to its digest and its name
    resolves to the served manifest. -/
theorem joining_pull_verifies (cfg : Cfg) (hash : Bytes → Digest) (name : Name) (reg : Registry)
    (sc : Scripts) (x : Digest) (jr : JoinRes) (st st' : Store) (o : Outcome) (log : Log)
    (hearly : cfg.verifyEarly = true) (hinv : BlobInv hash st)
    (h : pullJ cfg hash name reg sc x jr st = (o, st', log)) :
    BlobInv hash st' ∧
    (o = .ok () →
      (∀ l ∈ reg.manifest.all, ∃ d c, l.digest = .ok d ∧ st'.blobs d = some c ∧ hash c = d) ∧
      lookupM name st'.manifests = some (.readable reg.manifest)) := by
  revert h
  fun_cases pullJ cfg hash name reg sc x jr st
  case case4 s hdl | case5 s hdl =>
    intro h; cases h
    exact ⟨(dlLoopJ_spec hdl).1 hearly hinv, nofun⟩
  case case6 hv | case7 hv => rw [if_pos hearly] at hv; cases hv
  case case8 s hdl st2 hv =>
    intro h; cases h
    rw [if_pos hearly] at hv; cases hv
    have hs := (dlLoopJ_spec hdl).1 hearly hinv
    refine ⟨hs, fun _ => ⟨fun l hl => ?_, lookupM_insertM _ _ _⟩⟩
    obtain ⟨d, c, hd, hc⟩ := ((dlLoopJ_spec hdl).2 rfl).2 l hl
    exact ⟨d, c, hd, hc, hs d c hc⟩
  all_goals (intro h; cases h; exact ⟨hinv, nofun⟩)

/-- non-vacuity of `joining_pull_verifies`: a joiner whose transfer delivered the right bytes succeeds (and installs
    its manifest), one whose transfer delivered other bytes fails with a digest mismatch and leaves no blob -/
example : (pullJ cfgF toyHash 1 regA Scripts.honest dA (.done cA) st0).1 = .ok () ∧
    lookupM 1 (pullJ cfgF toyHash 1 regA Scripts.honest dA (.done cA) st0).2.1.manifests = some (.readable regA.manifest) ∧
    (pullJ cfgF toyHash 1 regA Scripts.honest dA (.done [9, 9]) st0).1 = .err .digestMismatch ∧
    (pullJ cfgF toyHash 1 regA Scripts.honest dA (.done [9, 9]) st0).2.1.blobs dA = none := by decide +kernel

/-- the joining pull of the two-pull scenario: when B joins A's transfer while it is in flight (`during`),
    B's success means B's layers are stored and verified — also when the shared transfer was corrupt -/
theorem pull2_joiner_success_verified (cfg : Cfg) (hash : Bytes → Digest) (x : Digest)
    (nameA nameB : Name) (regA regB : Registry) (scA scB : Scripts) (st st' : Store) (oA : Outcome)
    (hearly : cfg.verifyEarly = true) (hinv : BlobInv hash st)
    (h : pull2 cfg hash .during x nameA regA scA nameB regB scB st = (oA, .ok (), st')) :
    BlobInv hash st' ∧
    ∀ l ∈ regB.manifest.all, ∃ d c, l.digest = .ok d ∧ st'.blobs d = some c ∧ hash c = d := by
  unfold pull2 at h
  simp only at h
  generalize hA : pull cfg hash nameA regA scA st = rA at h
  obtain ⟨oA', stA, logA⟩ := rA
  generalize hB : pullJ cfg hash nameB regB scB x _ stA = rB at h
  obtain ⟨oB, stB, logB⟩ := rB
  cases h
  have hinvA : BlobInv hash stA := pull_fail_preserves cfg hash nameA regA scA st stA oA' logA hearly hinv hA
  obtain ⟨hb, hs⟩ := joining_pull_verifies cfg hash nameB regB scB x _ stA _ _ logB hearly hinvA hB
  exact ⟨hb, (hs rfl).1⟩

/-- **Witness: a second pull that arrives while the first one is VERIFYING the shared
    layer** finds the renamed, still unverified file, treats it as a cache hit, installs its manifest and
    reports success; the first pull then detects the digest mismatch and removes the blob: B's name resolves to
    a manifest whose layer is missing.  (Repaired variant; corrupt transfer: one flipped byte.) -/
theorem concurrent_pull_during_verification_installs_missing_layer :
    let regX : Registry := ⟨⟨[⟨.ok dA, 2, 0⟩], ⟨.empty, 0, 0⟩⟩, [(dA, cA)], [0]⟩
    let scA : Scripts := ⟨[], [], [(dA, ⟨[], [], [[.body (.flip 0) none .eof]]⟩)], none⟩
    let r := pull2 cfgF toyHash .atVerify dA 0 regX scA 1 regX Scripts.honest st0
    r.1 = .err .digestMismatch ∧ r.2.1 = .ok () ∧ r.2.2.blobs dA = none ∧
    lookupM 1 r.2.2.manifests = some (.readable regX.manifest) ∧
    -- … whereas joining DURING the transfer is safe: both fail, nothing is installed
    (pull2 cfgF toyHash .during dA 0 regX scA 1 regX Scripts.honest st0).2.1 = .err .digestMismatch ∧
    (pull2 cfgF toyHash .during dA 0 regX scA 1 regX Scripts.honest st0).2.2.manifests = [] := by decide +kernel

/-! ## What an interrupted and a failed attempt leave -/

/-- the caller goes away after the first byte of layer A -/
def scCan : Scripts := ⟨[], [], [(dA, ⟨[], [], [[.body .honest (some 1) .cancel]]⟩)], none⟩
/-- every chunk read of layer A is cut after one byte by a connection reset (bytes written, progress rolled back), six times -/
def scCut : Scripts := ⟨[], [], [(dA, ⟨[], [], [List.replicate 6 (.body .honest (some 1) .reset)]⟩)], none⟩

/-- **Witness / non-vacuity: an interrupted and a failed attempt each leave a `Resume1Ok` state, and the retry succeeds** -/
theorem interrupted_pull_resumes :
    let r1 := pull cfgF toyHash 0 regA scCan st0
    let r2 := pull cfgF toyHash 0 regA Scripts.honest r1.2.1
    let q1 := pull cfgF toyHash 0 regA scCut st0
    let q2 := pull cfgF toyHash 0 regA Scripts.honest q1.2.1
    r1.1 = .err .canceled ∧ r1.2.1.partials dA = ⟨some [1, 0], [⟨0, 2, 1⟩]⟩ ∧ Resume1Ok cA (r1.2.1.partials dA) ∧
    ¬ CleanFor r1.2.1 regA ∧
    r2.1 = .ok () ∧ r2.2.1.blobs dA = some cA ∧ r2.2.1.partials dA = Partial.none ∧
    q1.1 = .err .maxRetries ∧ Resume1Ok cA (q1.2.1.partials dA) ∧ q2.1 = .ok () ∧ q2.2.1.blobs dA = some cA := by
  refine ⟨by decide +kernel, by decide +kernel, ?_, ?_, by decide +kernel, by decide +kernel, by decide +kernel,
    by decide +kernel, ?_, by decide +kernel⟩
  · exact ⟨[1, 0], 1, by decide +kernel, by decide, by decide, by decide⟩
  · intro h
    exact absurd (h ⟨.ok dA, 2, 0⟩ (by decide) dA rfl (by decide +kernel)) (by decide +kernel)
  · exact ⟨[1, 0], 0, by decide +kernel, by decide, by decide, by decide⟩

/-! ## Sizes: what IS established -/

/-- **What a successful pull establishes about sizes** (repaired variant, `verifyEarly`; no assumption about the manifest's
    `size` fields): for every served layer the bytes on disk are bytes that hash to the layer's digest — so the stored
    LENGTH is the length of a preimage of the digest — and the layer has "exactly the manifest's size" if and only if
    the manifest declares that length.  If moreover the registry's blob `c0` is the only preimage of the digest that is
    around (`hone`: second-preimage resistance for this digest), the stored blob IS the registry's blob, byte for
    byte, and the size clause holds exactly when the manifest's `size` is `c0.length`.  Nothing in the code compares
    `size` with anything: `size_lie_accepted`. -/
theorem pull_success_stored_is_published (cfg : Cfg) (hash : Bytes → Digest) (name : Name) (reg : Registry)
    (sc : Scripts) (st st' : Store) (log : Log) (hearly : cfg.verifyEarly = true)
    (hinv : BlobInv hash st) (h : pull cfg hash name reg sc st = (.ok (), st', log)) :
    ∀ l ∈ reg.manifest.all, ∃ d c, l.digest = .ok d ∧ st'.blobs d = some c ∧ hash c = d ∧
      (∀ c0, (∀ x, hash x = d → x = c0) → c = c0 ∧ (c.length = l.size ↔ l.size = c0.length)) := by
  intro l hl
  obtain ⟨d, c, hd, hc, hh⟩ := (pull_success_complete_fixed cfg hash name reg sc st st' log hearly hinv h).1 l hl
  refine ⟨d, c, hd, hc, hh, ?_⟩
  intro c0 hone
  have e : c = c0 := hone c hh
  subst e
  exact ⟨rfl, ⟨fun x => x.symm, fun x => x.symm⟩⟩

/-- non-vacuity: `hone` cannot hold for the toy hash (many preimages); the first three conjuncts are exercised by the
    honest two-layer pull -/
example : (pull cfgF toyHash 0 regAB Scripts.honest st0).1 = .ok () ∧
    (pull cfgF toyHash 0 regAB Scripts.honest st0).2.1.blobs dA = some cA ∧ toyHash cA = dA ∧ cA.length = 2 := by decide +kernel

/-! ## What a failed attempt can leave that an honest retry does NOT recover from at once -/

/-- layer A's only chunk answers with an error page whose read ends in `ErrUnexpectedEOF` after one byte: the byte is
    written and the progress PERSISTED (status codes are never looked at), five more tries fail on the network -/
def scJunkPersisted : Scripts :=
  ⟨[], [], [(dA, ⟨[], [], [(.body (.junk [9, 9]) (some 1) .ueof) :: List.replicate 5 .neterr]⟩)], none⟩

/-- **Boundary witness for "a later retry can still succeed"** (why `ResumeOk` asks the data file to agree with the blob):
    a failed attempt can persist bytes that are not the blob's.  The first honest retry fetches only the rest, the
    assembled file fails verification and is removed together with the records; the SECOND honest retry succeeds.  (The
    other excluded state is a record whose size is not the blob's length: `stuck_plan_never_recovers`, never recovers.) -/
theorem corrupt_resume_needs_two_retries :
    let r1 := pull cfgF toyHash 0 regA scJunkPersisted st0
    let r2 := pull cfgF toyHash 0 regA Scripts.honest r1.2.1
    let r3 := pull cfgF toyHash 0 regA Scripts.honest r2.2.1
    r1.1 = .err .maxRetries ∧ r1.2.1.partials dA = ⟨some [9, 0], [⟨0, 2, 1⟩]⟩ ∧
    r2.1 = .err .digestMismatch ∧ r2.2.1.blobs dA = none ∧ r2.2.1.partials dA = Partial.none ∧
    r3.1 = .ok () ∧ r3.2.1.blobs dA = some cA := by decide +kernel

/-- a two-part plan for a four-byte blob -/
def cfgM : Cfg := { cfgF with nparts := 2, minSize := 1, maxSize := 1000 }
def cA4 : Bytes := [1, 10, 20, 30]
def regA4 : Registry := ⟨⟨[⟨.ok dA, 4, 0⟩], ⟨.empty, 0, 0⟩⟩, [(dA, cA4)], [0]⟩
/-- part 0 completes; part 1 gets one byte (`ErrUnexpectedEOF`: progress persisted), then the network fails five times -/
def scHalf : Scripts :=
  ⟨[], [], [(dA, ⟨[], [], [[], (.body .honest (some 1) .ueof) :: List.replicate 5 .neterr]⟩)], none⟩

/-- **Witness / non-vacuity (multi-part)**: a failed two-part download leaves two records (one complete, one half done)
    that fit the blob; the honest retry requests only the missing byte range and succeeds. -/
theorem multipart_failed_pull_resumes :
    let r1 := pull cfgM toyHash 0 regA4 scHalf st0
    let r2 := pull cfgM toyHash 0 regA4 Scripts.honest r1.2.1
    r1.1 = .err .maxRetries ∧ r1.2.1.partials dA = ⟨some [1, 10, 20, 0], [⟨0, 2, 2⟩, ⟨2, 2, 1⟩]⟩ ∧
    ResumeFits cA4 (r1.2.1.partials dA) ∧
    r2.1 = .ok () ∧ r2.2.1.blobs dA = some cA4 ∧ r2.2.1.partials dA = Partial.none ∧ r2.2.2.net.nc = 1 ∧ r2.2.2.net.nh = 0 := by
  have hp : (pull cfgM toyHash 0 regA4 scHalf st0).2.1.partials dA = ⟨some [1, 10, 20, 0], [⟨0, 2, 2⟩, ⟨2, 2, 1⟩]⟩ := by decide +kernel
  refine ⟨by decide +kernel, hp, ?_, by decide +kernel⟩
  rw [hp]
  refine ⟨[1, 10, 20, 0], rfl, by decide, by decide, by decide, ?_, by decide⟩
  intro p hpm
  rcases List.mem_cons.1 hpm with rfl | hpm
  · refine ⟨by decide, by decide, fun i _ h2 => ?_⟩
    match i, h2 with
    | 0, _ => rfl
    | 1, _ => rfl
    | n + 2, h => exact absurd h (by simp)
  · cases List.mem_singleton.1 hpm
    refine ⟨by decide, by decide, fun i h1 h2 => ?_⟩
    have : i = 2 := by simp only at h1 h2; omega
    subst this; rfl

/-! ## Histories: any number of pulls, of any names, against a registry that may re-publish in between -/

/-- **A successful pull keeps every OTHER name intact too** (repaired variant, `verifyEarly`): it installs the served
    manifest under the pulled name with all layers verified (`pull_success_complete_fixed`) and its pruning removes no blob that a readable
    manifest of any name still refers to — so `NameInv` survives success as well as failure
    (`pull_fail_preserves_names`), which is the induction step for histories. -/
theorem pull_success_preserves_names (cfg : Cfg) (hash : Bytes → Digest) (name : Name) (reg : Registry)
    (sc : Scripts) (st st' : Store) (log : Log) (hearly : cfg.verifyEarly = true)
    (hb : BlobInv hash st) (hn : NameInv hash st) (h : pull cfg hash name reg sc st = (.ok (), st', log)) :
    NameInv hash st' := by
  intro n m hlook l hl
  obtain ⟨hman, hx⟩ := pull_effect h
  by_cases e : n = name
  · subst e
    rw [hman, if_pos rfl, lookupM_insertM] at hlook
    cases hlook
    exact (pull_success_complete_fixed cfg hash n reg sc st st' log hearly hb h).1 l hl
  · have hused := usedRefs_mem n m _ hlook _ (all_digest_mem_layerRefs m l hl)
    rw [hman, if_pos rfl, lookupM_insertM_other _ _ _ _ e] at hlook
    obtain ⟨d, c, hd, hc, hh⟩ := hn n m hlook l hl
    refine ⟨d, c, hd, ?_, hh⟩
    -- pruning spares what a readable manifest refers to
    rcases hx (.inr hearly) d with ⟨_, _, hun⟩ | e | ⟨hnone, _⟩
    · exact absurd (hd ▸ hused) hun
    · rw [e]; exact hc
    · rw [hnone] at hc; cases hc

theorem pull_keeps_intact {cfg : Cfg} {hash : Bytes → Digest} (hearly : cfg.verifyEarly = true) (s : HStep)
    (st : Store) (h : BlobInv hash st ∧ NameInv hash st) :
    BlobInv hash (pull cfg hash s.name s.reg s.sc st).2.1 ∧ NameInv hash (pull cfg hash s.name s.reg s.sc st).2.1 := by
  generalize hp : pull cfg hash s.name s.reg s.sc st = r
  obtain ⟨o, st', log⟩ := r
  refine ⟨pull_fail_preserves cfg hash s.name s.reg s.sc st st' o log hearly h.1 hp, ?_⟩
  by_cases ho : o = .ok ()
  · subst ho
    exact pull_success_preserves_names cfg hash s.name s.reg s.sc st st' log hearly h.1 h.2 hp
  · exact pull_fail_preserves_names cfg hash s.name s.reg s.sc st st' o log (Or.inr hearly) ho h.2 hp

theorem runHistory_inv {cfg : Cfg} {hash : Bytes → Digest} {P : Store → Prop}
    (hP : ∀ (s : HStep) st, P st → P (pull cfg hash s.name s.reg s.sc st).2.1) (steps : List HStep) :
    ∀ st, P st → (∀ r ∈ runHistory cfg hash steps st, P r.2.1) ∧ P (finalStore cfg hash steps st) := by
  induction steps with
  | nil => exact fun st h => ⟨fun _ hr => (nomatch hr), h⟩
  | cons s rest ih =>
    intro st h
    obtain ⟨h1, h2⟩ := ih _ (hP s st h)
    exact ⟨fun r hr => (List.mem_cons.1 hr).elim (fun e => e ▸ hP s st h) (h1 r), h2⟩

/-- **At no point of any history does a name resolve to a manifest with a missing or corrupt layer, and no blob
    ever fails to hash to its name** (repaired variant, `verifyEarly`): for every list of pull attempts — any names, any
    registries (the tag may be re-published between attempts), any fault scripts, any outcomes (success, error,
    crash), any length — starting from a store that satisfies both invariants, the store after EVERY attempt
    satisfies both. -/
theorem history_every_state_intact (cfg : Cfg) (hash : Bytes → Digest) (hearly : cfg.verifyEarly = true)
    (steps : List HStep) : ∀ st, BlobInv hash st → NameInv hash st →
      ∀ r ∈ runHistory cfg hash steps st, BlobInv hash r.2.1 ∧ NameInv hash r.2.1 :=
  fun st hb hn => (runHistory_inv (pull_keeps_intact hearly) steps st ⟨hb, hn⟩).1

/-- … in particular the store a history ends in -/
theorem history_inv (cfg : Cfg) (hash : Bytes → Digest) (hearly : cfg.verifyEarly = true)
    (steps : List HStep) : ∀ st, BlobInv hash st → NameInv hash st →
      BlobInv hash (finalStore cfg hash steps st) ∧ NameInv hash (finalStore cfg hash steps st) :=
  fun st hb hn => (runHistory_inv (pull_keeps_intact hearly) steps st ⟨hb, hn⟩).2

/-- **After any history, from any fitting resume state** (repaired variant, `verifyEarly`): whatever happened before, if the registry is
    then honest and what the history left for the missing layers fits their blobs, the pull succeeds, installs the
    served manifest with every layer verified and leaves every other name intact. -/
theorem history_then_retry_from_resume_succeeds (cfg : Cfg) (hash : Bytes → Digest) (hearly : cfg.verifyEarly = true)
    (hret : 0 < cfg.retries) (hmin : 0 < cfg.minSize) (hmax : 0 < cfg.maxSize)
    (steps : List HStep) (st : Store) (hb : BlobInv hash st) (hn : NameInv hash st)
    (name : Name) (reg : Registry) (hreg : HonestReg hash reg)
    (hres : ResumeOkN (finalStore cfg hash steps st) reg) :
    let r := pull cfg hash name reg Scripts.honest (finalStore cfg hash steps st)
    r.1 = .ok () ∧ lookupM name r.2.1.manifests = some (.readable reg.manifest) ∧
    (∀ l ∈ reg.manifest.all, ∃ d c, l.digest = .ok d ∧ r.2.1.blobs d = some c ∧ hash c = d) ∧
    NameInv hash r.2.1 := by
  obtain ⟨hb', hn'⟩ := history_inv cfg hash hearly steps st hb hn
  have hok := retry_can_succeed_resume_multi cfg hash name reg (finalStore cfg hash steps st) hret hmin hmax hreg hb' hres
  generalize hp : pull cfg hash name reg Scripts.honest (finalStore cfg hash steps st) = r at hok ⊢
  obtain ⟨o, st', log⟩ := r
  simp only at hok
  subst hok
  have h1 := pull_success_complete_fixed cfg hash name reg Scripts.honest _ st' log hearly hb' hp
  exact ⟨rfl, h1.2, h1.1, pull_success_preserves_names cfg hash name reg Scripts.honest _ st' log hearly hb' hn' hp⟩

/-- **After any history a later retry can still succeed** (repaired variant, `verifyEarly`): whatever happened before —
    any number of failed, interrupted, successful pulls of any names against any registries under any fault scripts —
    if the registry is then honest and the store holds no resume state for the layers still missing, the pull
    succeeds, installs the served manifest with every layer verified, and leaves every other name intact.
    (The case without resume state of the theorem above; `stuck_plan_never_recovers` is the boundary.) -/
theorem history_then_honest_retry_succeeds (cfg : Cfg) (hash : Bytes → Digest) (hearly : cfg.verifyEarly = true)
    (hret : 0 < cfg.retries) (hmin : 0 < cfg.minSize) (hmax : 0 < cfg.maxSize)
    (steps : List HStep) (st : Store) (hb : BlobInv hash st) (hn : NameInv hash st)
    (name : Name) (reg : Registry) (hreg : HonestReg hash reg)
    (hclean : CleanFor (finalStore cfg hash steps st) reg) :
    let r := pull cfg hash name reg Scripts.honest (finalStore cfg hash steps st)
    r.1 = .ok () ∧ lookupM name r.2.1.manifests = some (.readable reg.manifest) ∧
    (∀ l ∈ reg.manifest.all, ∃ d c, l.digest = .ok d ∧ r.2.1.blobs d = some c ∧ hash c = d) ∧
    NameInv hash r.2.1 :=
  history_then_retry_from_resume_succeeds cfg hash hearly hret hmin hmax steps st hb hn name reg hreg
    hclean.resumeOk.toN

/-- what a name resolves to after a history, read off the steps and their outcomes alone: the manifest served in the
    LAST SUCCESSFUL pull of that name (what it resolved to before the history if there was none) -/
def resolved (n : Name) : List (HStep × Outcome) → Option MFile → Option MFile
  | [], cur => cur
  | (s, o) :: rest, cur =>
    resolved n rest (if o = .ok () ∧ s.name = n then some (.readable s.reg.manifest) else cur)

/-- **After any history every name resolves to exactly the manifest the registry served in the last successful pull
    of that name** (all variants, every store, every script): a failed or interrupted attempt never changes what a
    name resolves to, a successful one installs what was served in THAT attempt — also when an earlier version with
    the same layers, another config, other media types or sizes is already installed (re-published tag). -/
theorem history_resolves (cfg : Cfg) (hash : Bytes → Digest) (n : Name) (steps : List HStep) : ∀ st,
    lookupM n (finalStore cfg hash steps st).manifests =
      resolved n (steps.zip ((runHistory cfg hash steps st).map (·.1))) (lookupM n st.manifests) := by
  induction steps with
  | nil => intro st; rfl
  | cons s rest ih =>
    intro st
    simp only [finalStore, runHistory, List.map_cons, List.zip_cons_cons, resolved]
    rw [ih]
    congr 1
    generalize hp : pull cfg hash s.name s.reg s.sc st = r0
    obtain ⟨o, st', log⟩ := r0
    have hman := (pull_effect hp).1
    show lookupM n st'.manifests = _
    rw [hman]
    by_cases ho : o = .ok ()
    · by_cases hn : s.name = n
      · subst hn; simp [ho, lookupM_insertM]
      · simp [ho, hn, lookupM_insertM_other _ _ _ _ (Ne.symm hn)]
    · simp [ho]

def cC : Bytes := [3, 30]
def dC : Digest := [3]
def regV1 : Registry := ⟨⟨[⟨.ok dA, 2, 0⟩, ⟨.ok dB, 5, 0⟩], ⟨.empty, 0, 0⟩⟩, [(dA, cA), (dB, cB), (dC, cC)], [0]⟩
def regV2 : Registry := { regV1 with manifest := ⟨[⟨.ok dA, 2, 0⟩, ⟨.ok dB, 5, 0⟩], ⟨.ok dC, 2, 0⟩⟩ }
def regV3 : Registry := { regV1 with manifest := ⟨[⟨.ok dA, 2, 4⟩, ⟨.ok dB, 2, 0⟩], ⟨.ok dC, 2, 0⟩⟩ }
def regShare : Registry := { regV1 with manifest := ⟨[⟨.ok dA, 2, 0⟩], ⟨.empty, 0, 0⟩⟩ }
def republishSteps : List HStep :=
  [⟨1, regShare, Scripts.honest⟩, ⟨0, regV1, Scripts.honest⟩, ⟨0, regV2, ⟨[.status], [], [], none⟩⟩,
   ⟨0, regV2, Scripts.honest⟩, ⟨0, regV3, Scripts.honest⟩]

/-- the re-published tag, concretely (toy hash): v1 = layers A, B; v2 = the same layers with a new config; v3 = the same
    digests, layer A under another media type and B's size corrected.  Pull v1, then v2 under a failing manifest
    request (nothing changes), then v2, then v3: the name resolves to v1, v1, v2, v3 in turn; every attempt but the
    second succeeds; a name sharing layer A stays intact throughout. -/
theorem republished_tag_installs_each_version :
    (runHistory cfgF toyHash republishSteps st0).map (·.1) = [.ok (), .ok (), .err .manifest, .ok (), .ok ()] ∧
    (runHistory cfgF toyHash republishSteps st0).map (fun r => lookupM 0 r.2.1.manifests) =
      [none, some (.readable regV1.manifest), some (.readable regV1.manifest),
       some (.readable regV2.manifest), some (.readable regV3.manifest)] ∧
    regV2.manifest.layers = regV1.manifest.layers ∧ regV2.manifest ≠ regV1.manifest ∧
    regV3.manifest.layers.map (·.digest) = regV2.manifest.layers.map (·.digest) ∧
    lookupM 1 (finalStore cfgF toyHash republishSteps st0).manifests = some (.readable regShare.manifest) ∧
    (finalStore cfgF toyHash republishSteps st0).blobs dA = some cA := by decide +kernel

/-- non-vacuity of the history theorems: `st0` satisfies both invariants, `cfgF` is the repaired variant, and the
    history above mixes names, versions, a failure and successes -/
example : cfgF.verifyEarly = true ∧ republishSteps.length = 5 ∧
    resolved 0 (republishSteps.zip ((runHistory cfgF toyHash republishSteps st0).map (·.1))) none =
      some (.readable regV3.manifest) := by decide +kernel

/-- non-vacuity of `history_then_honest_retry_succeeds`: with no steps its hypotheses are those of `retry_can_succeed`
    (satisfied by `regAB`, `st0`: see the example there); and after the five-step re-publication history the honest
    registry `regAB` is pulled successfully -/
example : (pull cfgF toyHash 0 regAB Scripts.honest (finalStore cfgF toyHash republishSteps st0)).1 = .ok () ∧
    CleanFor (finalStore cfgF toyHash [] st0) regAB := ⟨by decide +kernel, fun _ _ _ _ _ => rfl⟩

end OllamaVerif.C03
