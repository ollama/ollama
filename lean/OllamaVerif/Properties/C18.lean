/-
  C18 — the sampler returns an admissible token, deterministically under a seed.

  Property theorems over the generic model `Model/Sampler.lean` (stage lemmas: `Proofs/Sampler.lean`; transfer
  to carriers with a NaN: `Proofs/SamplerNaN.lean`), with no bound on the vocabulary size or on `k`: for EVERY
  carrier `α` and `o : Ops α` whose comparison is a strict weak order (`OrdLaws`), and — no carrier with a
  NaN is one (`X_not_OrdLaws`) — in `…_on` form for every carrier whose comparison is one on its non-NaN
  values (`OrdLawsOn`: what IEEE gives), under the guards `noNaN logits` / `runGood`.
  IEEE-754 itself is outside the model, so the statements that involve arithmetic take the run's
  *contracts* (`guardOK`, `scaleOK`, `softmaxOK`: decidable predicates over the stage values, which
  the oracle and the Go driver evaluate on every sampled run) as hypotheses (`…_partial`, `…_fixed_on`),
  or derive them from named IEEE laws (`ScaleLawsOn`, `ShiftLawsOn`, `SoftmaxLawsOn`, …: `…_lawful`,
  `…_from_input`), each law structure with its instance on the witness carrier `X` (NaN, ±Inf, integers).
  `guardOK` (the scaled maximum is finite) is the explicit guard that excludes exactly finding F18.
  Also here: the top-k stage as a parameter (`SampleWith`: any stage meeting `IsTopK`), histories of calls
  and reproducibility under a seed (`histWith_nth`), the grammar retry, an independent specification of
  top-p (`topP_spec`), `NewSampler`'s clamping.
-/
import OllamaVerif.Proofs.Sampler
import OllamaVerif.Proofs.SamplerNaN

namespace OllamaVerif.C18
open OllamaVerif OllamaVerif.Sampler

variable {α : Type}

structure Laws (o : Ops α) : Prop where
  ord : OrdLaws o          -- `<` is a strict weak order
  addZero : AddZeroLaw o   -- `z == 0 → ¬ s < s + z`
  beq : BeqLaw o           -- `a == b → ¬ b < a`

/-! ### the top-k stage as a parameter: the admissibility clauses do not depend on HOW it orders equal logits

  Go sorts with `slices.SortFunc` (pdqsort, unstable beyond 12 elements); the model sorts stably.  The
  two can differ in the order of tokens with EQUAL logits (the harness compares modulo that order).
  `SampleWith tk` is `Sample` with the top-k stage replaced by an arbitrary function `tk`.  Whatever
  `tk` is — pdqsort, the heap, the model's merge sort — as long as its output on this input is a
  correct top-k (`IsTopK`; the `topk` op evaluates a Boolean rendering of it, `isTopKB` of
  `Oracle/C18.lean`, on the REAL `topK` output of every sampled call), every admissibility clause holds.  Only WHICH of several
  equal logits is returned (a reproducibility question) depends on it. -/

def sampleCoreWith (o : Ops α) (tk : List (Tok α) → List (Tok α)) (fix : Bool) (P : Params α) (r : α)
    (ts : List (Tok α)) : Except Err (Tok α) :=
  if o.beq P.temp o.zero then
    match greedy o ts with
    | .ok t => if P.greedyErr && o.beq t.val o.negInf then .error .allNegInf else .ok t
    | .error e => .error e
  else afterTopK o fix P r (tk ts)

def SampleWith (o : Ops α) (tk : List (Tok α) → List (Tok α)) (fix : Bool) (P : Params α) (r : α)
    (logits : List α) : Except Err Nat :=
  match logits with
  | [] => .error .noLogits
  | _ => (sampleCoreWith o tk fix P r (mkTokens logits)).map (·.id)

theorem SampleWith_topK (o : Ops α) (fix : Bool) (P : Params α) (r : α) (logits : List α) :
    SampleWith o (topK o P.topK) fix P r logits = Sample o fix P r logits := rfl

/-! ### small facts about `Sample` -/

theorem SampleWith_ok (o : Ops α) (tk : List (Tok α) → List (Tok α)) (fix : Bool) (P : Params α) (r : α)
    (logits : List α) (id : Nat) (hS : SampleWith o tk fix P r logits = .ok id) :
    ∃ t, sampleCoreWith o tk fix P r (mkTokens logits) = .ok t ∧ t.id = id := by
  revert hS
  fun_cases SampleWith o tk fix P r logits
  · intro hS; cases hS
  · cases sampleCoreWith o tk fix P r (mkTokens logits) with
    | error e => intro hS; cases hS
    | ok t => intro hS; injection hS with hS; exact ⟨t, rfl, hS⟩

theorem Sample_ok (o : Ops α) (fix : Bool) (P : Params α) (r : α) (logits : List α) (id : Nat)
    (hS : Sample o fix P r logits = .ok id) :
    ∃ t, sampleCore o fix P r (mkTokens logits) = .ok t ∧ t.id = id :=
  SampleWith_ok o (topK o P.topK) fix P r logits id hS

theorem SampleWith_weighted (o : Ops α) (tk : List (Tok α) → List (Tok α)) (fix : Bool) (P : Params α) (r : α)
    (logits : List α) (id : Nat) (ht : o.beq P.temp o.zero = false)
    (hS : SampleWith o tk fix P r logits = .ok id) :
    ∃ t, afterTopK o fix P r (tk (mkTokens logits)) = .ok t ∧ t.id = id := by
  obtain ⟨t, hc, hid⟩ := SampleWith_ok o tk fix P r logits id hS
  simp only [sampleCoreWith, ht, Bool.false_eq_true, if_false] at hc
  exact ⟨t, hc, hid⟩

/-- on the greedy branch `sample` returns what `greedy` returns (the F18c variant only turns an
    all `-Inf` result into an error) -/
theorem sampleCore_greedy (o : Ops α) (fix : Bool) (P : Params α) (r : α) (ts : List (Tok α)) (t : Tok α)
    (ht : o.beq P.temp o.zero = true) (hc : sampleCore o fix P r ts = .ok t) : greedy o ts = .ok t := by
  revert hc
  fun_cases sampleCore o fix P r ts <;> intro hc
  case case2 _ t' hg _ => injection hc with hc; exact hc ▸ hg
  case case4 hn => exact absurd ht hn
  all_goals cases hc

theorem Sample_weighted_eq (o : Ops α) (fix : Bool) (P : Params α) (r : α) (v : α) (vs : List α)
    (ht : o.beq P.temp o.zero = false) :
    Sample o fix P r (v :: vs) = (afterTopK o fix P r (topK o P.topK (mkTokens (v :: vs)))).map (·.id) := by
  simp only [Sample, sampleCore, ht, Bool.false_eq_true, if_false]

theorem Sample_of_afterTopK (o : Ops α) (fix : Bool) (P : Params α) (r : α) (v : α) (vs : List α)
    (h : o.beq P.temp o.zero = false →
      (∃ t, afterTopK o fix P r (topK o P.topK (mkTokens (v :: vs))) = .ok t) ∨
      afterTopK o fix P r (topK o P.topK (mkTokens (v :: vs))) = .error .nanSum ∨
      afterTopK o fix P r (topK o P.topK (mkTokens (v :: vs))) = .error .allNegInf) :
    (∃ id, Sample o fix P r (v :: vs) = .ok id) ∨ Sample o fix P r (v :: vs) = .error .nanSum ∨
      Sample o fix P r (v :: vs) = .error .allNegInf := by
  cases ht : o.beq P.temp o.zero with
  | true =>
    simp only [Sample, sampleCore, ht, if_true, mkTokens, mkTokensFrom, greedy]
    split
    · exact .inr (.inr rfl)
    · exact .inl ⟨_, rfl⟩
  | false =>
    rw [Sample_weighted_eq o fix P r v vs ht]
    rcases h ht with ⟨t, ht⟩ | he | he
    · rw [ht]; exact .inl ⟨t.id, rfl⟩
    · rw [he]; exact .inr (.inl rfl)
    · rw [he]; exact .inr (.inr rfl)

/-- With temperature 0 `Sample` returns an index into the logits whose logit
    no other logit exceeds — for every vocabulary size, ties included. -/
theorem greedy_argmax {o : Ops α} (h : OrdLaws o) (fix : Bool) (P : Params α) (r : α)
    (logits : List α) (id : Nat) (ht : o.beq P.temp o.zero = true)
    (hS : Sample o fix P r logits = .ok id) :
    ∃ v, logits[id]? = some v ∧ ∀ w ∈ logits, o.lt v w = false := by
  obtain ⟨t, hc, hid⟩ := Sample_ok o fix P r logits id hS
  have hc := sampleCore_greedy o fix P r _ t ht hc
  obtain ⟨hm, hmax⟩ := greedy_spec h _ _ hc
  refine ⟨t.val, by rw [← hid]; exact mkTokens_mem _ _ hm, ?_⟩
  intro w hw
  obtain ⟨x, hx, hv⟩ := mem_mkTokens_of_mem logits w hw
  rw [← hv]; exact hmax x hx

/-- each filter returns a prefix of the list it is given (which `topK` sorted): non-empty for `topP`,
    and for `minP` as soon as `¬ max < max·p` -/
theorem filters_nonempty_prefix (o : Ops α) (p mp : α) (L : List (Tok α)) (hL : L ≠ []) :
    topP o p L <+: L ∧ topP o p L ≠ [] ∧
    (∀ f, minP o mp L = .ok f → f <+: L) ∧
    (∀ t0 rest, L = t0 :: rest → o.lt t0.val (o.mul t0.val mp) = false →
        ∃ f, minP o mp L = .ok (t0 :: f)) := by
  refine ⟨topP_prefix o p L, topP_ne_nil o p L hL, fun f hf => minP_prefix o mp L f hf, ?_⟩
  intro t0 rest hl hmul
  subst hl
  exact minP_ne_nil o mp t0 rest hmul

/-- **topK is a correct top-k on BOTH branches, for every `k`**: the specification-level top-k and
    the implemented `topK` — the sort branch and the heap branch, an exact mirror of
    `container/heap` Init/Push/Pop/up/down — return the `k` largest tokens in descending order
    (`IsTopK`: length, descending, a sub-multiset of the input, nothing left out exceeds anything
    kept).  No bound on `k` or on the vocabulary size; needs only the strict weak order. -/
theorem topK_isTopK {o : Ops α} (h : OrdLaws o) (k : Int) (ts : List (Tok α)) :
    IsTopK o k ts (topKSpec o k ts) ∧ IsTopK o k ts (topK o k ts) :=
  ⟨topKSpec_isTopK h k ts, topK_isTopK_all h k ts⟩

theorem isTopK_count {o : Ops α} {k : Int} {ts out : List (Tok α)} (ht : IsTopK o k ts out)
    (y : Tok α) (hy : y ∈ out) (hirr : o.lt y.val y.val = false) :
    (ts.filter (fun x => o.lt y.val x.val)).length < out.length := by
  obtain ⟨rest, hp, hdom⟩ := ht.sub
  have e1 : (ts.filter (fun x => o.lt y.val x.val)).length =
      ((out ++ rest).filter (fun x => o.lt y.val x.val)).length := (hp.filter _).length_eq.symm
  have e2 : rest.filter (fun x => o.lt y.val x.val) = [] := by
    rw [List.filter_eq_nil_iff]
    intro x hx hlt
    have := hdom x hx y hy
    rw [this] at hlt; cases hlt
  rw [e1, List.filter_append, e2, List.append_nil]
  have hle := List.length_filter_le (fun x => o.lt y.val x.val) out
  rcases Nat.lt_or_ge (out.filter (fun x => o.lt y.val x.val)).length out.length with hlt | hge
  · exact hlt
  · have heq : (out.filter (fun x => o.lt y.val x.val)).length = out.length := by omega
    have := (List.length_filter_eq_length_iff.1 heq) y hy
    rw [hirr] at this; cases this

/-- **any correct top-k stage**: temperature > 0, both variants.  If the stage's output on this input
    satisfies `IsTopK` (and `<` is irreflexive on the kept values — true of non-NaN floats), then a
    returned id is in range and fewer than `k` logits are strictly larger. -/
theorem sampleWith_admissible (o : Ops α) (tk : List (Tok α) → List (Tok α)) (fix : Bool) (P : Params α)
    (r : α) (logits : List α) (id : Nat) (ht : o.beq P.temp o.zero = false)
    (htk : IsTopK o P.topK (mkTokens logits) (tk (mkTokens logits)))
    (hirr : ∀ y ∈ tk (mkTokens logits), o.lt y.val y.val = false)
    (hS : SampleWith o tk fix P r logits = .ok id) :
    id < logits.length ∧
    ∃ v, logits[id]? = some v ∧
      ((mkTokens logits).filter (fun x => o.lt v x.val)).length <
        (if P.topK ≥ (logits.length : Int) ∨ P.topK ≤ 0 then logits.length else P.topK.toNat) := by
  obtain ⟨t, hc, hid⟩ := SampleWith_weighted o tk fix P r logits id ht hS
  obtain ⟨y, hy, hyid⟩ := afterTopK_id_any o fix P r _ t hc
  have hget : logits[id]? = some y.val := by
    rw [← hid, ← hyid]; exact mkTokens_mem logits y (htk.mem y hy)
  have hcount := isTopK_count htk y hy (hirr y hy)
  rw [htk.len, mkTokens_length] at hcount
  exact ⟨(List.getElem?_eq_some_iff.1 hget).1, y.val, hget, hcount⟩

/-- The top-k clause of the property as a theorem, no run contract: at
    temperature > 0 (both variants, any `r`, any carrier with a strict weak order) the returned id
    indexes a logit `v`, and FEWER THAN `k` tokens (fewer than the vocabulary size when top-k is
    disabled) have a logit strictly larger than `v`.  This is literally the predicate the L2 monitor `not-in-topk` evaluates on the real code. -/
theorem sample_in_topk {o : Ops α} (h : OrdLaws o) (fix : Bool) (P : Params α) (r : α)
    (logits : List α) (id : Nat) (ht : o.beq P.temp o.zero = false)
    (hS : Sample o fix P r logits = .ok id) :
    ∃ v, logits[id]? = some v ∧
      ((mkTokens logits).filter (fun x => o.lt v x.val)).length <
        (if P.topK ≥ (logits.length : Int) ∨ P.topK ≤ 0 then logits.length else P.topK.toNat) :=
  (sampleWith_admissible o (topK o P.topK) fix P r logits id ht (topK_isTopK_all h _ _)
    (fun _ _ => h.irrefl _) hS).2

/-- **topK returns tokens of its input** — both branches, no law assumed; for `0 < k < len` the
    heap branch (exact mirror of `container/heap`) returns exactly `k` of them -/
theorem topK_returns_input_tokens (o : Ops α) (k : Int) (ts : List (Tok α)) :
    (∀ y ∈ topK o k ts, y ∈ ts) ∧
    (0 < k → k < ts.length → (topK o k ts).length = k.toNat) := by
  refine ⟨topK_mem o k ts, fun h0 hlt => ?_⟩
  have hk : ¬ (k ≥ (ts.length : Int) ∨ k ≤ 0) := by omega
  rw [topK_length, if_neg hk]

/-- **minP is the threshold filter**: on the descending list it is given, cutting at the first
    entry below `max·p` keeps exactly `{t | ¬ t < max·p}` -/
theorem minP_is_threshold_filter {o : Ops α} (h : OrdLaws o) (p : α) (t0 : Tok α) (rest : List (Tok α))
    (hd : (t0 :: rest).Pairwise (fun a b => o.lt a.val b.val = false)) :
    minP o p (t0 :: rest) = .ok ((t0 :: rest).filter (fun t => !o.lt t.val (o.mul t0.val p))) := by
  simp only [minP]
  rw [takeWhile_eq_filter_of_desc h _ _ hd]

/-- **the pick is the first index** whose cumulative sum is not below the target, when the
    cumulative sums are ascending (run contract `cum`) -/
theorem pick_first_index {o : Ops α} (h : OrdLaws o) (C : List (Tok α)) (target : α)
    (hasc : isAsc o (C.map (·.val)) = true) :
    ∀ j, j < bsearch (belowAt o C target) (C.length + 1) 0 C.length → belowAt o C target j = true := by
  intro j hj
  obtain ⟨_, hlo, _⟩ := bsearch_top (belowAt o C target) C.length
  generalize bsearch (belowAt o C target) (C.length + 1) 0 C.length = idx at hj hlo
  -- C[idx-1] exists and is below the target
  have hlo : belowAt o C target (idx - 1) = true := hlo.resolve_left (by omega)
  unfold belowAt at hlo ⊢
  have hi1 : idx - 1 < C.length := by
    rcases Nat.lt_or_ge (idx - 1) C.length with h1 | h1
    · exact h1
    · rw [List.getElem?_eq_none h1] at hlo; cases hlo
  have hjlt : j < C.length := by omega
  rw [List.getElem?_eq_getElem hi1] at hlo
  rw [List.getElem?_eq_getElem hjlt]
  rcases Nat.lt_or_ge j (idx - 1) with hlt | hge
  · have hrel := List.pairwise_iff_getElem.1 (isAsc_pairwise h _ hasc) j (idx - 1)
      (by simpa using hjlt) (by simpa using hi1) hlt
    simp only [List.getElem_map] at hrel
    exact (h.cotrans _ C[j].val _ hlo).resolve_left (by rw [hrel]; exact Bool.false_ne_true)
  · have : j = idx - 1 := by omega
    subst this; exact hlo

/-- **no panic**: with a non-empty logit vector and temperature > 0 the unrepaired `Sample` (`fix = false`) returns a
    token or the NaN error as soon as the two arithmetic run contracts hold (`max·minP ≤ max`,
    `r·total ≤ total`); at temperature 0 it always returns a token (or, with the F18c repair
    `greedyErr`, which the tree has (`Tie/C18.lean`), the "all -Inf" error). -/
theorem sample_never_panics (o : Ops α) (P : Params α) (r : α) (logits : List α) (hne : logits ≠ [])
    (hmin : ∀ t0 rest, topP o P.topP (probsOf o P (topK o P.topK (mkTokens logits))) = t0 :: rest →
        o.lt t0.val (o.mul t0.val P.minP) = false)
    (hr : ∀ f last, minP o P.minP (topP o P.topP (probsOf o P (topK o P.topK (mkTokens logits)))) = .ok f →
        (cumsum o o.zero f).getLast? = some last → o.lt last.val (o.mul r last.val) = false) :
    (∃ id, Sample o false P r logits = .ok id) ∨ Sample o false P r logits = .error .nanSum ∨
      Sample o false P r logits = .error .allNegInf := by
  cases logits with
  | nil => exact absurd rfl hne
  | cons v vs =>
    refine Sample_of_afterTopK o false P r v vs fun _ => ?_
    exact (afterTopK_no_panic o P r _ (topK_ne_nil o _ (mkTokens_cons_ne_nil v vs)) hmin hr).imp_right .inl

/-- **no panic, repaired variant** (what /repo runs): token, NaN error, or the explicit
    "all logits are -Inf" error; the contracts are those of the run on the shifted list -/
theorem sample_never_panics_fixed (o : Ops α) (P : Params α) (r : α) (logits : List α) (hne : logits ≠ [])
    (hmin : ∀ L1 t0 rest, shiftMax o (topK o P.topK (mkTokens logits)) = .ok L1 →
        topP o P.topP (probsOf o P L1) = t0 :: rest → o.lt t0.val (o.mul t0.val P.minP) = false)
    (hr : ∀ L1 f last, shiftMax o (topK o P.topK (mkTokens logits)) = .ok L1 →
        minP o P.minP (topP o P.topP (probsOf o P L1)) = .ok f →
        (cumsum o o.zero f).getLast? = some last → o.lt last.val (o.mul r last.val) = false) :
    (∃ id, Sample o true P r logits = .ok id) ∨ Sample o true P r logits = .error .nanSum ∨
      Sample o true P r logits = .error .allNegInf := by
  cases logits with
  | nil => exact absurd rfl hne
  | cons v vs =>
    refine Sample_of_afterTopK o true P r v vs fun _ => ?_
    exact afterTopK_no_panic_fix o P r _ (topK_ne_nil o _ (mkTokens_cons_ne_nil v vs)) hmin hr

/-- Whatever the carrier does (NaN included, no law assumed): if `Sample`
    returns an id, it is an index into the logits — hence inside the vocabulary.  Unconditional:
    both branches of `topK` (the sort and the mirrored `container/heap` code) are proved to return
    tokens of their input (`topK_mem`).  Both variants (`fix`). -/
theorem index_in_range (o : Ops α) (fix : Bool) (P : Params α) (r : α) (logits : List α) (id : Nat)
    (hS : Sample o fix P r logits = .ok id) : id < logits.length := by
  obtain ⟨t, hc, hid⟩ := Sample_ok o fix P r logits id hS
  have key : ∃ y ∈ mkTokens logits, y.id = id := by
    by_cases ht : o.beq P.temp o.zero = true
    · exact ⟨t, greedy_mem o _ _ (sampleCore_greedy o fix P r _ t ht hc), hid⟩
    · simp only [sampleCore, ht] at hc
      obtain ⟨y, hy, hyid⟩ := afterTopK_id_any o fix P r _ t hc
      exact ⟨y, topK_mem o _ _ y hy, by rw [hyid, hid]⟩
  obtain ⟨y, hy, hyid⟩ := key
  have := mkTokens_mem logits y hy
  rw [hyid] at this
  exact (List.getElem?_eq_some_iff.1 this).1

/-- `never_neg_inf` + `result_mem_filters`.  Temperature > 0, the
    unrepaired code (`fix = false`).  If the run's contracts hold — `guardOK`: no NaN and no `+Inf`
    among the scaled logits and the largest is not `-Inf` (this is what fails in finding F18) —
    then the returned id
      * indexes a logit that is not `-Inf`   (a zero-probability entry is never the first index
        whose cumulative sum reaches `r·total`: no condition on `r` is needed beyond what the
        binary search itself guarantees; `r·total ≤ total` only matters for "no panic"), and
      * is the id of the entry at a position inside the prefix `minP (topP (softmax (temperature
        (topK tokens))))`. -/
theorem sample_admissible_partial {o : Ops α} (laws : Laws o) (P : Params α) (r : α)
    (logits : List α) (id : Nat) (ht : o.beq P.temp o.zero = false)
    (hS : Sample o false P r logits = .ok id)
    (hg : guardOK o (scaledOf o P (topK o P.topK (mkTokens logits))) = true)
    (hsc : scaleOK o ((topK o P.topK (mkTokens logits)).map (·.val))
              (scaledOf o P (topK o P.topK (mkTokens logits))) = true)
    (hsm : softmaxOK o (scaledOf o P (topK o P.topK (mkTokens logits)))
              (softmaxVals o (scaledOf o P (topK o P.topK (mkTokens logits)))) = true) :
    ∃ (v : α) (idx : Nat) (f : List (Tok α)) (x : Tok α),
      logits[id]? = some v ∧ o.beq v o.negInf = false ∧
      minP o P.minP (topP o P.topP (probsOf o P (topK o P.topK (mkTokens logits)))) = .ok f ∧
      f <+: probsOf o P (topK o P.topK (mkTokens logits)) ∧
      f[idx]? = some x ∧ x.id = id := by
  obtain ⟨t, hc, hid⟩ := SampleWith_weighted o (topK o P.topK) false P r logits id ht hS
  obtain ⟨idx, y, f, x, hy, hyid, hyv, hf, hpre, hx, hxid⟩ :=
    afterTopK_spec laws.ord laws.addZero laws.beq P r _ t hc hg hsc hsm
  have := mkTokens_mem logits y (topK_mem o _ _ y (List.mem_of_getElem? hy))
  rw [hyid, hid] at this
  exact ⟨y.val, idx, f, x, this, hyv, hf, hpre, hx, by rw [hxid, hid]⟩

/-- the logit of the returned token is not `-Inf` -/
theorem never_neg_inf {o : Ops α} (laws : Laws o) (P : Params α) (r : α)
    (logits : List α) (id : Nat) (ht : o.beq P.temp o.zero = false)
    (hS : Sample o false P r logits = .ok id)
    (hg : guardOK o (scaledOf o P (topK o P.topK (mkTokens logits))) = true)
    (hsc : scaleOK o ((topK o P.topK (mkTokens logits)).map (·.val))
              (scaledOf o P (topK o P.topK (mkTokens logits))) = true)
    (hsm : softmaxOK o (scaledOf o P (topK o P.topK (mkTokens logits)))
              (softmaxVals o (scaledOf o P (topK o P.topK (mkTokens logits)))) = true) :
    ∃ v, logits[id]? = some v ∧ o.beq v o.negInf = false := by
  obtain ⟨v, _, _, _, h1, h2, _⟩ := sample_admissible_partial laws P r logits id ht hS hg hsc hsm
  exact ⟨v, h1, h2⟩

/-- the returned id is the id of a member of `minP (topP (…topK…))` -/
theorem result_mem_filters {o : Ops α} (laws : Laws o) (P : Params α) (r : α)
    (logits : List α) (id : Nat) (ht : o.beq P.temp o.zero = false)
    (hS : Sample o false P r logits = .ok id)
    (hg : guardOK o (scaledOf o P (topK o P.topK (mkTokens logits))) = true)
    (hsc : scaleOK o ((topK o P.topK (mkTokens logits)).map (·.val))
              (scaledOf o P (topK o P.topK (mkTokens logits))) = true)
    (hsm : softmaxOK o (scaledOf o P (topK o P.topK (mkTokens logits)))
              (softmaxVals o (scaledOf o P (topK o P.topK (mkTokens logits)))) = true) :
    ∃ f, minP o P.minP (topP o P.topP (probsOf o P (topK o P.topK (mkTokens logits)))) = .ok f ∧
      ∃ x ∈ f, x.id = id := by
  obtain ⟨_, idx, f, x, _, _, hf, _, hx, hxid⟩ :=
    sample_admissible_partial laws P r logits id ht hS hg hsc hsm
  exact ⟨f, hf, x, List.mem_of_getElem? hx, hxid⟩

/-- The same statement for the repaired code that /repo
    contains (`fix = true`: shift by the largest logit, then scale).  `L1` is the shifted list; the
    contracts are those of the run on `L1` plus the shift's own (`-Inf` stays `-Inf`, order kept).
    After the shift the scaled maximum is 0, so `guardOK` only fails when a NaN is present: the
    F18 input satisfies the hypotheses (the `example` on `[+Inf, 0]` among the witnesses). -/
theorem sample_admissible_fixed_partial {o : Ops α} (laws : Laws o) (P : Params α) (r : α)
    (logits : List α) (id : Nat) (ht : o.beq P.temp o.zero = false)
    (hS : Sample o true P r logits = .ok id) :
    ∃ L1, shiftMax o (topK o P.topK (mkTokens logits)) = .ok L1 ∧
    (guardOK o (scaledOf o P L1) = true →
     scaleOK o ((topK o P.topK (mkTokens logits)).map (·.val)) (L1.map (·.val)) = true →
     scaleOK o (L1.map (·.val)) (scaledOf o P L1) = true →
     softmaxOK o (scaledOf o P L1) (softmaxVals o (scaledOf o P L1)) = true →
     ∃ (v : α) (idx : Nat) (f : List (Tok α)) (x : Tok α),
      logits[id]? = some v ∧ o.beq v o.negInf = false ∧
      minP o P.minP (topP o P.topP (probsOf o P L1)) = .ok f ∧ f <+: probsOf o P L1 ∧
      f[idx]? = some x ∧ x.id = id) := by
  obtain ⟨t, hc, hid⟩ := SampleWith_weighted o (topK o P.topK) true P r logits id ht hS
  obtain ⟨L1, hs, hrest⟩ := afterTopK_spec_fix laws.ord laws.addZero laws.beq P r _ t hc
  refine ⟨L1, hs, ?_⟩
  intro hg hsh hsc hsm
  obtain ⟨idx, y, f, x, hy, hyid, hyv, hf, hpre, hx, hxid⟩ := hrest hg hsh hsc hsm
  have := mkTokens_mem logits y (topK_mem o _ _ y (List.mem_of_getElem? hy))
  rw [hyid, hid] at this
  exact ⟨y.val, idx, f, x, this, hyv, hf, hpre, hx, by rw [hxid, hid]⟩

/-- the binary search of the pick, without any monotonicity assumption: the returned index is in
    `[0, n]`, the entry before it is below and the entry at it is not -/
theorem pick_search_spec (below : Nat → Bool) (n : Nat) :
    let i := bsearch below (n + 1) 0 n
    i ≤ n ∧ (i = 0 ∨ below (i - 1) = true) ∧ (i = n ∨ below i = false) :=
  bsearch_top below n

/-! ### histories of calls on one sampler; determinism under a seed -/

/-- a call that does not reach the generator returns the same result whatever number it is given -/
theorem Sample_indep_r (o : Ops α) (fix : Bool) (P : Params α) (logits : List α)
    (hc : consumes o fix P logits = false) (r r' : α) :
    Sample o fix P r logits = Sample o fix P r' logits := by
  cases logits with
  | nil => rfl
  | cons v vs =>
    simp only [consumes, Bool.and_eq_false_iff, Bool.not_eq_false'] at hc
    simp only [Sample, sampleCore]
    rcases hc with ht | hc
    · simp [ht]
    · cases ht : o.beq P.temp o.zero with
      | true => simp
      | false =>
        simp only [Bool.false_eq_true, if_false]
        cases fix with
        | false => simp at hc
        | true =>
          simp only [if_true] at hc
          unfold afterTopK
          simp only [if_true, bind, Except.bind]
          cases hs : shiftMax o (topK o P.topK (mkTokens (v :: vs))) with
          | ok L1 => rw [hs] at hc; simp at hc
          | error e => rfl

def draws (o : Ops α) (fix : Bool) (P : Params α) (ls : List (List α)) : Nat :=
  (ls.filter (consumes o fix P)).length

/-! #### histories with the top-k stage as a parameter: reproducibility needs only that the stage is a function -/

def consumesWith (o : Ops α) (tk : Int → List (Tok α) → List (Tok α)) (fix : Bool) (P : Params α)
    (logits : List α) : Bool :=
  match logits with
  | [] => false
  | _ =>
    !o.beq P.temp o.zero &&
    (if fix then
       (match shiftMax o (tk P.topK (mkTokens logits)) with
        | .ok _ => true
        | .error _ => false)
     else true)

def sampleStepWith (o : Ops α) (tk : Int → List (Tok α) → List (Tok α)) (toF : Nat → α) (fix : Bool)
    (P : Params α) (p : Pcg) (logits : List α) : Except Err Nat × Pcg :=
  if consumesWith o tk fix P logits then
    (SampleWith o (tk P.topK) fix P (toF (pcgFloat24 p).1) logits, (pcgFloat24 p).2)
  else (SampleWith o (tk P.topK) fix P (toF 0) logits, p)

/-- a history of calls on one sampler whose top-k stage is `tk` -/
def sampleHistWith (o : Ops α) (tk : Int → List (Tok α) → List (Tok α)) (toF : Nat → α) (fix : Bool)
    (P : Params α) : Pcg → List (List α) → List (Except Err Nat)
  | _, [] => []
  | p, l :: ls =>
    (sampleStepWith o tk toF fix P p l).1 ::
      sampleHistWith o tk toF fix P (sampleStepWith o tk toF fix P p l).2 ls

def drawsWith (o : Ops α) (tk : Int → List (Tok α) → List (Tok α)) (fix : Bool) (P : Params α)
    (ls : List (List α)) : Nat :=
  (ls.filter (consumesWith o tk fix P)).length

theorem advance_drawsWith_cons (o : Ops α) (tk : Int → List (Tok α) → List (Tok α)) (toF : Nat → α)
    (fix : Bool) (P : Params α) (p : Pcg) (l : List α) (t : List (List α)) :
    advance pcgFloat24 (drawsWith o tk fix P t) (sampleStepWith o tk toF fix P p l).2 =
      advance pcgFloat24 (drawsWith o tk fix P (l :: t)) p := by
  unfold sampleStepWith
  simp only [drawsWith, List.filter_cons]
  split
  · rw [List.length_cons, Nat.add_comm, advance_add]; rfl
  · rfl

/-- **no state but the generator.**  The i-th result of a history of calls on one sampler is the
    result of that single call made on a sampler whose generator has been advanced by the number
    of drawing calls before it; nothing else of the earlier calls (their logits, their lengths,
    their results) matters — whatever the top-k stage. -/
theorem histWith_nth (o : Ops α) (tk : Int → List (Tok α) → List (Tok α)) (toF : Nat → α) (fix : Bool)
    (P : Params α) (p : Pcg) (ls : List (List α)) (i : Nat) :
    (sampleHistWith o tk toF fix P p ls)[i]? =
      (ls[i]?).map (fun l =>
        (sampleStepWith o tk toF fix P (advance pcgFloat24 (drawsWith o tk fix P (ls.take i)) p) l).1) := by
  induction ls generalizing p i with
  | nil => rfl
  | cons l ls ih =>
    cases i with
    | zero => rfl
    | succ i =>
      simp only [sampleHistWith, List.getElem?_cons_succ, List.take_succ_cons, ih, advance_drawsWith_cons]

theorem consumesWith_topK (o : Ops α) (fix : Bool) (P : Params α) :
    consumesWith o (topK o) fix P = consumes o fix P := by
  funext l
  cases l <;> rfl

theorem sampleStepWith_topK (o : Ops α) (toF : Nat → α) (fix : Bool) (P : Params α) (p : Pcg) (l : List α) :
    sampleStepWith o (topK o) toF fix P p l = sampleStep o toF fix P p l := by
  unfold sampleStepWith sampleStep
  rw [consumesWith_topK]
  rfl

theorem sampleHistWith_topK (o : Ops α) (toF : Nat → α) (fix : Bool) (P : Params α) (p : Pcg)
    (ls : List (List α)) :
    sampleHistWith o (topK o) toF fix P p ls = sampleHist o toF fix P p ls := by
  induction ls generalizing p with
  | nil => rfl
  | cons l ls ih => simp only [sampleHistWith, sampleHist, sampleStepWith_topK, ih]

theorem hist_nth (o : Ops α) (toF : Nat → α) (fix : Bool) (P : Params α) (p : Pcg)
    (ls : List (List α)) (i : Nat) :
    (sampleHist o toF fix P p ls)[i]? =
      (ls[i]?).map (fun l =>
        (sampleStep o toF fix P (advance pcgFloat24 (draws o fix P (ls.take i)) p) l).1) := by
  rw [← sampleHistWith_topK, histWith_nth]
  simp only [sampleStepWith_topK, drawsWith, draws, consumesWith_topK]

theorem sampleHist_length (o : Ops α) (toF : Nat → α) (fix : Bool) (P : Params α) (p : Pcg)
    (ls : List (List α)) : (sampleHist o toF fix P p ls).length = ls.length := by
  induction ls generalizing p with
  | nil => rfl
  | cons l ls ih => simp [sampleHist, ih]

/-- The first `m` results do not depend on the later inputs.  (The first
    conjunct, equal seeds give equal sequences, holds of any function.) -/
theorem deterministic (o : Ops α) (toF : Nat → α) (fix : Bool) (P : Params α)
    (seed₁ seed₂ : Int) (hs : seed₁ = seed₂) (a b : List (List α)) :
    sampleHist o toF fix P (pcgOfSeed seed₁) a = sampleHist o toF fix P (pcgOfSeed seed₂) a ∧
    (sampleHist o toF fix P (pcgOfSeed seed₁) (a ++ b)).take a.length
      = sampleHist o toF fix P (pcgOfSeed seed₁) a := by
  subst hs
  refine ⟨rfl, ?_⟩
  generalize pcgOfSeed seed₁ = p
  induction a generalizing p with
  | nil => simp [sampleHist]
  | cons l ls ih =>
    simp only [List.cons_append, sampleHist, List.length_cons, List.take_succ_cons]
    rw [ih]

/-- the random stream is a function of the seed alone, and its k-th element does not depend on
    how many numbers are drawn afterwards -/
theorem stream_of_seed (seed : Int) (m n : Nat) :
    pcgStream (m + n) (pcgOfSeed seed)
      = pcgStream m (pcgOfSeed seed) ++ pcgStream n (advance pcgFloat24 m (pcgOfSeed seed)) :=
  streamOf_append pcgFloat24 m n _

/-! ### witnesses: a carrier of the integers and IEEE's three special values -/

/-- NaN, -Inf, integers, +Inf with IEEE's rules for the special values (`Inf - Inf = NaN`,
    every comparison with NaN false); `exp` and `/` are crude (only their special cases matter) -/
inductive X where
  | nan | ninf | fin (n : Int) | pinf
  deriving DecidableEq, Repr

namespace X
def lt : X → X → Bool
  | nan, _ => false | _, nan => false
  | ninf, ninf => false | ninf, _ => true
  | fin _, ninf => false | fin a, fin b => decide (a < b) | fin _, pinf => true
  | pinf, _ => false
def beq : X → X → Bool
  | nan, _ => false | _, nan => false | a, b => decide (a = b)
def neg : X → X
  | nan => nan | ninf => pinf | pinf => ninf | fin a => fin (-a)
def add : X → X → X
  | nan, _ => nan | _, nan => nan
  | pinf, ninf => nan | ninf, pinf => nan
  | pinf, _ => pinf | _, pinf => pinf
  | ninf, _ => ninf | _, ninf => ninf
  | fin a, fin b => fin (a + b)
def mul : X → X → X
  | fin a, fin b => fin (a * b) | _, _ => nan
def div : X → X → X
  | nan, _ => nan | _, nan => nan
  | fin a, fin b => fin (a / b)
  | a, fin _ => a
  | _, _ => nan
def exp : X → X
  | nan => nan | ninf => fin 0 | pinf => pinf
  | fin a => if a < 0 then fin 0 else fin 1
def ops : Ops X where
  lt := lt
  le a b := lt a b || beq a b
  beq := beq
  isNaN a := decide (a = nan)
  add := add
  sub a b := add a (neg b)
  mul := mul
  div := div
  exp := exp
  zero := fin 0
  one := fin 1
  negInf := ninf
  posInf := pinf
  tempFloor := fin 0

/-- The law instances below split with this and unfold with `dsimp only` first: `simp` unfolding
    the overlapping `match`es of `lt`, `add`, … on every case is slow to check. -/
@[elab_as_elim] theorem goodRec {motive : (a : X) → ops.isNaN a = false → Prop}
    (ninf : motive ninf rfl) (fin : ∀ n, motive (fin n) rfl) (pinf : motive pinf rfl) : ∀ a h, motive a h
  | .ninf, _ => ninf
  | .fin n, _ => fin n
  | .pinf, _ => pinf
  | .nan, h => nomatch h
end X

def xParams : Params X := ⟨.fin 1, 0, .fin 1, .fin 0, false⟩

def errOf {β : Type} : Except Err β → Option Err
  | .error e => some e
  | .ok _ => none

/-- **Witness of finding F18.**  Sorted tokens `[+Inf, 0]`, temperature 1: the unrepaired pipeline
    computes `Inf - Inf = NaN` in softmax and reports "logits sum to NaN" although token 1 has a
    finite logit (and token 0 is the obvious answer); the repaired pipeline (`fix = true`) returns
    token 0.  The same happens when a finite logit overflows to `+Inf` in `temperature`. -/
theorem F18_nan_instead_of_token :
    errOf (afterTopK X.ops false xParams (.fin 0) [⟨0, .pinf⟩, ⟨1, .fin 0⟩]) = some .nanSum ∧
    (afterTopK X.ops true xParams (.fin 0) [⟨0, .pinf⟩, ⟨1, .fin 0⟩]).toOption.map (·.id) = some 0 := by
  decide

/-- the guard of `sample_admissible_partial` is what fails on the F18 input -/
theorem F18_guard_fails :
    guardOK X.ops (scaledOf X.ops xParams [⟨0, .pinf⟩, ⟨1, .fin 0⟩]) = false := by decide

/-- **Witness of finding F18b.**  `greedy` keeps a NaN that sits at index 0: every comparison
    with it is false. -/
theorem F18b_greedy_keeps_leading_nan :
    (greedy X.ops [⟨0, .nan⟩, ⟨1, .fin 1⟩, ⟨2, .fin 2⟩]).toOption.map (·.id) = some 0 ∧
    (greedy X.ops [⟨0, .fin 1⟩, ⟨1, .nan⟩, ⟨2, .fin 2⟩]).toOption.map (·.id) = some 2 := by
  decide

/-- non-vacuity: on the same carrier a run with finite logits satisfies every contract hypothesis
    of `sample_admissible_partial` and returns a token (here: sorted tokens `[5, 3, -Inf]`) -/
example :
    let L : List (Tok X) := [⟨2, .fin 5⟩, ⟨0, .fin 3⟩, ⟨1, .ninf⟩]
    guardOK X.ops (scaledOf X.ops xParams L) = true ∧
    scaleOK X.ops (L.map (·.val)) (scaledOf X.ops xParams L) = true ∧
    softmaxOK X.ops (scaledOf X.ops xParams L) (softmaxVals X.ops (scaledOf X.ops xParams L)) = true ∧
    (afterTopK X.ops false xParams (.fin 1) L).toOption.map (·.id) = some 2 := by
  decide

/-- non-vacuity of the repaired variant's hypotheses on the F18 input `[+Inf, 0]` -/
example :
    let L : List (Tok X) := [⟨0, .pinf⟩, ⟨1, .fin 0⟩]
    let L1 : List (Tok X) := [⟨0, .fin 0⟩, ⟨1, .ninf⟩]
    errOf (shiftMax X.ops L) = none ∧ (shiftMax X.ops L).toOption = some L1 ∧
    guardOK X.ops (scaledOf X.ops xParams L1) = true ∧
    scaleOK X.ops (L.map (·.val)) (L1.map (·.val)) = true ∧
    scaleOK X.ops (L1.map (·.val)) (scaledOf X.ops xParams L1) = true ∧
    softmaxOK X.ops (scaledOf X.ops xParams L1) (softmaxVals X.ops (scaledOf X.ops xParams L1)) = true := by
  decide

/-! ### the grammar path -/

theorem maskFrom_get (o : Ops α) (acc : List Nat) (logits : List α) (i j : Nat) (v : α)
    (h : (maskFrom o acc i logits)[j]? = some v) :
    ∃ w, logits[j]? = some w ∧ v = (if acc.contains (i + j) then w else o.negInf) := by
  fun_induction maskFrom o acc i logits generalizing j with
  | case1 => cases h
  | case2 i w ws ih =>
    cases j with
    | zero => injection h with h; exact ⟨w, rfl, h.symm⟩
    | succ j =>
      obtain ⟨w', hw, hv⟩ := ih j h
      exact ⟨w', hw, by rw [hv, Nat.add_right_comm, Nat.add_assoc]⟩

theorem maskLogits_get (o : Ops α) (acc : List Nat) (logits : List α) (j : Nat) (v : α)
    (h : (maskLogits o acc logits)[j]? = some v) :
    ∃ w, logits[j]? = some w ∧ v = (if acc.contains j then w else o.negInf) := by
  obtain ⟨w, hw, hv⟩ := maskFrom_get o acc logits 0 j v h
  exact ⟨w, hw, by simpa using hv⟩

theorem maskLogits_length (o : Ops α) (acc : List Nat) (l : List α) :
    (maskLogits o acc l).length = l.length := by
  have : ∀ k, (maskFrom o acc k l).length = l.length := by
    induction l with
    | nil => intro k; rfl
    | cons v vs ih => intro k; simp [maskFrom, ih (k + 1)]
  exact this 0

/-- **what a grammar-constrained call returns.**  Either the first pick — then it is accepted by
    the grammar and it is the result of the plain `Sample` on the original logits — or the result of
    `Sample` on a fresh token list built from the ORIGINAL logits with the grammar mask applied
    (`maskLogits`), drawn with a new random number.  Every theorem about `Sample` (index in range,
    not `-Inf`, membership in the filter set, argmax, no panic) therefore applies to the retry with
    the masked logits in the place of the logits. -/
theorem grammar_step_spec (o : Ops α) (toF : Nat → α) (fix : Bool) (P : Params α) (p : Pcg)
    (logits : List α) (acc : List Nat) (id : Nat)
    (h : (sampleStepG o toF fix P p logits acc).1 = .ok id) :
    (acc.contains id = true ∧ ∃ r, Sample o fix P r logits = .ok id) ∨
    (∃ r, Sample o fix P r (maskLogits o acc logits) = .ok id) := by
  cases logits with
  | nil => simp [sampleStepG] at h
  | cons v vs =>
    simp only [sampleStepG] at h
    generalize hr1 : (if consumes o fix P (v :: vs) = true then toF (pcgFloat24 p).1 else toF 0) = r1 at h
    cases hc : sampleCore o fix P r1 (mkTokens (v :: vs)) with
    | error e => rw [hc] at h; simp at h
    | ok t =>
      rw [hc] at h
      simp only at h
      split at h
      · rename_i hacc
        simp only [Bool.and_eq_true] at hacc
        simp only at h
        injection h with h
        left
        refine ⟨by rw [← h]; exact hacc.1, r1, ?_⟩
        simp only [Sample, hc, Except.map, h]
      · right
        simp only at h
        unfold sampleStep at h
        split at h
        · exact ⟨_, h⟩
        · exact ⟨_, h⟩

theorem masked_not_neginf_accepted (o : Ops α) (hrefl : o.beq o.negInf o.negInf = true)
    (acc : List Nat) (logits : List α) (id : Nat) (v : α)
    (hv : (maskLogits o acc logits)[id]? = some v) (hne : o.beq v o.negInf = false) :
    acc.contains id = true := by
  obtain ⟨w, _, hvw⟩ := maskLogits_get o acc logits id v hv
  cases hc : acc.contains id with
  | true => rfl
  | false =>
    rw [hc] at hvw
    simp only [Bool.false_eq_true, if_false] at hvw
    rw [hvw, hrefl] at hne; cases hne

theorem masked_not_neginf_logit (o : Ops α) (hrefl : o.beq o.negInf o.negInf = true)
    (acc : List Nat) (logits : List α) (id : Nat) (v : α)
    (hv : (maskLogits o acc logits)[id]? = some v) (hne : o.beq v o.negInf = false) :
    acc.contains id = true ∧ ∃ w, logits[id]? = some w ∧ o.beq w o.negInf = false := by
  have hacc := masked_not_neginf_accepted o hrefl acc logits id v hv hne
  obtain ⟨w, hw, hvw⟩ := maskLogits_get o acc logits id v hv
  rw [hacc, if_pos rfl] at hvw
  exact ⟨hacc, w, hw, hvw ▸ hne⟩

theorem masked_argmax_accepted (o : Ops α) (acc : List Nat) (logits : List α) (id : Nat) (v : α)
    (hv : (maskLogits o acc logits)[id]? = some v)
    (hmax : ∀ w ∈ maskLogits o acc logits, o.lt v w = false)
    (hsome : ∃ w ∈ maskLogits o acc logits, o.lt o.negInf w = true) : acc.contains id = true := by
  obtain ⟨w0, _, hvw⟩ := maskLogits_get o acc logits id v hv
  cases hc : acc.contains id with
  | true => rfl
  | false =>
    rw [hc] at hvw
    simp only [Bool.false_eq_true, if_false] at hvw
    obtain ⟨w, hw, hlt⟩ := hsome
    have := hmax w hw
    rw [hvw, hlt] at this; cases this

/-- **grammar, temperature > 0, unrepaired variant**: under the contracts of the run on the masked
    logits, the retry result is accepted by the grammar, indexes a masked (= original) logit that
    is not `-Inf`, and lies in the filter set of the masked logits -/
theorem grammar_retry_admissible_partial {o : Ops α} (laws : Laws o)
    (hrefl : o.beq o.negInf o.negInf = true) (P : Params α) (r : α)
    (logits : List α) (acc : List Nat) (id : Nat) (ht : o.beq P.temp o.zero = false)
    (hS : Sample o false P r (maskLogits o acc logits) = .ok id)
    (hg : guardOK o (scaledOf o P (topK o P.topK (mkTokens (maskLogits o acc logits)))) = true)
    (hsc : scaleOK o ((topK o P.topK (mkTokens (maskLogits o acc logits))).map (·.val))
              (scaledOf o P (topK o P.topK (mkTokens (maskLogits o acc logits)))) = true)
    (hsm : softmaxOK o (scaledOf o P (topK o P.topK (mkTokens (maskLogits o acc logits))))
              (softmaxVals o (scaledOf o P (topK o P.topK (mkTokens (maskLogits o acc logits))))) = true) :
    acc.contains id = true ∧
    (∃ w, logits[id]? = some w ∧ o.beq w o.negInf = false) ∧
    ∃ f, minP o P.minP (topP o P.topP (probsOf o P (topK o P.topK (mkTokens (maskLogits o acc logits))))) = .ok f ∧
      ∃ x ∈ f, x.id = id := by
  obtain ⟨v, hv, hne⟩ := never_neg_inf laws P r _ id ht hS hg hsc hsm
  obtain ⟨hacc, hw⟩ := masked_not_neginf_logit o hrefl acc logits id v hv hne
  exact ⟨hacc, hw, result_mem_filters laws P r _ id ht hS hg hsc hsm⟩

/-- **grammar, temperature 0**: the retry returns an arg-max of the masked logits, and it is
    accepted by the grammar as soon as some masked logit is above `-Inf` -/
theorem grammar_retry_greedy {o : Ops α} (h : OrdLaws o) (fix : Bool) (P : Params α) (r : α)
    (logits : List α) (acc : List Nat) (id : Nat) (ht : o.beq P.temp o.zero = true)
    (hS : Sample o fix P r (maskLogits o acc logits) = .ok id)
    (hsome : ∃ w ∈ maskLogits o acc logits, o.lt o.negInf w = true) :
    acc.contains id = true ∧
    ∃ v, (maskLogits o acc logits)[id]? = some v ∧ ∀ w ∈ maskLogits o acc logits, o.lt v w = false := by
  obtain ⟨v, hv, hmax⟩ := greedy_argmax h fix P r _ id ht hS
  exact ⟨masked_argmax_accepted o acc logits id v hv hmax hsome, v, hv, hmax⟩

theorem grammar_retry_admissible_fixed_partial {o : Ops α} (laws : Laws o)
    (hrefl : o.beq o.negInf o.negInf = true) (P : Params α) (r : α)
    (logits : List α) (acc : List Nat) (id : Nat) (ht : o.beq P.temp o.zero = false)
    (hS : Sample o true P r (maskLogits o acc logits) = .ok id) :
    ∃ L1, shiftMax o (topK o P.topK (mkTokens (maskLogits o acc logits))) = .ok L1 ∧
    (guardOK o (scaledOf o P L1) = true →
     scaleOK o ((topK o P.topK (mkTokens (maskLogits o acc logits))).map (·.val)) (L1.map (·.val)) = true →
     scaleOK o (L1.map (·.val)) (scaledOf o P L1) = true →
     softmaxOK o (scaledOf o P L1) (softmaxVals o (scaledOf o P L1)) = true →
     acc.contains id = true ∧
     (∃ w, logits[id]? = some w ∧ o.beq w o.negInf = false) ∧
     ∃ f, minP o P.minP (topP o P.topP (probsOf o P L1)) = .ok f ∧ ∃ x ∈ f, x.id = id) := by
  obtain ⟨L1, hs, hrest⟩ := sample_admissible_fixed_partial laws P r _ id ht hS
  refine ⟨L1, hs, ?_⟩
  intro hg hsh hsc hsm
  obtain ⟨v, idx, f, x, hv, hne, hf, _, hx, hxid⟩ := hrest hg hsh hsc hsm
  obtain ⟨hacc, hw⟩ := masked_not_neginf_logit o hrefl acc logits id v hv hne
  exact ⟨hacc, hw, f, hf, x, List.mem_of_getElem? hx, hxid⟩

/-- **Witness of finding F18c.**  Temperature 0, the grammar accepts only token 1 whose logit is
    `-Inf`: the first (greedy) pick 0 is rejected, the retry runs greedy over the all `-Inf` masked
    logits and returns token 0 again — a token the grammar rejects, which the code without the
    repair hands to llama.cpp's `Accept` (throws, process abort).  With the repair (`greedyErr`; the
    tree has it: `Tie.C18.tree_is_fixed`) the call reports the "all -Inf" error instead. -/
theorem F18c_greedy_retry_returns_rejected :
    (sampleStepG X.ops (fun _ => .fin 0) true ⟨.fin 0, 40, .fin 1, .fin 0, false⟩ ⟨0, 0⟩
        [.fin 5, .ninf, .fin 1] [1]).1.toOption = some 0 ∧
    ([1] : List Nat).contains 0 = false ∧
    errOf (sampleStepG X.ops (fun _ => .fin 0) true ⟨.fin 0, 40, .fin 1, .fin 0, true⟩ ⟨0, 0⟩
        [.fin 5, .ninf, .fin 1] [1]).1 = some .allNegInf := by
  decide

/-! ### temperature 0 is total and never `-Inf`; every call of every history -/

theorem max_ne_negInf {o : Ops α} {m w : α} (hbeq : o.beq m o.negInf = true → o.lt o.negInf m = false)
    (hco : o.lt o.negInf m = true ∨ o.lt m w = true) (hmw : o.lt m w = false) :
    o.beq m o.negInf = false := by
  cases hb : o.beq m o.negInf with
  | false => rfl
  | true =>
    rcases hco with h2 | h2
    · rw [hbeq hb] at h2; cases h2
    · rw [hmw] at h2; cases h2

/-- **greedy_admissible**, from the two laws it uses (`greedy_admissible_on` supplies them for
    `totalize o`, where no `AddZeroLaw` is at hand).  Temperature 0, both variants, with or without
    the F18c repair: as soon as some logit is above `-Inf`, `Sample` RETURNS a token (no error), its
    logit is not `-Inf`, and no logit exceeds it.  (`greedy_argmax` alone says nothing when `Sample`
    reports an error.) -/
theorem greedy_admissible_sep {o : Ops α} (hord : OrdLaws o) (hbeq : BeqLaw o) (fix : Bool) (P : Params α) (r : α)
    (logits : List α) (ht : o.beq P.temp o.zero = true)
    (hsome : ∃ w ∈ logits, o.lt o.negInf w = true) :
    ∃ id v, Sample o fix P r logits = .ok id ∧ logits[id]? = some v ∧ o.beq v o.negInf = false ∧
      ∀ w ∈ logits, o.lt v w = false := by
  obtain ⟨w, hw, hlt⟩ := hsome
  cases logits with
  | nil => cases hw
  | cons v0 vs =>
    obtain ⟨m, hm⟩ : ∃ m, greedy o (mkTokens (v0 :: vs)) = .ok m := by
      simp only [mkTokens, mkTokensFrom, greedy]; exact ⟨_, rfl⟩
    obtain ⟨hmem, hmax⟩ := greedy_spec hord _ _ hm
    have hget := mkTokens_mem _ _ hmem
    have hmaxw : ∀ w ∈ v0 :: vs, o.lt m.val w = false := by
      intro w hw
      obtain ⟨x, hx, hv⟩ := mem_mkTokens_of_mem (v0 :: vs) w hw
      rw [← hv]; exact hmax x hx
    have hne := max_ne_negInf (hbeq _ _) (hord.cotrans _ m.val _ hlt) (hmaxw w hw)
    refine ⟨m.id, m.val, ?_, hget, hne, hmaxw⟩
    simp only [Sample, sampleCore, ht, if_true, hm, hne, Bool.and_false, Bool.false_eq_true, if_false,
      Except.map]

theorem greedy_admissible {o : Ops α} (laws : Laws o) (fix : Bool) (P : Params α) (r : α)
    (logits : List α) (ht : o.beq P.temp o.zero = true)
    (hsome : ∃ w ∈ logits, o.lt o.negInf w = true) :
    ∃ id v, Sample o fix P r logits = .ok id ∧ logits[id]? = some v ∧ o.beq v o.negInf = false ∧
      ∀ w ∈ logits, o.lt v w = false :=
  greedy_admissible_sep laws.ord laws.beq fix P r logits ht hsome

/-- every result of such a history is a single `SampleWith` call, so `sampleWith_admissible` applies to
    every position: admissibility AND reproducibility hold for every deterministic correct top-k stage -/
theorem histWith_each_call (o : Ops α) (tk : Int → List (Tok α) → List (Tok α)) (toF : Nat → α)
    (fix : Bool) (P : Params α) (p : Pcg) (ls : List (List α)) (i : Nat) (res : Except Err Nat)
    (h : (sampleHistWith o tk toF fix P p ls)[i]? = some res) :
    ∃ l r, ls[i]? = some l ∧ res = SampleWith o (tk P.topK) fix P r l := by
  rw [histWith_nth] at h
  cases hl : ls[i]? with
  | none => rw [hl] at h; cases h
  | some l =>
    rw [hl] at h
    simp only [Option.map_some, Option.some.injEq] at h
    refine ⟨l, ?_, rfl, ?_⟩
    · exact if consumesWith o tk fix P l then
        toF (pcgFloat24 (advance pcgFloat24 (drawsWith o tk fix P (ls.take i)) p)).1 else toF 0
    · rw [← h]; unfold sampleStepWith; split <;> simp [*]

/-- every result of a history on a SEEDED sampler is the result of the single call `Sample` on
    that call's logits with some number -/
theorem hist_each_call (o : Ops α) (toF : Nat → α) (fix : Bool) (P : Params α) (p : Pcg)
    (ls : List (List α)) (i : Nat) (res : Except Err Nat)
    (h : (sampleHist o toF fix P p ls)[i]? = some res) :
    ∃ l r, ls[i]? = some l ∧ res = Sample o fix P r l := by
  rw [← sampleHistWith_topK] at h
  exact histWith_each_call o (topK o) toF fix P p ls i res h

/-- the same for an UNSEEDED sampler (`seed = -1`, `rng == nil`), whatever numbers the
    process-wide source delivers -/
theorem unseeded_each_call (o : Ops α) (fix : Bool) (P : Params α) (rs : List α)
    (ls : List (List α)) (i : Nat) (res : Except Err Nat)
    (h : (sampleHistU o fix P rs ls)[i]? = some res) :
    ∃ l r, ls[i]? = some l ∧ res = Sample o fix P r l := by
  induction ls generalizing rs i with
  | nil => simp [sampleHistU] at h
  | cons l ls ih =>
    unfold sampleHistU at h
    split at h <;> cases i with
      | zero => simp only [List.getElem?_cons_zero, Option.some.injEq] at h; exact ⟨l, _, rfl, h.symm⟩
      | succ i => simp only [List.getElem?_cons_succ] at h ⊢; exact ih _ _ h

/-- the sentinel: exactly the seed `-1` leaves the sampler without a generator of its own -/
theorem newRng_none_iff (seed : Int) : newRng seed = none ↔ seed = -1 := by
  unfold newRng; split <;> simp [*]

/-- **every call of every history is in range and, at temperature 0, an arg-max** — seeded or not,
    any number of calls, any lengths, both variants: lifts `index_in_range` and `greedy_argmax`
    from one call to every position of every history (`results` is `sampleHist …` or
    `sampleHistU …`: see `hist_each_call`, `unseeded_each_call`). -/
theorem every_call_admissible {o : Ops α} (h : OrdLaws o) (fix : Bool) (P : Params α)
    (ls : List (List α)) (results : List (Except Err Nat))
    (hres : ∀ (i : Nat) res, results[i]? = some res → ∃ l r, ls[i]? = some l ∧ res = Sample o fix P r l)
    (i : Nat) (id : Nat) (hi : results[i]? = some (.ok id)) :
    ∃ l, ls[i]? = some l ∧ id < l.length ∧
      (o.beq P.temp o.zero = true → ∃ v, l[id]? = some v ∧ ∀ w ∈ l, o.lt v w = false) := by
  obtain ⟨l, r, hl, hS⟩ := hres i _ hi
  exact ⟨l, hl, index_in_range o fix P r l id hS.symm,
    fun ht => greedy_argmax h fix P r l id ht hS.symm⟩

theorem hist_every_call_admissible {o : Ops α} (h : OrdLaws o) (toF : Nat → α) (fix : Bool)
    (P : Params α) (seed : Int) (rs : List α) (ls : List (List α)) (i id : Nat) :
    ((sampleHist o toF fix P (pcgOfSeed seed) ls)[i]? = some (.ok id) ∨
     (sampleHistU o fix P rs ls)[i]? = some (.ok id)) →
    ∃ l, ls[i]? = some l ∧ id < l.length ∧
      (o.beq P.temp o.zero = true → ∃ v, l[id]? = some v ∧ ∀ w ∈ l, o.lt v w = false) := by
  rintro (hi | hi)
  · exact every_call_admissible h fix P ls _ (hist_each_call o toF fix P _ ls) i id hi
  · exact every_call_admissible h fix P ls _ (unseeded_each_call o fix P rs ls) i id hi

/-- every call of every GRAMMAR history: the id is in range, and it is either the accepted first
    pick (= plain `Sample` on the call's logits) or `Sample` on the masked logits -/
theorem ghist_each_call (o : Ops α) (toF : Nat → α) (fix : Bool) (P : Params α) (p : Pcg)
    (ls : List (List α × List Nat)) (i id d : Nat)
    (h : (sampleHistG o toF fix P p ls)[i]? = some (.ok id, d)) :
    ∃ l acc, ls[i]? = some (l, acc) ∧ id < l.length ∧
      ((acc.contains id = true ∧ ∃ r, Sample o fix P r l = .ok id) ∨
       (∃ r, Sample o fix P r (maskLogits o acc l) = .ok id)) := by
  induction ls generalizing p i with
  | nil => simp [sampleHistG] at h
  | cons c ls ih =>
    obtain ⟨l, acc⟩ := c
    cases i with
    | succ i => simp only [sampleHistG, List.getElem?_cons_succ] at h ⊢; exact ih _ _ h
    | zero =>
      simp only [sampleHistG, List.getElem?_cons_zero, Option.some.injEq, Prod.mk.injEq] at h
      have hs := grammar_step_spec o toF fix P p l acc id h.1
      refine ⟨l, acc, rfl, ?_, hs⟩
      rcases hs with ⟨_, r, hr⟩ | ⟨r, hr⟩
      · exact index_in_range o fix P r l id hr
      · have := index_in_range o fix P r _ id hr
        rw [maskLogits_length] at this; exact this

/-- non-vacuity: a three-call history on the witness carrier, seeded and unseeded; the first call
    draws, the empty call does not, and the third call is served by the next number -/
example :
    (sampleHistU X.ops false ⟨.fin 1, 1, .fin 1, .fin 0, false⟩ [.fin 0, .fin 1]
        [[.fin 3, .fin 5], [], [.fin 7, .fin 2]]).map (fun r => r.toOption) = [some 1, none, some 0] ∧
    (sampleHist X.ops (fun _ => .fin 0) false { xParams with temp := .fin 0 } (pcgOfSeed 7)
        [[.fin 3, .fin 5], [.ninf, .fin 2, .fin 2]]).map (fun r => r.toOption) = [some 1, some 1] ∧
    newRng (-1) = none ∧ newRng 0 = some ⟨0, 0x9E3779B9⟩ := by
  decide

/-- non-vacuity: the heap branch on the witness carrier (`k = 2` of 4 tokens, a tie, a `-Inf`):
    the two largest in descending order; the replaced root is the first-seen `3` -/
example :
    (topK X.ops 2 [⟨0, .fin 3⟩, ⟨1, .ninf⟩, ⟨2, .fin 7⟩, ⟨3, .fin 3⟩]).map (·.id) = [2, 0] ∧
    (Sample X.ops true ⟨.fin 1, 2, .fin 1, .fin 0, false⟩ (.fin 0) [.fin 3, .ninf, .fin 7, .fin 3]).toOption
      = some 2 := by
  decide

/-- the laws are satisfiable: the integers with their usual order and arithmetic -/
def zOps : Ops Int where
  lt a b := decide (a < b)
  le a b := decide (a ≤ b)
  beq a b := decide (a = b)
  isNaN _ := false
  add a b := a + b
  sub a b := a - b
  mul a b := a * b
  div a b := a / b
  exp a := a
  zero := 0
  one := 1
  negInf := -1000000
  posInf := 1000000
  tempFloor := 0

theorem zOps_laws : Laws zOps where
  ord := {
    irrefl := by intro a; simp [zOps]
    trans := by intro a b c; simp only [zOps, decide_eq_true_eq]; omega
    cotrans := by intro a b c; simp only [zOps, decide_eq_true_eq]; omega }
  addZero := by
    intro s z hz
    simp only [zOps, decide_eq_true_eq, decide_eq_false_iff_not] at hz ⊢
    omega
  beq := by
    intro a b hab
    simp only [zOps, decide_eq_true_eq, decide_eq_false_iff_not] at hab ⊢
    omega

/-! ### totality on the weighted branch, all clauses at once -/

/-- the first token of a correct top-k carries a largest logit (needs only irreflexivity at it) -/
theorem isTopK_head_max {o : Ops α} {k : Int} {ts : List (Tok α)} {t0 : Tok α} {rest : List (Tok α)}
    (ht : IsTopK o k ts (t0 :: rest)) (hirr : o.lt t0.val t0.val = false) :
    ∀ x ∈ ts, o.lt t0.val x.val = false := by
  obtain ⟨left, hp, hdom⟩ := ht.sub
  intro x hx
  have hx' := hp.mem_iff.2 hx
  rcases List.mem_append.1 hx' with hxo | hxl
  · rcases List.mem_cons.1 hxo with rfl | hxr
    · exact hirr
    · exact (List.pairwise_cons.1 ht.desc).1 x hxr
  · exact hdom x hxl t0 List.mem_cons_self

/-- the order enters as facts about this run's tokens (`hK`, `hlaw`), which either law family supplies -/
theorem no_allNegInf_of_isTopK (o : Ops α) (P : Params α) (r : α) (logits : List α)
    (ht : o.beq P.temp o.zero = false) (w : α) (hw : w ∈ logits)
    (hK : IsTopK o P.topK (mkTokens logits) (topK o P.topK (mkTokens logits)))
    (hlaw : ∀ t0 ∈ mkTokens logits, o.lt t0.val t0.val = false ∧
      (o.lt t0.val w = false → o.beq t0.val o.negInf = false)) :
    Sample o true P r logits ≠ .error .allNegInf := by
  cases logits with
  | nil => cases hw
  | cons v vs =>
    obtain ⟨x, hx, hxv⟩ := mem_mkTokens_of_mem (v :: vs) w hw
    cases hk : topK o P.topK (mkTokens (v :: vs)) with
    | nil => exact absurd hk (topK_ne_nil o _ (mkTokens_cons_ne_nil v vs))
    | cons t0 rest =>
      rw [hk] at hK
      obtain ⟨hirr, hne⟩ := hlaw t0 (topK_mem o _ _ t0 (hk ▸ List.mem_cons_self))
      -- the head of `topK`'s output is a maximum, hence not `-Inf`: the shift succeeds
      have hne := hne (hxv ▸ isTopK_head_max hK hirr x hx)
      rw [Sample_weighted_eq o true P r v vs ht, hk, afterTopK_true]
      obtain ⟨L1, hs⟩ : ∃ L1, shiftMax o (t0 :: rest) = .ok L1 := by
        simp only [shiftMax, hne, Bool.false_eq_true, if_false]; exact ⟨_, rfl⟩
      rw [hs]
      intro hS
      apply afterTopK_false_ne_allNegInf o P r L1
      cases he : afterTopK o false P r L1 with
      | ok t => rw [show (Except.ok L1 >>= afterTopK o false P r) = .ok t from he] at hS; cases hS
      | error e =>
        rw [show (Except.ok L1 >>= afterTopK o false P r) = .error e from he] at hS
        injection hS with hS; rw [hS]

/-- **the "all logits are -Inf" error is only raised when it is true** (repaired variant = /repo,
    temperature > 0): as soon as some logit is above `-Inf`, `Sample` does not report it — the head
    of `topK`'s output is a maximum (`topK_isTopK`, both branches), so it is not `-Inf`. -/
theorem sample_fixed_no_allNegInf {o : Ops α} (laws : Laws o) (P : Params α) (r : α) (logits : List α)
    (ht : o.beq P.temp o.zero = false) (hsome : ∃ w ∈ logits, o.lt o.negInf w = true) :
    Sample o true P r logits ≠ .error .allNegInf := by
  obtain ⟨w, hw, hlt⟩ := hsome
  exact no_allNegInf_of_isTopK o P r logits ht w hw (topK_isTopK_all laws.ord _ _) fun t0 _ =>
    ⟨laws.ord.irrefl _, max_ne_negInf (laws.beq _ _) (laws.ord.cotrans _ t0.val _ hlt)⟩

/-- **token or NaN error, nothing else** (repaired variant, temperature > 0, some logit above
    `-Inf`): with the two arithmetic run contracts of `sample_never_panics_fixed`, `Sample` returns
    a token or the NaN error — no panic, and not the "all -Inf" error. -/
theorem sample_fixed_token_or_nan {o : Ops α} (laws : Laws o) (P : Params α) (r : α) (logits : List α)
    (ht : o.beq P.temp o.zero = false) (hsome : ∃ w ∈ logits, o.lt o.negInf w = true)
    (hmin : ∀ L1 t0 rest, shiftMax o (topK o P.topK (mkTokens logits)) = .ok L1 →
        topP o P.topP (probsOf o P L1) = t0 :: rest → o.lt t0.val (o.mul t0.val P.minP) = false)
    (hr : ∀ L1 f last, shiftMax o (topK o P.topK (mkTokens logits)) = .ok L1 →
        minP o P.minP (topP o P.topP (probsOf o P L1)) = .ok f →
        (cumsum o o.zero f).getLast? = some last → o.lt last.val (o.mul r last.val) = false) :
    (∃ id, Sample o true P r logits = .ok id) ∨ Sample o true P r logits = .error .nanSum := by
  have hne : logits ≠ [] := by
    obtain ⟨w, hw, _⟩ := hsome
    intro e; rw [e] at hw; cases hw
  rcases sample_never_panics_fixed o P r logits hne hmin hr with h | h | h
  · exact Or.inl h
  · exact Or.inr h
  · exact absurd h (sample_fixed_no_allNegInf laws P r logits ht hsome)

/-- **C18 for one call of the code in /repo, all clauses at once** (repaired variant, temperature > 0):
    if `Sample` returns `id` then `id` is inside the vocabulary and fewer than `k` logits are strictly
    larger (no contract), and under the run's IEEE contracts its logit is not `-Inf` and it is the id
    of a member of `minP (topP (softmax (temperature (shift (topK tokens)))))`. -/
theorem sample_admissible_all_fixed {o : Ops α} (laws : Laws o) (P : Params α) (r : α)
    (logits : List α) (id : Nat) (ht : o.beq P.temp o.zero = false)
    (hS : Sample o true P r logits = .ok id) :
    id < logits.length ∧
    (∃ v, logits[id]? = some v ∧
      ((mkTokens logits).filter (fun x => o.lt v x.val)).length <
        (if P.topK ≥ (logits.length : Int) ∨ P.topK ≤ 0 then logits.length else P.topK.toNat)) ∧
    ∃ L1, shiftMax o (topK o P.topK (mkTokens logits)) = .ok L1 ∧
    (guardOK o (scaledOf o P L1) = true →
     scaleOK o ((topK o P.topK (mkTokens logits)).map (·.val)) (L1.map (·.val)) = true →
     scaleOK o (L1.map (·.val)) (scaledOf o P L1) = true →
     softmaxOK o (scaledOf o P L1) (softmaxVals o (scaledOf o P L1)) = true →
     (∃ v, logits[id]? = some v ∧ o.beq v o.negInf = false) ∧
     ∃ f, minP o P.minP (topP o P.topP (probsOf o P L1)) = .ok f ∧ f <+: probsOf o P L1 ∧
       ∃ x ∈ f, x.id = id) := by
  refine ⟨index_in_range o true P r logits id hS, sample_in_topk laws.ord true P r logits id ht hS, ?_⟩
  obtain ⟨L1, hs, hrest⟩ := sample_admissible_fixed_partial laws P r logits id ht hS
  refine ⟨L1, hs, fun hg hsh hsc hsm => ?_⟩
  obtain ⟨v, idx, f, x, hv, hne, hf, hpre, hx, hxid⟩ := hrest hg hsh hsc hsm
  exact ⟨⟨v, hv, hne⟩, f, hf, hpre, x, List.mem_of_getElem? hx, hxid⟩

/-! ### the laws relativised to the NaN-free part of the carrier

  No carrier with a NaN satisfies `OrdLaws` (`X_not_OrdLaws` below: `0 < 1` but neither `0 < NaN` nor
  `NaN < 1`), so the theorems above cannot be instantiated at IEEE floats as they stand.  What IEEE
  gives is `OrdLawsOn` (the laws on non-NaN values).  The `_on` theorems below take `OrdLawsOn`
  and the decidable guard `noNaN logits` — the property's quantifier (finite logits, infinities) —
  and are instantiated on the witness carrier `X`, which HAS a NaN and both infinities
  (`xLawsOn`).  Those about `greedy` and `topK` are obtained from the total-order theorems through
  `totalize` (`Proofs/SamplerNaN.lean`): the order-only algorithms compute the same result for `o` and
  for the total extension of its order on NaN-free inputs.  Those about the weighted pick instantiate
  the law-free `afterTopK_spec_of` / `afterTopK_spec_fix_of` (`PickOrd.of_runGood`). -/

/-- the guard: no logit is NaN (decidable; the driver counts the vectors that violate it,
    `l2_nan_vectors`, and evaluates only the greedy clause on them: finding F18b) -/
def noNaN (o : Ops α) (logits : List α) : Bool := logits.all (fun v => !o.isNaN v)

theorem noNaN_mem {o : Ops α} {logits : List α} (hn : noNaN o logits = true) :
    ∀ w ∈ logits, o.isNaN w = false := by
  intro w hw
  have := List.all_eq_true.1 hn w hw
  simpa using this

theorem goodL_mkTokens {o : Ops α} {logits : List α} (hn : noNaN o logits = true) :
    GoodL o (mkTokens logits) := by
  intro t ht
  have := mkTokens_mem logits t ht
  exact noNaN_mem hn _ (List.mem_of_getElem? this)

theorem Sample_totalize_greedy (o : Ops α) (fix : Bool) (P : Params α) (r : α) (logits : List α)
    (ht : o.beq P.temp o.zero = true) (hn : noNaN o logits = true) :
    Sample (totalize o) fix P r logits = Sample o fix P r logits := by
  cases logits with
  | nil => rfl
  | cons v vs =>
    have ht' : (totalize o).beq P.temp (totalize o).zero = true := ht
    simp only [Sample, sampleCore, ht, ht', if_true]
    rw [greedy_totalize o _ (goodL_mkTokens hn)]
    rfl

theorem greedy_argmax_on {o : Ops α} (h : OrdLawsOn o) (fix : Bool) (P : Params α) (r : α)
    (logits : List α) (id : Nat) (ht : o.beq P.temp o.zero = true) (hn : noNaN o logits = true)
    (hS : Sample o fix P r logits = .ok id) :
    ∃ v, logits[id]? = some v ∧ ∀ w ∈ logits, o.lt v w = false := by
  rw [← Sample_totalize_greedy o fix P r logits ht hn] at hS
  obtain ⟨v, hv, hmax⟩ := greedy_argmax (totalize_laws h) fix P r logits id ht hS
  refine ⟨v, hv, fun w hw => ?_⟩
  rw [← totalize_lt o (noNaN_mem hn v (List.mem_of_getElem? hv)) (noNaN_mem hn w hw)]
  exact hmax w hw

theorem greedy_admissible_on {o : Ops α} (h : OrdLawsOn o) (hb : BeqLawOn o) (fix : Bool) (P : Params α)
    (r : α) (logits : List α) (ht : o.beq P.temp o.zero = true) (hn : noNaN o logits = true)
    (hsome : ∃ w ∈ logits, o.lt o.negInf w = true) :
    ∃ id v, Sample o fix P r logits = .ok id ∧ logits[id]? = some v ∧ o.beq v o.negInf = false ∧
      ∀ w ∈ logits, o.lt v w = false := by
  obtain ⟨w, hw, hlt⟩ := hsome
  have hlt' : (totalize o).lt (totalize o).negInf w = true := by
    have : (totalize o).lt o.negInf w = o.lt o.negInf w := totalize_lt o h.negInf (noNaN_mem hn w hw)
    rw [← hlt, ← this]; rfl
  obtain ⟨id, v, hS, hv, hne, hmax⟩ :=
    greedy_admissible_sep (totalize_laws h) (totalize_beqLaw hb) fix P r logits ht ⟨w, hw, hlt'⟩
  rw [Sample_totalize_greedy o fix P r logits ht hn] at hS
  refine ⟨id, v, hS, hv, hne, fun w' hw' => ?_⟩
  rw [← totalize_lt o (noNaN_mem hn v (List.mem_of_getElem? hv)) (noNaN_mem hn w' hw')]
  exact hmax w' hw'

theorem sample_in_topk_on {o : Ops α} (h : OrdLawsOn o) (fix : Bool) (P : Params α) (r : α)
    (logits : List α) (id : Nat) (ht : o.beq P.temp o.zero = false) (hn : noNaN o logits = true)
    (hS : Sample o fix P r logits = .ok id) :
    ∃ v, logits[id]? = some v ∧
      ((mkTokens logits).filter (fun x => o.lt v x.val)).length <
        (if P.topK ≥ (logits.length : Int) ∨ P.topK ≤ 0 then logits.length else P.topK.toNat) :=
  have hg := goodL_mkTokens hn
  (sampleWith_admissible o (topK o P.topK) fix P r logits id ht (topK_isTopK_on h _ _ hg)
    (fun y hy => h.irrefl _ (hg y (topK_mem o _ _ y hy))) hS).2

theorem sample_fixed_no_allNegInf_on {o : Ops α} (h : OrdLawsOn o) (hb : BeqLawOn o) (P : Params α)
    (r : α) (logits : List α) (ht : o.beq P.temp o.zero = false) (hn : noNaN o logits = true)
    (hsome : ∃ w ∈ logits, o.lt o.negInf w = true) :
    Sample o true P r logits ≠ .error .allNegInf := by
  obtain ⟨w, hw, hlt⟩ := hsome
  have hg := goodL_mkTokens hn
  exact no_allNegInf_of_isTopK o P r logits ht w hw (topK_isTopK_on h _ _ hg) fun t0 h0 =>
    ⟨h.irrefl _ (hg t0 h0), max_ne_negInf (hb.nlt _ _)
      (h.cotrans _ t0.val _ h.negInf (hg t0 h0) (noNaN_mem hn w hw) hlt)⟩

/-- every call of every history on an IEEE-like carrier, seeded or unseeded, NaN-free logits: the id
    is in range, at temperature 0 it is an arg-max, at temperature > 0 fewer than `k` logits exceed it -/
theorem every_call_admissible_on {o : Ops α} (h : OrdLawsOn o) (fix : Bool) (P : Params α)
    (ls : List (List α)) (results : List (Except Err Nat))
    (hres : ∀ (i : Nat) res, results[i]? = some res → ∃ l r, ls[i]? = some l ∧ res = Sample o fix P r l)
    (hn : ∀ l ∈ ls, noNaN o l = true)
    (i : Nat) (id : Nat) (hi : results[i]? = some (.ok id)) :
    ∃ l, ls[i]? = some l ∧ id < l.length ∧
      (o.beq P.temp o.zero = true → ∃ v, l[id]? = some v ∧ ∀ w ∈ l, o.lt v w = false) ∧
      (o.beq P.temp o.zero = false → ∃ v, l[id]? = some v ∧
        ((mkTokens l).filter (fun x => o.lt v x.val)).length <
          (if P.topK ≥ (l.length : Int) ∨ P.topK ≤ 0 then l.length else P.topK.toNat)) := by
  obtain ⟨l, r, hl, hS⟩ := hres i _ hi
  have hln := hn l (List.mem_of_getElem? hl)
  exact ⟨l, hl, index_in_range o fix P r l id hS.symm,
    fun ht => greedy_argmax_on h fix P r l id ht hln hS.symm,
    fun ht => sample_in_topk_on h fix P r l id ht hln hS.symm⟩

/-- **why the relativisation is needed**: the witness carrier (NaN, ±Inf, integers; IEEE's rules for
    the special values) does NOT satisfy the total laws -/
theorem X_not_OrdLaws : ¬ OrdLaws X.ops := by
  intro h
  have := h.cotrans (X.fin 0) X.nan (X.fin 1) (by decide)
  revert this; decide

/-- … and it DOES satisfy the relativised ones: a carrier with a NaN and both infinities on which
    every `_on` theorem can be instantiated -/
theorem xLawsOn : OrdLawsOn X.ops where
  irrefl := by intro a _; cases a <;> simp [X.ops, X.lt]
  trans := by
    intro a b c ha hb hc
    cases a, ha using X.goodRec <;> cases b, hb using X.goodRec <;>
      cases c, hc using X.goodRec <;> dsimp only [X.ops, X.lt] <;> simp <;> omega
  cotrans := by
    intro a b c ha hb hc
    cases a, ha using X.goodRec <;> cases b, hb using X.goodRec <;>
      cases c, hc using X.goodRec <;> dsimp only [X.ops, X.lt] <;> simp <;> omega
  zero := by decide
  negInf := by decide

theorem xBeqLawOn : BeqLawOn X.ops where
  good := by intro a b; cases a <;> cases b <;> dsimp only [X.ops, X.beq] <;> simp
  nlt := by
    intro a b
    cases a <;> cases b <;> dsimp only [X.ops, X.beq, X.lt] <;> simp <;> omega

/-- instantiation on the carrier with NaN: the `_on` theorems applied to concrete NaN-free logits
    (a tie, a `-Inf`, a `+Inf`); and the guard is what fails on the F18b input -/
example :
    (∃ v, [X.fin 3, .ninf, .pinf, .fin 3][2]? = some v ∧ ∀ w ∈ [X.fin 3, .ninf, .pinf, .fin 3], X.ops.lt v w = false) ∧
    noNaN X.ops [.nan, .fin 1, .fin 2] = false :=
  ⟨greedy_argmax_on xLawsOn true ⟨.fin 0, 40, .fin 1, .fin 0, true⟩ (.fin 0) _ 2 (by decide) (by decide) (by rfl),
   by decide⟩

example : ∃ id v, Sample X.ops true ⟨.fin 0, 40, .fin 1, .fin 0, true⟩ (.fin 0) [X.ninf, .fin 3, .ninf] = .ok id ∧
    [X.ninf, .fin 3, .ninf][id]? = some v ∧ X.ops.beq v X.ops.negInf = false ∧
    ∀ w ∈ [X.ninf, .fin 3, .ninf], X.ops.lt v w = false :=
  greedy_admissible_on xLawsOn xBeqLawOn true _ (.fin 0) _ (by decide) (by decide) ⟨.fin 3, by decide, by decide⟩

example : Sample X.ops true ⟨.fin 1, 2, .fin 1, .fin 0, false⟩ (.fin 0) [X.fin 3, .ninf, .fin 7, .fin 3]
    ≠ .error .allNegInf :=
  sample_fixed_no_allNegInf_on xLawsOn xBeqLawOn _ _ _ (by decide) (by decide) ⟨.fin 7, by decide, by decide⟩

/-- the weighted clauses for any top-k stage that returns tokens of its input (repaired variant) -/
theorem sampleWith_admissible_fixed_on {o : Ops α} (h : OrdLawsOn o) (ha : ArithLawsOn o) (hb : BeqLawOn o)
    (tk : List (Tok α) → List (Tok α)) (P : Params α) (r : α) (logits : List α) (id : Nat)
    (ht : o.beq P.temp o.zero = false)
    (hmem : ∀ y ∈ tk (mkTokens logits), y ∈ mkTokens logits)
    (hS : SampleWith o tk true P r logits = .ok id) :
    ∃ L1, shiftMax o (tk (mkTokens logits)) = .ok L1 ∧
    (runGood o P r L1 = true →
     guardOK o (scaledOf o P L1) = true →
     scaleOK o ((tk (mkTokens logits)).map (·.val)) (L1.map (·.val)) = true →
     scaleOK o (L1.map (·.val)) (scaledOf o P L1) = true →
     softmaxOK o (scaledOf o P L1) (softmaxVals o (scaledOf o P L1)) = true →
     (∃ v, logits[id]? = some v ∧ o.beq v o.negInf = false) ∧
     ∃ f, minP o P.minP (topP o P.topP (probsOf o P L1)) = .ok f ∧ f <+: probsOf o P L1 ∧
       ∃ x ∈ f, x.id = id) := by
  obtain ⟨t, hc, hid⟩ := SampleWith_weighted o tk true P r logits id ht hS
  obtain ⟨L1, hs, hrest⟩ := afterTopK_spec_fix_on h ha hb P r _ t hc
  refine ⟨L1, hs, ?_⟩
  intro hrg hg hsh hsc hsm
  obtain ⟨idx, y, f, x, hy, hyid, hyv, hf, hpre, hx, hxid⟩ := hrest hrg hg hsh hsc hsm
  have := mkTokens_mem logits y (hmem y (List.mem_of_getElem? hy))
  rw [hyid, hid] at this
  exact ⟨⟨y.val, this, hyv⟩, f, hf, hpre, x, List.mem_of_getElem? hx, by rw [hxid, hid]⟩

/-- **sample_admissible_fixed for IEEE-like carriers** (the code in /repo, temperature > 0): relativised
    laws (`OrdLawsOn`, `ArithLawsOn`, `BeqLawOn` — satisfied by the witness carrier with NaN and ±Inf:
    `xLawsOn`, `xArithLawsOn`, `xBeqLawOn`); the run guard `runGood` (no NaN is ever compared: scaled
    values, probabilities, running sums, threshold, cumulative sums, target) joins the run contracts.  Conclusion as in `sample_admissible_fixed_partial`: the logit of
    the returned id is not `-Inf` and the id is that of a member of the filter set. -/
theorem sample_admissible_fixed_on {o : Ops α} (h : OrdLawsOn o) (ha : ArithLawsOn o) (hb : BeqLawOn o)
    (P : Params α) (r : α) (logits : List α) (id : Nat) (ht : o.beq P.temp o.zero = false)
    (hS : Sample o true P r logits = .ok id) :
    ∃ L1, shiftMax o (topK o P.topK (mkTokens logits)) = .ok L1 ∧
    (runGood o P r L1 = true →
     guardOK o (scaledOf o P L1) = true →
     scaleOK o ((topK o P.topK (mkTokens logits)).map (·.val)) (L1.map (·.val)) = true →
     scaleOK o (L1.map (·.val)) (scaledOf o P L1) = true →
     softmaxOK o (scaledOf o P L1) (softmaxVals o (scaledOf o P L1)) = true →
     (∃ v, logits[id]? = some v ∧ o.beq v o.negInf = false) ∧
     ∃ f, minP o P.minP (topP o P.topP (probsOf o P L1)) = .ok f ∧ f <+: probsOf o P L1 ∧
       ∃ x ∈ f, x.id = id) :=
  sampleWith_admissible_fixed_on h ha hb (topK o P.topK) P r logits id ht (topK_mem o _ _) hS

theorem xArithLawsOn : ArithLawsOn X.ops where
  posInf := by decide
  addZero := by
    intro s z
    cases s <;> cases z <;> dsimp only [X.ops, X.beq, X.lt, X.add] <;> simp <;> omega
  addNaN := by
    intro s z
    cases s <;> cases z <;> dsimp only [X.ops, X.add] <;> simp

/-- instantiation on the carrier WITH NaN: the F18 input `[+Inf, 0]` (top-k 1 of 2: the heap
    branch), every hypothesis of `sample_admissible_fixed_on` holds on that run -/
example :
    let P : Params X := ⟨.fin 1, 1, .fin 1, .fin 0, false⟩
    let L : List (Tok X) := [⟨0, .pinf⟩]
    let L1 : List (Tok X) := [⟨0, .fin 0⟩]
    topK X.ops 1 (mkTokens [X.pinf, .fin 0]) = L ∧ (shiftMax X.ops L).toOption = some L1 ∧
    runGood X.ops P (.fin 0) L1 = true ∧ (L1.map (·.val)).all (fun v => !X.ops.isNaN v) = true ∧
    guardOK X.ops (scaledOf X.ops P L1) = true ∧
    scaleOK X.ops (L.map (·.val)) (L1.map (·.val)) = true ∧
    scaleOK X.ops (L1.map (·.val)) (scaledOf X.ops P L1) = true ∧
    softmaxOK X.ops (scaledOf X.ops P L1) (softmaxVals X.ops (scaledOf X.ops P L1)) = true := by
  decide

example : ∃ L1, shiftMax X.ops (topK X.ops 1 (mkTokens [X.pinf, .fin 0])) = .ok L1 := by
  obtain ⟨L1, h, _⟩ := sample_admissible_fixed_on xLawsOn xArithLawsOn xBeqLawOn
    ⟨.fin 1, 1, .fin 1, .fin 0, false⟩ (.fin 0) [X.pinf, .fin 0] 0 (by decide) (by rfl)
  exact ⟨L1, h⟩

/-! ### the grammar retry for IEEE-like carriers -/

/-- NaN-freeness is preserved by the grammar mask (a logic fact: a masked entry is the old logit or `-Inf`) -/
theorem noNaN_maskLogits {o : Ops α} (hneg : o.isNaN o.negInf = false) (acc : List Nat) (logits : List α)
    (hn : noNaN o logits = true) : noNaN o (maskLogits o acc logits) = true := by
  unfold noNaN
  rw [List.all_eq_true]
  intro v hv
  obtain ⟨j, hj, hjv⟩ := List.mem_iff_getElem.1 hv
  have hget : (maskLogits o acc logits)[j]? = some v := by
    rw [List.getElem?_eq_getElem hj, hjv]
  obtain ⟨w, hw, hvw⟩ := maskLogits_get o acc logits j v hget
  rw [hvw]
  split
  · simpa using noNaN_mem hn w (List.mem_of_getElem? hw)
  · simpa using hneg

/-- **grammar, temperature 0, IEEE-like carrier**: the retry returns an arg-max of the masked logits,
    accepted by the grammar as soon as some masked logit is above `-Inf` -/
theorem grammar_retry_greedy_on {o : Ops α} (h : OrdLawsOn o) (fix : Bool) (P : Params α) (r : α)
    (logits : List α) (acc : List Nat) (id : Nat) (ht : o.beq P.temp o.zero = true)
    (hn : noNaN o logits = true)
    (hS : Sample o fix P r (maskLogits o acc logits) = .ok id)
    (hsome : ∃ w ∈ maskLogits o acc logits, o.lt o.negInf w = true) :
    acc.contains id = true ∧
    ∃ v, (maskLogits o acc logits)[id]? = some v ∧ ∀ w ∈ maskLogits o acc logits, o.lt v w = false := by
  have hnm := noNaN_maskLogits h.negInf acc logits hn
  obtain ⟨v, hv, hmax⟩ := greedy_argmax_on h fix P r _ id ht hnm hS
  exact ⟨masked_argmax_accepted o acc logits id v hv hmax hsome, v, hv, hmax⟩

/-- **grammar, temperature > 0, IEEE-like carrier, the code in /repo**: under the run's guard and
    contracts on the masked logits the retry result is accepted by the grammar, indexes an original
    logit that is not `-Inf`, lies in the filter set of the masked logits, and fewer than `k` masked
    logits exceed it -/
theorem grammar_retry_admissible_fixed_on {o : Ops α} (h : OrdLawsOn o) (ha : ArithLawsOn o) (hb : BeqLawOn o)
    (hrefl : o.beq o.negInf o.negInf = true) (P : Params α) (r : α)
    (logits : List α) (acc : List Nat) (id : Nat) (ht : o.beq P.temp o.zero = false)
    (hn : noNaN o logits = true)
    (hS : Sample o true P r (maskLogits o acc logits) = .ok id) :
    (∃ v, (maskLogits o acc logits)[id]? = some v ∧
      ((mkTokens (maskLogits o acc logits)).filter (fun x => o.lt v x.val)).length <
        (if P.topK ≥ ((maskLogits o acc logits).length : Int) ∨ P.topK ≤ 0 then (maskLogits o acc logits).length
         else P.topK.toNat)) ∧
    ∃ L1, shiftMax o (topK o P.topK (mkTokens (maskLogits o acc logits))) = .ok L1 ∧
    (runGood o P r L1 = true →
     guardOK o (scaledOf o P L1) = true →
     scaleOK o ((topK o P.topK (mkTokens (maskLogits o acc logits))).map (·.val)) (L1.map (·.val)) = true →
     scaleOK o (L1.map (·.val)) (scaledOf o P L1) = true →
     softmaxOK o (scaledOf o P L1) (softmaxVals o (scaledOf o P L1)) = true →
     acc.contains id = true ∧
     (∃ w, logits[id]? = some w ∧ o.beq w o.negInf = false) ∧
     ∃ f, minP o P.minP (topP o P.topP (probsOf o P L1)) = .ok f ∧ ∃ x ∈ f, x.id = id) := by
  have hnm := noNaN_maskLogits h.negInf acc logits hn
  refine ⟨sample_in_topk_on h true P r _ id ht hnm hS, ?_⟩
  obtain ⟨L1, hs, hrest⟩ := sample_admissible_fixed_on h ha hb P r _ id ht hS
  refine ⟨L1, hs, ?_⟩
  intro hrg hg hsh hsc hsm
  obtain ⟨⟨v, hv, hne⟩, f, hf, _, x, hx, hxid⟩ := hrest hrg hg hsh hsc hsm
  obtain ⟨hacc, hw⟩ := masked_not_neginf_logit o hrefl acc logits id v hv hne
  exact ⟨hacc, hw, f, hf, x, hx, hxid⟩

/-- instantiation on the carrier with NaN: the grammar accepts only token 1; temperature 0 -/
example : ([1] : List Nat).contains 1 = true ∧
    ∃ v, (maskLogits X.ops [1] [X.fin 5, .fin 2, .pinf])[1]? = some v ∧
      ∀ w ∈ maskLogits X.ops [1] [X.fin 5, .fin 2, .pinf], X.ops.lt v w = false :=
  grammar_retry_greedy_on xLawsOn true ⟨.fin 0, 40, .fin 1, .fin 0, true⟩ (.fin 0) [X.fin 5, .fin 2, .pinf] [1] 1
    (by decide) (by decide) (by rfl) ⟨.fin 2, by decide, by decide⟩

/-- a top-k stage that orders the two EQUAL logits the other way round than the model's heap (ids 0
    before 3): the two stages return different ids for the same number — which is exactly the part
    left to the reproducibility monitors -/
example :
    let ts : List (Tok X) := mkTokens [X.fin 3, .ninf, .fin 1, .fin 3]
    let other : List (Tok X) → List (Tok X) := fun _ => [⟨0, .fin 3⟩, ⟨3, .fin 3⟩]
    topK X.ops 2 ts = [⟨3, .fin 3⟩, ⟨0, .fin 3⟩] ∧
    (SampleWith X.ops other true ⟨.fin 1, 2, .fin 1, .fin 0, false⟩ (.fin 0) [X.fin 3, .ninf, .fin 1, .fin 3]).toOption = some 0 ∧
    (Sample X.ops true ⟨.fin 1, 2, .fin 1, .fin 0, false⟩ (.fin 0) [X.fin 3, .ninf, .fin 1, .fin 3]).toOption = some 3 := by
  decide

/-! ### an independent specification of top-p -/

/-- the mass of the first `j` entries, accumulated the way the code does (left to right from 0) -/
def prefixSum (o : Ops α) (L : List (Tok α)) (j : Nat) : α :=
  (L.take j).foldl (fun s t => o.add s t.val) o.zero

theorem topPCut_spec_aux (o : Ops α) (p : α) (L : List (Tok α)) (s : α) :
    topPCut o p s L ≤ L.length ∧
    (∀ j, 0 < j → j < topPCut o p s L →
        o.lt p ((L.take j).foldl (fun s t => o.add s t.val) s) = false) ∧
    (topPCut o p s L = L.length ∨ L = [] ∨
        o.lt p ((L.take (topPCut o p s L)).foldl (fun s t => o.add s t.val) s) = true) ∧
    (L ≠ [] → 0 < topPCut o p s L) := by
  fun_induction topPCut o p s L with
  | case1 => simp
  | case2 s t rest s' hlt =>
    refine ⟨by simp, fun j hj0 hj1 => by omega, .inr (.inr (by simpa using hlt)), fun _ => by omega⟩
  | case3 s t rest s' hlt ih =>
    obtain ⟨h1, h2, h3, h4⟩ := ih
    refine ⟨by simp; omega, fun j hj0 hj1 => ?_, ?_, fun _ => by omega⟩
    · cases j with
      | zero => omega
      | succ j =>
        simp only [List.take_succ_cons, List.foldl_cons]
        rcases Nat.eq_zero_or_pos j with h0 | h0
        · subst h0; simpa using hlt
        · exact h2 j h0 (by omega)
    · rcases h3 with h3 | h3 | h3
      · left; simp; omega
      · subst h3; left; simp [topPCut]
      · right; right
        rw [Nat.add_comm 1]
        simpa using h3

/-- **top-p keeps the SMALLEST non-empty prefix whose accumulated mass exceeds `p`** (the whole list
    if none does, or if `p == 1`): independent of the implementation — stated with `prefixSum`, the
    left-to-right sums from 0.  With `n` the number of kept entries:
      * `1 ≤ n ≤ len` (at least one token);
      * no shorter non-empty prefix already exceeds `p`:  `∀ 0 < j < n, ¬ p < prefixSum j`;
      * the kept prefix does, unless everything is kept:  `n = len ∨ p < prefixSum n`.
    An off-by-one cut (one token more or fewer, `>=` for `>`) violates the second or third line
    (`topPBad_violates_spec` below). -/
theorem topP_spec (o : Ops α) (p : α) (L : List (Tok α)) (hL : L ≠ []) (hp : o.beq p o.one = false) :
    topP o p L = L.take (topP o p L).length ∧
    1 ≤ (topP o p L).length ∧ (topP o p L).length ≤ L.length ∧
    (∀ j, 0 < j → j < (topP o p L).length → o.lt p (prefixSum o L j) = false) ∧
    ((topP o p L).length = L.length ∨ o.lt p (prefixSum o L (topP o p L).length) = true) := by
  obtain ⟨h1, h2, h3, h4⟩ := topPCut_spec_aux o p L o.zero
  have hlen : (topP o p L).length = topPCut o p o.zero L := by
    simp only [topP, hp, Bool.false_eq_true, if_false, List.length_take]
    omega
  rw [hlen]
  refine ⟨by simp [topP, hp], h4 hL, h1, h2, ?_⟩
  rcases h3 with h3 | h3 | h3
  · exact Or.inl h3
  · exact absurd h3 hL
  · exact Or.inr h3

theorem topP_one (o : Ops α) (p : α) (L : List (Tok α)) (hp : o.beq p o.one = true) : topP o p L = L := by
  simp [topP, hp]

/-- a broken variant (keeps one token too many at the cut) … -/
def topPCutBad (o : Ops α) (p : α) : α → List (Tok α) → Nat
  | _, [] => 0
  | sum, t :: rest =>
    let s := o.add sum t.val
    if o.lt p s then 2 else 1 + topPCutBad o p s rest

/-- … is a non-empty prefix too, but VIOLATES `topP_spec` (on the integers: p = 500, masses
    600/300/100: a shorter prefix already exceeds p), while the model's `topP` keeps exactly `[0]` -/
theorem topPBad_violates_spec :
    let L : List (Tok Int) := [⟨0, 600⟩, ⟨1, 300⟩, ⟨2, 100⟩]
    (topP zOps 500 L).map (·.id) = [0] ∧
    (L.take (topPCutBad zOps 500 0 L)).map (·.id) = [0, 1] ∧
    ¬ (∀ j, 0 < j → j < (L.take (topPCutBad zOps 500 0 L)).length → zOps.lt 500 (prefixSum zOps L j) = false) := by
  refine ⟨by decide, by decide, ?_⟩
  intro h
  have := h 1 (by decide) (by decide)
  revert this; decide

/-! ### reproducibility under a seed, stated on the history -/

/-- **reproducible under a fixed seed** (the headline statement of the clause).  Two samplers built
    with the same seed and the same parameters, given the same sequence of logit vectors, return the
    same sequence of results; and that sequence is determined call by call: the i-th result is
    `Sample` on the i-th logits with the `d_i`-th number of the seed's PCG stream, where `d_i` is
    the number of earlier calls that reached the generator — nothing else of the past matters, and
    the stream itself does not depend on how many numbers are drawn later (`stream_of_seed`).
    (The first conjunct alone would hold for any function; the content is the third, `hist_nth`,
    together with the bit-exact PCG mirror tied by L1 `rng`.) -/
theorem reproducible_under_seed (o : Ops α) (toF : Nat → α) (fix : Bool) (P : Params α) (seed : Int)
    (ls : List (List α)) :
    (∀ seed', seed' = seed →
      sampleHist o toF fix P (pcgOfSeed seed') ls = sampleHist o toF fix P (pcgOfSeed seed) ls) ∧
    (sampleHist o toF fix P (pcgOfSeed seed) ls).length = ls.length ∧
    ∀ i l, ls[i]? = some l →
      (sampleHist o toF fix P (pcgOfSeed seed) ls)[i]? =
        some (if consumes o fix P l then
                Sample o fix P (toF (pcgFloat24 (advance pcgFloat24 (draws o fix P (ls.take i)) (pcgOfSeed seed))).1) l
              else Sample o fix P (toF 0) l) := by
  refine ⟨fun s' hs => by rw [hs], sampleHist_length o toF fix P _ ls, ?_⟩
  intro i l hl
  rw [hist_nth, hl]
  simp only [Option.map_some, sampleStep]
  split <;> rfl

/-- **reproducible under a fixed seed for ANY deterministic top-k stage** — pdqsort included.  `tk` is an
    arbitrary FUNCTION of (k, tokens): whatever order it gives to tokens with equal logits, two
    samplers with the same seed and parameters return the same sequence on the same sequence of logit
    vectors, and the i-th result is the single call `SampleWith` with the `d_i`-th number of the
    seed's stream (`d_i` = earlier drawing calls).  The only thing assumed of Go's `slices.SortFunc` /
    `container/heap` is that it is deterministic (a function of its input) — recorded as an assumption
    and checked on every sampled call by running the real `topK` twice (L2 `topk-not-deterministic`).
    (The first conjunct holds of any function.) -/
theorem reproducible_with_any_sort (o : Ops α) (tk : Int → List (Tok α) → List (Tok α)) (toF : Nat → α)
    (fix : Bool) (P : Params α) (seed : Int) (ls : List (List α)) :
    (∀ seed', seed' = seed →
      sampleHistWith o tk toF fix P (pcgOfSeed seed') ls = sampleHistWith o tk toF fix P (pcgOfSeed seed) ls) ∧
    ∀ (i : Nat) l, ls[i]? = some l →
      (sampleHistWith o tk toF fix P (pcgOfSeed seed) ls)[i]? =
        some (sampleStepWith o tk toF fix P
          (advance pcgFloat24 (drawsWith o tk fix P (ls.take i)) (pcgOfSeed seed)) l).1 := by
  refine ⟨fun s' hs => by rw [hs], fun i l hl => ?_⟩
  rw [histWith_nth, hl]
  rfl

/-- what `NewSampler`'s clamping needs from the carrier: `<=` contains `<`, and `0 < 1` -/
structure ClampLawsOn (o : Ops α) : Prop where
  le_of_lt : ∀ a b, o.lt a b = true → o.le a b = true
  zero_lt_one : o.lt o.zero o.one = true
  oneGood : o.isNaN o.one = false

/-- **NewSampler's clamping** (the glue between a request's options and the sampler): for non-NaN
    requested values the stored `top_p` and `min_p` lie in `[0, 1]` and the stored temperature is not
    negative — whatever was requested (negative, above 1, huge).  These are the ranges the arithmetic
    run contracts `max·minP ≤ max` and the `p == 1` shortcut of `topP` rely on. -/
theorem newParams_in_range {o : Ops α} (h : OrdLawsOn o) (hc : ClampLawsOn o) (temp : α) (k : Int) (p mp : α)
    (hp : o.isNaN p = false) (hmp : o.isNaN mp = false) :
    let P := newParams o temp k p mp
    o.lt P.temp o.zero = false ∧ P.topK = k ∧
    o.lt P.topP o.zero = false ∧ o.lt o.one P.topP = false ∧ o.isNaN P.topP = false ∧
    o.lt P.minP o.zero = false ∧ o.lt o.one P.minP = false ∧ o.isNaN P.minP = false := by
  have h10 : o.lt o.one o.zero = false := by
    cases hv : o.lt o.one o.zero with
    | false => rfl
    | true =>
      have := h.trans _ _ _ h.zero hc.oneGood h.zero hc.zero_lt_one hv
      rw [h.irrefl _ h.zero] at this; cases this
  have clamp : ∀ x, o.isNaN x = false →
      let y := if o.lt x o.zero then o.zero else if o.le o.one x then o.one else x
      o.lt y o.zero = false ∧ o.lt o.one y = false ∧ o.isNaN y = false := by
    intro x hx
    simp only
    cases h1 : o.lt x o.zero with
    | true => simp only [if_true]; exact ⟨h.irrefl _ h.zero, h10, h.zero⟩
    | false =>
      simp only [Bool.false_eq_true, if_false]
      cases h2 : o.le o.one x with
      | true =>
        simp only [if_true]
        refine ⟨h10, h.irrefl _ hc.oneGood, hc.oneGood⟩
      | false =>
        simp only [Bool.false_eq_true, if_false]
        refine ⟨h1, ?_, hx⟩
        cases h3 : o.lt o.one x with
        | false => rfl
        | true => rw [hc.le_of_lt _ _ h3] at h2; cases h2
  simp only [newParams]
  refine ⟨?_, trivial, (clamp p hp).1, (clamp p hp).2.1, (clamp p hp).2.2, (clamp mp hmp).1, (clamp mp hmp).2.1, (clamp mp hmp).2.2⟩
  cases h1 : o.lt temp o.zero with
  | true => simp only [if_true]; exact h.irrefl _ h.zero
  | false => simp only [Bool.false_eq_true, if_false]; exact h1

theorem xClampLawsOn : ClampLawsOn X.ops where
  le_of_lt := by
    intro a b hab
    have : X.lt a b = true := hab
    simp [X.ops, this]
  zero_lt_one := by decide
  oneGood := by decide

/-- instantiation on the carrier with NaN: requested top-p 7 and min-p −3 are stored as 1 and 0 -/
example : (newParams X.ops (.fin (-2)) 40 (.fin 7) (.fin (-3))).topP = .fin 1 ∧
    (newParams X.ops (.fin (-2)) 40 (.fin 7) (.fin (-3))).minP = .fin 0 ∧
    (newParams X.ops (.fin (-2)) 40 (.fin 7) (.fin (-3))).temp = .fin 0 := by decide

/-! ### the two arithmetic run contracts follow from the ranges -/

/-- the multiplicative facts behind the two arithmetic run contracts of `sample_never_panics_fixed` -/
structure MulLawsOn (o : Ops α) : Prop where
  /-- `a ≥ 0`, `0 ≤ p ≤ 1`  ⇒  `a·p ≤ a` -/
  mul_le : ∀ a p, o.isNaN a = false → o.isNaN p = false → o.lt a o.zero = false →
    o.lt p o.zero = false → o.lt o.one p = false → o.lt a (o.mul a p) = false
  /-- the same with the factor on the left (`r *= total`) -/
  mul_le' : ∀ a p, o.isNaN a = false → o.isNaN p = false → o.lt a o.zero = false →
    o.lt p o.zero = false → o.lt o.one p = false → o.lt a (o.mul p a) = false
  /-- a sum of two non-negative non-NaN numbers that is not NaN is not negative -/
  add_nonneg : ∀ a b, o.isNaN a = false → o.isNaN b = false → o.lt a o.zero = false →
    o.lt b o.zero = false → o.isNaN (o.add a b) = false → o.lt (o.add a b) o.zero = false

theorem cumsum_nonneg {o : Ops α} (hm : MulLawsOn o) : ∀ (L : List (Tok α)) (s : α),
    o.isNaN s = false → o.lt s o.zero = false →
    (∀ t ∈ L, o.isNaN t.val = false ∧ o.lt t.val o.zero = false) →
    (∀ t ∈ cumsum o s L, o.isNaN t.val = false) →
    ∀ t ∈ cumsum o s L, o.lt t.val o.zero = false := by
  intro L
  induction L with
  | nil => intro s _ _ _ _ t ht; simp [cumsum] at ht
  | cons x rest ih =>
    intro s hs hs0 hL hC t ht
    simp only [cumsum, List.mem_cons] at ht hC
    have hx := hL x List.mem_cons_self
    have hsum : o.isNaN (o.add s x.val) = false := hC ⟨x.id, o.add s x.val⟩ (Or.inl rfl)
    have hsum0 := hm.add_nonneg s x.val hs hx.1 hs0 hx.2 hsum
    rcases ht with rfl | ht
    · exact hsum0
    · exact ih _ hsum hsum0 (fun t ht => hL t (List.mem_cons_of_mem _ ht))
        (fun t ht => hC t (Or.inr ht)) t ht

/-- **the two arithmetic run contracts are consequences of the ranges**: with `min_p ∈ [0, 1]`
    (`newParams_in_range`), `r ∈ [0, 1]` (`Rand.Float32`), the probabilities non-negative and not NaN
    (`softmaxOK`) and no NaN among the cumulative sums (`runGood`), `max·minP ≤ max` and
    `r·total ≤ total` hold: the two hypotheses of `sample_never_panics_fixed`. -/
theorem arith_contracts_of_ranges {o : Ops α} (h : OrdLawsOn o) (hm : MulLawsOn o) (P : Params α) (r : α)
    (L1 : List (Tok α))
    (hprobs : ∀ t ∈ probsOf o P L1, o.isNaN t.val = false ∧ o.lt t.val o.zero = false)
    (hmp : o.isNaN P.minP = false ∧ o.lt P.minP o.zero = false ∧ o.lt o.one P.minP = false)
    (hr : o.isNaN r = false ∧ o.lt r o.zero = false ∧ o.lt o.one r = false)
    (hcum : ∀ f, minP o P.minP (topP o P.topP (probsOf o P L1)) = .ok f →
      ∀ t ∈ cumsum o o.zero f, o.isNaN t.val = false) :
    (∀ t0 rest, topP o P.topP (probsOf o P L1) = t0 :: rest →
        o.lt t0.val (o.mul t0.val P.minP) = false) ∧
    (∀ f last, minP o P.minP (topP o P.topP (probsOf o P L1)) = .ok f →
        (cumsum o o.zero f).getLast? = some last → o.lt last.val (o.mul r last.val) = false) := by
  constructor
  · intro t0 rest he
    have hmem : t0 ∈ probsOf o P L1 :=
      (topP_prefix o P.topP _).subset (by rw [he]; exact List.mem_cons_self)
    obtain ⟨h1, h2⟩ := hprobs t0 hmem
    exact hm.mul_le _ _ h1 hmp.1 h2 hmp.2.1 hmp.2.2
  · intro f last hf hl
    have hfsub : ∀ t ∈ f, o.isNaN t.val = false ∧ o.lt t.val o.zero = false := by
      intro t ht
      exact hprobs t ((filters_prefix o P L1 f hf).subset ht)
    have hC := hcum f hf
    have hlm : last ∈ cumsum o o.zero f := List.mem_of_getLast? hl
    have hl0 := cumsum_nonneg hm f o.zero h.zero (h.irrefl _ h.zero) hfsub hC last hlm
    exact hm.mul_le' _ _ (hC last hlm) hr.1 hl0 hr.2.1 hr.2.2

namespace X

theorem mul_comm (a b : X) : mul a b = mul b a := by
  cases a <;> cases b <;> simp only [mul, Int.mul_comm]

theorem mul_le (a p : X) (ha : ops.isNaN a = false) (hp : ops.isNaN p = false) :
    ops.lt a ops.zero = false → ops.lt p ops.zero = false → ops.lt ops.one p = false →
    ops.lt a (ops.mul a p) = false := by
  cases a, ha using X.goodRec <;> cases p, hp using X.goodRec <;>
    dsimp only [ops, lt, mul] <;> simp
  rename_i a p
  intro ha hp0 hp1
  have : p = 0 ∨ p = 1 := by omega
  rcases this with rfl | rfl <;> omega
end X

theorem xMulLawsOn : MulLawsOn X.ops where
  mul_le := X.mul_le
  mul_le' := by
    intro a p
    rw [show X.ops.mul p a = X.ops.mul a p from X.mul_comm p a]
    exact X.mul_le a p
  add_nonneg := by
    intro a b ha hb
    cases a, ha using X.goodRec <;> cases b, hb using X.goodRec <;>
      dsimp only [X.ops, X.lt, X.add] <;> simp <;> omega

/-! ### run contracts DERIVED from named IEEE laws (temperature stage, guard) -/

/-- a finite positive divisor (what `max(temp, 1e-7)` is for every temperature a request can carry) -/
def posFinite (o : Ops α) (t : α) : Prop :=
  o.isNaN t = false ∧ o.lt o.zero t = true ∧ o.lt t o.posInf = true

/-- division by a finite positive number on non-NaN values: stays non-NaN, keeps the order, keeps
    `-Inf`, keeps the sign of non-positive values, `0/t > -Inf`; and `0 < +Inf` -/
structure ScaleLawsOn (o : Ops α) : Prop where
  div_good : ∀ a t, o.isNaN a = false → posFinite o t → o.isNaN (o.div a t) = false
  div_mono : ∀ a b t, o.isNaN a = false → o.isNaN b = false → posFinite o t →
    o.lt a b = false → o.lt (o.div a t) (o.div b t) = false
  div_negInf : ∀ v t, posFinite o t → o.beq v o.negInf = true → o.beq (o.div v t) o.negInf = true
  div_nonpos : ∀ a t, o.isNaN a = false → posFinite o t → o.lt o.zero a = false →
    o.lt o.zero (o.div a t) = false
  div_zero : ∀ t, posFinite o t → o.lt o.negInf (o.div o.zero t) = true
  zero_lt_posInf : o.lt o.zero o.posInf = true
  posInfGood : o.isNaN o.posInf = false

theorem isDesc_map (o : Ops α) (f : α → α) (l : List α)
    (hf : ∀ a ∈ l, ∀ b ∈ l, o.lt a b = false → o.lt (f a) (f b) = false)
    (hd : isDesc o l = true) : isDesc o (l.map f) = true := by
  fun_induction isDesc o l with
  | case1 => rfl
  | case2 => rfl
  | case3 a b rest ih =>
    simp only [Bool.and_eq_true, Bool.not_eq_true'] at hd
    simp only [List.map_cons, isDesc, Bool.and_eq_true, Bool.not_eq_true']
    exact ⟨hf a List.mem_cons_self b (List.mem_cons_of_mem _ List.mem_cons_self) hd.1,
      ih (fun x hx y hy => hf x (List.mem_cons_of_mem _ hx) y (List.mem_cons_of_mem _ hy)) hd.2⟩

theorem zipWith_map_all (p : α → α → Bool) (f : α → α) (l : List α) (h : ∀ a ∈ l, p a (f a) = true) :
    (List.zipWith p l (l.map f)).all id = true := by
  induction l with
  | nil => rfl
  | cons a rest ih =>
    simp only [List.map_cons, List.zipWith_cons_cons, List.all_cons, id, Bool.and_eq_true]
    exact ⟨h a List.mem_cons_self, ih (fun x hx => h x (List.mem_cons_of_mem _ hx))⟩

/-- **the `temperature` stage establishes its own contract** (`scaleOK`: still descending, `-Inf ↦ -Inf`)
    and keeps the values NaN-free, for every descending NaN-free list and finite positive divisor -/
theorem scale_contract_of_laws {o : Ops α} (hs : ScaleLawsOn o) (temp : α) (vs : List α)
    (ht : posFinite o (fmax o temp o.tempFloor))
    (hv : ∀ v ∈ vs, o.isNaN v = false) (hdesc : isDesc o vs = true) :
    scaleOK o vs (scaleVals o temp vs) = true ∧ ∀ s ∈ scaleVals o temp vs, o.isNaN s = false := by
  unfold scaleVals
  simp only
  generalize fmax o temp o.tempFloor = t at ht
  refine ⟨?_, ?_⟩
  · unfold scaleOK
    simp only [List.length_map, beq_self_eq_true, Bool.true_and, Bool.and_eq_true]
    refine ⟨isDesc_map o _ vs (fun a ha b hb hab => hs.div_mono a b t (hv a ha) (hv b hb) ht hab) hdesc,
      zipWith_map_all _ _ vs fun a _ => ?_⟩
    cases hb : o.beq a o.negInf with
    | false => rfl
    | true => simp [hs.div_negInf a t ht hb]
  · intro s hs'
    obtain ⟨v, hv', rfl⟩ := List.mem_map.1 hs'
    exact hs.div_good v t (hv v hv') ht

/-- **the guard `guardOK` is established by shift + scale**: if the shifted list starts with `0` and
    nothing in it is positive (what `shiftMax` produces from a descending list), every scaled value
    is NaN-free and below `+Inf`, and the first one is above `-Inf` -/
theorem guard_of_laws {o : Ops α} (h : OrdLawsOn o) (hs : ScaleLawsOn o) (temp : α) (rest : List α)
    (ht : posFinite o (fmax o temp o.tempFloor))
    (hv : ∀ v ∈ o.zero :: rest, o.isNaN v = false)
    (hnp : ∀ v ∈ o.zero :: rest, o.lt o.zero v = false) :
    guardOK o (scaleVals o temp (o.zero :: rest)) = true := by
  unfold scaleVals
  simp only
  generalize fmax o temp o.tempFloor = t at ht
  unfold guardOK
  simp only [List.map_cons, Bool.and_eq_true, List.all_eq_true, Bool.not_eq_true']
  refine ⟨?_, hs.div_zero t ht⟩
  intro s hs'
  have hs'' : s ∈ (o.zero :: rest).map (fun v => o.div v t) := by simpa using hs'
  obtain ⟨v, hvm, rfl⟩ := List.mem_map.1 hs''
  have hg := hs.div_good v t (hv v hvm) ht
  refine ⟨hg, ?_⟩
  have hle := hs.div_nonpos v t (hv v hvm) ht (hnp v hvm)
  rcases h.cotrans o.zero (o.div v t) o.posInf h.zero hg hs.posInfGood hs.zero_lt_posInf with h1 | h1
  · rw [hle] at h1; cases h1
  · exact h1

namespace X

theorem of_posFinite {t : X} (h : posFinite ops t) : ∃ c, t = fin c ∧ 0 < c := by
  obtain ⟨h1, h2, h3⟩ := h
  cases t, h1 using goodRec with
  | ninf => cases h2
  | fin c => exact ⟨c, rfl, of_decide_eq_true h2⟩
  | pinf => cases h3
end X

theorem xScaleLawsOn : ScaleLawsOn X.ops where
  div_good := by
    intro a t ha ht
    obtain ⟨c, rfl, _⟩ := X.of_posFinite ht
    cases a, ha using X.goodRec <;> rfl
  div_mono := by
    intro a b t ha hb ht
    obtain ⟨c, rfl, hc⟩ := X.of_posFinite ht
    cases a, ha using X.goodRec <;> cases b, hb using X.goodRec <;>
      dsimp only [X.ops, X.div, X.lt] <;> simp
    exact Int.ediv_le_ediv hc
  div_negInf := by
    intro v t ht
    obtain ⟨c, rfl, _⟩ := X.of_posFinite ht
    cases v <;> dsimp only [X.ops, X.div, X.beq] <;> simp
  div_nonpos := by
    intro a t ha ht
    obtain ⟨c, rfl, hc⟩ := X.of_posFinite ht
    cases a, ha using X.goodRec <;> dsimp only [X.ops, X.div, X.lt] <;> simp
    intro ha0
    exact Int.ediv_nonpos_of_nonpos_of_neg ha0 hc
  div_zero := by
    intro t ht
    obtain ⟨c, rfl, _⟩ := X.of_posFinite ht
    rfl
  zero_lt_posInf := by decide
  posInfGood := by decide


theorem isDesc_head_max {o : Ops α} (h : OrdLawsOn o) : ∀ (l : List α) (a : α),
    (∀ v ∈ a :: l, o.isNaN v = false) → isDesc o (a :: l) = true → ∀ v ∈ a :: l, o.lt a v = false := by
  intro l
  induction l with
  | nil => intro a hg _ v hv; simp at hv; subst hv; exact h.irrefl _ (hg _ List.mem_cons_self)
  | cons b rest ih =>
    intro a hg hd v hv
    simp only [isDesc, Bool.and_eq_true, Bool.not_eq_true'] at hd
    rcases List.mem_cons.1 hv with rfl | hv'
    · exact h.irrefl _ (hg _ List.mem_cons_self)
    · have hb := ih b (fun v hv => hg v (List.mem_cons_of_mem _ hv)) hd.2 v hv'
      cases hav : o.lt a v with
      | false => rfl
      | true =>
        rcases h.cotrans a b v (hg a List.mem_cons_self) (hg b (List.mem_cons_of_mem _ List.mem_cons_self))
          (hg v hv) hav with h1 | h1
        · rw [hd.1] at h1; cases h1
        · rw [hb] at h1; cases h1

/-- **after the max-shift, two of the run contracts are theorems**: from the shift's own contract
    (`scaleOK` on (L, L1)) and NaN-freeness of the shifted values, the guard `guardOK` and the
    `temperature` stage's contract `scaleOK` on (L1, scaled) FOLLOW, for every finite positive
    divisor `max(temp, 1e-7)` — they need not be assumed per run. -/
theorem contracts_after_shift {o : Ops α} (h : OrdLawsOn o) (hs : ScaleLawsOn o)
    (hrefl : ∀ a, o.isNaN a = false → o.beq a a = true)
    (P : Params α) (t0 : Tok α) (rest : List (Tok α)) (L1 : List (Tok α))
    (hsm : shiftMax o (t0 :: rest) = .ok L1) (ht0 : o.isNaN t0.val = false)
    (hL1 : ∀ v ∈ L1.map (·.val), o.isNaN v = false)
    (hsh : scaleOK o ((t0 :: rest).map (·.val)) (L1.map (·.val)) = true)
    (ht : posFinite o (fmax o P.temp o.tempFloor)) :
    guardOK o (scaledOf o P L1) = true ∧ scaleOK o (L1.map (·.val)) (scaledOf o P L1) = true ∧
    ∀ s ∈ scaledOf o P L1, o.isNaN s = false := by
  have hhead : ∃ tl, L1.map (·.val) = o.zero :: tl := by
    simp only [shiftMax] at hsm
    split at hsm
    · cases hsm
    · injection hsm with hsm
      rw [← hsm]
      simp [hrefl t0.val ht0]
  obtain ⟨tl, htl⟩ := hhead
  have hdesc : isDesc o (L1.map (·.val)) = true := by
    unfold scaleOK at hsh
    simp only [Bool.and_eq_true] at hsh
    exact hsh.1.2
  rw [htl] at hdesc hL1
  have hnp := isDesc_head_max h tl o.zero hL1 hdesc
  unfold scaledOf
  rw [htl]
  obtain ⟨c1, c2⟩ := scale_contract_of_laws hs P.temp (o.zero :: tl) ht hL1 hdesc
  exact ⟨guard_of_laws h hs P.temp tl ht hL1 hnp, c1, c2⟩

theorem xBeqRefl : ∀ a, X.ops.isNaN a = false → X.ops.beq a a = true := by
  intro a; cases a <;> simp [X.ops, X.beq]

/-! ### the max-shift's contract derived; three run contracts are theorems for /repo's code -/

/-- subtraction of the maximum `m > -Inf` on non-NaN values -/
structure ShiftLawsOn (o : Ops α) : Prop where
  negInf_least : ∀ a, o.isNaN a = false → o.beq a o.negInf = false → o.lt o.negInf a = true
  beq_nlt' : ∀ a b, o.beq a b = true → o.lt a b = false
  beq_of_equiv : ∀ a m, o.isNaN a = false → o.isNaN m = false → o.lt a m = false → o.lt m a = false →
    o.beq a m = true
  sub_good : ∀ a m, o.isNaN a = false → o.isNaN m = false → o.beq a m = false → o.lt o.negInf m = true →
    o.isNaN (o.sub a m) = false
  sub_mono : ∀ a b m, o.isNaN a = false → o.isNaN b = false → o.isNaN m = false →
    o.beq a m = false → o.beq b m = false → o.lt o.negInf m = true →
    o.lt a b = false → o.lt (o.sub a m) (o.sub b m) = false
  sub_nonpos : ∀ a m, o.isNaN a = false → o.isNaN m = false → o.beq a m = false → o.lt o.negInf m = true →
    o.lt m a = false → o.lt o.zero (o.sub a m) = false
  sub_negInf : ∀ v m, o.isNaN m = false → o.lt o.negInf m = true → o.beq v o.negInf = true →
    o.beq v m = false ∧ o.beq (o.sub v m) o.negInf = true

/-- the map `shiftMax` applies -/
def shiftVal (o : Ops α) (m v : α) : α := if o.beq v m then o.zero else o.sub v m

theorem shift_desc {o : Ops α} (h : OrdLawsOn o) (hs : ShiftLawsOn o) (m : α)
    (hm : o.isNaN m = false) (hmi : o.lt o.negInf m = true) : ∀ (l : List α),
    (∀ v ∈ l, o.isNaN v = false ∧ o.lt m v = false) → isDesc o l = true →
    isDesc o (l.map (shiftVal o m)) = true := by
  intro l hl hd
  refine isDesc_map o _ l (fun a ha b hb hab => ?_) hd
  obtain ⟨ha, ham⟩ := hl a ha
  obtain ⟨hbg, hbm⟩ := hl b hb
  unfold shiftVal
  cases hea : o.beq a m with
  | true =>
    cases heb : o.beq b m with
    | true => simp only [if_true]; exact h.irrefl _ h.zero
    | false =>
      simp only [if_true, Bool.false_eq_true, if_false]
      exact hs.sub_nonpos b m hbg hm heb hmi hbm
  | false =>
    cases heb : o.beq b m with
    | true =>
      -- impossible: a ≥ b ≈ m and a ≤ m force a == m
      exfalso
      have hbm' : o.lt b m = false := hs.beq_nlt' b m heb
      have ham' : o.lt a m = false := by
        cases hv : o.lt a m with
        | false => rfl
        | true =>
          rcases h.cotrans a b m ha hbg hm hv with h1 | h1
          · rw [hab] at h1; cases h1
          · rw [hbm'] at h1; cases h1
      have := hs.beq_of_equiv a m ha hm ham' ham
      rw [hea] at this; cases this
    | false =>
      simp only [Bool.false_eq_true, if_false]
      exact hs.sub_mono a b m ha hbg hm hea heb hmi hab

/-- **the max-shift establishes its own contract**: for a descending NaN-free list whose head is not
    `-Inf`, `shiftMax` returns a list that is NaN-free, still descending and keeps `-Inf` (`scaleOK`) -/
theorem shift_contract_of_laws {o : Ops α} (h : OrdLawsOn o) (hb : BeqLawOn o) (hs : ShiftLawsOn o)
    (t0 : Tok α) (rest : List (Tok α))
    (hg : ∀ v ∈ (t0 :: rest).map (·.val), o.isNaN v = false)
    (hd : isDesc o ((t0 :: rest).map (·.val)) = true) (hne : o.beq t0.val o.negInf = false) :
    ∃ L1, shiftMax o (t0 :: rest) = .ok L1 ∧
      L1.map (·.val) = ((t0 :: rest).map (·.val)).map (shiftVal o t0.val) ∧
      (∀ v ∈ L1.map (·.val), o.isNaN v = false) ∧
      scaleOK o ((t0 :: rest).map (·.val)) (L1.map (·.val)) = true := by
  have hm : o.isNaN t0.val = false := hg _ (by simp)
  have hmi := hs.negInf_least t0.val hm hne
  have hmax := isDesc_head_max h (rest.map (·.val)) t0.val (by simpa using hg) (by simpa using hd)
  have hall : ∀ v ∈ (t0 :: rest).map (·.val), o.isNaN v = false ∧ o.lt t0.val v = false :=
    fun v hv => ⟨hg v hv, hmax v (by simpa using hv)⟩
  let L1 : List (Tok α) := (t0 :: rest).map fun t =>
    (⟨t.id, if o.beq t.val t0.val then o.zero else o.sub t.val t0.val⟩ : Tok α)
  have hL1 : shiftMax o (t0 :: rest) = .ok L1 := by
    simp only [shiftMax, hne, Bool.false_eq_true, if_false]; rfl
  have e : L1.map (·.val) = ((t0 :: rest).map (·.val)).map (shiftVal o t0.val) := by
    simp only [L1, List.map_map]
    apply List.map_congr_left
    intro t _
    rfl
  refine ⟨L1, hL1, e, ?_, ?_⟩
  · rw [e]
    intro v hv
    obtain ⟨a, ha, rfl⟩ := List.mem_map.1 hv
    have hag := (hall a ha).1
    unfold shiftVal
    cases he : o.beq a t0.val with
    | true => simpa using h.zero
    | false => simpa using hs.sub_good a t0.val hag hm he hmi
  · rw [e]
    unfold scaleOK
    simp only [List.length_map, beq_self_eq_true, Bool.true_and, Bool.and_eq_true]
    refine ⟨shift_desc h hs t0.val hm hmi _ hall hd, zipWith_map_all _ _ _ fun a _ => ?_⟩
    cases hbq : o.beq a o.negInf with
    | false => rfl
    | true =>
      obtain ⟨h1, h2⟩ := hs.sub_negInf a t0.val hm hmi hbq
      simp [shiftVal, h1, h2]

theorem xShiftLawsOn : ShiftLawsOn X.ops where
  negInf_least := by intro a; cases a <;> dsimp only [X.ops, X.beq, X.lt] <;> simp
  beq_nlt' := by intro a b; cases a <;> cases b <;> dsimp only [X.ops, X.beq, X.lt] <;> simp <;> omega
  beq_of_equiv := by
    intro a m ha hm
    cases a, ha using X.goodRec <;> cases m, hm using X.goodRec <;>
      dsimp only [X.ops, X.beq, X.lt] <;> simp <;> omega
  sub_good := by
    intro a m ha hm
    cases a, ha using X.goodRec <;> cases m, hm using X.goodRec <;>
      dsimp only [X.ops, X.beq, X.lt, X.add, X.neg] <;> simp
  sub_mono := by
    intro a b m ha hb hm
    cases a, ha using X.goodRec <;> cases b, hb using X.goodRec <;>
      cases m, hm using X.goodRec <;>
      dsimp only [X.ops, X.beq, X.lt, X.add, X.neg] <;> simp <;> omega
  sub_nonpos := by
    intro a m ha hm
    cases a, ha using X.goodRec <;> cases m, hm using X.goodRec <;>
      dsimp only [X.ops, X.beq, X.lt, X.add, X.neg] <;> simp <;> omega
  sub_negInf := by
    intro v m hm
    cases m, hm using X.goodRec <;> cases v <;>
      dsimp only [X.ops, X.beq, X.lt, X.add, X.neg] <;> simp


theorem isDesc_of_pairwise (o : Ops α) : ∀ (l : List (Tok α)),
    l.Pairwise (fun a b => o.lt a.val b.val = false) → isDesc o (l.map (·.val)) = true := by
  intro l
  induction l with
  | nil => intro _; rfl
  | cons a rest ih =>
    intro hp
    cases rest with
    | nil => rfl
    | cons b rest' =>
      rw [List.pairwise_cons] at hp
      simp only [List.map_cons, isDesc, Bool.and_eq_true, Bool.not_eq_true']
      exact ⟨hp.1 b List.mem_cons_self, ih hp.2⟩

/-- **three of the run contracts are theorems for the code in /repo**: for NaN-free logits and a finite
    positive `max(temp, 1e-7)`, whenever the max-shift succeeds on `topK`'s output, its result is
    NaN-free and satisfies the shift's contract, the guard `guardOK` and the `temperature` stage's
    contract — derived from `topK_isTopK_on` (the output is descending) and the named IEEE laws
    `ShiftLawsOn`, `ScaleLawsOn` (instances on the carrier with NaN: `xShiftLawsOn`, `xScaleLawsOn`).
    What remains a per-run contract in `sample_admissible_fixed_on` is `softmaxOK` and `runGood`. -/
theorem shift_scale_contracts_of_laws {o : Ops α} (h : OrdLawsOn o) (hb : BeqLawOn o) (hs : ShiftLawsOn o)
    (hsc : ScaleLawsOn o) (hrefl : ∀ a, o.isNaN a = false → o.beq a a = true)
    (P : Params α) (logits : List α) (hne : logits ≠ []) (hn : noNaN o logits = true)
    (ht : posFinite o (fmax o P.temp o.tempFloor))
    (L1 : List (Tok α)) (hsm : shiftMax o (topK o P.topK (mkTokens logits)) = .ok L1) :
    (∀ v ∈ L1.map (·.val), o.isNaN v = false) ∧
    scaleOK o ((topK o P.topK (mkTokens logits)).map (·.val)) (L1.map (·.val)) = true ∧
    guardOK o (scaledOf o P L1) = true ∧
    scaleOK o (L1.map (·.val)) (scaledOf o P L1) = true := by
  have hgl := goodL_mkTokens hn
  have hK := topK_isTopK_on h P.topK (mkTokens logits) hgl
  have hts : mkTokens logits ≠ [] := by
    cases logits with
    | nil => exact absurd rfl hne
    | cons v vs => exact mkTokens_cons_ne_nil v vs
  cases hk : topK o P.topK (mkTokens logits) with
  | nil => exact absurd hk (topK_ne_nil o _ hts)
  | cons t0 rest =>
    rw [hk] at hsm hK
    have hg : ∀ v ∈ (t0 :: rest).map (·.val), o.isNaN v = false := by
      intro v hv
      obtain ⟨t, ht', rfl⟩ := List.mem_map.1 hv
      exact hgl t (topK_mem o P.topK _ t (by rw [hk]; exact ht'))
    have hd := isDesc_of_pairwise o (t0 :: rest) hK.desc
    have hne' : o.beq t0.val o.negInf = false := by
      cases hb' : o.beq t0.val o.negInf with
      | false => rfl
      | true => simp [shiftMax, hb'] at hsm
    obtain ⟨L1', hs1, _, hgood, hshift⟩ := shift_contract_of_laws h hb hs t0 rest hg hd hne'
    rw [hsm] at hs1
    injection hs1 with hs1
    subst hs1
    obtain ⟨c1, c2, _⟩ := contracts_after_shift h hsc hrefl P t0 rest L1 hsm (hg _ (by simp)) hgood hshift ht
    exact ⟨hgood, hshift, c1, c2⟩

/-- instantiation on the carrier with NaN: the laws hold there, and the derived contracts are the ones
    `decide` finds on a concrete run (F18 input, heap branch) -/
example : guardOK X.ops (scaledOf X.ops ⟨.fin 1, 1, .fin 1, .fin 0, false⟩ [⟨0, .fin 0⟩]) = true :=
  (shift_scale_contracts_of_laws xLawsOn xBeqLawOn xShiftLawsOn xScaleLawsOn xBeqRefl
    ⟨.fin 1, 1, .fin 1, .fin 0, false⟩ [X.pinf, .fin 0] (by simp) (by decide)
    ⟨by decide, by decide, by decide⟩ [⟨0, .fin 0⟩] (by rfl)).2.2.1

/-! ### one weighted call under `softmaxOK` and `runGood` alone -/

/-- **C18 for one weighted call of the code in /repo on an IEEE-like carrier — two contracts left.**
    Relativised order laws and the named IEEE laws (all instantiated on the witness carrier with NaN
    and ±Inf); NaN-free logits; a finite positive `max(temp, 1e-7)`.  If `Sample` returns `id`, then
    `id` is inside the vocabulary and fewer than `k` logits are strictly larger; and if the run's
    `softmax` kept its contract (`softmaxOK`) and no NaN was compared (`runGood`) — the only two
    per-run hypotheses left — its logit is not `-Inf` and it is the id of a member of
    `minP (topP (softmax (temperature (shift (topK tokens)))))`. -/
theorem sample_admissible_lawful {o : Ops α} (h : OrdLawsOn o) (ha : ArithLawsOn o) (hb : BeqLawOn o)
    (hs : ShiftLawsOn o) (hsc : ScaleLawsOn o) (hrefl : ∀ a, o.isNaN a = false → o.beq a a = true)
    (P : Params α) (r : α) (logits : List α) (id : Nat) (ht : o.beq P.temp o.zero = false)
    (hpos : posFinite o (fmax o P.temp o.tempFloor)) (hn : noNaN o logits = true)
    (hS : Sample o true P r logits = .ok id) :
    id < logits.length ∧
    (∃ v, logits[id]? = some v ∧
      ((mkTokens logits).filter (fun x => o.lt v x.val)).length <
        (if P.topK ≥ (logits.length : Int) ∨ P.topK ≤ 0 then logits.length else P.topK.toNat)) ∧
    ∃ L1, shiftMax o (topK o P.topK (mkTokens logits)) = .ok L1 ∧
    (runGood o P r L1 = true →
     softmaxOK o (scaledOf o P L1) (softmaxVals o (scaledOf o P L1)) = true →
     (∃ v, logits[id]? = some v ∧ o.beq v o.negInf = false) ∧
     ∃ f, minP o P.minP (topP o P.topP (probsOf o P L1)) = .ok f ∧ f <+: probsOf o P L1 ∧
       ∃ x ∈ f, x.id = id) := by
  have hne : logits ≠ [] := by
    intro e; rw [e] at hS; cases hS
  refine ⟨index_in_range o true P r logits id hS, sample_in_topk_on h true P r logits id ht hn hS, ?_⟩
  obtain ⟨L1, hsm, hrest⟩ := sample_admissible_fixed_on h ha hb P r logits id ht hS
  refine ⟨L1, hsm, fun hrg hsoft => ?_⟩
  obtain ⟨_, c1, c2, c3⟩ := shift_scale_contracts_of_laws h hb hs hsc hrefl P logits hne hn hpos L1 hsm
  exact hrest hrg c2 c1 c3 hsoft

/-- instantiation on the carrier with NaN (F18 input, heap branch): the conclusion for token 0 -/
example : ∃ v, [X.pinf, .fin 0][0]? = some v ∧ X.ops.beq v X.ops.negInf = false := by
  obtain ⟨_, _, L1, hsm, himp⟩ := sample_admissible_lawful xLawsOn xArithLawsOn xBeqLawOn xShiftLawsOn xScaleLawsOn
    xBeqRefl ⟨.fin 1, 1, .fin 1, .fin 0, false⟩ (.fin 0) [X.pinf, .fin 0] 0 (by decide)
    ⟨by decide, by decide, by decide⟩ (by decide) (by rfl)
  have e : L1 = [⟨0, .fin 0⟩] := by
    have : shiftMax X.ops (topK X.ops 1 (mkTokens [X.pinf, .fin 0])) = .ok [⟨0, .fin 0⟩] := by rfl
    rw [this] at hsm; injection hsm with hsm; exact hsm.symm
  subst e
  exact (himp (by decide) (by decide)).1

/-! ### `runGood` derived from a guard on the input, named IEEE laws and finiteness of the masses -/

def nn (o : Ops α) (a : α) : Prop := o.isNaN a = false ∧ o.lt a o.zero = false

def nnf (o : Ops α) (a : α) : Prop := nn o a ∧ o.lt a o.posInf = true

/-- the IEEE facts behind `softmax` and the sums, on non-NaN values -/
structure SoftmaxLawsOn (o : Ops α) : Prop where
  /-- `x − m` for a finite `m`: not NaN, and not positive when `x ≤ m` -/
  sub_fin : ∀ a m, o.isNaN a = false → o.isNaN m = false → o.lt o.negInf m = true → o.lt m o.posInf = true →
    o.isNaN (o.sub a m) = false ∧ (o.lt m a = false → o.lt o.zero (o.sub a m) = false)
  /-- `exp` of a non-positive non-NaN number is in `[0, 1]` -/
  exp_nonpos : ∀ x, o.isNaN x = false → o.lt o.zero x = false → nnf o (o.exp x)
  /-- a sum of two finite non-negatives is not NaN and not negative -/
  add_nn : ∀ a b, nn o a → nn o b → nn o (o.add a b)
  /-- a finite non-negative divided by a finite positive number is not NaN and not negative -/
  div_nn : ∀ e s, nnf o e → o.isNaN s = false → o.lt o.zero s = true → o.lt s o.posInf = true → nn o (o.div e s)
  /-- a finite non-negative times a number of `[0, 1]` is not NaN (either order) -/
  mul_good : ∀ a p, nnf o a → nn o p → o.lt o.one p = false →
    o.isNaN (o.mul a p) = false ∧ o.isNaN (o.mul p a) = false

theorem foldl_add_nn {o : Ops α} (hl : SoftmaxLawsOn o) : ∀ (es : List α) (s : α), nn o s →
    (∀ e ∈ es, nn o e) → nn o (es.foldl o.add s) :=
  fun es _ hs he => List.foldlRecOn (motive := nn o) es o.add hs fun b hb x hx => hl.add_nn b x hb (he x hx)

theorem sumsGood_of_nn {o : Ops α} (hl : SoftmaxLawsOn o) : ∀ (L : List (Tok α)) (s : α), nn o s →
    (∀ t ∈ L, nn o t.val) → sumsGood o s L = true := by
  intro L
  induction L with
  | nil => intro _ _ _; rfl
  | cons t rest ih =>
    intro s hs hL
    have h1 := hl.add_nn s t.val hs (hL t List.mem_cons_self)
    simp only [sumsGood, Bool.and_eq_true, Bool.not_eq_true']
    exact ⟨h1.1, ih _ h1 (fun x hx => hL x (List.mem_cons_of_mem _ hx))⟩

theorem cumsum_nn {o : Ops α} (hl : SoftmaxLawsOn o) : ∀ (L : List (Tok α)) (s : α), nn o s →
    (∀ t ∈ L, nn o t.val) → ∀ t ∈ cumsum o s L, nn o t.val := by
  intro L
  induction L with
  | nil => intro _ _ _ t ht; simp [cumsum] at ht
  | cons x rest ih =>
    intro s hs hL t ht
    have h1 := hl.add_nn s x.val hs (hL x List.mem_cons_self)
    simp only [cumsum, List.mem_cons] at ht
    rcases ht with rfl | ht
    · exact h1
    · exact ih _ h1 (fun y hy => hL y (List.mem_cons_of_mem _ hy)) t ht

theorem maxScan_desc {o : Ops α} (h : OrdLawsOn o) (v : α) (rest : List α)
    (hg : ∀ x ∈ v :: rest, o.isNaN x = false) (hd : isDesc o (v :: rest) = true)
    (hv : o.lt o.negInf v = true) :
    (v :: rest).foldl (fun m x => if o.lt m x then x else m) o.negInf = v := by
  have hmax := isDesc_head_max h rest v hg hd
  simp only [List.foldl_cons, hv, if_true]
  exact List.foldlRecOn (motive := (· = v)) rest _ rfl fun m hm x hx => by
    simp only [hm, hmax x (List.mem_cons_of_mem _ hx), Bool.false_eq_true, if_false]

/-- **`runGood` is a theorem**: for scaled values that are NaN-free, not positive, descending and start
    above `-Inf` (what `shift_scale_contracts_of_laws` DERIVES from NaN-free logits and a finite
    positive temperature), `top_p`, `min_p`, `r` in `[0, 1]` (`newParams_in_range`, `Rand.Float32`), and
    the residual finiteness guard `massFinite`, no NaN is ever compared in the run. -/
theorem runGood_of_laws {o : Ops α} (h : OrdLawsOn o) (hl : SoftmaxLawsOn o) (P : Params α) (r : α)
    (L1 : List (Tok α)) (v0 : α) (vrest : List α)
    (hsc : scaledOf o P L1 = v0 :: vrest)
    (hS : ∀ v ∈ scaledOf o P L1, o.isNaN v = false)
    (hSd : isDesc o (scaledOf o P L1) = true)
    (hSh : o.lt o.negInf v0 = true) (hSf : o.lt v0 o.posInf = true)
    (hp : o.isNaN P.topP = false)
    (hmp : nn o P.minP ∧ o.lt o.one P.minP = false)
    (hr : nn o r ∧ o.lt o.one r = false)
    (hmf : massFinite o P L1 = true) :
    runGood o P r L1 = true := by
  have hzero : nn o o.zero := ⟨h.zero, h.irrefl _ h.zero⟩
  have hS' : ∀ x ∈ v0 :: vrest, o.isNaN x = false := hsc ▸ hS
  have hSd' : isDesc o (v0 :: vrest) = true := hsc ▸ hSd
  -- the max scan finds the head
  have hm : (scaledOf o P L1).foldl (fun m v => if o.lt m v then v else m) o.negInf = v0 := by
    rw [hsc]; exact maxScan_desc h v0 vrest hS' hSd' hSh
  have hmaxv := isDesc_head_max h vrest v0 hS' hSd'
  -- the exponentials are in [0, 1]
  have hes : ∀ e ∈ (scaledOf o P L1).map (fun v => o.exp (o.sub v v0)), nnf o e := by
    intro e he
    obtain ⟨v, hv, rfl⟩ := List.mem_map.1 he
    obtain ⟨g1, g2⟩ := hl.sub_fin v v0 (hS v hv) (hS' v0 List.mem_cons_self) hSh hSf
    exact hl.exp_nonpos _ g1 (g2 (hmaxv v (hsc ▸ hv)))
  unfold massFinite at hmf
  simp only [hm, Bool.and_eq_true, List.all_eq_true] at hmf
  obtain ⟨⟨⟨hs0, hsf⟩, hpf⟩, hcf⟩ := hmf
  have hsnn := foldl_add_nn hl _ o.zero hzero (fun e he => (hes e he).1)
  have hprobs : ∀ t ∈ probsOf o P L1, nn o t.val := by
    intro t ht
    have : t.val ∈ softmaxVals o (scaledOf o P L1) := by rw [← probsOf_vals]; exact List.mem_map_of_mem ht
    unfold softmaxVals at this
    simp only [hm] at this
    obtain ⟨e, he, heq⟩ := List.mem_map.1 this
    rw [← heq]
    exact hl.div_nn e _ (hes e he) hsnn.1 hs0 hsf
  have hprobsf : ∀ t ∈ probsOf o P L1, nnf o t.val := fun t ht => ⟨hprobs t ht, hpf t ht⟩
  unfold runGood
  simp only [Bool.and_eq_true, List.all_eq_true, Bool.not_eq_true']
  refine ⟨⟨⟨⟨⟨?_, fun t ht => (hprobs t ht).1⟩, hp⟩, sumsGood_of_nn hl _ _ hzero hprobs⟩, ?_⟩, ?_⟩
  · intro t ht
    have : t.val ∈ scaledOf o P L1 := by rw [← temperature_vals]; exact List.mem_map_of_mem ht
    exact hS _ this
  · cases htp : topP o P.topP (probsOf o P L1) with
    | nil => rfl
    | cons t0 rest =>
      have hmem : t0 ∈ probsOf o P L1 := (topP_prefix o P.topP _).subset (by rw [htp]; exact List.mem_cons_self)
      simpa using (hl.mul_good t0.val P.minP (hprobsf t0 hmem) hmp.1 hmp.2).1
  · cases hmn : minP o P.minP (topP o P.topP (probsOf o P L1)) with
    | error e => rfl
    | ok f =>
      rw [hmn] at hcf
      simp only [List.all_eq_true] at hcf
      have hfsub : ∀ t ∈ f, nn o t.val := fun t ht =>
        hprobs t ((filters_prefix o P L1 f hmn).subset ht)
      have hC := cumsum_nn hl f o.zero hzero hfsub
      simp only [Bool.and_eq_true, List.all_eq_true, Bool.not_eq_true']
      refine ⟨fun t ht => (hC t ht).1, ?_⟩
      cases hl' : (cumsum o o.zero f).getLast? with
      | none => rfl
      | some last =>
        have hlm : last ∈ cumsum o o.zero f := List.mem_of_getLast? hl'
        simpa using (hl.mul_good last.val r ⟨hC last hlm, hcf last hlm⟩ hr.1 hr.2).2


/-- **`runGood` from a guard on the INPUT, named IEEE laws and finiteness of the masses**: NaN-free
    logits, a finite positive `max(temp, 1e-7)`, `top_p` not NaN, `min_p` and `r` in `[0, 1]` — plus the
    residual `massFinite` — imply that no NaN is ever compared in the run on the shifted list. -/
theorem runGood_from_input {o : Ops α} (h : OrdLawsOn o) (hb : BeqLawOn o) (hs : ShiftLawsOn o)
    (hsc : ScaleLawsOn o) (hl : SoftmaxLawsOn o) (hrefl : ∀ a, o.isNaN a = false → o.beq a a = true)
    (P : Params α) (r : α) (logits : List α) (hne : logits ≠ []) (hn : noNaN o logits = true)
    (hpos : posFinite o (fmax o P.temp o.tempFloor))
    (hp : o.isNaN P.topP = false) (hmp : nn o P.minP ∧ o.lt o.one P.minP = false)
    (hr : nn o r ∧ o.lt o.one r = false)
    (L1 : List (Tok α)) (hsm : shiftMax o (topK o P.topK (mkTokens logits)) = .ok L1)
    (hmf : massFinite o P L1 = true) :
    runGood o P r L1 = true := by
  obtain ⟨hgood, _, c1, c2⟩ := shift_scale_contracts_of_laws h hb hs hsc hrefl P logits hne hn hpos L1 hsm
  unfold guardOK at c1
  simp only [Bool.and_eq_true, List.all_eq_true, Bool.not_eq_true'] at c1
  cases hsv : scaledOf o P L1 with
  | nil => rw [hsv] at c1; simp at c1
  | cons v0 vrest =>
    have hall := c1.1
    have hhead : o.lt o.negInf v0 = true := by
      have := c1.2; rw [hsv] at this; simpa using this
    have hS : ∀ v ∈ scaledOf o P L1, o.isNaN v = false := fun v hv => (hall v hv).1
    have hd : isDesc o (scaledOf o P L1) = true := by
      unfold scaleOK at c2
      simp only [Bool.and_eq_true] at c2
      exact c2.1.2
    exact runGood_of_laws h hl P r L1 v0 vrest hsv hS hd hhead
      ((hall v0 (by rw [hsv]; exact List.mem_cons_self)).2) hp hmp hr hmf

theorem xSoftmaxLawsOn : SoftmaxLawsOn X.ops where
  sub_fin := by
    intro a m ha hm
    cases a, ha using X.goodRec <;> cases m, hm using X.goodRec <;>
      dsimp only [X.ops, X.lt, X.add, X.neg] <;> simp <;> omega
  exp_nonpos := by
    intro x hx
    cases x, hx using X.goodRec <;> dsimp only [nnf, nn, X.ops, X.lt, X.exp] <;> simp
    intro ha
    split <;> simp
  add_nn := by
    intro a b ⟨ha, ha0⟩ ⟨hb, hb0⟩
    cases a, ha using X.goodRec <;> cases b, hb using X.goodRec <;>
      revert ha0 hb0 <;> dsimp only [nn, X.ops, X.lt, X.add] <;> simp <;> omega
  div_nn := by
    intro e s ⟨⟨he, he0⟩, he1⟩ hs
    cases e, he using X.goodRec <;> cases s, hs using X.goodRec <;>
      revert he0 he1 <;> dsimp only [nnf, nn, X.ops, X.lt, X.div] <;> simp
    intro he hs
    exact Int.ediv_nonneg he (by omega)
  mul_good := by
    intro a p ⟨⟨ha, ha0⟩, ha1⟩ ⟨hp, hp0⟩
    cases a, ha using X.goodRec <;> cases p, hp using X.goodRec <;>
      revert ha0 ha1 hp0 <;> dsimp only [nnf, nn, X.ops, X.lt, X.mul] <;> simp


/-- **C18 for one weighted call of /repo's code from a guard on the INPUT**: relativised laws + named
    IEEE laws (all instantiated on the carrier with NaN), NaN-free logits, finite positive
    `max(temp, 1e-7)`, `top_p` not NaN, `min_p`, `r` ∈ [0, 1].  A returned `id` is in range and fewer than
    `k` logits are strictly larger; and — the only per-run facts left being that `softmax` kept its
    contract and that the masses are finite — its logit is not `-Inf` and it is the id of a member of
    `minP (topP (softmax (temperature (shift (topK tokens)))))`.  `runGood` is derived (`runGood_from_input`). -/
theorem sample_admissible_from_input {o : Ops α} (h : OrdLawsOn o) (ha : ArithLawsOn o) (hb : BeqLawOn o)
    (hs : ShiftLawsOn o) (hsc : ScaleLawsOn o) (hl : SoftmaxLawsOn o)
    (hrefl : ∀ a, o.isNaN a = false → o.beq a a = true)
    (P : Params α) (r : α) (logits : List α) (id : Nat) (ht : o.beq P.temp o.zero = false)
    (hpos : posFinite o (fmax o P.temp o.tempFloor)) (hn : noNaN o logits = true)
    (hp : o.isNaN P.topP = false) (hmp : nn o P.minP ∧ o.lt o.one P.minP = false)
    (hr : nn o r ∧ o.lt o.one r = false)
    (hS : Sample o true P r logits = .ok id) :
    id < logits.length ∧
    (∃ v, logits[id]? = some v ∧
      ((mkTokens logits).filter (fun x => o.lt v x.val)).length <
        (if P.topK ≥ (logits.length : Int) ∨ P.topK ≤ 0 then logits.length else P.topK.toNat)) ∧
    ∃ L1, shiftMax o (topK o P.topK (mkTokens logits)) = .ok L1 ∧
    (massFinite o P L1 = true →
     softmaxOK o (scaledOf o P L1) (softmaxVals o (scaledOf o P L1)) = true →
     (∃ v, logits[id]? = some v ∧ o.beq v o.negInf = false) ∧
     ∃ f, minP o P.minP (topP o P.topP (probsOf o P L1)) = .ok f ∧ f <+: probsOf o P L1 ∧
       ∃ x ∈ f, x.id = id) := by
  have hne : logits ≠ [] := by
    intro e; rw [e] at hS; cases hS
  obtain ⟨h1, h2, L1, hsm, himp⟩ := sample_admissible_lawful h ha hb hs hsc hrefl P r logits id ht hpos hn hS
  refine ⟨h1, h2, L1, hsm, fun hmf hsoft => ?_⟩
  exact himp (runGood_from_input h hb hs hsc hl hrefl P r logits hne hn hpos hp hmp hr L1 hsm hmf) hsoft

/-- instantiation on the carrier with NaN: the residual guard on the F18 input (heap branch) -/
example : massFinite X.ops ⟨.fin 1, 1, .fin 1, .fin 0, false⟩ [⟨0, .fin 0⟩] = true ∧
    runGood X.ops ⟨.fin 1, 1, .fin 1, .fin 0, false⟩ (.fin 0) [⟨0, .fin 0⟩] = true := by
  refine ⟨by decide, ?_⟩
  exact runGood_from_input xLawsOn xBeqLawOn xShiftLawsOn xScaleLawsOn xSoftmaxLawsOn xBeqRefl
    ⟨.fin 1, 1, .fin 1, .fin 0, false⟩ (.fin 0) [X.pinf, .fin 0] (by simp) (by decide)
    ⟨by decide, by decide, by decide⟩ (by decide) ⟨⟨by decide, by decide⟩, by decide⟩
    ⟨⟨by decide, by decide⟩, by decide⟩ [⟨0, .fin 0⟩] (by rfl) (by decide)

end OllamaVerif.C18
