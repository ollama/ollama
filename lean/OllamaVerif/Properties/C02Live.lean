/-
  C02 — the hypotheses of the two liveness theorems (`drain`, `all_answered`) are satisfiable by non-trivial histories,
  and the theorems are instantiated on them (`Stuck` holds of states other than `init`).

    `drained_state_is_stuck` / `drained_state_reachable` / `drain_instance`      one request, keep-alive expiry
    `evicted_state_is_stuck` / `evicted_state_reachable` / `all_answered_instance`  two models, OLLAMA_MAX_LOADED_MODELS=1:
        the second request waits for the first runner's unload (`waitUnload` on the path), both get exactly one reply
    `dropped_witness`   a request cancelled while queued is skipped: zero replies for ever (its caller had gone away)
    `stuck_but_unanswered_when_holder_runs`  hypothesis `hheld` of `all_answered` is necessary: while the holder of the
        victim has not finished, the state is stuck with request 1 unanswered (the property's proviso)

  Both liveness theorems are statements about the UNBOUNDED base model; with bounded channels a goroutine can park for
  good inside a region (Properties/C02Chan.lean, `F12d_expiredCh_capacity_wedges`: known finding F12d on /repo's tree with
  OLLAMA_MAX_QUEUE = 1), in which case the base projection is not `Stuck` and the theorems are silent.
-/
import OllamaVerif.Properties.C02Drain

namespace OllamaVerif.C02
open OllamaVerif.Sched

/-- nothing is left to do anywhere (decidable on a concrete state) -/
def Quiescent (s : State) : Prop :=
  s.ppc = .idle ∧ s.cpc = .idle ∧ s.pendingQ = [] ∧ s.finishedQ = [] ∧ s.expiredQ = [] ∧ s.unloadedQ = 0 ∧
  s.requeuers = [] ∧ s.delayed = [] ∧ s.finishWaiters = [] ∧ s.timerCbs = [] ∧ s.unloaders = [] ∧ s.unloadCalls = [] ∧
  ∀ r, r < s.nRunners → (s.runners r).timerArmed = false

instance (s : State) : Decidable (Quiescent s) := by unfold Quiescent; infer_instance

theorem stuck_of_quiescent {s : State} (h : Quiescent s) : Stuck s := by
  obtain ⟨hp, hc, h1, h2, h3, h4, h5, h6, h7, h8, h9, h10, ht⟩ := h
  intro a ha
  rw [step_eq_none]
  cases a <;> simp [isProgress] at ha <;> simp [Enabled, hp, hc, h1, h2, h3, h4, h5, h6, h7, h8, h9, h10]
  exact ht _

def sDrained : State := (run Variant.good (Sched.init 0 512 1) drainedTrace).getD {}

theorem drained_state_is_stuck : Stuck sDrained :=
  stuck_of_quiescent (by decide)

theorem drained_state_reachable : Reach Variant.good (Sched.init 0 512 1) sDrained :=
  OllamaVerif.C01.reach_run_getD drainedTrace (by decide)

/-- `drain` applied to a one-request history: the runner is shut down and nothing is loaded -/
theorem drain_instance : (sDrained.runners 0).closed = true ∧ sDrained.loaded = [] := by
  have h := drain drained_state_reachable drained_state_is_stuck
    (by intro q hq; have : sDrained.nReqs = 1 := by decide
        have hq0 : q = 0 := by omega
        subst hq0; decide)
    (by decide)
  exact ⟨h.1 0 (by decide), h.2.1⟩

/-- two models, OLLAMA_MAX_LOADED_MODELS = 1: request 1 makes the scheduler expire runner 0 and waits for its unload -/
def evictTrace : List Act := [
  .submit 0 0 none, .submit 1 0 none, .pTake, .pLookup {}, .pLoad true, .loadDone 0 true,
  .pTake, .pLookup {}, .pExpire, .done 0, .finishSend 0, .cTakeFinished, .cFin, .cTakeExpired, .cExp, .cVram,
  .pWaitUnload, .pLookup {}, .pLoad true, .loadDone 1 true, .done 1, .finishSend 1, .cTakeFinished, .cFin,
  .timerFire 1, .timerCb 1, .cTakeExpired, .cExp, .cVram, .pDrainUnloaded]

def sEvicted : State := (run Variant.good (Sched.init 1 512 1) evictTrace).getD {}

theorem evicted_state_is_stuck : Stuck sEvicted :=
  stuck_of_quiescent (by decide)

theorem evicted_state_reachable : Reach Variant.good (Sched.init 1 512 1) sEvicted :=
  OllamaVerif.C01.reach_run_getD evictTrace (by decide)

/-- `all_answered` applied to the eviction history: both requests have exactly one reply -/
theorem all_answered_instance : (sEvicted.reqs 0).replies = 1 ∧ (sEvicted.reqs 1).replies = 1 ∧ sEvicted.ppc = .idle := by
  have h := all_answered evicted_state_reachable evicted_state_is_stuck (by decide) (by decide)
    (by intro r q hr hq
        have hn : sEvicted.nRunners = 2 := by decide
        have h0 : (sEvicted.runners 0).holders = [] := by decide
        have h1 : (sEvicted.runners 1).holders = [] := by decide
        have : r = 0 ∨ r = 1 := by omega
        rcases this with h | h <;> subst h <;> simp_all)
  refine ⟨by decide, by decide, h.1⟩

/-- the proviso "provided … the requests ahead of it eventually complete" is necessary: while request 0 still holds the
    victim, nothing internal is enabled (candidate actions), request 1 is unanswered and the pending loop waits -/
theorem stuck_but_unanswered_when_holder_runs :
    (run Variant.good (Sched.init 1 512 1) (evictTrace.take 9)).map
      (fun s => (s.ppc, (s.reqs 1).replies, (s.reqs 0).done, (s.runners 0).holders,
                 ([Act.pTake, .pDrainUnloaded, .pLookup {}, .pNeedsReload, .pUse, .pExpire, .pWaitUnload, .pLoad true,
                   .cTakeFinished, .cFin, .cTakeExpired, .cExp, .cVram, .requeue 0, .timerCb 0, .timerFire 0,
                   .finishSend 0, .finishSend 1, .delayedRequeue 1].all (fun a => (step Variant.good s a).isNone)))) =
      some (.waitUnload 1 0, 0, false, [0], true) := by decide

/-- a request cancelled while still queued is skipped by the pending loop: no reply, ever (its caller has gone away;
    `never_lost` counts it as `dropped`) -/
theorem dropped_witness :
    (run Variant.good (Sched.init 0 512 1) [.submit 0 0 none, .done 0, .pTake]).map
      (fun s => ((s.reqs 0).dropped, (s.reqs 0).replies, s.ppc)) = some (true, 0, .idle) := by decide

end OllamaVerif.C02
