/-
  C09 — Registry client, `Push`: the manifest is committed last.

  Theorems over the push models of Model/Registry.lean (HTTP exchanges as net/http runs them, the
  new client `Registry.Push`, the legacy `PushModel`, two legacy pushes sharing one upload), for
  every scripted answer to every physical request and every interleaving.  All logs have one shape,
  `body ++ (if good then manifest exchange else [])` (`pushTrace_spec`, `legacyPush_eq`, `sharedPush`
  by definition); "a manifest request is sent iff `good`" is `gated_manifest_iff`.
-/
import OllamaVerif.Properties.C09

namespace OllamaVerif.C09
open OllamaVerif OllamaVerif.Registry

/-! ### Push: manifest last -/

/-- the shape all push logs have: the manifest exchange `man` follows `body`, sent only if `good` -/
theorem gated_manifest_iff {α} {isM : α → Bool} {body man : List α} (good : Bool)
    (hb : ∀ e ∈ body, isM e = false) (hm : ∀ e ∈ man, isM e = true) (hne : man ≠ []) :
    (∃ e ∈ body ++ (if good = true then man else []), isM e = true) ↔ good = true := by
  cases good with
  | true =>
    obtain ⟨e, he⟩ := List.exists_mem_of_ne_nil _ hne
    exact ⟨fun _ => rfl, fun _ => ⟨e, List.mem_append_right _ he, hm e he⟩⟩
  | false =>
    refine ⟨fun ⟨e, he, h⟩ => ?_, nofun⟩
    rw [if_neg nofun, List.append_nil] at he
    rw [hb e he] at h; cases h

theorem pushBody_mem_iff (pend : List (List PushEv)) (sched : List Nat) (e : PushEv) :
    (e ∈ (pushBody pend sched).1 ∨ ∃ l ∈ (pushBody pend sched).2, e ∈ l) ↔ ∃ l ∈ pend, e ∈ l := by
  fun_induction pushBody pend sched with
  | case1 pend => simp
  | case2 pend k sched e0 es hk rest ih =>
    rw [List.mem_cons, or_assoc, ih]
    have hlt : k < pend.length := (List.getElem?_eq_some_iff.mp hk).1
    constructor
    · rintro (rfl | ⟨l, hl, hel⟩)
      · exact ⟨_, List.mem_of_getElem? hk, List.mem_cons_self ..⟩
      · rcases List.mem_or_eq_of_mem_set hl with h | rfl
        · exact ⟨l, h, hel⟩
        · exact ⟨_, List.mem_of_getElem? hk, List.mem_cons_of_mem _ hel⟩
    · rintro ⟨l, hl, hel⟩
      obtain ⟨i, hi⟩ := List.getElem?_of_mem hl
      by_cases hik : i = k
      · subst hik
        rw [hk] at hi; cases hi
        exact (List.mem_cons.mp hel).imp_right fun h => ⟨es, List.mem_set hlt es, h⟩
      · exact .inr ⟨l, List.mem_of_getElem? (by rw [List.getElem?_set_ne (Ne.symm hik)]; exact hi), hel⟩
  | case3 pend k sched _ ih => exact ih

theorem exchangeFrom_last {fuel sent : Nat} {m : Method} {b : BodyKind} {rs : List Resp} {r : Resp}
    (h : (exchangeFrom fuel sent m b rs).2 = some r) :
    ∃ m', (exchangeFrom fuel sent m b rs).1.getLast? = some (m', r.status) := by
  fun_induction exchangeFrom fuel sent m b rs with
  | case3 fuel sent m b rs r0 _ _ => rw [← Option.some.inj h]; exact ⟨m, rfl⟩
  | case5 fuel sent m b rs r0 _ m' b' _ _ rest ih =>
    obtain ⟨m'', hl⟩ := ih h
    exact ⟨m'', by rw [List.getLast?_cons, hl]; rfl⟩
  | _ => cases h

theorem exchangeFrom_ne_nil (fuel sent : Nat) (m : Method) (b : BodyKind) (rs : List Resp) :
    (exchangeFrom fuel sent m b rs).1 ≠ [] := by
  fun_induction exchangeFrom fuel sent m b rs <;> nofun

/-- the caller of an exchange sees success only if the LAST physical request of the exchange was
    answered 2xx -/
theorem exchange_ok_last_2xx (m : Method) (b : BodyKind) (rs : List Resp)
    (h : exchangeOk (exchange m b rs).2 = true) :
    ∃ m' s, (exchange m b rs).1.getLast? = some (m', s) ∧ is2xx s = true := by
  unfold exchangeOk at h
  split at h
  · rename_i r hr
    obtain ⟨m', hl⟩ := exchangeFrom_last hr
    exact ⟨m', r.status, hl, h⟩
  · cases h

theorem layerRun_index (i : Nat) (u : UpScript) : ∀ e ∈ (layerRun i u).1, ∃ up m s, e = .req i up m s := by
  have key : ∀ (up : Bool) (l : List (Method × Nat)),
      ∀ e ∈ l.map (fun (m, s) => PushEv.req i up m s), ∃ up m s, e = .req i up m s := by
    intro up l e he
    obtain ⟨x, _, rfl⟩ := List.mem_map.mp he
    exact ⟨_, _, _, rfl⟩
  fun_cases layerRun i u
  case case4 => exact List.forall_mem_append.mpr ⟨key false _, key true _⟩
  all_goals exact key false _

theorem layerRun_good_indep (i j : Nat) (u : UpScript) : (layerRun i u).2 = (layerRun j u).2 := by
  unfold layerRun
  simp only
  split
  · rfl
  · split
    · rfl
    · split <;> rfl

theorem getLast?_map {α β} (f : α → β) (l : List α) : (l.map f).getLast? = l.getLast?.map f :=
  List.getLast?_map

/-- **A layer goroutine that succeeds ended on a 2xx.**  If the goroutine of layer `i` returns nil,
    the last request the registry saw for that layer — the last hop of the POST exchange when
    the registry said it has the blob, else the last hop of the upload PUT exchange — was
    answered 2xx.  In particular a 307/308 answer to the upload PUT, which net/http cannot
    follow (the body is the blob file), is not a success. -/
theorem layerRun_good_last_2xx (i : Nat) (u : UpScript) (h : (layerRun i u).2 = true) :
    ∃ up m s, (layerRun i u).1.getLast? = some (.req i up m s) ∧ is2xx s = true := by
  revert h
  fun_cases layerRun i u with
  | case3 p pev r hp h2 hloc =>
    -- the registry has the blob: the POST exchange's last hop is the 2xx
    intro _
    obtain ⟨m', hl⟩ := exchangeFrom_last hp
    exact ⟨false, m', r.status, by rw [List.getLast?_map, show p.1.getLast? = _ from hl]; rfl, by simpa using h2⟩
  | case4 p pev r hp h2 hloc =>
    -- an upload URL was handed out: the PUT exchange decides
    intro hq
    obtain ⟨m', s', hl, hs⟩ := exchange_ok_last_2xx .put .stream u.put hq
    refine ⟨true, m', s', ?_, hs⟩
    rw [List.getLast?_append, List.getLast?_map, hl]; rfl
  | _ => nofun

theorem enumFrom_getElem? {α} (l : List α) : ∀ s i : Nat, (enumFrom s l)[i]? = l[i]?.map (s + i, ·) := by
  induction l with
  | nil => intro s i; rfl
  | cons a as ih =>
    intro s i
    cases i with
    | zero => rfl
    | succ i => simp only [enumFrom, List.getElem?_cons_succ, ih, Nat.add_assoc, Nat.add_comm 1 i]

theorem pushPending_getElem? (ups : List UpScript) (i : Nat) :
    (pushPending ups)[i]? = ups[i]?.map fun u => (layerRun i u).1 := by
  simp only [pushPending, List.getElem?_map, enumFrom_getElem?, Option.map_map, Nat.zero_add]
  rfl

/-- `Registry.Push` as a specification: the requests of every `layerRun`, interleaved somehow, then
    the manifest exchange iff every goroutine succeeded. -/
theorem pushTrace_spec {ups : List UpScript} {sched : List Nat} {man : List Resp} {tr : List PushEv}
    {ok : Bool} (h : pushTrace ups sched man = some (tr, ok)) :
    ∃ body, tr = body ++ (if layersGood ups = true then (manifestRun man).1 else []) ∧
      ok = (layersGood ups && (manifestRun man).2) ∧
      ∀ e, e ∈ body ↔ ∃ i u, ups[i]? = some u ∧ e ∈ (layerRun i u).1 := by
  have hpend : ∀ e, (∃ l ∈ pushPending ups, e ∈ l) ↔ ∃ i u, ups[i]? = some u ∧ e ∈ (layerRun i u).1 := by
    intro e
    constructor
    · rintro ⟨l, hl, hel⟩
      obtain ⟨i, hi⟩ := List.getElem?_of_mem hl
      rw [pushPending_getElem?] at hi
      obtain ⟨u, hu, rfl⟩ := Option.map_eq_some_iff.mp hi
      exact ⟨i, u, hu, hel⟩
    · rintro ⟨i, u, hu, hel⟩
      exact ⟨_, List.mem_of_getElem? (by rw [pushPending_getElem?, hu]; rfl), hel⟩
  revert h
  fun_cases pushTrace ups sched man with
  | case3 => nofun
  | case1 r hall hg | case2 r hall hg =>
    intro h; cases h
    refine ⟨r.1, by simp [hg], by simp [hg], fun e => ?_⟩
    rw [← hpend, ← pushBody_mem_iff _ sched e]
    -- every goroutine ran to its end: nothing is left pending
    refine ⟨.inl, fun h => h.resolve_right ?_⟩
    intro ⟨l', hl', hel'⟩
    rw [List.isEmpty_iff.mp (List.all_eq_true.mp hall l' hl')] at hel'
    cases hel'

theorem manifestRun_spec (man : List Resp) :
    (manifestRun man).1 ≠ [] ∧ ∀ e ∈ (manifestRun man).1, e.isManifest = true := by
  refine ⟨?_, ?_⟩
  · simp only [manifestRun, ne_eq, List.map_eq_nil_iff]
    exact exchangeFrom_ne_nil 10 1 _ _ man
  · intro e he
    simp only [manifestRun, List.mem_map] at he
    obtain ⟨x, _, rfl⟩ := he; rfl

/-- **Push, new client: the manifest is committed last.**  For every scripted answer to every
    physical request (any status 1xx–5xx, with or without `Location`, redirect chains that
    net/http follows or not) and every interleaving of the layer goroutines' requests:
    a request of the manifest exchange is sent iff every layer goroutine succeeded; then the log
    is `body ++ manifest exchange`, `body` contains no manifest request and contains every
    request of every layer — whose last one was answered 2xx (`layerRun_good_last_2xx`); and
    `Push` returns nil only if, in addition, the manifest exchange ended on a 2xx. -/
theorem push_manifest_last (ups : List UpScript) (sched : List Nat) (man : List Resp) (tr : List PushEv)
    (ok : Bool) (h : pushTrace ups sched man = some (tr, ok)) :
    ((∃ e ∈ tr, e.isManifest = true) ↔ layersGood ups = true) ∧
    (layersGood ups = true → ∃ body, tr = body ++ (manifestRun man).1 ∧ (∀ e ∈ body, e.isManifest = false) ∧
        ∀ i u, ups[i]? = some u → (layerRun i u).2 = true ∧ ∀ e ∈ (layerRun i u).1, e ∈ body) ∧
    (ok = true → layersGood ups = true ∧ (manifestRun man).2 = true) := by
  obtain ⟨body, rfl, rfl, hmem⟩ := pushTrace_spec h
  have hbody : ∀ e ∈ body, e.isManifest = false := fun e he => by
    obtain ⟨i, u, _, hel⟩ := (hmem e).mp he
    obtain ⟨_, _, _, rfl⟩ := layerRun_index i u e hel
    rfl
  refine ⟨gated_manifest_iff _ hbody (manifestRun_spec man).2 (manifestRun_spec man).1,
    fun hg => ⟨body, by rw [if_pos hg], hbody, fun i u hiu => ⟨?_, fun e he => (hmem e).mpr ⟨i, u, hiu, he⟩⟩⟩,
    Bool.and_eq_true_iff.mp⟩
  exact layerRun_good_indep i 0 u ▸ List.all_eq_true.mp hg u (List.mem_of_getElem? hiu)

/-! ### Which blobs the new-client push offers (finding F30) -/

/-- with the F30 repair the pushed set is exactly the set `Pull` fetches and verifies -/
theorem push_covers_all {D : Type} (m : Manifest D) : pushedLayers true m = m.all := rfl

/-- on the tree with F30 the pushed set is `m.Layers`: a config is left out -/
theorem push_omits_config {D : Type} (m : Manifest D) (c : Layer D) (hc : m.config = some c) :
    pushedLayers false m = m.layers ∧ (pushedLayers false m).length + 1 = m.all.length := by
  simp [pushedLayers, Manifest.all, hc]

/-- **Push (new client, F30 repaired): the manifest is sent only after EVERY blob of the manifest —
    config included — was accepted.**  For every manifest, every script (one per blob of `m.all`),
    every interleaving and every manifest answer: if a request of the manifest exchange is in the
    log, then for every index `i` of `m.all` the goroutine of that blob succeeded (so its last
    request was answered 2xx, `layerRun_good_last_2xx`) and all its requests precede the manifest
    exchange. -/
theorem push_manifest_after_every_blob {D : Type} (m : Manifest D) (scripts : List UpScript)
    (hlen : scripts.length = m.all.length) (sched : List Nat) (man : List Resp) (tr : List PushEv) (ok : Bool)
    (h : pushManifest true m scripts sched man = some (tr, ok)) (hman : ∃ e ∈ tr, e.isManifest = true) :
    ∃ body, tr = body ++ (manifestRun man).1 ∧ (∀ e ∈ body, e.isManifest = false) ∧
      ∀ i, i < m.all.length → ∃ u, scripts[i]? = some u ∧ (layerRun i u).2 = true ∧
        ∀ e ∈ (layerRun i u).1, e ∈ body := by
  unfold pushManifest at h
  have htake : scripts.take (pushedLayers true m).length = scripts := by
    rw [push_covers_all, ← hlen]; exact List.take_length
  rw [htake] at h
  obtain ⟨h1, h2, _⟩ := push_manifest_last scripts sched man tr ok h
  obtain ⟨body, hb, hnm, hall⟩ := h2 (h1.mp hman)
  refine ⟨body, hb, hnm, fun i hi => ?_⟩
  have hi' : i < scripts.length := by rw [hlen]; exact hi
  have hu : scripts[i]? = some scripts[i] := List.getElem?_eq_getElem hi'
  exact ⟨scripts[i], hu, hall i scripts[i] hu⟩

theorem pushTrace_layer_index (ups : List UpScript) (sched : List Nat) (man : List Resp) (tr : List PushEv)
    (ok : Bool) (h : pushTrace ups sched man = some (tr, ok)) :
    ∀ i up mth s, PushEv.req i up mth s ∈ tr → i < ups.length := by
  obtain ⟨body, rfl, -, hmem⟩ := pushTrace_spec h
  intro i up mth s he
  rcases List.mem_append.mp he with he | he
  · obtain ⟨j, u, hu, hel⟩ := (hmem _).mp he
    obtain ⟨_, _, _, hj⟩ := layerRun_index j u _ hel
    cases hj
    exact (List.getElem?_eq_some_iff.mp hu).1
  · split at he
    · cases (manifestRun_spec man).2 _ he
    · cases he

/-- **F30, in general.**  On a tree that does not offer the config (`cfgToo = false`), whatever the
    registry answers and however the goroutines interleave: every layer request in the log of
    `Push` carries an index below `m.layers.length` — no request for the config (index
    `m.layers.length`) is ever made, yet the manifest may be sent (`F30_push_never_offers_config`). -/
theorem F30_config_never_requested {D : Type} (m : Manifest D) (scripts : List UpScript) (sched : List Nat)
    (man : List Resp) (tr : List PushEv) (ok : Bool) (h : pushManifest false m scripts sched man = some (tr, ok)) :
    ∀ i up mth s, PushEv.req i up mth s ∈ tr → i < m.layers.length := fun i up mth s hmem =>
  Nat.lt_of_lt_of_le (pushTrace_layer_index _ sched man tr ok h i up mth s hmem)
    (List.length_take_le ..)

/-! ### Legacy push -/

theorem exchange_final_mem {m : Method} {b : BodyKind} {rs : List Resp} {r : Resp}
    (h : (exchange m b rs).2 = some r) : ∃ m', (m', r.status) ∈ (exchange m b rs).1 := by
  obtain ⟨m', hl⟩ := exchangeFrom_last h
  exact ⟨m', List.mem_of_getLast? hl⟩

theorem map_req_not_manifest (i kind : Nat) (l : List (Method × Nat)) :
    ∀ e ∈ l.map (fun (p : Method × Nat) => LegEv.req i kind p.1 p.2), e.isManifest = false := by
  intro e he; simp only [List.mem_map] at he; obtain ⟨x, _, rfl⟩ := he; rfl

theorem noManifest_append {l₁ l₂ : List LegEv} (h₁ : ∀ e ∈ l₁, e.isManifest = false)
    (h₂ : ∀ e ∈ l₂, e.isManifest = false) : ∀ e ∈ l₁ ++ l₂, e.isManifest = false :=
  List.forall_mem_append.mpr ⟨h₁, h₂⟩

theorem triesX_spec (i kind : Nat) (m : Method) (b : BodyKind) (okF : Option Resp → Bool)
    (n : Nat) (scripts : List (List Resp)) :
    (∀ e ∈ (triesX i kind m b okF n scripts).1, e.isManifest = false) ∧
    (∀ r, (triesX i kind m b okF n scripts).2 = some r →
        okF (some r) = true ∧ ∃ m', LegEv.req i kind m' r.status ∈ (triesX i kind m b okF n scripts).1) := by
  fun_induction triesX i kind m b okF n scripts with
  | case1 => exact ⟨nofun, nofun⟩
  | case2 n scripts x evs hok =>
    refine ⟨map_req_not_manifest i kind _, fun r hr => ⟨hr ▸ hok, ?_⟩⟩
    obtain ⟨m', hm'⟩ := exchange_final_mem hr
    exact ⟨m', List.mem_map.mpr ⟨(m', r.status), hm', rfl⟩⟩
  | case3 n scripts x evs hok rest ih =>
    refine ⟨noManifest_append (map_req_not_manifest i kind _) ih.1, fun r hr => ?_⟩
    obtain ⟨ho, m', hm'⟩ := ih.2 r hr
    exact ⟨ho, m', List.mem_append_right _ hm'⟩

/-- the log holds, for layer `i`, an answer to a request of its HEAD exchange ("the registry has
    it") or of a commit try with a status the code takes for a success: below 400 — and 2xx in the
    `strict` (repaired) variant.  The code looks at the FINAL answer of the exchange; this does not
    ask for that (a followed redirect hop counts too; a 2xx answer is always final). -/
def settled (strict : Bool) (i : Nat) (evs : List LegEv) : Prop :=
  ∃ kind m s, LegEv.req i kind m s ∈ evs ∧ (kind = 0 ∨ kind = 3) ∧ s < 400 ∧ (strict = true → is2xx s = true)

theorem settled.mono {strict : Bool} {i : Nat} {evs evs' : List LegEv} (h : ∀ e ∈ evs, e ∈ evs') :
    settled strict i evs → settled strict i evs' :=
  Exists.imp fun _ => Exists.imp fun _ => Exists.imp fun _ => And.imp_left (h _)

theorem mrr_ok {strict : Bool} {x : Option Resp} {r : Resp} (h : mrr strict x = .ok r) :
    x = some r ∧ r.status < 400 ∧ (strict = true → is2xx r.status = true) := by
  revert h
  fun_cases mrr strict x with
  | case5 r' h1 h2 h3 =>
    intro h; cases h
    exact ⟨rfl, by omega, fun hs => by simpa [hs] using h3⟩
  | _ => nofun

theorem commitOk_spec {strict : Bool} {r : Resp} (h : commitOk strict (some r) = true) :
    r.status < 400 ∧ (strict = true → is2xx r.status = true) := by
  unfold commitOk at h
  split at h
  · rename_i r' hr
    obtain ⟨he, h1, h2⟩ := mrr_ok hr
    injection he with he; subst he; exact ⟨h1, h2⟩
  · cases h

theorem commit_settled (strict : Bool) (i : Nat) (scripts : List (List Resp)) (pre : List LegEv)
    (h : (triesX i 3 .put .none (commitOk strict) maxRetries scripts).2.isSome = true) :
    settled strict i (pre ++ (triesX i 3 .put .none (commitOk strict) maxRetries scripts).1) := by
  obtain ⟨rc, hcr⟩ := Option.isSome_iff_exists.mp h
  obtain ⟨hok, m', hm'⟩ := (triesX_spec i 3 .put .none (commitOk strict) maxRetries scripts).2 rc hcr
  obtain ⟨h1, h2⟩ := commitOk_spec hok
  exact ⟨3, m', rc.status, List.mem_append_right _ hm', Or.inr rfl, h1, h2⟩

theorem legacyLayer_spec (strict : Bool) (i : Nat) (l : LegacyLayer) :
    (∀ e ∈ (legacyLayer strict i l).1, e.isManifest = false) ∧
    ((legacyLayer strict i l).2 = true → settled strict i (legacyLayer strict i l).1) := by
  have hh := map_req_not_manifest i 0 (exchange .head .none l.head).1
  have ha := triesX_spec i 2 .patch .stream (patchOk strict) maxRetries l.patch
  have hc := triesX_spec i 3 .put .none (commitOk strict) maxRetries l.commit
  have hp := noManifest_append hh (map_req_not_manifest i 1 (exchange .post .none l.post).1)
  have hpa := noManifest_append hp ha.1
  fun_cases legacyLayer strict i l with
  | case1 h hev r hr =>
    -- HEAD says the registry has it
    refine ⟨hh, fun _ => ?_⟩
    obtain ⟨hx, h1, h2⟩ := mrr_ok hr
    obtain ⟨m', hm'⟩ := exchange_final_mem hx
    exact ⟨0, m', r.status, List.mem_map.mpr ⟨(m', r.status), hm', rfl⟩, Or.inl rfl, h1, h2⟩
  | case2 => exact ⟨hh, nofun⟩
  | case3 | case7 => exact ⟨hp, nofun⟩
  | case4 | case5 => exact ⟨hpa, nofun⟩
  | case6 => exact ⟨noManifest_append hpa hc.1, commit_settled strict i l.commit _⟩

theorem legacyLayers_spec (strict : Bool) (ls : List LegacyLayer) : ∀ i : Nat,
    (∀ e ∈ (legacyLayers strict i ls).1, e.isManifest = false) ∧
    ((legacyLayers strict i ls).2 = true →
      ∀ j, j < ls.length → settled strict (i + j) (legacyLayers strict i ls).1) := by
  intro i
  fun_induction legacyLayers strict i ls with
  | case1 => exact ⟨nofun, fun _ _ hj => nomatch hj⟩
  | case2 i l ls r hl rest ih =>
    obtain ⟨hnm, hacc⟩ := legacyLayer_spec strict i l
    refine ⟨noManifest_append hnm ih.1, fun hok j hj => ?_⟩
    cases j with
    | zero => exact (hacc hl).mono fun _ => List.mem_append_left _
    | succ j =>
      rw [← Nat.add_assoc, Nat.add_right_comm]
      exact (ih.2 hok j (Nat.lt_of_succ_lt_succ hj)).mono fun _ => List.mem_append_right _
  | case3 i l ls r hl => exact ⟨(legacyLayer_spec strict i l).1, nofun⟩

theorem legacyManifest_spec (strict : Bool) (man : List Resp) :
    (legacyManifest strict man).1 ≠ [] ∧ ∀ e ∈ (legacyManifest strict man).1, e.isManifest = true := by
  refine ⟨?_, ?_⟩
  · simp only [legacyManifest, ne_eq, List.map_eq_nil_iff]
    exact exchangeFrom_ne_nil 10 1 _ _ man
  · intro e he
    simp only [legacyManifest, List.mem_map] at he
    obtain ⟨x, _, rfl⟩ := he; rfl

/-- `PushModel` in the shape of `gated_manifest_iff` -/
theorem legacyPush_eq (strict : Bool) (ls : List LegacyLayer) (man : List Resp) :
    legacyPush strict ls man = ((legacyLayers strict 0 ls).1 ++
      (if (legacyLayers strict 0 ls).2 = true then (legacyManifest strict man).1 else []),
      (legacyLayers strict 0 ls).2 && (legacyManifest strict man).2) := by
  unfold legacyPush; dsimp only; split <;> simp [*]

/-- **Push, legacy path (`PushModel`): the manifest is committed last.**  For every number of
    layers and every scripted answer (any status, with or without `Location`, redirect chains) to
    every physical request of every HEAD / POST / PATCH try / commit try / manifest exchange: a
    request of the manifest exchange is sent iff `uploadBlob` succeeded for every layer; then the
    log is `body ++ manifest exchange`, `body` has no manifest request, and for every layer `body`
    holds an accepted answer of its HEAD exchange or of a commit try (`settled`).
    What the code accepts is any status below 400 (finding F18: also 1xx and 3xx
    answers net/http did not follow); in the `strict` (repaired) variant it is a 2xx. -/
theorem legacy_push_manifest_last (strict : Bool) (ls : List LegacyLayer) (man : List Resp) :
    ((∃ e ∈ (legacyPush strict ls man).1, e.isManifest = true) ↔ (legacyLayers strict 0 ls).2 = true) ∧
    ((legacyLayers strict 0 ls).2 = true → ∃ body,
        (legacyPush strict ls man).1 = body ++ (legacyManifest strict man).1 ∧
        (∀ e ∈ body, e.isManifest = false) ∧ ∀ j, j < ls.length → settled strict j body) ∧
    ((legacyPush strict ls man).2 = true → (legacyLayers strict 0 ls).2 = true) := by
  obtain ⟨h1, h2⟩ := legacyLayers_spec strict ls 0
  obtain ⟨hne, hman⟩ := legacyManifest_spec strict man
  rw [legacyPush_eq]
  refine ⟨gated_manifest_iff _ h1 hman hne, fun hl => ⟨_, by rw [if_pos hl], h1, fun j hj => ?_⟩,
    fun h => (Bool.and_eq_true_iff.mp h).1⟩
  simpa using h2 hl j hj

/-- **F18 witness.**  The legacy push takes a `304 Not Modified` answer to the blob HEAD for "the
    registry has this blob": the layer is never uploaded, the manifest is PUT, the push reports
    success.  Likewise a `300` without `Location` answered to the commit PUT.  In the `strict`
    variant both pushes fail before any manifest request. -/
theorem F18_legacy_non_2xx_counts_as_accepted :
    legacyPush false [⟨[⟨304, false⟩], [], [], []⟩] [] =
      ([.req 0 0 .head 304, .man .put 200], true) ∧
    legacyPush false [⟨[⟨404, false⟩], [⟨202, true⟩], [[⟨202, true⟩]], [[⟨300, false⟩]]⟩] [] =
      ([.req 0 0 .head 404, .req 0 1 .post 202, .req 0 2 .patch 202, .req 0 3 .put 300, .man .put 200], true) ∧
    (legacyPush true [⟨[⟨304, false⟩], [], [], []⟩] []).2 = false ∧
    (∀ e ∈ (legacyPush true [⟨[⟨304, false⟩], [], [], []⟩] []).1, e.isManifest = false) := by
  decide +kernel

/-- **Sequential pushes: every push of a history commits its manifest last, on its own.**  No push
    of a sequential history inherits anything from an earlier one (the upload manager entry lives
    exactly as long as its transfer): for every push, a manifest request is sent iff every layer
    of THAT push succeeded, and then each is `settled` by a request of THAT push (its HEAD to its
    repository, or a commit try), all of them before the manifest exchange. -/
theorem legacy_sequential_each_push_manifest_last (strict : Bool) (ps : List (List LegacyLayer × List Resp)) :
    ∀ r ∈ legacySequential strict ps, ∃ ls man, (ls, man) ∈ ps ∧ r = legacyPush strict ls man ∧
      ((∃ e ∈ r.1, e.isManifest = true) ↔ (legacyLayers strict 0 ls).2 = true) ∧
      ((legacyLayers strict 0 ls).2 = true → ∃ body, r.1 = body ++ (legacyManifest strict man).1 ∧
          (∀ e ∈ body, e.isManifest = false) ∧ ∀ j, j < ls.length → settled strict j body) ∧
      (r.2 = true → (legacyLayers strict 0 ls).2 = true) := by
  intro r hr
  simp only [legacySequential, List.mem_map] at hr
  obtain ⟨⟨ls, man⟩, hp, rfl⟩ := hr
  exact ⟨ls, man, hp, rfl, legacy_push_manifest_last strict ls man⟩

/-! ### Two legacy pushes sharing one upload -/

/-- the log of a transfer that ended well holds a commit answer below 400 (2xx when `strict`) -/
theorem sharedTransfer_ok_settled (strict : Bool) (s : Shared) (bLeft : Bool)
    (h : (sharedTransfer strict s bLeft).2 = some true) :
    bLeft = false ∧ settled strict 0 (sharedTransfer strict s bLeft).1 := by
  revert h
  fun_cases sharedTransfer strict s bLeft with
  | case7 =>
    exact fun h => ⟨by simpa using ‹¬bLeft = true›, commit_settled strict 0 s.commit _ (by simpa using h)⟩
  | _ => nofun

/-- **A push that joined a shared upload reports success only if the shared transfer succeeded.**
    For every way the owner's session POST ends (any answer chain, transport error, the owner's
    context ending), every script of the PATCH and commit tries, with or without the joiner
    leaving: if push B joined (its own HEAD said "absent") and `PushModel` B returns nil, then the
    one transfer was started, ran to its end without error — its log holds a commit answer below 400
    (`settled`) — and B had not left.  In particular: when `Prepare` fails (the transfer
    publishes neither `done` nor `err`), a joined push never succeeds and never sends its manifest. -/
theorem shared_joined_success_only_if_transfer_ok (strict : Bool) (s : Shared)
    (hj : bJoins strict s = some true) :
    ((sharedPush strict s).okB = true ∨ ∃ e ∈ (sharedPush strict s).logB, e.isManifest = true) →
      s.cancelB = false ∧ (sharedTransfer strict s false).2 = some true ∧
      settled strict 0 (sharedPush strict s).logT := by
  intro h
  unfold sharedPush at h ⊢
  simp only [hj, beq_self_eq_true, Bool.true_and] at h ⊢
  obtain ⟨hne, hman⟩ := legacyManifest_spec strict s.manB
  have hg := h.elim (fun h => (Bool.and_eq_true_iff.mp h).1)
    (gated_manifest_iff _ (map_req_not_manifest 0 0 _) hman hne).mp
  simp only [Bool.and_eq_true, Bool.not_eq_true', beq_iff_eq] at hg
  obtain ⟨hcb, ht⟩ := hg
  rw [hcb] at ht ⊢
  exact ⟨rfl, ht, (sharedTransfer_ok_settled strict s false ht).2⟩

/-- the owner: a manifest request of push A, or success of A, only after a transfer that ended well -/
theorem shared_owner_success_only_if_transfer_ok (strict : Bool) (s : Shared) :
    ((sharedPush strict s).okA = true ∨ ∃ e ∈ (sharedPush strict s).logA, e.isManifest = true) →
      ∃ bLeft, (sharedTransfer strict s bLeft).2 = some true ∧ settled strict 0 (sharedPush strict s).logT := by
  intro h
  unfold sharedPush at h ⊢
  simp only at h ⊢
  generalize (bJoins strict s == some true && s.cancelB) = bl at h ⊢
  obtain ⟨hne, hman⟩ := legacyManifest_spec strict s.manA
  have hg := h.elim (fun h => (Bool.and_eq_true_iff.mp h).1)
    (gated_manifest_iff (body := [_]) _ (by simp [LegEv.isManifest]) hman hne).mp
  have ht : (sharedTransfer strict s bl).2 = some true := by simpa using (Bool.and_eq_true_iff.mp hg).2
  exact ⟨bl, ht, (sharedTransfer_ok_settled strict s bl ht).2⟩

/-- **A joined push that is never told anything does not report success and sends no manifest.**
    When the owner's `Prepare` fails nothing is ever published on the shared `blobUpload`; the joined
    push polls in `Wait` until its own context ends (`hangB`).  Safe for C09: it returns an error
    (when its context ends) and its log holds no manifest request. -/
theorem shared_hang_no_success (strict : Bool) (s : Shared) (h : (sharedPush strict s).hangB = true) :
    (sharedPush strict s).okB = false ∧ ∀ e ∈ (sharedPush strict s).logB, e.isManifest = false := by
  simp only [sharedPush, Bool.and_eq_true, Bool.not_eq_true', beq_iff_eq] at h ⊢
  obtain ⟨⟨hj, hc⟩, ht⟩ := h
  rw [hj, hc] at ht ⊢
  rw [Bool.and_false] at ht ⊢
  rw [Option.isNone_iff_eq_none.mp ht]
  exact ⟨rfl, by rw [if_neg nofun, List.append_nil]; exact map_req_not_manifest 0 0 _⟩

/-- non-vacuity: the owner's session POST fails in transit, B had joined and stays -/
example : (sharedPush false ⟨[⟨404, false⟩], .transport, false, [], [], [], []⟩).hangB = true := by decide +kernel

/-- a failed `Prepare` in the model: the session POST is answered 500 while B has joined:
    neither push sends a manifest, neither reports success; and a good run for comparison -/
theorem shared_prepare_failure_witness :
    (sharedPush false ⟨[⟨404, false⟩], .answered [⟨500, false⟩], false, [], [], [], []⟩).okB = false ∧
    (sharedPush false ⟨[⟨404, false⟩], .answered [⟨500, false⟩], false, [], [], [], []⟩).logB = [.req 0 0 .head 404] ∧
    (sharedPush false ⟨[⟨404, false⟩], .answered [⟨500, false⟩], false, [], [], [], []⟩).okA = false ∧
    (sharedPush false ⟨[⟨404, false⟩], .answered [⟨202, true⟩], false, [[⟨202, true⟩]], [], [], []⟩).okB = true ∧
    (sharedPush false ⟨[⟨404, false⟩], .answered [⟨202, true⟩], false, [[⟨202, true⟩]], [], [], []⟩).logT =
      [.req 0 1 .post 202, .req 0 2 .patch 202, .req 0 3 .put 200] := by decide +kernel

/-! ### Witness of F30 and non-vacuity of the trace theorems -/

def mCfg : Manifest Bytes := ⟨7, 100, [⟨abc, 3⟩], some ⟨abcd, 4⟩⟩

/-- **Witness of F30 (the model shares it with the code).**  Manifest with one layer and a config,
    the registry accepts every upload: on the tree (`cfgToo = false`) `Push` uploads the layer, sends
    the manifest and reports success — no request ever names the config (index 1); with the repair
    the config is uploaded before the manifest. -/
theorem F30_push_never_offers_config :
    pushManifest false mCfg [⟨[⟨202, true⟩], [⟨201, false⟩]⟩, ⟨[⟨202, true⟩], [⟨201, false⟩]⟩] [0, 0, 1, 1] [] =
      some ([.req 0 false .post 202, .req 0 true .put 201, .man .put 200], true) ∧
    pushManifest true mCfg [⟨[⟨202, true⟩], [⟨201, false⟩]⟩, ⟨[⟨202, true⟩], [⟨201, false⟩]⟩] [0, 1, 1, 0] [] =
      some ([.req 0 false .post 202, .req 1 false .post 202, .req 1 true .put 201, .req 0 true .put 201,
             .man .put 200], true) := by decide +kernel

/-- non-vacuity of `push_manifest_last` / `push_manifest_after_every_blob` with TWO interleaved layer
    goroutines: the requests of layers 0 and 1 alternate; one failing upload (500) suppresses the
    manifest although the other layer was accepted; a transport failure (status 0) does the same -/
example :
    pushTrace [⟨[⟨202, true⟩], [⟨201, false⟩]⟩, ⟨[⟨202, true⟩], [⟨500, false⟩]⟩] [1, 0, 1, 0] [] =
      some ([.req 1 false .post 202, .req 0 false .post 202, .req 1 true .put 500, .req 0 true .put 201], false) ∧
    pushTrace [⟨[⟨202, true⟩], [⟨0, false⟩]⟩, ⟨[⟨200, false⟩], []⟩] [0, 1, 0] [] =
      some ([.req 0 false .post 202, .req 1 false .post 200, .req 0 true .put 0], false) := by decide +kernel

/-- push traces: an upload PUT answered 307 (not followed: the body is the blob file) fails the
    layer and no manifest request is sent; a POST answered 307 is followed; an upload PUT answered
    302 is turned into a GET by net/http and its answer decides -/
example :
    pushTrace [⟨[⟨202, true⟩], [⟨307, true⟩]⟩] [0, 0] [] =
      some ([.req 0 false .post 202, .req 0 true .put 307], false) ∧
    pushTrace [⟨[⟨307, true⟩, ⟨200, false⟩], []⟩] [0, 0] [⟨308, true⟩, ⟨201, false⟩] =
      some ([.req 0 false .post 307, .req 0 false .post 200, .man .put 308, .man .put 201], true) ∧
    pushTrace [⟨[⟨202, true⟩], [⟨302, true⟩, ⟨200, false⟩]⟩] [0, 0, 0] [] =
      some ([.req 0 false .post 202, .req 0 true .put 302, .req 0 true .get 200, .man .put 200], true) := by
  decide +kernel

/-- legacy push: a failed PATCH try is retried and the push succeeds; six failed tries exhaust it -/
example : (legacyPush false [⟨[⟨404, false⟩], [⟨202, true⟩], [[⟨500, false⟩], [⟨202, true⟩]], []⟩, ⟨[⟨200, false⟩], [], [], []⟩] []).2 = true ∧
    (legacyPush false [⟨[⟨404, false⟩], [⟨202, true⟩], [[⟨500, false⟩], [⟨500, false⟩], [⟨500, false⟩], [⟨500, false⟩], [⟨500, false⟩], [⟨500, false⟩]], []⟩] []).2 = false := by decide +kernel

end OllamaVerif.C09
