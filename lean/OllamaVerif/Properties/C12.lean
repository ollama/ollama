/-
  C12 — a crash at any point leaves a store in which every resolvable model is intact.

  Model: `Model/StoreCrash.lean` (each store operation = ordered list of primitive file-system
  effects computed against the evolving store; crash = prefix, last data write cut anywhere;
  restart = what `Serve` does before listening).  Lemmas: `Proofs/StoreCrash.lean`,
  `Proofs/StoreCrashPhases.lean`, `Proofs/StoreCrashReach.lean`.  `hash` is uninterpreted throughout.

  The argument.  Every operation is a stage that adds blobs, then at most one manifest assignment,
  then unlinks of blobs (`exec_phases`: this is where the ORDER of effects is used — blobs before the
  manifest, manifest removal before blob removal; `stage_safe`: rename only of a complete file whose
  bytes hash to the name).  So every effect meets a local condition in the state it is executed in
  (`exec_seqOK`); an effect that meets it keeps the invariant, and so does the start-up sequence:
  `crash_safe`, clauses 1 and 2 of the property.  Its pull case takes `PullPre` (debris of earlier
  pulls is consistent: a readable part record describes the blob and the bytes it declares complete
  are in the `-partial` file) as a hypothesis; consistency of the debris is itself an invariant of
  every effect, crash prefix and start-up, hence of every store reachable by any history (`Reach`,
  `reach_inv`), and the `*_reachable` theorems need no such hypothesis.
  Both variants of the code are in the model (`Env.atomicMan`, `Env.atomicPart`: manifests / part
  records written in place or by temp + rename (the fixes C12-F19a/b)); clauses 1 and 2 hold for
  both.  Clause 3 (the repeated operation succeeds, or reports that it took effect, and
  leaves what an uninterrupted run leaves) holds in the fixed variant, where a crash leaves the manifest
  files all old or all new and the second run makes the same assignment or finds it made: `atomic_*`,
  `rerun_*`, and all of it in `c12_all_clauses`.  F19a/F19b are the counterexamples for the in-place
  variant; F26–F28 witness further defects the model shares with the code.
  The start-up sequence is `restartWith env`; `restart` is what it does without OLLAMA_NOPRUNE.
-/
import OllamaVerif.Proofs.StoreCrashReach
namespace OllamaVerif.C12
open OllamaVerif OllamaVerif.StoreCrash

/-! the names under which `vlib/checks/c12.py` audits four lemmas of `Proofs/StoreCrash.lean` -/

theorem effect_preserves_inv {hash : Bytes → Digest} {st : Store} {e : Effect}
    (hinv : Inv hash st) (hok : EffOK hash st e) : Inv hash (apply e st) :=
  StoreCrash.effect_preserves_inv hinv hok

theorem seq_preserves_inv {hash : Bytes → Digest} {st : Store} {es : List Effect}
    (hinv : Inv hash st) (hok : SeqOK hash st es) : Inv hash (run es st) :=
  StoreCrash.seq_preserves_inv hinv hok

theorem restart_preserves_inv {hash : Bytes → Digest} {st : Store} (h : Inv hash st) :
    Inv hash (restart st) :=
  StoreCrash.restart_preserves_inv h

theorem restart_untouched (n : Name) (st : Store) : Untouched n st (restart st) :=
  StoreCrash.restart_untouched n st

/-- what is assumed of the environment: `hash` is the hash the code uses, the network hands a body
out in pieces that concatenate to the body, map iteration visits only keys of the map -/
structure EnvOK (hash : Bytes → Digest) (env : Env) : Prop where
  hash_eq : env.hash = hash
  chunk_flatten : ∀ bs, (env.chunk bs).flatten = bs
  ord_sub : ∀ l x, x ∈ env.ord l → x ∈ l

/-- per-operation side conditions: the registry is honest, and whatever an earlier, interrupted
pull left behind for the digests this pull will download is consistent with what the registry
serves (`PartOK`: a readable part record describes the blob and the bytes it declares complete are in
the `-partial` file; no record / a torn record / no `-partial` file are all fine). A store without
download debris satisfies it (`opOK_of_noDebris`). -/
def OpOK (hash : Bytes → Digest) (st : Store) : Op → Prop
  | .pull reg _ m => (∀ d data, reg d = some data → hash data = d) ∧ PullPre reg st (m.all.map Layer.digest)
  | _ => True

theorem opOK_of_noDebris {hash : Bytes → Digest} {st : Store} (reg : Digest → Option Bytes) (n : Name) (m : Man)
    (hreg : ∀ d data, reg d = some data → hash data = d) (h : NoPullDebris st) :
    OpOK hash st (.pull reg n m) :=
  ⟨hreg, fun d _ _ data _ => h.partOK d data⟩

/-- the stage keeps `Inv`, and after it every layer of the manifest about to be assigned is there -/
theorem stage_safe {hash : Bytes → Digest} {env : Env} (henv : EnvOK hash env) {st : Store}
    (hinv : Inv hash st) (op : Op) (hop : OpOK hash st op) :
    SeqOK hash st (op.stage env st) ∧
    ∀ n m, op.asg env st = some (n, some (.man m)) → ∀ l ∈ m.all, (get (run (op.stage env st) st) (.blob l.digest)).isSome := by
  cases op with
  | upload k d body =>
    exact ⟨(upload_spec env henv.hash_eq henv.chunk_flatten k d body st).seqOK, fun _ _ h => nomatch h⟩
  | copy src dst =>
    refine ⟨trivial, fun n m h l hl => ?_⟩
    simp only [Op.asg] at h
    split at h
    · cases h
    · cases hs : get st (.man src) <;> rw [hs] at h <;> cases h
      exact hinv.2 src m (readable_eq_some.mpr hs) l hl
  | delete n0 =>
    refine ⟨trivial, fun n m h => ?_⟩
    simp only [Op.asg] at h
    cases hr : readable st n0 <;> rw [hr] at h <;> cases h
  | pull reg n0 m0 =>
    have hds := (downloads_spec env henv.hash_eq henv.chunk_flatten reg hop.1 0 _ st hinv hop.2).1
    refine ⟨hds.seqOK, fun n m h l hl => ?_⟩
    simp only [Op.asg] at h
    split at h <;> cases h
    rename_i hok
    exact hds.present hok l.digest (List.mem_map.mpr ⟨l, hl, rfl⟩)
  | create n0 ups file datas cfg =>
    have hup := uploads_spec env henv.hash_eq henv.chunk_flatten 0 ups st
    have hnl := newLayers_spec env henv.hash_eq ups.length (datas ++ [cfg]) (run (uploads env 0 ups st).effs st)
    simp only [Op.stage, Op.asg]
    split
    · rename_i hfile
      refine ⟨seqOK_append.mpr ⟨hup.seqOK, hnl.seqOK⟩, fun n m h l hl => ?_⟩
      cases h
      rw [run_append]
      simp only [createMan, Man.all, List.cons_append, List.mem_cons, List.mem_append, List.mem_map,
        List.not_mem_nil, or_false] at hl
      rcases hl with rfl | ⟨x, hx, rfl⟩ | rfl
      · exact hnl.ext.present_mono hfile
      · exact hnl.present (newLayers_ok ..) _ ⟨x, by simp [hx], henv.hash_eq ▸ rfl⟩
      · exact hnl.present (newLayers_ok ..) _ ⟨cfg, by simp, henv.hash_eq ▸ rfl⟩
    · exact ⟨by rw [List.append_nil]; exact hup.seqOK, fun _ _ h => nomatch h⟩

/-- Every effect of every operation is issued in a state in which it cannot break the invariant. -/
theorem exec_seqOK {hash : Bytes → Digest} {env : Env} (henv : EnvOK hash env) {st : Store}
    (hinv : Inv hash st) (op : Op) (hop : OpOK hash st op) :
    SeqOK hash st (op.exec env st).effs :=
  have h := stage_safe henv hinv op hop
  (exec_phases env op st).seqOK henv.ord_sub h.1 h.2

/-- **C12, clauses 1 and 2.**  For every store satisfying the invariant (torn manifests allowed),
every operation, and every crash prefix of its effect list (the last data write cut at any byte):
after the start-up sequence every READABLE manifest has every layer and its config present with
bytes that hash to the layer's name, and every name the operation does not involve keeps its
manifest file and every blob that manifest names, byte for byte. -/
theorem crash_safe {hash : Bytes → Digest} {env : Env} (henv : EnvOK hash env) {st : Store}
    (hinv : Inv hash st) (op : Op) (hop : OpOK hash st op) (p : List Effect)
    (hp : CrashPrefix (op.exec env st).effs p) :
    NameInv hash (restartWith env (run p st)) ∧
    Inv hash (restartWith env (run p st)) ∧
    ∀ n, n ∉ op.involved → Untouched n st (restartWith env (run p st)) := by
  have hseq := exec_seqOK henv hinv op hop
  have hpOK : SeqOK hash st p := seqOK_crashPrefix hseq hp
  have hinv1 : Inv hash (run p st) := StoreCrash.seq_preserves_inv hinv hpOK
  have hinv2 : Inv hash (restartWith env (run p st)) := StoreCrash.restartWith_preserves_inv env hinv1
  refine ⟨hinv2.nameInv, hinv2, ?_⟩
  intro n hn
  have hw : WritesIn (· ≠ .man n) (op.exec env st).effs :=
    writesIn_mono (exec_foot env op st) fun q hq h => hn (by subst h; exact hq)
  exact (seq_untouched hinv hpOK (writesIn_crashPrefix hw hp)).trans (StoreCrash.restartWith_untouched env n _)

/-! ## the fixed variant (`env.atomicMan`: manifests written by temp + rename, C12-F19a) -/

/-- **Fixed variant, clause 1 strengthened.**  Whatever the operation and wherever it is killed, after
restart every manifest FILE is either exactly as it was before the operation or exactly as the
completed operation leaves it: the model being replaced by create/copy/pull is never lost. -/
theorem atomic_manifest_old_or_new {env : Env} (hat : env.atomicMan = true) (op : Op) (st : Store)
    (p : List Effect) (hp : CrashPrefix (op.exec env st).effs p) (n : Name) :
    get (restartWith env (run p st)) (.man n) = get st (.man n) ∨
    get (restartWith env (run p st)) (.man n) = get (run (op.exec env st).effs st) (.man n) :=
  (crash_man hat op st hp).imp (fun h => h n) fun h => (h n).trans (exec_man env op st n).symm

/-- no crash ever tears a manifest (state right after the crash, before the start-up sequence) -/
theorem atomic_never_torn_run {env : Env} (hat : env.atomicMan = true) (op : Op) (st : Store)
    (hall : allReadable st = true) (p : List Effect) (hp : CrashPrefix (op.exec env st).effs p) :
    allReadable (run p st) = true := by
  rw [allReadable_iff] at hall ⊢
  intro n c hg
  rcases Phases.old_or_new (hat ▸ exec_phases env op st) (stage_foot env op st fun _ => rfl) hp with h | h
  · rw [h] at hg; exact hall n c hg
  · rw [h, exec_man] at hg
    cases hc : op.asg env st with
    | none => rw [hc] at hg; exact hall n c hg
    | some a =>
      obtain ⟨n0, v⟩ := a
      rw [hc] at hg
      rw [Asg.man_some] at hg
      split at hg
      · subst hg
        rcases (asg_cases hc).2 with ⟨m, h'⟩ | ⟨_, h'⟩ | ⟨src, c', hsrc, h'⟩
        · exact ⟨m, Option.some.inj h'⟩
        · cases h'
        · cases h'; exact hall src c hsrc
      · exact hall n c hg

/-- **Fixed variant: no crash ever tears a manifest.**  If `Manifests(false)` succeeds before the
operation it succeeds after any crash of it (so the start-up prune is never disabled by a crash). -/
theorem atomic_never_torn {env : Env} (hat : env.atomicMan = true) (op : Op) (st : Store)
    (hall : allReadable st = true) (p : List Effect) (hp : CrashPrefix (op.exec env st).effs p) :
    allReadable (restartWith env (run p st)) = true :=
  allReadable_restartWith env (atomic_never_torn_run hat op st hall p hp)

/-- **Fixed variant: the replaced model is never lost.**  A name that was readable before the
operation is readable after any crash of it (unless the operation is the deletion of that name) —
with its old manifest or with the manifest the completed operation gives it. -/
theorem atomic_replaced_model_kept {env : Env} (hat : env.atomicMan = true) (op : Op) (st : Store)
    (hall : allReadable st = true) (p : List Effect) (hp : CrashPrefix (op.exec env st).effs p)
    (n : Name) (mo : Man) (hr : readable st n = some mo) (hdel : op ≠ .delete n) :
    ∃ m, readable (restartWith env (run p st)) n = some m ∧
      (m = mo ∨ readable (run (op.exec env st).effs st) n = some m) := by
  have hold : get st (.man n) = some (.man mo) := readable_eq_some.mp hr
  rcases crash_man hat op st hp with h | h
  · exact ⟨mo, by rw [readable_eq_some, h]; exact hold, Or.inl rfl⟩
  · simp only [readable_eq_some, h, exec_man]
    cases hc : op.asg env st with
    | none => exact ⟨mo, hold, Or.inl rfl⟩
    | some a =>
      obtain ⟨n0, v⟩ := a
      simp only [Asg.man_some]
      split
      · rename_i hn; subst hn
        rcases (asg_cases hc).2 with ⟨m, rfl⟩ | ⟨hop, _⟩ | ⟨src, c, hsrc, rfl⟩
        · exact ⟨m, rfl, Or.inr rfl⟩
        · exact absurd hop hdel
        · obtain ⟨m, rfl⟩ := (allReadable_iff.mp hall) src c hsrc
          exact ⟨m, rfl, Or.inr rfl⟩
      · exact ⟨mo, hold, Or.inl rfl⟩

/-- upload, copy, delete: the operations that decide from manifests/ alone what to assign (`asg_rerun`) -/
def rerunGuard : Op → Bool
  | .upload .. => true
  | .copy .. => true
  | .delete .. => true
  | _ => false

/-- after a crash the second run makes the same assignment, or (delete) finds the name gone -/
theorem asg_rerun (env : Env) (op : Op) (hg : rerunGuard op = true) (st st1 : Store)
    (hon : (∀ n, get st1 (.man n) = get st (.man n)) ∨ (∀ n, get st1 (.man n) = (op.asg env st).man st n)) :
    op.asg env st1 = op.asg env st ∨
    ∃ n, op = .delete n ∧ get st1 (.man n) = none ∧ ∀ n', get st1 (.man n') = (op.asg env st).man st n' := by
  cases op with
  | upload k d body => exact Or.inl rfl
  | copy src dst =>
    -- the source is not written
    have hsrc : get st1 (.man src) = get st (.man src) := by
      rcases hon with h | h
      · exact h src
      · rw [h src]
        simp only [Op.asg]
        split
        · rfl
        · rename_i hsd; cases hs : get st (.man src) <;> simp [Asg.man_some, Asg.man_none, hsd, hs]
    exact Or.inl (by simp only [Op.asg, hsrc])
  | delete n =>
    -- what is readable is read off the file: the name is as readable as before, or gone
    rcases hon with h | h
    · exact Or.inl (by simp only [Op.asg, readable, h n])
    · simp only [Op.asg] at h ⊢
      have hn := h n
      cases hr : readable st n with
      | none =>
        simp only [hr, Option.map, Asg.man_none] at hn
        exact Or.inl (by simp only [readable, hn]; exact congrArg _ hr)
      | some m =>
        simp only [hr, Option.map, Asg.man_some, if_true] at hn
        exact Or.inr ⟨n, rfl, hn, hr ▸ h⟩
  | _ => simp [rerunGuard] at hg

/-- **Fixed variant, clause 3 (partial: upload, copy, delete).**  Kill the operation anywhere, restart,
run it again: every manifest file is exactly what an uninterrupted run from the original store
leaves, and the result satisfies the invariant (every readable manifest's layers are present and hash
to their names).  For delete, "run it again" includes the case where it reports `not found`
(`ok = false`, no effects).  Create (needs the client to re-upload blobs the start-up prune removed
and collision-freeness of `hash` for the recorded size) and pull (needs the registry to serve every
digest of the manifest again) are `rerun_converges_create` and `rerun_converges_pull_reachable`. -/
theorem rerun_converges_partial {hash : Bytes → Digest} {env : Env} (henv : EnvOK hash env)
    (hat : env.atomicMan = true) {st : Store} (hinv : Inv hash st) (op : Op) (hg : rerunGuard op = true)
    (p : List Effect) (hp : CrashPrefix (op.exec env st).effs p) :
    (∀ n, get (run (op.exec env (restartWith env (run p st))).effs (restartWith env (run p st))) (.man n) =
          get (run (op.exec env st).effs st) (.man n)) ∧
    Inv hash (run (op.exec env (restartWith env (run p st))).effs (restartWith env (run p st))) := by
  have hop : ∀ st', OpOK hash st' op := by intro st'; cases op <;> first | trivial | simp [rerunGuard] at hg
  have hcs := crash_safe henv hinv op (hop st) p hp
  refine ⟨?_, StoreCrash.seq_preserves_inv hcs.2.1 (exec_seqOK henv hcs.2.1 op (hop _))⟩
  have hon := crash_man hat op st hp
  refine rerun_man env op st _ hon ((asg_rerun env op hg st _ hon).imp_right ?_)
  rintro ⟨n, rfl, hn, h⟩
  exact ⟨by simp only [Op.asg, readable, hn, Option.map], h⟩

/-- **Fixed variant, clause 3 for pull (partial: guard = the repeated pull succeeds iff the
uninterrupted one does, e.g. the registry still serves the blobs).**  Then every manifest file after
the repeated pull equals the one after an uninterrupted pull from the original store. -/
theorem rerun_converges_pull_partial {env : Env} (hat : env.atomicMan = true)
    (reg : Digest → Option Bytes) (n : Name) (m : Man) (st : Store) (p : List Effect)
    (hp : CrashPrefix ((Op.pull reg n m).exec env st).effs p)
    (hok : ((Op.pull reg n m).exec env (restartWith env (run p st))).ok = ((Op.pull reg n m).exec env st).ok) :
    ∀ n', get (run ((Op.pull reg n m).exec env (restartWith env (run p st))).effs (restartWith env (run p st))) (.man n') =
          get (run ((Op.pull reg n m).exec env st).effs st) (.man n') := by
  refine rerun_man env _ st _ (crash_man hat _ st hp) (Or.inl ?_)
  rw [pull_ok_iff, pull_ok_iff] at hok
  simp only [Op.asg, hok]

/-- A pull from an honest registry that serves every layer of the manifest succeeds wherever the
debris is consistent and no part record is torn. -/
theorem pull_succeeds {hash : Bytes → Digest} {env : Env} (henv : EnvOK hash env) {st : Store} (hinv : Inv hash st)
    (reg : Digest → Option Bytes) (n : Name) (m : Man) (hop : OpOK hash st (.pull reg n m)) (hw : RecsWhole st)
    (htot : ∀ l ∈ m.all, (reg l.digest).isSome = true) : ((Op.pull reg n m).exec env st).ok = true :=
  (pull_ok_iff env reg n m st).trans <|
    (downloads_spec env henv.hash_eq henv.chunk_flatten reg hop.1 0 _ st hinv hop.2).2 hw (List.forall_mem_map.mpr htot)

/-- **Fixed variant, clause 3 for pull at full strength (prune configuration).**  Store with the
invariant and all manifests readable, honest registry that serves every layer of the manifest,
consistent debris, the uninterrupted pull succeeds.  Kill the pull anywhere (any prefix, last data
write cut at any byte), run the start-up sequence, pull again: the repeated pull SUCCEEDS, every
manifest file is exactly what the uninterrupted pull leaves, and the result satisfies the invariant. -/
theorem rerun_converges_pull {hash : Bytes → Digest} {env : Env} (henv : EnvOK hash env)
    (hat : env.atomicMan = true) (hnp : env.noPrune = false) {st : Store} (hinv : Inv hash st)
    (hall : allReadable st = true) (reg : Digest → Option Bytes) (n : Name) (m : Man)
    (hreg : ∀ d data, reg d = some data → hash data = d)
    (htot : ∀ l ∈ m.all, (reg l.digest).isSome = true)
    (hpre : PullPre reg st (m.all.map Layer.digest))
    (hok : ((Op.pull reg n m).exec env st).ok = true)
    (p : List Effect) (hp : CrashPrefix ((Op.pull reg n m).exec env st).effs p) :
    ((Op.pull reg n m).exec env (restartWith env (run p st))).ok = true ∧
    (∀ n', get (run ((Op.pull reg n m).exec env (restartWith env (run p st))).effs (restartWith env (run p st))) (.man n') =
           get (run ((Op.pull reg n m).exec env st).effs st) (.man n')) ∧
    Inv hash (run ((Op.pull reg n m).exec env (restartWith env (run p st))).effs (restartWith env (run p st))) := by
  have hcs := crash_safe henv hinv (.pull reg n m) ⟨hreg, hpre⟩ p hp
  have hallp := atomic_never_torn_run hat (.pull reg n m) st hall p hp
  have hdeb : NoPullDebris (restartWith env (run p st)) :=
    restartWith_eq_prune hnp hallp ▸ noDebris_prune _
  have hop := opOK_of_noDebris reg n m hreg hdeb
  have hok1 := pull_succeeds henv hcs.2.1 reg n m hop hdeb.recsWhole htot
  exact ⟨hok1, rerun_converges_pull_partial hat reg n m st p hp (hok1.trans hok.symm),
    StoreCrash.seq_preserves_inv hcs.2.1 (exec_seqOK henv hcs.2.1 (.pull reg n m) hop)⟩

/-- **What the start-up prune does to download debris.**  In the default configuration (no
`OLLAMA_NOPRUNE`), when every manifest parses, the start-up sequence leaves no `-partial` file, no
part record and no temp file in blobs/: whatever half-way state of the part bookkeeping a kill left
behind is cleared, so the repeated pull starts from scratch. -/
theorem prune_clears_partials {env : Env} (hnp : env.noPrune = false) (st : Store)
    (hall : allReadable st = true) :
    NoPullDebris (restartWith env st) ∧ ∀ k, get (restartWith env st) (.temp k) = none := by
  rw [restartWith_eq_prune hnp hall]
  exact ⟨noDebris_prune st, fun k => by rw [get_prune]; simp [keepAtPrune]⟩

/-! ## witnesses of the defects of the in-place variant (F19) -/

def wHash : Bytes → Digest := fun bs => if bs = [1] then "d1" else if bs = [2] then "d2" else "x"
def wEnv : Env := { hash := wHash, chunk := fun bs => [bs], ord := id }   -- in-place variant
def wMan1 : Man := ⟨[], ⟨"d1", 1⟩⟩
def wMan2 : Man := ⟨[], ⟨"d2", 1⟩⟩
/-- two models a (layer d1) and c (layer d2) -/
def wStore : Store :=
  [(.blob "d1", .raw [1]), (.blob "d2", .raw [2]), (.man "a", .man wMan1), (.man "c", .man wMan2)]

/-- **F19a** (`CopyModel`, `WriteManifest`, `os.WriteFile` in `PullModel` truncate in place): a crash
between the truncating open and the write loses the model that was being REPLACED — `c` was
readable before `copy a c`, the operation was not completed, and `c` is unreadable after restart. -/
theorem F19a_replaced_model_lost :
    readable wStore "c" = some wMan2 ∧
    CrashPrefix ((Op.copy "a" "c").exec wEnv wStore).effs [Effect.mk (.man "c")] ∧
    readable (restart (run [Effect.mk (.man "c")] wStore)) "c" = none := by
  refine ⟨by decide +kernel, ⟨1, Or.inl (by decide +kernel)⟩, by decide +kernel⟩

/-- a store in which an earlier crash tore the manifest of `z` -/
def wStoreTorn : Store := (.man "z", .raw []) :: wStore
def wReg : Digest → Option Bytes := fun d => if d = "d2" then some [2] else none
def wPull : Op := .pull wReg "f" wMan2
/-- the store without blob d2 (so that pulling wMan2 has to download it) and with torn z -/
def wStoreTorn' : Store :=
  [(.man "z", .raw []), (.blob "d1", .raw [1]), (.man "a", .man wMan1)]

/-- **F19b**: with a torn manifest in the store the start-up prune is skipped; a pull that crashes
between the truncating open of a part record and its write leaves an empty `-partial-0`; the
repeated pull then fails in `readPart` without doing anything, and so does every later one
(restart changes nothing). -/
theorem F19b_torn_part_record_blocks_repull :
    Inv wHash wStoreTorn' ∧
    CrashPrefix (wPull.exec wEnv wStoreTorn').effs [Effect.mk (.part "d2" 0)] ∧
    (let st1 := restart (run [Effect.mk (.part "d2" 0)] wStoreTorn')
     (wPull.exec wEnv st1).ok = false ∧ (wPull.exec wEnv st1).effs = [] ∧ restart st1 = st1) := by
  refine ⟨inv_of_mem (fun d c h => ?_) (fun n m h => ?_), ⟨1, Or.inl (by decide +kernel)⟩, by decide +kernel⟩
  · obtain ⟨rfl, rfl⟩ : d = "d1" ∧ c = .raw [1] := by simpa [wStoreTorn'] using h
    exact ⟨[1], rfl, by decide⟩
  · obtain ⟨rfl, rfl⟩ : n = "a" ∧ m = wMan1 := by simpa [wStoreTorn'] using h
    decide

/-! ## the hypotheses are satisfiable by a non-trivial value -/

example : EnvOK wHash wEnv := ⟨rfl, fun bs => by simp [wEnv], fun _ _ h => h⟩

theorem wReg_honest : ∀ d data, wReg d = some data → wHash data = d := by
  intro d data h
  simp only [wReg] at h
  split at h
  · injection h with h; subst h; rename_i hd; subst hd; decide
  · cases h

example : OpOK wHash wStoreTorn' wPull := by
  refine opOK_of_noDebris wReg "f" wMan2 wReg_honest fun d => ⟨?_, fun k => ?_⟩ <;>
  · simp [wStoreTorn', StoreCrash.get]

/-- and the pull of the example really has effects (a download, a manifest write) -/
example : (wPull.exec wEnv wStoreTorn').effs.length = 11 ∧ (wPull.exec wEnv wStoreTorn').ok = true := by decide +kernel

/-- the fixed variant of the environment, and a store on which `rerun_converges_pull` applies:
its hypotheses are satisfiable by a pull that really downloads (fixed variant: 17 effects) -/
def wEnvA : Env := { wEnv with atomicMan := true, atomicPart := true }
def wStoreA : Store := [(.blob "d1", .raw [1]), (.man "a", .man wMan1)]

example : EnvOK wHash wEnvA := ⟨rfl, fun bs => by simp [wEnvA, wEnv], fun _ _ h => h⟩

theorem wStoreA_inv : Inv wHash wStoreA := by
  refine inv_of_mem (fun d c h => ?_) (fun n m h => ?_)
  · obtain ⟨rfl, rfl⟩ : d = "d1" ∧ c = .raw [1] := by simpa [wStoreA] using h
    exact ⟨[1], rfl, by decide⟩
  · obtain ⟨rfl, rfl⟩ : n = "a" ∧ m = wMan1 := by simpa [wStoreA] using h
    decide

example : Inv wHash wStoreA ∧ allReadable wStoreA = true ∧ NoPullDebris wStoreA ∧
    (∀ l ∈ wMan2.all, (wReg l.digest).isSome = true) ∧
    (wPull.exec wEnvA wStoreA).ok = true ∧ (wPull.exec wEnvA wStoreA).effs.length = 17 := by
  refine ⟨wStoreA_inv, by decide +kernel, ?_, by decide +kernel, by decide +kernel, by decide +kernel⟩
  intro d
  refine ⟨?_, fun k => ?_⟩ <;>
  · simp [wStoreA, StoreCrash.get]

/-! ## F26 — the lister's glob pattern -/

/-- **F26** (`Manifests()` builds its glob pattern from the models path): with a `[` in the path the
lister sees no manifest and reports no error; the start-up prune of ANY restart — hence of the one
after a crash — then removes every blob, while model `a` still resolves by name: the invariant is
lost although the store satisfied it.  (The theorems of this file are about stores whose models path has no
glob metacharacter, where the lister and name-based resolution agree.) -/
theorem F26_blind_lister_prunes_every_blob :
    Inv wHash wStoreA ∧
    readable (pruneBlind wStoreA) "a" = some wMan1 ∧
    get (pruneBlind wStoreA) (.blob "d1") = none ∧
    ¬ NameInv wHash (pruneBlind wStoreA) := by
  refine ⟨wStoreA_inv, by decide +kernel, by decide +kernel, ?_⟩
  intro h
  obtain ⟨bs, hb, _⟩ := h "a" wMan1 (by decide +kernel) ⟨"d1", 1⟩ (by decide +kernel)
  have : get (pruneBlind wStoreA) (.blob "d1") = none := by decide +kernel
  rw [this] at hb; cases hb

/-! ## every history: the debris hypothesis is discharged, not assumed

`world d` = the bytes behind digest `d` (what every honest registry serves for it).  `Reach env world st`
= `st` is reachable from the empty store by ANY sequence of operations, each run to ANY crash prefix
of its effect list (the complete list included; last data write cut at any byte), and start-up
sequences, the registry of each pull serving a part of `world` (`OpW`).  No hypothesis on debris, on
readability of manifests or on the configuration. -/

theorem opOK_of_debris {hash : Bytes → Digest} {world : Digest → Option Bytes} {st : Store}
    (hworld : ∀ d data, world d = some data → hash data = d) (hdeb : DebrisOK world st)
    (op : Op) (hop : OpW world op) : OpOK hash st op := by
  cases op with
  | pull reg n m => exact ⟨fun d data h => hworld d data (hop d data h), hdeb.pullPre reg hop _⟩
  | _ => trivial

/-- Every reachable store satisfies the store invariant and has consistent download debris (and, with
the fixed `writePart`, no torn part record): `PullPre` — the named hypothesis of `crash_safe` for pull —
holds in every state the server can be in. -/
theorem reach_inv {hash : Bytes → Digest} {env : Env} {world : Digest → Option Bytes} (henv : EnvOK hash env)
    (hworld : ∀ d data, world d = some data → hash data = d) {st : Store} (h : Reach env world st) :
    Inv hash st ∧ DebInv env.atomicPart world st := by
  refine ⟨?_, reach_debInv henv.chunk_flatten h⟩
  induction h with
  | init => exact inv_of_mem (fun _ _ h => nomatch h) (fun _ _ h => nomatch h)
  | @crash st op p hr hop hp ih =>
    have hopOK := opOK_of_debris (hash := hash) hworld (reach_debInv henv.chunk_flatten hr).1 op hop
    exact StoreCrash.seq_preserves_inv ih (seqOK_crashPrefix (exec_seqOK henv ih op hopOK) hp)
  | restart _ ih => exact StoreCrash.restartWith_preserves_inv env ih

theorem opOK_of_reach {hash : Bytes → Digest} {env : Env} {world : Digest → Option Bytes} (henv : EnvOK hash env)
    (hworld : ∀ d data, world d = some data → hash data = d) {st : Store} (h : Reach env world st)
    (op : Op) (hop : OpW world op) : OpOK hash st op :=
  opOK_of_debris hworld (reach_inv henv hworld h).2.1 op hop

/-- **C12, clauses 1 and 2, for every history.**  From ANY reachable store (any earlier crashes, any
debris they left, torn manifests in the in-place variant), every operation, every crash prefix: after the
start-up sequence every readable manifest has all layers present and hashing to their names, and
uninvolved names keep their manifest and blobs.  No `PullPre`/`OpOK` hypothesis. -/
theorem crash_safe_reachable {hash : Bytes → Digest} {env : Env} {world : Digest → Option Bytes}
    (henv : EnvOK hash env) (hworld : ∀ d data, world d = some data → hash data = d)
    {st : Store} (hr : Reach env world st) (op : Op) (hop : OpW world op) (p : List Effect)
    (hp : CrashPrefix (op.exec env st).effs p) :
    NameInv hash (restartWith env (run p st)) ∧
    Inv hash (restartWith env (run p st)) ∧
    (∀ n, n ∉ op.involved → Untouched n st (restartWith env (run p st))) ∧
    Reach env world (restartWith env (run p st)) :=
  have h := crash_safe henv (reach_inv henv hworld hr).1 op (opOK_of_reach henv hworld hr op hop) p hp
  ⟨h.1, h.2.1, h.2.2, .restart (.crash op p hr hop hp)⟩

/-- fixed manifest writes: no reachable store has a torn manifest -/
theorem reach_allReadable {env : Env} {world : Digest → Option Bytes} (hat : env.atomicMan = true)
    {st : Store} (h : Reach env world st) : allReadable st = true := by
  induction h with
  | init => rfl
  | @crash st op p _ _ hp ih => exact atomic_never_torn_run hat op st ih p hp
  | restart _ ih => exact allReadable_restartWith env ih

/-- **Fixed variant: from every reachable store a pull succeeds** (honest registry serving every layer
of the manifest) — whatever earlier crashes left behind, with or without `OLLAMA_NOPRUNE`. -/
theorem pull_succeeds_reachable {hash : Bytes → Digest} {env : Env} {world : Digest → Option Bytes}
    (henv : EnvOK hash env) (hworld : ∀ d data, world d = some data → hash data = d)
    (hap : env.atomicPart = true) {st : Store} (hr : Reach env world st)
    (reg : Digest → Option Bytes) (hsub : ∀ d data, reg d = some data → world d = some data)
    (n : Name) (m : Man) (htot : ∀ l ∈ m.all, (reg l.digest).isSome = true) :
    ((Op.pull reg n m).exec env st).ok = true :=
  have h := reach_inv henv hworld hr
  pull_succeeds henv h.1 reg n m (opOK_of_debris hworld h.2.1 _ hsub) (h.2.2 hap) htot

/-- **C12, clause 3 for pull, every history, both start-up configurations (fixed variant).**  From any
reachable store: kill the pull anywhere, run the start-up sequence (prune or `OLLAMA_NOPRUNE`), pull
again: the repeated pull SUCCEEDS, every manifest file is what the uninterrupted pull leaves, the
invariant holds.  (Needs none of `noPrune = false`, `allReadable`, `PullPre`, "the uninterrupted pull
succeeds", which `rerun_converges_pull` assumes.) -/
theorem rerun_converges_pull_reachable {hash : Bytes → Digest} {env : Env} {world : Digest → Option Bytes}
    (henv : EnvOK hash env) (hworld : ∀ d data, world d = some data → hash data = d)
    (hat : env.atomicMan = true) (hap : env.atomicPart = true) {st : Store} (hr : Reach env world st)
    (reg : Digest → Option Bytes) (hsub : ∀ d data, reg d = some data → world d = some data)
    (n : Name) (m : Man) (htot : ∀ l ∈ m.all, (reg l.digest).isSome = true)
    (p : List Effect) (hp : CrashPrefix ((Op.pull reg n m).exec env st).effs p) :
    ((Op.pull reg n m).exec env (restartWith env (run p st))).ok = true ∧
    (∀ n', get (run ((Op.pull reg n m).exec env (restartWith env (run p st))).effs (restartWith env (run p st))) (.man n') =
           get (run ((Op.pull reg n m).exec env st).effs st) (.man n')) ∧
    Inv hash (run ((Op.pull reg n m).exec env (restartWith env (run p st))).effs (restartWith env (run p st))) := by
  have hr1 : Reach env world (restartWith env (run p st)) := .restart (.crash (.pull reg n m) p hr hsub hp)
  have hok0 := pull_succeeds_reachable henv hworld hap hr reg hsub n m htot
  have hok1 := pull_succeeds_reachable henv hworld hap hr1 reg hsub n m htot
  refine ⟨hok1, rerun_converges_pull_partial hat reg n m st p hp (hok1.trans hok0.symm), ?_⟩
  have hr2 : Reach env world (run ((Op.pull reg n m).exec env (restartWith env (run p st))).effs (restartWith env (run p st))) :=
    .crash (.pull reg n m) _ hr1 hsub (crashPrefix_full _)
  exact (reach_inv henv hworld hr2).1

/-! ### the hypotheses about histories are satisfiable by a non-trivial value -/

/-- a history: upload blob d1, "pull" model a whose only layer is already there, then `pull f` (which has
to download d2) killed after its 9th effect -/
def wH1 : Store := run ((Op.upload 0 "d1" [1]).exec wEnvA []).effs []
def wH2 : Store := run ((Op.pull (fun _ => none) "a" wMan1).exec wEnvA wH1).effs wH1
def wH3 : Store := run ((wPull.exec wEnvA wH2).effs.take 9) wH2

theorem wH2_reach : Reach wEnvA wReg wH2 :=
  .crash (.pull (fun _ => none) "a" wMan1) _
    (.crash (.upload 0 "d1" [1]) _ .init trivial (crashPrefix_full _))
    (fun _ _ h => by cases h) (crashPrefix_full _)

theorem wH3_reach : Reach wEnvA wReg wH3 :=
  .crash wPull _ wH2_reach (fun _ _ h => h) ⟨9, Or.inl rfl⟩

/-- the reachable store `wH3` really has debris: model a is readable, the part record of d2 says
`Completed = 0` of 1 byte while the `-partial` file already holds that byte; the pull from there
RESUMES (13 effects instead of the 17 of a fresh pull) and succeeds — an instance of `pull_succeeds_reachable` /
`rerun_converges_pull_reachable` under `OLLAMA_NOPRUNE`-like conditions (nothing pruned) -/
example : readable wH3 "a" = some wMan1 ∧
    get wH3 (.part "d2" 0) = some (.prec ⟨0, 0, 1, 0⟩) ∧ get wH3 (.pfile "d2") = some (.raw [2]) ∧
    (wPull.exec wEnvA wH3).ok = true ∧ (wPull.exec wEnvA wH3).effs.length = 13 ∧
    (wPull.exec wEnvA wH2).effs.length = 17 := by decide +kernel

example : ((Op.pull wReg "f" wMan2).exec wEnvA wH3).ok = true :=
  pull_succeeds_reachable (hash := wHash) ⟨rfl, fun bs => by simp [wEnvA, wEnv], fun _ _ h => h⟩ wReg_honest rfl
    wH3_reach wReg (fun _ _ h => h) "f" wMan2 (by decide +kernel)

/-! ## F27 — a registry that serves damaged bytes once (outside the honest-registry hypothesis of the theorems)

The model covers it (`reg` maps the digest to the damaged bytes: download, rename into place, failed
`verifyBlob`, removal); what it does then is evaluated below. -/

/-- a registry (a bad CDN node) that serves one wrong byte for d2 -/
def wRegBad : Digest → Option Bytes := fun d => if d = "d2" then some [9] else none
def wPullBad : Op := .pull wRegBad "f" wMan2
/-- fixed variant, `OLLAMA_NOPRUNE` -/
def wEnvN : Env := { wEnvA with noPrune := true }

/-- the uninterrupted damaged pull is harmless: it fails and leaves no blob d2 behind -/
theorem F27_uninterrupted_damaged_pull_fails_cleanly :
    (wPullBad.exec wEnvN wStoreA).ok = false ∧
    get (run (wPullBad.exec wEnvN wStoreA).effs wStoreA) (.blob "d2") = none := by decide +kernel

/-- two fresh layers, the FIRST one damaged: the pull stops at the failed verification of d2 (the tree
verifies each layer right after its download) — nothing of d3 is fetched -/
def wRegBad2 : Digest → Option Bytes := fun d => if d = "d2" then some [9] else if d = "d3" then some [3] else none
theorem F27_damaged_pull_stops_at_first_mismatch :
    ((Op.pull wRegBad2 "f" ⟨[⟨"d2", 1⟩], ⟨"d3", 1⟩⟩).exec wEnvN wStoreA).ok = false ∧
    ((Op.pull wRegBad2 "f" ⟨[⟨"d2", 1⟩], ⟨"d3", 1⟩⟩).exec wEnvN wStoreA).effs = (wPullBad.exec wEnvN wStoreA).effs := by
  decide +kernel

/-- **F27b** (`download.run` renames `-partial` to the blob name BEFORE `verifyBlob`): kill the damaged
pull between the rename and the removal that follows the failed verification (13 of its 14 effects); no
start-up prune; the repeated pull — honest registry — takes the damaged blob as a cache hit, reports
SUCCESS, and model f is readable with a layer whose bytes do not hash to its name. -/
theorem F27b_damaged_blob_becomes_cache_hit :
    CrashPrefix (wPullBad.exec wEnvN wStoreA).effs ((wPullBad.exec wEnvN wStoreA).effs.take 13) ∧
    (let st1 := restartWith wEnvN (run ((wPullBad.exec wEnvN wStoreA).effs.take 13) wStoreA)
     (wPull.exec wEnvN st1).ok = true ∧
     readable (run (wPull.exec wEnvN st1).effs st1) "f" = some wMan2 ∧
     get (run (wPull.exec wEnvN st1).effs st1) (.blob "d2") = some (.raw [9]) ∧ wHash [9] ≠ "d2") := by
  refine ⟨⟨13, Or.inl rfl⟩, by decide +kernel⟩

/-- **F27a** (resume trusts bytes that were never verified): kill the damaged pull after the part record
that says `Completed = Size` is in place and before the record is removed (11 effects); no start-up prune;
the repeated pull — honest registry — resumes from the record, renames the damaged bytes into place and
FAILS in the verification; the pull after that one succeeds with the right bytes. -/
theorem F27a_resume_trusts_unverified_bytes :
    CrashPrefix (wPullBad.exec wEnvN wStoreA).effs ((wPullBad.exec wEnvN wStoreA).effs.take 11) ∧
    (let st1 := restartWith wEnvN (run ((wPullBad.exec wEnvN wStoreA).effs.take 11) wStoreA)
     let st2 := restartWith wEnvN (run (wPull.exec wEnvN st1).effs st1)
     get st1 (.part "d2" 0) = some (.prec ⟨0, 0, 1, 1⟩) ∧ get st1 (.pfile "d2") = some (.raw [9]) ∧
     (wPull.exec wEnvN st1).ok = false ∧
     (wPull.exec wEnvN st2).ok = true ∧
     get (run (wPull.exec wEnvN st2).effs st2) (.blob "d2") = some (.raw [2])) := by
  refine ⟨⟨11, Or.inl rfl⟩, by decide +kernel⟩

/-! ## the `.ok` half of clause 3 for upload / copy / delete, and the blob an upload is about -/

/-- **Clause 3, "succeeds (or reports that it already took effect)", for upload / copy / delete (fixed
variant).**  If the uninterrupted operation succeeds, then after any crash of it and the start-up
sequence the repeated operation succeeds — or it is a delete whose manifest is already gone (the
handler answers "not found": the deletion took effect). -/
theorem rerun_ok_partial {env : Env} (hat : env.atomicMan = true) (st : Store) (op : Op)
    (hg : rerunGuard op = true) (hok : (op.exec env st).ok = true)
    (p : List Effect) (hp : CrashPrefix (op.exec env st).effs p) :
    (op.exec env (restartWith env (run p st))).ok = true ∨
    ∃ n, op = .delete n ∧ get (restartWith env (run p st)) (.man n) = none := by
  refine (asg_rerun env op hg st _ (crash_man hat op st hp)).imp (fun h => ?_) fun ⟨n, h1, h2, _⟩ => ⟨n, h1, h2⟩
  rw [exec_ok, h, ← exec_ok, hok]

/-- **Clause 3 for upload, about the blob.**  Honest client (`hash body = d`): kill the upload anywhere,
run the start-up sequence (which may prune the unreferenced blob or the temp file), upload again: the
repeated upload succeeds and blob `d` is present with bytes that hash to `d` — as after the
uninterrupted upload. -/
theorem rerun_converges_upload {hash : Bytes → Digest} {env : Env} (henv : EnvOK hash env) {st : Store}
    (hinv : Inv hash st) (k : Nat) (d : Digest) (body : Bytes) (hd : hash body = d)
    (p : List Effect) (hp : CrashPrefix ((Op.upload k d body).exec env st).effs p) :
    let st1 := restartWith env (run p st)
    ((Op.upload k d body).exec env st1).ok = true ∧
    (∃ bs, get (run ((Op.upload k d body).exec env st1).effs st1) (.blob d) = some (.raw bs) ∧ hash bs = d) ∧
    (∃ bs, get (run ((Op.upload k d body).exec env st).effs st) (.blob d) = some (.raw bs) ∧ hash bs = d) := by
  intro st1
  have hcs := crash_safe henv hinv (.upload k d body) trivial p hp
  have key : ∀ s, Inv hash s → ∃ bs, get (run (upload env k d body s).effs s) (.blob d) = some (.raw bs) ∧ hash bs = d :=
    fun s hs =>
      have h := upload_spec env henv.hash_eq henv.chunk_flatten k d body s
      (h.inv hs).blob_of_present (h.present (upload_ok ..) d ⟨rfl, hd⟩)
  exact ⟨upload_ok env k d body st1, key st1 hcs.2.1, key st hinv⟩

example : ∃ p, CrashPrefix ((Op.upload 0 "d2" [2]).exec wEnvA wStoreA).effs p ∧ p.length = 2 ∧
    get (restartWith wEnvA (run p wStoreA)) (.temp 0) = none :=
  ⟨_, ⟨2, Or.inl rfl⟩, by decide +kernel, by decide +kernel⟩

/-! ## clause 3 for BLOBS (delete, prune configuration) -/

/-- every blob file is named by some readable manifest: the state of blobs/ after a start-up that pruned
(and before any upload that is not yet part of a model) -/
def AllReferenced (st : Store) : Prop := ∀ d, (get st (.blob d)).isSome = true → referenced st d = true

theorem get_run_layerRemove (x : Digest) (s : Store) (d : Digest) :
    get (run (layerRemove x s).effs s) (.blob d) =
      if d = x ∧ referenced s x = false then none else get s (.blob d) := by
  unfold layerRemove
  by_cases hdx : d = x
  · subst hdx
    cases hr : referenced s d <;> cases hp : present s (.blob d) <;>
      simp [run, get_apply_rm, present_false_get, hp]
  · have : get (apply (.rm (.blob x)) s) (.blob d) = get s (.blob d) :=
      get_apply_of_not_written (not_mem_one (by simpa using hdx))
    split <;> simp [hdx, run, this]

theorem get_run_removeLayers (ds : List Digest) (s : Store) (d : Digest) :
    get (run (removeLayers ds s).effs s) (.blob d) =
      if d ∈ ds ∧ referenced s d = false then none else get s (.blob d) := by
  induction ds generalizing s with
  | nil => simp [removeLayers, run]
  | cons x rest ih =>
    simp only [removeLayers]
    rw [run_andThen, layerRemove_ok, if_pos rfl, ih, get_run_layerRemove,
      referenced_congr (layerRemove_rms (P := True) x s).man d]
    by_cases hdx : d = x
    · subst hdx
      cases hr : referenced s d <;> simp
    · simp [hdx]

theorem delete_effs_none {n : Name} {s : Store} (h : readable s n = none) : (delete n s).effs = [] := by
  unfold delete; rw [h]

theorem delete_effs_some {n : Name} {s : Store} {m : Man} (h : readable s n = some m) :
    (delete n s).effs = .rm (.man n) :: (removeLayers (m.all.map Layer.digest) (apply (.rm (.man n)) s)).effs := by
  unfold delete; simp [h, andThen_effs, run]

theorem delete_blob_final (n : Name) (s : Store) (m : Man) (hr : readable s n = some m) (d : Digest) :
    get (run (delete n s).effs s) (.blob d) =
      if d ∈ m.all.map Layer.digest ∧ referenced (apply (.rm (.man n)) s) d = false then none else get s (.blob d) := by
  rw [delete_effs_some hr, run, get_run_removeLayers, get_apply_of_not_written (by simp [writes])]

theorem get_rm_man (n n' : Name) (s : Store) :
    get (apply (.rm (.man n)) s) (.man n') = if n' = n then none else get s (.man n') := by
  by_cases h : n' = n
  · subst h; simp [apply, get_del]
  · have : Path.man n' ≠ Path.man n := fun e => h (by injection e)
    simp [apply, get_del, h, this]

theorem get_prune_blob (st : Store) (d : Digest) :
    get (prune st) (.blob d) = if referenced st d = true then get st (.blob d) else none := by
  rw [get_prune]; rfl

theorem get_prune_of_allReferenced {st : Store} (h : AllReferenced st) (d : Digest) :
    get (prune st) (.blob d) = get st (.blob d) := by
  rw [get_prune]
  cases hg : get st (.blob d) with
  | none => split <;> rfl
  | some c =>
    have hk : keepAtPrune st (.blob d) = true := h d (by simp [hg])
    rw [hk]; rfl

/-- the start-up prune sees blobs/ through the manifests only -/
theorem get_prune_blob_congr {s s' : Store} {d : Digest} (hm : ∀ n, get s' (.man n) = get s (.man n))
    (hb : referenced s d = true → get s' (.blob d) = get s (.blob d)) :
    get (prune s') (.blob d) = get (prune s) (.blob d) := by
  rw [get_prune_blob, get_prune_blob, referenced_congr hm d]
  split
  · rename_i h; exact hb h
  · rfl

/-- on blobs/, a deletion is the unlink of the manifest followed by the start-up prune -/
theorem delete_blobs_prune {st : Store} (href : AllReferenced st) {n : Name} {m : Man}
    (hr : readable st n = some m) (d : Digest) :
    get (run (delete n st).effs st) (.blob d) = get (prune (apply (.rm (.man n)) st)) (.blob d) := by
  have hb : get (apply (.rm (.man n)) st) (.blob d) = get st (.blob d) :=
    get_apply_of_not_written (by simp [writes])
  rw [delete_blob_final n st m hr, get_prune_blob, hb]
  cases hrd : referenced (apply (.rm (.man n)) st) d with
  | true => simp
  | false =>
    simp only [and_true, Bool.false_eq_true, ↓reduceIte]
    split
    · rfl
    · rename_i hnm
      -- not a layer of the deleted model and named by nobody else: it was not there in the first place
      cases hg : get st (.blob d) with
      | none => rfl
      | some c =>
        exfalso
        obtain ⟨n', m', hr', l, hl, hld⟩ := referenced_iff.mp (href d (by simp [hg]))
        by_cases hn : n' = n
        · subst hn
          rw [hr] at hr'; injection hr' with hr'; subst hr'
          exact hnm (List.mem_map.mpr ⟨l, hl, hld⟩)
        · have : referenced (apply (.rm (.man n)) st) d = true := by
            refine referenced_iff.mpr ⟨n', m', ?_, l, hl, hld⟩
            rw [readable_eq_some, get_rm_man, if_neg hn]
            exact readable_eq_some.mp hr'
          simp [hrd] at this

theorem allReferenced_prune (st : Store) : AllReferenced (prune st) := fun d hd => by
  rw [get_prune_blob] at hd
  split at hd
  · rename_i h; exact (referenced_congr (st' := prune st) (st := st) (fun n => by rw [get_prune]; rfl) d).trans h
  · cases hd

/-- **Clause 3 for blobs, delete, default configuration.**  Store with the invariant in which every blob
is named by a readable manifest (the state after any start-up that pruned).  Kill the deletion anywhere,
run the start-up sequence, delete again (it may answer "not found"): blobs/ holds exactly the blobs the
uninterrupted deletion leaves — the layers only the deleted model used are gone, everything else is
untouched, byte for byte. -/
theorem rerun_converges_delete_blobs {env : Env} (hat : env.atomicMan = true) (hnp : env.noPrune = false)
    {st : Store} (hall : allReadable st = true) (href : AllReferenced st)
    (n : Name) (p : List Effect) (hp : CrashPrefix ((Op.delete n).exec env st).effs p) (d : Digest) :
    get (run ((Op.delete n).exec env (restartWith env (run p st))).effs (restartWith env (run p st))) (.blob d) =
    get (run ((Op.delete n).exec env st).effs st) (.blob d) := by
  have hallp := atomic_never_torn_run hat (.delete n) st hall p hp
  rw [restartWith_eq_prune hnp hallp]
  simp only [Op.exec] at hp ⊢
  cases hr : readable st n with
  | none =>
    rw [delete_effs_none hr] at hp ⊢
    obtain rfl : p = [] := by
      obtain ⟨k, h | ⟨e, e', hk, _, _⟩⟩ := hp
      · simpa using h
      · simp at hk
    simp only [run]
    rw [delete_effs_none ((readable_prune _ n).trans hr)]
    exact get_prune_of_allReferenced href d
  | some m =>
    rw [delete_blobs_prune href hr]
    have hRL := removeLayers_rms (P := True) (m.all.map Layer.digest) (apply (.rm (.man n)) st)
    rw [delete_effs_some hr] at hp
    rcases crashPrefix_cons hp with rfl | ⟨e', hc, _⟩ | ⟨p', rfl, hp'⟩
    · -- nothing happened: the repeated deletion is a deletion from the pruned store
      rw [run, delete_blobs_prune (allReferenced_prune st) ((readable_prune st n).trans hr)]
      refine get_prune_blob_congr (fun n' => ?_) fun _ => ?_
      · rw [get_rm_man, get_rm_man, get_prune]; rfl
      · rw [get_apply_of_not_written (by simp [writes]), get_apply_of_not_written (by simp [writes])]
        exact get_prune_of_allReferenced href d
    · cases hc
    · -- the manifest is gone, and unnamed blobs only: the repeated deletion answers "not found", the prune does the rest
      have hp'' := hRL.crashPrefix hp'
      have hgone : readable (prune (run (.rm (.man n) :: p') st)) n = none := by
        rw [readable_prune]; unfold readable; rw [run, hp''.man, get_rm_man, if_pos rfl]
      rw [delete_effs_none hgone]
      exact get_prune_blob_congr hp''.man fun hd => hp''.blob hd

/-- **…and the clause is FALSE under `OLLAMA_NOPRUNE`**: kill the deletion of c between the
unlink of its manifest and the unlink of its layer; nothing prunes; the repeated deletion answers "not
found" and does nothing: blob d2 stays for ever, while the uninterrupted deletion removes it. -/
theorem F28_noprune_killed_delete_leaks_blobs :
    let envN : Env := { wEnvA with noPrune := true }
    let p := ((Op.delete "c").exec envN wStore).effs.take 1
    CrashPrefix ((Op.delete "c").exec envN wStore).effs p ∧
    ((Op.delete "c").exec envN (restartWith envN (run p wStore))).ok = false ∧
    ((Op.delete "c").exec envN (restartWith envN (run p wStore))).effs = [] ∧
    get (restartWith envN (run p wStore)) (.blob "d2") = some (.raw [2]) ∧
    get (run ((Op.delete "c").exec envN wStore).effs wStore) (.blob "d2") = none := by
  refine ⟨⟨1, Or.inl rfl⟩, by decide +kernel, by decide +kernel, by decide +kernel, by decide +kernel⟩

/-- non-vacuity: `wStore` (models a, c; blobs d1, d2) is all-referenced, and the deletion of c has a
crash point between the two unlinks -/
example : AllReferenced wStore ∧ allReadable wStore = true ∧
    ((Op.delete "c").exec wEnvA wStore).effs = [.rm (.man "c"), .rm (.blob "d2")] := by
  refine ⟨?_, by decide +kernel, by decide +kernel⟩
  intro d hd
  by_cases h1 : d = "d1"
  · subst h1; decide +kernel
  · by_cases h2 : d = "d2"
    · subst h2; decide +kernel
    · have : Path.blob "d1" ≠ Path.blob d := fun e => h1 (by injection e with e; exact e.symm)
      have : Path.blob "d2" ≠ Path.blob d := fun e => h2 (by injection e with e; exact e.symm)
      simp [wStore, StoreCrash.get, *] at hd

/-! ## clause 3 for create (fixed variant) -/

/-- the size `createModel` records for the gguf layer: the length of whatever bytes are under that digest -/
theorem blobSize_of {st : Store} {d : Digest} {bs : Bytes} (h : get st (.blob d) = some (.raw bs)) :
    blobSize st d = bs.length := by unfold blobSize; rw [h]

/-- What a create whose gguf blob is among the honest client's uploads does to the manifest files: it
succeeds, name `n` gets the manifest with the gguf layer (size = length of the bytes stored under that
digest), the data layers and the config; every other name is untouched. -/
theorem create_final {hash : Bytes → Digest} {env : Env} (henv : EnvOK hash env) (hat : env.atomicMan = true)
    (n : Name) (ups : List (Digest × Bytes)) (file : Digest) (datas : List Bytes) (cfg : Bytes)
    (hups : ∀ u ∈ ups, hash u.2 = u.1) (hfile : ∃ body, (file, body) ∈ ups)
    (st : Store) (hinv : Inv hash st) :
    (create env n ups file datas cfg st).ok = true ∧
    ∃ bs, hash bs = file ∧ ∀ n', get (run (create env n ups file datas cfg st).effs st) (.man n') =
      if n' = n then some (.man ⟨⟨file, bs.length⟩ :: datas.map (layerOf env), layerOf env cfg⟩) else get st (.man n') := by
  obtain ⟨body, hb⟩ := hfile
  have hup := uploads_spec env henv.hash_eq henv.chunk_flatten 0 ups st
  have hpres : present (run (uploads env 0 ups st).effs st) (.blob file) = true :=
    hup.present (uploads_ok ..) file ⟨(file, body), hb, rfl, hups _ hb⟩
  -- the bytes under the gguf digest; the new layers leave them alone
  obtain ⟨bs, hgb, hhb⟩ := (hup.inv hinv).blob_of_present hpres
  have hsize := blobSize_of ((newLayers_spec env henv.hash_eq ups.length (datas ++ [cfg]) _).ext.2 file _ hgb)
  have hc : (Op.create n ups file datas cfg).asg env st =
      some (n, some (.man ⟨⟨file, bs.length⟩ :: datas.map (layerOf env), layerOf env cfg⟩)) := by
    simp only [Op.asg, hpres, ↓reduceIte, createMan, hsize]
  exact ⟨(exec_ok env (.create n ups file datas cfg) st).trans (by rw [hc]; rfl), bs, hhb,
    fun n' => (exec_man env (.create n ups file datas cfg) st n').trans (by rw [hc]; rfl)⟩

/-- **Clause 3 for create (fixed variant).**  Store with the invariant; honest client (every upload's bytes
hash to its digest) whose uploads include the gguf blob; `hash` has no length-collision at the gguf digest
(the manifest records the SIZE of whatever bytes are stored under it).  Kill the create anywhere (client
uploads included), run the start-up sequence — which may prune every blob uploaded so far —, create again:
it SUCCEEDS, every manifest file is exactly what the uninterrupted create leaves, the invariant holds. -/
theorem rerun_converges_create {hash : Bytes → Digest} {env : Env} (henv : EnvOK hash env)
    (hat : env.atomicMan = true) {st : Store} (hinv : Inv hash st)
    (n : Name) (ups : List (Digest × Bytes)) (file : Digest) (datas : List Bytes) (cfg : Bytes)
    (hups : ∀ u ∈ ups, hash u.2 = u.1) (hfile : ∃ body, (file, body) ∈ ups)
    (hcf : ∀ bs bs', hash bs = file → hash bs' = file → bs.length = bs'.length)
    (p : List Effect) (hp : CrashPrefix ((Op.create n ups file datas cfg).exec env st).effs p) :
    let st1 := restartWith env (run p st)
    ((Op.create n ups file datas cfg).exec env st1).ok = true ∧
    (∀ n', get (run ((Op.create n ups file datas cfg).exec env st1).effs st1) (.man n') =
           get (run ((Op.create n ups file datas cfg).exec env st).effs st) (.man n')) ∧
    Inv hash (run ((Op.create n ups file datas cfg).exec env st1).effs st1) := by
  intro st1
  have hcs := crash_safe henv hinv (.create n ups file datas cfg) trivial p hp
  have G := fun n' => atomic_manifest_old_or_new hat (.create n ups file datas cfg) st p hp n'
  obtain ⟨hok0, bs0, hb0, hU⟩ := create_final henv hat n ups file datas cfg hups hfile st hinv
  obtain ⟨hok1, bs1, hb1, hR⟩ := create_final henv hat n ups file datas cfg hups hfile st1 hcs.2.1
  have hlen : bs1.length = bs0.length := hcf bs1 bs0 hb1 hb0
  refine ⟨hok1, ?_, StoreCrash.seq_preserves_inv hcs.2.1 (exec_seqOK henv hcs.2.1 _ trivial)⟩
  intro n'
  simp only [Op.exec] at G ⊢
  rw [hR n', hU n', hlen]
  by_cases hn : n' = n
  · simp [hn]
  · simp only [hn, ↓reduceIte]
    rcases G n' with h | h
    · exact h
    · rw [h, hU n']; simp [hn]

/-- the hypotheses are satisfiable by a create that really uploads, writes two layers and a manifest
(fixed variant: 15 effects) -/
example : (∀ u ∈ [(("d2" : Digest), ([2] : Bytes))], wHash u.2 = u.1) ∧ (∃ body, (("d2" : Digest), body) ∈ [(("d2" : Digest), ([2] : Bytes))]) ∧
    ((Op.create "n" [("d2", [2])] "d2" [[1]] [7]).exec wEnvA wStoreA).effs.length = 15 ∧
    ((Op.create "n" [("d2", [2])] "d2" [[1]] [7]).exec wEnvA wStoreA).ok = true := by
  refine ⟨?_, ⟨[2], by simp⟩, by decide +kernel, by decide +kernel⟩
  intro u hu; simp at hu; subst hu; decide

/-- the collision hypothesis of `rerun_converges_create` is satisfiable (the witness hash at digest d2) -/
theorem wHash_no_length_collision_d2 : ∀ bs bs' : Bytes, wHash bs = "d2" → wHash bs' = "d2" → bs.length = bs'.length := by
  have key : ∀ bs : Bytes, wHash bs = "d2" → bs = [2] := by
    intro bs h
    unfold wHash at h
    split at h
    · exact absurd h (by decide +kernel)
    · split at h
      · assumption
      · exact absurd h (by decide +kernel)
  intro bs bs' h h'
  rw [key bs h, key bs' h']

/-- an instance of `rerun_converges_create`: the create of the example killed after its 7th effect (the uploaded
blob is in place, nothing references it yet: the start-up prune removes it again) -/
example :
    let op := Op.create "n" [("d2", [2])] "d2" [[1]] [7]
    let p := (op.exec wEnvA wStoreA).effs.take 7
    get (run p wStoreA) (.blob "d2") = some (.raw [2]) ∧
    get (restartWith wEnvA (run p wStoreA)) (.blob "d2") = none ∧
    (op.exec wEnvA (restartWith wEnvA (run p wStoreA))).ok = true := by decide +kernel

/-! ## the property, all clauses, one statement (fixed variant) -/

/-- what the environment of an operation has to be like for clause 3 to be expected at all: the registry of a
pull is honest and serves every layer of the manifest; the client of a create/upload is honest (bytes hash
to the digests it names), uploads the gguf blob, and `hash` has no length-collision at that digest -/
def OpFit (hash : Bytes → Digest) (world : Digest → Option Bytes) : Op → Prop
  | .pull reg _ m => (∀ d data, reg d = some data → world d = some data) ∧ ∀ l ∈ m.all, (reg l.digest).isSome = true
  | .create _ ups file _ _ => (∀ u ∈ ups, hash u.2 = u.1) ∧ (∃ body, (file, body) ∈ ups) ∧
      ∀ bs bs', hash bs = file → hash bs' = file → bs.length = bs'.length
  | .upload _ d body => hash body = d
  | _ => True

theorem OpFit.opW {hash : Bytes → Digest} {world : Digest → Option Bytes} {op : Op} (h : OpFit hash world op) :
    OpW world op := by
  cases op <;> first | trivial | exact h.1

/-- **C12, every clause, every history (fixed variant, both start-up configurations).**  `st` reachable by
any history of operations / crashes / start-ups; any operation that fits (`OpFit`) and succeeds when not
interrupted; any crash prefix `p` of it (last data write cut at any byte); `st1` = the store after the
start-up sequence.  Then
1. every readable manifest of `st1` has all its layers present with bytes that hash to their names;
2. every name the operation does not involve keeps its manifest file and the blobs it names;
3. the repeated operation succeeds — or it is a delete whose manifest is already gone (it took effect) —
   and after it every manifest file is what the uninterrupted operation leaves (blobs/:
   `rerun_converges_delete_blobs`, `rerun_converges_upload`), and the invariant holds again. -/
theorem c12_all_clauses {hash : Bytes → Digest} {env : Env} {world : Digest → Option Bytes}
    (henv : EnvOK hash env) (hworld : ∀ d data, world d = some data → hash data = d)
    (hat : env.atomicMan = true) (hap : env.atomicPart = true)
    {st : Store} (hr : Reach env world st) (op : Op) (hfit : OpFit hash world op)
    (hok : (op.exec env st).ok = true) (p : List Effect) (hp : CrashPrefix (op.exec env st).effs p) :
    NameInv hash (restartWith env (run p st)) ∧
    (∀ n, n ∉ op.involved → Untouched n st (restartWith env (run p st))) ∧
    ((op.exec env (restartWith env (run p st))).ok = true ∨
      ∃ n, op = .delete n ∧ get (restartWith env (run p st)) (.man n) = none) ∧
    (∀ n', get (run (op.exec env (restartWith env (run p st))).effs (restartWith env (run p st))) (.man n') =
           get (run (op.exec env st).effs st) (.man n')) ∧
    Inv hash (run (op.exec env (restartWith env (run p st))).effs (restartWith env (run p st))) := by
  have hcs := crash_safe_reachable henv hworld hr op hfit.opW p hp
  have hinv := (reach_inv henv hworld hr).1
  refine ⟨hcs.1, hcs.2.2.1, ?_⟩
  by_cases hg : rerunGuard op = true
  · exact ⟨rerun_ok_partial hat st op hg hok p hp, rerun_converges_partial henv hat hinv op hg p hp⟩
  cases op with
  | pull reg n m =>
    have h := rerun_converges_pull_reachable henv hworld hat hap hr reg hfit.1 n m hfit.2 p hp
    exact ⟨Or.inl h.1, h.2.1, h.2.2⟩
  | create n ups file datas cfg =>
    have h := rerun_converges_create henv hat hinv n ups file datas cfg hfit.1 hfit.2.1 hfit.2.2 p hp
    exact ⟨Or.inl h.1, h.2.1, h.2.2⟩
  | _ => exact absurd rfl hg

/-- non-vacuity: the reachable store `wH2` (models built by an upload and a pull), the pull of `f` that has
to download d2, fits and succeeds -/
example : OpFit wHash wReg wPull ∧ (wPull.exec wEnvA wH2).ok = true ∧ Reach wEnvA wReg wH2 :=
  ⟨⟨fun _ _ h => h, by decide +kernel⟩, by decide +kernel, wH2_reach⟩

end OllamaVerif.C12
