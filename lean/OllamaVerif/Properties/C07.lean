/-
  C07 — prompt caching, slot reuse and context shifting never change what the model sees.

  `Coherent`: each slot's sequence in the KV cache holds the slot's recorded inputs, input `k` at position `k` (and, while
  the slot is in use, nothing else).  Every cache operation keeps it (frame rule `coherent_update`, one lemma per operation,
  histories over `Step`), so Forward shows the model record ++ new inputs, as a fresh runner would.  Around it: what
  LoadCacheSlot returns (`Loaded`; llamarunner's too), finding F3, records of other slots untouched, the CanResume ordering.
  Helper lemmas in Proofs/Runner.lean.
-/
import OllamaVerif.Proofs.Runner
import OllamaVerif.Proofs.Basic

namespace OllamaVerif.C07
open OllamaVerif OllamaVerif.Runner

/-! ## slot selection -/

/-- what the slot-selection half of LoadCacheSlot guarantees about its result -/
structure FindSpec (c : Cache) (prompt : List Tok) (c1 : Cache) (i n : Nat) : Prop where
  valid : i < c.slots.length
  free : (getSlot c.slots i).inUse = false
  le : n ≤ prompt.length
  pre : ∀ k, k ≤ n → (getSlot c1.slots i).inputs.take k = prompt.take k
  shape : c1 = c ∨ ∃ li, li < c.slots.length ∧ li ≠ i ∧
            n ≤ (getSlot c.slots li).inputs.length ∧
            c1 = { c with slots := setSlot c.slots i fun s => { s with inputs := (getSlot c.slots li).inputs.take n },
                          cells := copyPrefix c.cells (getSlot c.slots li).id (getSlot c.slots i).id n }

theorem findSlot_spec {c : Cache} {prompt : List Tok} {now : Nat} {c1 : Cache} {i n : Nat}
    (h : findSlot c prompt now = .ok (c1, i, n)) : FindSpec c prompt c1 i n := by
  unfold findSlot at h
  split at h
  · -- findLongestCacheSlot
    unfold findLongest at h
    cases hl : longestGo prompt c.slots 0 none with
    | none => simp [hl] at h
    | some r =>
      obtain ⟨j, hj, rfl, hfree⟩ := Found.from_start (longestGo_spec prompt c.slots 0 none _ hl)
      simp only [hl] at h
      cases h
      have hls := getSlot_eq hj
      exact ⟨hj, hls ▸ hfree, (ccp_le _ _).2, fun k hk => hls ▸ ccp_take _ _ k hk, Or.inl rfl⟩
  · -- findBestCacheSlot
    revert h
    fun_cases findBest c prompt now with
    | case1 | case3 | case4 => nofun
    | case2 li lc hb ls h1 =>
      intro h
      cases h
      obtain ⟨j, hj, e, -⟩ := Found.from_start (bestLongestGo_spec prompt c.slots 0 none _ hb)
      cases e
      simp only [Bool.and_eq_true, Bool.not_eq_true'] at h1
      exact ⟨hj, h1.2, (ccp_le _ _).2, fun k hk => getSlot_eq hj ▸ ccp_take _ _ k hk, Or.inl rfl⟩
    | case5 li lc hb ls _ oi ho os hu h3 =>
      intro h
      cases h
      obtain ⟨j, hj, e, -⟩ := Found.from_start (bestLongestGo_spec prompt c.slots 0 none _ hb)
      cases e
      obtain ⟨j2, hj2, e, hfree⟩ := Found.from_start (oldestGo_spec c.slots 0 now none _ ho)
      cases e
      have hls := getSlot_eq hj
      simp only [Bool.and_eq_true, decide_eq_true_eq, bne_iff_ne, ne_eq] at h3
      refine ⟨hj2, getSlot_eq hj2 ▸ hfree, (ccp_le _ _).2, fun k hk => ?_,
        Or.inr ⟨li, hj, h3.2, hls ▸ (ccp_le _ _).1, rfl⟩⟩
      simp only [ls, getSlot_setSlot_same hj2, hls, List.take_take, Nat.min_eq_left hk]
      exact ccp_take _ _ k hk
    | case6 li lc hb ls _ oi ho os hu h3 =>
      intro h
      cases h
      obtain ⟨j, hj, e, -⟩ := Found.from_start (bestLongestGo_spec prompt c.slots 0 none _ hb)
      cases e
      obtain ⟨j2, hj2, e, hfree⟩ := Found.from_start (oldestGo_spec c.slots 0 now none _ ho)
      cases e
      refine ⟨hj2, getSlot_eq hj2 ▸ hfree, (ccp_le _ _).2, fun k hk => ?_, Or.inl rfl⟩
      simp only [Bool.and_eq_true, decide_eq_true_eq, bne_iff_ne, ne_eq, not_and, Decidable.not_not] at h3
      by_cases hz : countCommonPrefix c.slots[li].inputs prompt > 0
      · rw [← h3 hz, getSlot_eq hj]; exact ccp_take _ _ k hk
      · rw [show k = 0 by omega]; rfl


theorem FindSpec.valid1 {c : Cache} {prompt : List Tok} {c1 : Cache} {i n : Nat}
    (h : FindSpec c prompt c1 i n) : i < c1.slots.length := by
  rcases h.shape with rfl | ⟨li, _, _, _, rfl⟩
  · exact h.valid
  · rw [setSlot_length]; exact h.valid

/-- on bounded cells the first `Remove` cannot fail: `m` is the position resumed -/
theorem loadTail_ok {c : Cache} {i n : Nat} {prompt : List Tok} {now : Nat} {cr : CanRes}
    {c' : Cache} {j : Nat} {rest : List Tok} (h : loadTail c i n prompt now cr = .ok (c', j, rest)) :
    ∃ m cells', m ≤ n ∧ (prompt ≠ [] → n ≤ prompt.length → m < prompt.length) ∧ j = i ∧ rest = prompt.drop m ∧
      c' = { c with cells := cells',
                    slots := setSlot c.slots i fun s => { s with inUse := true, lastUsed := now, inputs := s.inputs.take m } } ∧
      (PosBound c.cells → cells' = (remove c.canShift c.cells (getSlot c.slots i).id (m : Int) maxI32).1 ∧
        (0 < m → cr c.cells (getSlot c.slots i).id m = true)) := by
  revert h
  fun_cases loadTail c i n prompt now cr with
  | case3 => nofun
  | case1 m1 id m2 r hr =>
    intro h
    cases h
    have hm1 : m1 ≤ n := by simp only [m1]; split <;> omega
    have hm2 : m2 ≤ m1 := by simp only [m2]; split <;> omega
    refine ⟨m2, _, by omega, fun hp hn => ?_, rfl, rfl, rfl, fun _ => ⟨rfl, fun hpos => ?_⟩⟩
    · have := List.length_pos_iff.mpr hp
      have : m1 < prompt.length := by simp only [m1]; split <;> omega
      omega
    · by_cases hc : (decide (m1 > 0) && !cr c.cells id m1) = true
      · simp only [m2, if_pos hc] at hpos; omega
      · simp only [m2, if_neg hc] at hpos ⊢
        simpa [hpos] using hc
  | case2 m1 id m2 r e hr r2 hr2 =>
    intro h
    cases h
    refine ⟨0, _, Nat.zero_le _, fun hp _ => List.length_pos_iff.mpr hp, rfl, rfl, rfl, fun hb => ?_⟩
    rw [(remove_clear c.canShift c.cells id (m2 : Int) hb).1] at hr
    cases hr

theorem load_split {c : Cache} {prompt : List Tok} {now : Nat} {cr : CanRes} {c' : Cache} {i : Nat}
    {rest : List Tok} (h : loadCacheSlot c prompt now cr = .ok (c', i, rest)) :
    ∃ c1 i0 n, findSlot c prompt now = .ok (c1, i0, n) ∧ loadTail c1 i0 n prompt now cr = .ok (c', i, rest) := by
  unfold loadCacheSlot at h
  split at h
  · cases h
  · next c1 i0 n hf => exact ⟨c1, i0, n, hf, h⟩

/-- what a successful LoadCacheSlot (of either runner) guarantees; `short`: the new record is no longer than some record
    before, so records stay within the context -/
structure Loaded (c : Cache) (prompt : List Tok) (c' : Cache) (i : Nat) (rest : List Tok) : Prop where
  valid : i < c.slots.length
  free : (getSlot c.slots i).inUse = false
  other : ∀ j, j ≠ i → getSlot c'.slots j = getSlot c.slots j
  split : (getSlot c'.slots i).inputs ++ rest = prompt
  rest_ne : prompt ≠ [] → rest ≠ []
  inUse : (getSlot c'.slots i).inUse = true
  shape : ∃ cells' slots', c' = { c with cells := cells', slots := slots' } ∧ slots'.length = c.slots.length
  short : ∃ j, j < c.slots.length ∧ (getSlot c'.slots i).inputs.length ≤ (getSlot c.slots j).inputs.length

/-- `n'` may be below `n`: llamarunner's `cachePrompt = false` resumes at 0 -/
theorem load_facts {c : Cache} {prompt : List Tok} {now : Nat} {cr : CanRes} {c1 c' : Cache} {i0 n n' i : Nat}
    {rest : List Tok} (hf : findSlot c prompt now = .ok (c1, i0, n)) (hn : n' ≤ n)
    (ht : loadTail c1 i0 n' prompt now cr = .ok (c', i, rest)) : Loaded c prompt c' i rest := by
  have sp := findSlot_spec hf
  obtain ⟨m, cells', hmn, hlt, rfl, rfl, rfl, _⟩ := loadTail_ok ht
  have hi1 := sp.valid1
  refine ⟨sp.valid, sp.free, fun j hj => ?_, ?_, fun hp hnil => ?_, by simp only [getSlot_setSlot_same hi1], ?_, ?_⟩
  · rw [getSlot_setSlot_other hj]
    rcases sp.shape with rfl | ⟨li, _, _, _, rfl⟩
    · rfl
    · exact getSlot_setSlot_other hj
  · rw [getSlot_setSlot_same hi1, sp.pre m (by omega), List.take_append_drop]
  · have := hlt hp (by have := sp.le; omega)
    have : (prompt.drop m).length = 0 := by rw [hnil]; rfl
    simp only [List.length_drop] at this
    omega
  · rcases sp.shape with rfl | ⟨li, _, _, _, rfl⟩ <;> exact ⟨_, _, rfl, by simp only [setSlot_length]⟩
  · simp only [getSlot_setSlot_same hi1, List.length_take]
    rcases sp.shape with rfl | ⟨li, hli, _, _, rfl⟩
    · exact ⟨i, sp.valid, by omega⟩
    · exact ⟨li, hli, by simp only [getSlot_setSlot_same sp.valid, List.length_take]; omega⟩

theorem load_spec {c : Cache} {prompt : List Tok} {now : Nat} {cr : CanRes} {c' : Cache} {i : Nat}
    {rest : List Tok} (h : loadCacheSlot c prompt now cr = .ok (c', i, rest)) : Loaded c prompt c' i rest := by
  obtain ⟨c1, i0, n, hf, ht⟩ := load_split h
  exact load_facts hf (Nat.le_refl _) ht

/-- **A slot in use is never given to a second request.**  Whenever LoadCacheSlot succeeds (either
    policy, any cache contents, any CanResume answer), the slot it returns exists and was not in use. -/
theorem slot_exclusive (c : Cache) (prompt : List Tok) (now : Nat) (cr : CanRes) (c' : Cache) (i : Nat)
    (rest : List Tok) (h : loadCacheSlot c prompt now cr = .ok (c', i, rest)) :
    ∃ hi : i < c.slots.length, c.slots[i].inUse = false :=
  ⟨(load_spec h).valid, getSlot_eq (load_spec h).valid ▸ (load_spec h).free⟩

/-- **No free slot, no load.**  If every slot is in use, LoadCacheSlot does not succeed (the single-user
    policy returns "no available cache slots"; the multi-user policy dereferences nil — F22). -/
theorem no_free_slot_no_load (c : Cache) (prompt : List Tok) (now : Nat) (cr : CanRes)
    (hall : ∀ sl ∈ c.slots, sl.inUse = true) :
    ∀ r, loadCacheSlot c prompt now cr ≠ .ok r := by
  intro r h
  obtain ⟨c', i, rest⟩ := r
  obtain ⟨hi, hfree⟩ := slot_exclusive c prompt now cr c' i rest h
  have := hall _ (List.getElem_mem hi)
  rw [this] at hfree; cases hfree

/-- **The reused prefix is a prefix of the new prompt, and something is left to process.**  After a
    successful LoadCacheSlot the slot's record followed by the remaining inputs is exactly the prompt,
    and at least one input remains. -/
theorem prefix_reuse_sound (c : Cache) (prompt : List Tok) (now : Nat) (cr : CanRes) (c' : Cache) (i : Nat)
    (rest : List Tok) (hp : prompt ≠ []) (h : loadCacheSlot c prompt now cr = .ok (c', i, rest)) :
    (getSlot c'.slots i).inputs ++ rest = prompt ∧ rest ≠ [] ∧ (getSlot c'.slots i).inUse = true :=
  ⟨(load_spec h).split, (load_spec h).rest_ne hp, (load_spec h).inUse⟩


/-! ## Coherent: the cache holds what the records say -/

/-- the entries of the slot's sequence at positions below the record length are exactly the recorded
    inputs, input `k` at position `k` with its key row roped to `k`; a slot in use has nothing beyond
    (a released slot may: the stop handling cuts the record without touching the cache, and the next
    LoadCacheSlot erases from `numPast` on) -/
def SlotOK (cells : List Cell) (sl : Slot) : Prop :=
  ((view cells sl.id).filter (fun x => decide (x.1 < (sl.inputs.length : Int)))).Perm (canon sl.inputs)
  ∧ (sl.inUse = true → ∀ x ∈ view cells sl.id, x.1 < (sl.inputs.length : Int))

def Coherent (c : Cache) : Prop :=
  PosBound c.cells ∧ ∀ j, ∀ hj : j < c.slots.length, c.slots[j].id = j ∧ SlotOK c.cells c.slots[j]

theorem SlotOK.perm (cells cells' : List Cell) (sl : Slot)
    (hp : (view cells' sl.id).Perm (view cells sl.id)) (h : SlotOK cells sl) : SlotOK cells' sl :=
  ⟨(hp.filter _).trans h.1, fun hu x hx => h.2 hu x (hp.mem_iff.mp hx)⟩

theorem coherent_update {c : Cache} (hc : Coherent c) {i : Nat} (hi : i < c.slots.length)
    (f : Slot → Slot) (cells' : List Cell) (hid : (f c.slots[i]).id = i) (hb : PosBound cells')
    (hother : ∀ t, t ≠ i → (view cells' t).Perm (view c.cells t))
    (hself : SlotOK cells' (f c.slots[i])) :
    Coherent { c with slots := setSlot c.slots i f, cells := cells' } := by
  refine ⟨hb, fun j hj => ?_⟩
  have hj' : j < c.slots.length := by simpa [setSlot] using hj
  simp only [setSlot, List.getElem_modify]
  by_cases hij : i = j
  · subst hij; simp only [if_true]; exact ⟨hid, hself⟩
  · simp only [hij, if_false]
    obtain ⟨h1, h2⟩ := hc.2 j hj'
    refine ⟨h1, SlotOK.perm c.cells cells' _ ?_ h2⟩
    rw [h1]; exact hother j (fun h => hij h.symm)

theorem SlotOK.full {cells : List Cell} {sl : Slot} {j : Nat} (h : SlotOK cells sl) (hid : sl.id = j)
    (hu : sl.inUse = true) : (view cells j).Perm (canon sl.inputs) := by
  subst hid
  have := h.1
  rwa [List.filter_eq_self.mpr (fun x hx => by simpa using h.2 hu x hx)] at this

theorem SlotOK.of_full {cells : List Cell} {sl : Slot} {j : Nat} (hid : sl.id = j)
    (h : (view cells j).Perm (canon sl.inputs)) : SlotOK cells sl := by
  subst hid
  have hall : ∀ x ∈ view cells sl.id, x.1 < (sl.inputs.length : Int) := fun x hx => by
    have := canonFrom_mem 0 _ x (h.mem_iff.mp hx)
    omega
  exact ⟨by rwa [List.filter_eq_self.mpr (fun x hx => by simpa using hall x hx)], fun _ => hall⟩

theorem cut_perm (V : List (Int × Tok × Int)) (inputs : List Tok) (n : Nat) (hn : n ≤ inputs.length)
    (h : (V.filter (fun x => decide (x.1 < (inputs.length : Int)))).Perm (canon inputs)) :
    (V.filter (fun x => decide (x.1 < (n : Int)))).Perm (canon (inputs.take n)) := by
  have h2 := h.filter (fun x => decide (x.1 < (n : Int)))
  rw [canon_filter_lt, List.filter_filter] at h2
  rwa [List.filter_congr (q := fun x => decide (x.1 < (n : Int))) fun x _ => by
    rw [Bool.eq_iff_iff]; simp only [Bool.and_eq_true, decide_eq_true_eq]; omega] at h2

theorem SlotOK.cut {cells cells' : List Cell} {sl sl' : Slot} {js j n : Nat} (h : SlotOK cells sl) (hids : sl.id = js)
    (hn : n ≤ sl.inputs.length) (hin : sl'.inputs = sl.inputs.take n) (hid : sl'.id = j)
    (hV : view cells' j = (view cells js).filter (fun x => decide (x.1 < (n : Int)))) : SlotOK cells' sl' := by
  subst hid hids
  have hl : (sl'.inputs.length : Int) = n := by rw [hin, List.length_take]; omega
  unfold SlotOK
  rw [hl, hV, hin, List.filter_filter]
  simp only [Bool.and_self]
  exact ⟨cut_perm _ _ n hn h.1, fun _ x hx => by simpa using (List.mem_filter.mp hx).2⟩

theorem take_length_take {α} (l : List α) (k : Nat) : l.take (l.take k).length = l.take k := by
  rw [List.length_take, List.take_eq_take_iff.mpr]
  omega

theorem SlotOK.release_cut {cells : List Cell} {sl : Slot} (h : SlotOK cells sl) (k : Nat) :
    SlotOK cells { sl with inputs := sl.inputs.take k, inUse := false } := by
  refine ⟨?_, fun hh => by cases hh⟩
  have := cut_perm _ _ (sl.inputs.take k).length (by rw [List.length_take]; omega) h.1
  rwa [take_length_take] at this

/-- the fork of findBestCacheSlot (and the no-fork cases) keep the cache coherent -/
theorem coherent_find {c : Cache} (hc : Coherent c) {prompt : List Tok} {c1 : Cache} {i n : Nat}
    (sp : FindSpec c prompt c1 i n) : Coherent c1 := by
  rcases sp.shape with rfl | ⟨li, hli, hne, hnl, rfl⟩
  · exact hc
  · have hi := sp.valid
    obtain ⟨hidl, hokl⟩ := hc.2 li hli
    obtain ⟨hidi, _⟩ := hc.2 i hi
    rw [getSlot_eq hli] at hnl
    rw [getSlot_eq hli, getSlot_eq hi, hidl, hidi]
    apply coherent_update hc hi _ _ hidi (copy_bound _ _ _ _ hc.1)
    · intro t ht; rw [copy_view_other _ _ _ _ ht]
    · exact SlotOK.cut hokl hidl hnl rfl hidi (copy_view_dst li i (n : Int) hne c.cells)

theorem coherent_loadTail {c : Cache} (hc : Coherent c) {i n : Nat} (hi : i < c.slots.length)
    (hn : n ≤ (getSlot c.slots i).inputs.length) {prompt : List Tok} {now : Nat} {cr : CanRes}
    {c' : Cache} {j : Nat} {rest : List Tok} (h : loadTail c i n prompt now cr = .ok (c', j, rest)) :
    Coherent c' := by
  obtain ⟨m, cells', hmn, _, _, _, rfl, hcells⟩ := loadTail_ok h
  obtain ⟨rfl, _⟩ := hcells hc.1
  obtain ⟨hid, hok⟩ := hc.2 i hi
  rw [getSlot_eq hi] at hn ⊢
  rw [hid]
  apply coherent_update hc hi _ _ hid (remove_bound _ _ _ _ _ hc.1 (Int.natCast_nonneg _) (Or.inl rfl))
  · intro t ht; rw [remove_other _ _ _ _ ht]
  · exact SlotOK.cut hok hid (Nat.le_trans hmn hn) rfl hid (remove_clear c.canShift c.cells i (m : Int) hc.1).2

/-- one token batch of one sequence stored by Forward and appended to the record -/
def forward (c : Cache) (i : Nat) (new : List Tok) (loc : Nat) : Cache :=
  let sl := getSlot c.slots i
  { c with cells := store c.cells loc (mkBatch sl.id sl.inputs.length new),
           slots := setSlot c.slots i fun s => { s with inputs := s.inputs ++ new } }

theorem store_full (cells : List Cell) (loc : Nat) (batch : List BTok) (j : Nat) (inputs new : List Tok)
    (hfree : ∀ c ∈ (cells.drop loc).take batch.length, c.seqs = [])
    (hv : view (batch.map BTok.cell) j = canonFrom inputs.length new)
    (hV : (view cells j).Perm (canon inputs)) :
    (view (store cells loc batch) j).Perm (canon (inputs ++ new)) := by
  have := store_view cells loc batch j hfree
  rw [hv] at this
  rw [canon, canonFrom_append, Nat.zero_add]
  exact this.trans (List.Perm.append_right _ hV)

theorem coherent_forward (c : Cache) (hc : Coherent c) (i : Nat) (hi : i < c.slots.length)
    (new : List Tok) (loc : Nat) (hu : (getSlot c.slots i).inUse = true)
    (hfree : ∀ x ∈ (c.cells.drop loc).take new.length, x.seqs = [])
    (hpos : ((getSlot c.slots i).inputs.length : Int) + new.length < maxI32) :
    Coherent (forward c i new loc) := by
  obtain ⟨hid, hok⟩ := hc.2 i hi
  unfold forward
  simp only
  rw [getSlot_eq hi] at hu hpos ⊢
  rw [hid]
  have hfree' : ∀ x ∈ (c.cells.drop loc).take (mkBatch i c.slots[i].inputs.length new).length, x.seqs = [] := by
    rw [mkBatch_length]; exact hfree
  apply coherent_update hc hi _ _ hid
  · apply store_bound _ _ _ hc.1
    intro t ht
    have := mkBatch_pos _ _ _ t ht
    omega
  · intro t ht
    have := store_view c.cells loc (mkBatch i c.slots[i].inputs.length new) t hfree'
    rw [mkBatch_view] at this
    simpa [ht] using this
  · exact SlotOK.of_full hid (store_full _ _ _ _ _ _ hfree' (by rw [mkBatch_view, if_pos rfl]) (hok.full hid hu))

theorem shift_ok_inv {c : Cache} {i keep : Nat} {c' : Cache} (h : shiftCacheSlot c i keep = .ok c') :
    keep < c.numCtx ∧ ∃ d, shiftDiscard c.numCtx (getSlot c.slots i).inputs.length keep = d ∧
      ((d = 0 ∧ c' = c) ∨
       (d ≠ 0 ∧ (remove c.canShift c.cells (getSlot c.slots i).id keep (keep + d)).2 = none ∧
        c' = { c with cells := (remove c.canShift c.cells (getSlot c.slots i).id keep (keep + d)).1,
                      slots := setSlot c.slots i fun s => { s with
                        inputs := (getSlot c.slots i).inputs.take keep ++ (getSlot c.slots i).inputs.drop (keep + d) } })) := by
  revert h
  fun_cases shiftCacheSlot c i keep with
  | case1 | case3 => nofun
  | case2 hk sl d hd => intro h; cases h; exact ⟨by omega, _, rfl, Or.inl ⟨hd, rfl⟩⟩
  | case4 hk sl d hd ni r hr => intro h; cases h; exact ⟨by omega, _, rfl, Or.inr ⟨hd, hr, rfl⟩⟩

theorem shift_re_inv {c : Cache} {i keep : Nat} {c' : Cache} {ins : List Tok}
    (h : shiftCacheSlot c i keep = .reprocess c' ins) :
    keep < c.numCtx ∧ ∃ d, shiftDiscard c.numCtx (getSlot c.slots i).inputs.length keep = d ∧ d ≠ 0 ∧
      c' = { c with cells := (remove c.canShift (remove c.canShift c.cells (getSlot c.slots i).id keep (keep + d)).1
                                (getSlot c.slots i).id 0 c.resetEnd).1,
                    slots := setSlot c.slots i fun s => { s with inputs := [] } } := by
  revert h
  fun_cases shiftCacheSlot c i keep with
  | case1 | case2 | case4 => nofun
  | case3 hk sl d hd => intro h; exact ⟨by omega, _, rfl, hd, (ShiftRes.reprocess.inj h).1.symm⟩

/-- ShiftCacheSlot keeps the cache coherent: always on its success path; on its failure path when the
    reset really clears the sequence (`resetEnd = MaxInt32`, the repaired source) -/
theorem coherent_shift (c : Cache) (hc : Coherent c) (i keep : Nat) (hi : i < c.slots.length)
    (hu : (getSlot c.slots i).inUse = true)
    (hlen : ((getSlot c.slots i).inputs.length : Int) < maxI32) (c' : Cache)
    (h : shiftCacheSlot c i keep = .ok c' ∨ (c.resetEnd = maxI32 ∧ ∃ ins, shiftCacheSlot c i keep = .reprocess c' ins)) :
    Coherent c' := by
  obtain ⟨hid, hok⟩ := hc.2 i hi
  have hbnd : ∀ d : Nat, PosBound (remove c.canShift c.cells i (keep : Int) ((keep : Int) + (d : Int))).1 := fun d =>
    remove_bound _ _ _ _ _ hc.1 (Int.natCast_nonneg _) (Or.inr (by omega))
  rcases h with h | ⟨hre, ins, h⟩
  · obtain ⟨hk, d, hd, h⟩ := shift_ok_inv h
    rw [getSlot_eq hi] at hu hlen hd h
    rw [hid] at h
    rcases h with ⟨_, rfl⟩ | ⟨hd0, hr, rfl⟩
    · exact hc
    · have hle := shiftDiscard_le hk hd hd0
      apply coherent_update hc hi _ _ hid (hbnd d)
      · intro t ht; rw [remove_other _ _ _ _ ht]
      · refine SlotOK.of_full hid ?_
        rw [remove_shift_self _ _ _ _ _ (by unfold maxI32 at *; omega) hr,
          show ((keep : Int) - ((keep : Int) + (d : Int))) = -(d : Int) by omega, ← canon_shift _ _ _ hle]
        exact (hok.full hid hu).filterMap _
  · obtain ⟨hk, d, hd, hd0, rfl⟩ := shift_re_inv h
    rw [getSlot_eq hi, hid, hre]
    apply coherent_update hc hi _ _ hid (remove_bound _ _ _ _ _ (hbnd d) (by omega) (Or.inl rfl))
    · intro t ht; rw [remove_other _ _ _ _ ht, remove_other _ _ _ _ ht]
    · refine SlotOK.of_full hid ?_
      rw [(remove_clear c.canShift _ i (0 : Int) (hbnd d)).2, List.filter_eq_nil_iff.mpr]
      · exact List.Perm.refl _
      · intro x hx
        have := (view_pos_bound _ i (hbnd d) x hx).1
        simp only [decide_eq_true_eq]; omega

/-- the end of a request: the stop handling cuts the record to `k` inputs (`k ≥ len`: plain release)
    and the slot is released; the KV cache is not touched -/
def finish (c : Cache) (i k : Nat) : Cache :=
  { c with slots := setSlot c.slots i fun s => { s with inputs := s.inputs.take k, inUse := false } }

theorem coherent_finish (c : Cache) (hc : Coherent c) (i k : Nat) (hi : i < c.slots.length) :
    Coherent (finish c i k) := by
  obtain ⟨hid, hok⟩ := hc.2 i hi
  exact coherent_update hc hi (fun s => { s with inputs := s.inputs.take k, inUse := false }) c.cells hid hc.1
    (fun t _ => List.Perm.refl _) (hok.release_cut k)

/-! ## request histories as sequences of cache operations -/

/-- One thing the runner does to (slot records, KV cache).  `allowFail` says whether a ShiftCacheSlot
    that takes its failure path (ErrReprocessInputs) is part of the alphabet. -/
inductive Step (allowFail : Bool) : Cache → Cache → Prop
  /-- LoadCacheSlot for a new request (any prompt, time, CanResume answer, either policy) -/
  | load (c : Cache) (prompt : List Tok) (now : Nat) (cr : CanRes) (c' : Cache) (i : Nat) (rest : List Tok) :
      loadCacheSlot c prompt now cr = .ok (c', i, rest) → Step allowFail c c'
  /-- Forward of `new` for the request owning slot `i` (positions = record length + k, any free
      placement), followed by the append to the record -/
  | forward (c : Cache) (i : Nat) (new : List Tok) (loc : Nat) :
      i < c.slots.length → (getSlot c.slots i).inUse = true →
      (∀ x ∈ (c.cells.drop loc).take new.length, x.seqs = []) →
      ((getSlot c.slots i).inputs.length : Int) + new.length < maxI32 → Step allowFail c (forward c i new loc)
  /-- ShiftCacheSlot, success path (also `discard = 0`) -/
  | shiftOk (c : Cache) (i keep : Nat) (c' : Cache) :
      i < c.slots.length → (getSlot c.slots i).inUse = true →
      ((getSlot c.slots i).inputs.length : Int) < maxI32 →
      shiftCacheSlot c i keep = .ok c' → Step allowFail c c'
  /-- ShiftCacheSlot, failure path: the sequence is reset and `ins` is handed back for reprocessing -/
  | shiftFailed (c : Cache) (i keep : Nat) (c' : Cache) (ins : List Tok) :
      allowFail = true →
      i < c.slots.length → (getSlot c.slots i).inUse = true →
      ((getSlot c.slots i).inputs.length : Int) < maxI32 →
      shiftCacheSlot c i keep = .reprocess c' ins → Step allowFail c c'
  /-- end of a request (EOS, numPredict, stop string with its cut of the record) -/
  | finish (c : Cache) (i k : Nat) : i < c.slots.length → Step allowFail c (finish c i k)
  /-- defrag: any relocation that keeps every sequence's entries (C06's obligation) -/
  | relocate (c : Cache) (cells' : List Cell) :
      (∀ s, (view cells' s).Perm (view c.cells s)) → PosBound cells' → Step allowFail c { c with cells := cells' }

inductive Steps (allowFail : Bool) : Cache → Cache → Prop
  | refl (c : Cache) : Steps allowFail c c
  | tail (a b c : Cache) : Steps allowFail a b → Step allowFail b c → Steps allowFail a c

theorem shift_resetEnd (c : Cache) (i keep : Nat) (c' : Cache)
    (h : shiftCacheSlot c i keep = .ok c' ∨ ∃ ins, shiftCacheSlot c i keep = .reprocess c' ins) :
    c'.resetEnd = c.resetEnd := by
  rcases h with h | ⟨ins, h⟩
  · obtain ⟨_, d, _, ⟨_, rfl⟩ | ⟨_, _, rfl⟩⟩ := shift_ok_inv h <;> rfl
  · obtain ⟨_, d, _, _, rfl⟩ := shift_re_inv h; rfl

theorem load_coherent {c : Cache} (hc : Coherent c) {prompt : List Tok} {now : Nat} {cr : CanRes} {c' : Cache}
    {i : Nat} {rest : List Tok} (h : loadCacheSlot c prompt now cr = .ok (c', i, rest)) : Coherent c' := by
  obtain ⟨c1, i0, n, hf, ht⟩ := load_split h
  have sp := findSlot_spec hf
  have hn : n ≤ (getSlot c1.slots i0).inputs.length := by
    have h2 := congrArg List.length (sp.pre n (Nat.le_refl _))
    simp only [List.length_take] at h2
    have := sp.le
    omega
  exact coherent_loadTail (coherent_find hc sp) sp.valid1 hn ht

/-- one step preserves coherence; a failed shift does only when its reset clears the sequence -/
theorem coherent_step (af : Bool) (c c' : Cache) (hc : Coherent c) (hs : Step af c c')
    (hg : af = true → c.resetEnd = maxI32) : Coherent c' ∧ c'.resetEnd = c.resetEnd := by
  match hs with
  | .load _ prompt now cr _ i rest h =>
    refine ⟨load_coherent hc h, ?_⟩
    obtain ⟨_, _, rfl, _⟩ := (load_spec h).shape
    rfl
  | .forward _ i new loc hi hu hfree hpos => exact ⟨coherent_forward c hc i hi new loc hu hfree hpos, rfl⟩
  | .shiftOk _ i keep _ hi hu hlen h =>
    exact ⟨coherent_shift c hc i keep hi hu hlen c' (Or.inl h), shift_resetEnd c i keep c' (Or.inl h)⟩
  | .shiftFailed _ i keep _ ins haf hi hu hlen h =>
    exact ⟨coherent_shift c hc i keep hi hu hlen c' (Or.inr ⟨hg haf, ins, h⟩),
      shift_resetEnd c i keep c' (Or.inr ⟨ins, h⟩)⟩
  | .finish _ i k hi => exact ⟨coherent_finish c hc i k hi, rfl⟩
  | .relocate _ cells' hp hb =>
    refine ⟨⟨hb, fun j hj => ?_⟩, rfl⟩
    obtain ⟨h1, h2⟩ := hc.2 j hj
    exact ⟨h1, SlotOK.perm c.cells cells' _ (hp _) h2⟩

theorem steps_coherent {af : Bool} {c0 c : Cache} (hs : Steps af c0 c) (h0 : Coherent c0)
    (hg : af = true → c0.resetEnd = maxI32) : Coherent c ∧ c.resetEnd = c0.resetEnd := by
  induction hs with
  | refl => exact ⟨h0, rfl⟩
  | tail b c _ hstep ih =>
    obtain ⟨h1, h2⟩ := coherent_step af b c ih.1 hstep fun h => ih.2.trans (hg h)
    exact ⟨h1, h2.trans ih.2⟩

/-- **Coherent is an invariant of every request history (repaired failure path).**  For every
    configuration (slots, context size, policy, with or without shiftFn) and every finite sequence of
    loads, forwards, successful AND failed context shifts, request ends and relocations, starting from
    any coherent cache whose failed-shift reset is `Remove(id, 0, MaxInt32)`: the cache stays coherent. -/
theorem coherent_invariant (c0 c : Cache) (h0 : Coherent c0) (hfix : c0.resetEnd = maxI32)
    (hs : Steps true c0 c) : Coherent c := (steps_coherent hs h0 fun _ => hfix).1

/-- **Partial (pinned source, before commit f8dfba76a: `Remove(id, 0, -1)`; or any other reset).**  Guard: no ShiftCacheSlot of
    the history takes its failure path (decidable per step: `shiftCacheSlot c i keep` is not a
    `.reprocess`).  What is missing is exactly the failure path: see `F3_pinned_reset_leaves_stale_entries`. -/
theorem coherent_invariant_partial (c0 c : Cache) (h0 : Coherent c0) (hs : Steps false c0 c) : Coherent c :=
  (steps_coherent hs h0 nofun).1

/-- a brand-new runner is coherent (plain or sliding-window cache) -/
theorem coherent_init (resetEnd : Int) (parallel ctx batch : Nat) (multi canShift : Bool) (vocab eosMod : Nat)
    (window : Option Nat := none) (perSeqBatch : Bool := false) :
    Coherent (mkServer resetEnd parallel ctx batch multi canShift vocab eosMod window perSeqBatch).cache := by
  unfold mkServer
  generalize capacityV perSeqBatch parallel ctx batch window = cap
  refine ⟨?_, fun j hj => ?_⟩
  · intro x hx
    simp only [List.mem_replicate] at hx
    rw [hx.2]; unfold Cell.free maxI32; simp
  · simp only [List.length_map, List.length_range] at hj
    simp only [List.getElem_map, List.getElem_range]
    refine ⟨trivial, ?_, ?_⟩
    · have : view (List.replicate cap Cell.free) j = [] := by
        apply view_free
        intro x hx
        simp only [List.mem_replicate] at hx
        rw [hx.2]; rfl
      simp only [this]; exact List.Perm.refl _
    · intro h; cases h

/-! ## what the model sees -/

theorem visible_eq_view (cells : List Cell) (s : Nat) (p : Int) :
    visible cells s p = ((view cells s).filter (fun x => decide (x.1 ≤ p))).map (fun x => (x.2.1, x.2.2)) := by
  unfold visible view
  rw [List.filter_map, List.filter_filter, List.map_map]
  congr 2
  funext c
  exact Bool.and_comm ..

/-- the history exposed to a batch token at position `p`, for a record `eff` stored coherently -/
def idealHistory (eff : List Tok) (p : Int) : List (Tok × Int) :=
  ((canon eff).filter (fun x => decide (x.1 ≤ p))).map (fun x => (x.2.1, x.2.2))

theorem SlotOK.visible {cells : List Cell} {sl : Slot} {j : Nat} (h : SlotOK cells sl) (hid : sl.id = j)
    (hu : sl.inUse = true) (p : Int) : (visible cells j p).Perm (idealHistory sl.inputs p) := by
  rw [visible_eq_view]
  exact ((h.full hid hu).filter _).map _

/-- In a coherent cache, what Forward exposes to the tokens it stores for slot `i` is exactly the
    effective input (record ++ new) up to the token's position, each input at its own position —
    whatever prefixes were reused, forked or shifted before. -/
theorem forward_exposes (c : Cache) (hc : Coherent c) (i : Nat) (hi : i < c.slots.length)
    (new : List Tok) (loc : Nat) (hu : (getSlot c.slots i).inUse = true)
    (hfree : ∀ x ∈ (c.cells.drop loc).take new.length, x.seqs = [])
    (hpos : ((getSlot c.slots i).inputs.length : Int) + new.length < maxI32) (p : Int) :
    (visible (forward c i new loc).cells i p).Perm (idealHistory ((getSlot c.slots i).inputs ++ new) p) := by
  have hi' : i < (forward c i new loc).slots.length := by simp [forward, setSlot, hi]
  obtain ⟨hid', hok'⟩ := (coherent_forward c hc i hi new loc hu hfree hpos).2 i hi'
  have hslot : (forward c i new loc).slots[i] = { c.slots[i] with inputs := c.slots[i].inputs ++ new } := by
    simp [forward, setSlot]
  rw [getSlot_eq hi] at hu ⊢
  rw [hslot] at hid' hok'
  exact hok'.visible hid' hu p

theorem forward_exposes_fresh (fresh : Cache) (hf : Coherent fresh) (i : Nat) (hif : i < fresh.slots.length)
    (eff : List Tok) (locf : Nat) (huf : (getSlot fresh.slots i).inUse = true)
    (hempty : (getSlot fresh.slots i).inputs = [])
    (hfreef : ∀ x ∈ (fresh.cells.drop locf).take eff.length, x.seqs = [])
    (hpos : (eff.length : Int) < maxI32) (p : Int) :
    (visible (forward fresh i eff locf).cells i p).Perm (idealHistory eff p) := by
  have h := forward_exposes fresh hf i hif eff locf huf hfreef
    (by rw [hempty]; simp only [List.length_nil]; omega) p
  rwa [hempty, List.nil_append] at h

/-- **Fresh-runner equivalence (stated on what the model is shown).**  Take any coherent cache `c`
    (reached through any history: reuse, fork, shifts) and any coherent `fresh` cache in which slot
    `i`'s record is empty (a brand-new runner, or one that erased everything).  Processing `new` on top
    of the record in `c` exposes to every batch token, up to order, exactly the key rows that `fresh`
    exposes when it processes the whole effective input `record ++ new` from position 0.  The scripted
    model's next token is a function of this multiset, so the generated tokens coincide. After a context
    shift the effective input is the shifted record (coherent_invariant covers the shift itself). -/
theorem fresh_equiv (c fresh : Cache) (hc : Coherent c) (hf : Coherent fresh) (i : Nat)
    (hi : i < c.slots.length) (hif : i < fresh.slots.length)
    (new : List Tok) (loc locf : Nat)
    (hu : (getSlot c.slots i).inUse = true) (huf : (getSlot fresh.slots i).inUse = true)
    (hempty : (getSlot fresh.slots i).inputs = [])
    (hfree : ∀ x ∈ (c.cells.drop loc).take new.length, x.seqs = [])
    (hfreef : ∀ x ∈ (fresh.cells.drop locf).take ((getSlot c.slots i).inputs ++ new).length, x.seqs = [])
    (hpos : ((getSlot c.slots i).inputs.length : Int) + new.length < maxI32) (p : Int) :
    (visible (forward c i new loc).cells i p).Perm
      (visible (forward fresh i ((getSlot c.slots i).inputs ++ new) locf).cells i p) :=
  (forward_exposes c hc i hi new loc hu hfree hpos p).trans
    (forward_exposes_fresh fresh hf i hif _ locf huf hempty hfreef (by simp only [List.length_append]; omega) p).symm

/-- the scripted language model only depends on the multiset of exposed key rows -/
theorem nextTok_perm (vocab eosMod : Nat) (l1 l2 : List (Tok × Int)) (h : l1.Perm l2) :
    nextTok vocab eosMod l1 = nextTok vocab eosMod l2 := by
  unfold nextTok
  rw [h.foldl_eq' (fun x _ y _ z => by omega)]

/-- **Fresh-runner equivalence, token level.**  The token the model produces for a batch position in
    the cached run equals the token it produces in a fresh runner that processes the whole effective
    input from position 0 (hypotheses as in `fresh_equiv`). -/
theorem fresh_equiv_tokens (vocab eosMod : Nat) (c fresh : Cache) (hc : Coherent c) (hf : Coherent fresh) (i : Nat)
    (hi : i < c.slots.length) (hif : i < fresh.slots.length)
    (new : List Tok) (loc locf : Nat)
    (hu : (getSlot c.slots i).inUse = true) (huf : (getSlot fresh.slots i).inUse = true)
    (hempty : (getSlot fresh.slots i).inputs = [])
    (hfree : ∀ x ∈ (c.cells.drop loc).take new.length, x.seqs = [])
    (hfreef : ∀ x ∈ (fresh.cells.drop locf).take ((getSlot c.slots i).inputs ++ new).length, x.seqs = [])
    (hpos : ((getSlot c.slots i).inputs.length : Int) + new.length < maxI32) (p : Int) :
    nextTok vocab eosMod (visible (forward c i new loc).cells i p) =
      nextTok vocab eosMod (visible (forward fresh i ((getSlot c.slots i).inputs ++ new) locf).cells i p) :=
  nextTok_perm _ _ _ _ (fresh_equiv c fresh hc hf i hi hif new loc locf hu huf hempty hfree hfreef hpos p)

/-! ## fresh-runner equivalence chained over a generation (no overflow in between) -/

/-- greedy generation for the request owning slot `i`: Forward of `ins` (any free placement), the token for the
    last position is sampled and fed back as the next input; `out` are the tokens sampled -/
inductive Gen (vocab eosMod : Nat) (i : Nat) : Cache → List Tok → List Tok → Prop
  | nil (c : Cache) (ins : List Tok) : Gen vocab eosMod i c ins []
  | cons (c : Cache) (ins : List Tok) (loc : Nat) (t : Tok) (out : List Tok) :
      ins ≠ [] → i < c.slots.length → (getSlot c.slots i).inUse = true →
      (∀ x ∈ (c.cells.drop loc).take ins.length, x.seqs = []) →
      ((getSlot c.slots i).inputs.length : Int) + ins.length < maxI32 →
      t = nextTok vocab eosMod (visible (forward c i ins loc).cells i
            (((getSlot c.slots i).inputs.length + ins.length - 1 : Nat) : Int)) →
      Gen vocab eosMod i (forward c i ins loc) [t] out → Gen vocab eosMod i c ins (t :: out)

/-- what the scripted model generates for an effective input, with no cache at all -/
def genIdeal (vocab eosMod : Nat) : List Tok → Nat → List Tok
  | _, 0 => []
  | eff, n + 1 =>
    let t := nextTok vocab eosMod (idealHistory eff ((eff.length - 1 : Nat) : Int))
    t :: genIdeal vocab eosMod (eff ++ [t]) n

theorem forward_record (c : Cache) (i : Nat) (hi : i < c.slots.length) (new : List Tok) (loc : Nat) :
    (getSlot (forward c i new loc).slots i).inputs = (getSlot c.slots i).inputs ++ new := by
  unfold forward
  simp only [getSlot_setSlot_same hi]

/-- **Generation from any coherent cache depends only on the effective input**: all tokens of a greedy
    generation (each fed back through the cache) are those of `genIdeal (record ++ ins)`. -/
theorem gen_ideal (vocab eosMod i : Nat) (c : Cache) (ins out : List Tok) (h : Gen vocab eosMod i c ins out) :
    Coherent c → out = genIdeal vocab eosMod ((getSlot c.slots i).inputs ++ ins) out.length := by
  induction h with
  | nil c ins => intro _; rfl
  | cons c ins loc t out hne hi hu hfree hpos ht _ ih =>
    intro hc
    have hexp := forward_exposes c hc i hi ins loc hu hfree hpos
      (((getSlot c.slots i).inputs.length + ins.length - 1 : Nat) : Int)
    have hlen : ((getSlot c.slots i).inputs ++ ins).length - 1 = (getSlot c.slots i).inputs.length + ins.length - 1 := by
      simp only [List.length_append]
    have ht' : t = nextTok vocab eosMod (idealHistory ((getSlot c.slots i).inputs ++ ins)
        ((((getSlot c.slots i).inputs ++ ins).length - 1 : Nat) : Int)) := by
      rw [ht, hlen]; exact nextTok_perm _ _ _ _ hexp
    have hc' := coherent_forward c hc i hi ins loc hu hfree hpos
    have := ih hc'
    rw [forward_record c i hi] at this
    simp only [List.length_cons, genIdeal]
    rw [← ht', ← this]

/-- **Fresh-runner equivalence over a whole generation.**  A request that resumes on a cached prefix (any
    coherent cache: reuse, fork, earlier shifts) and a fresh runner whose slot record is empty and which processes
    the whole effective input `record ++ rest` generate the same tokens, as long as neither overflows the context
    in between (an overflow changes the effective input by a shift; the shift itself is covered by the invariant). -/
theorem fresh_equiv_generation (vocab eosMod i : Nat) (c fresh : Cache) (rest out out' : List Tok)
    (hc : Coherent c) (hf : Coherent fresh) (hempty : (getSlot fresh.slots i).inputs = [])
    (hg : Gen vocab eosMod i c rest out)
    (hg' : Gen vocab eosMod i fresh ((getSlot c.slots i).inputs ++ rest) out') (hlen : out.length = out'.length) :
    out = out' := by
  have h1 := gen_ideal vocab eosMod i c rest out hg hc
  have h2 := gen_ideal vocab eosMod i fresh _ out' hg' hf
  rw [hempty, List.nil_append, ← hlen] at h2
  rw [h1, h2]

def genDemoC : Cache :=
  match loadCacheSlot (mkServer maxI32 2 8 4 true true 5 0).cache [1, 2, 3] 1 (fun _ _ _ => true) with
  | .ok (c, _, _) => c
  | .error _ => (mkServer maxI32 2 8 4 true true 5 0).cache

/-- non-vacuity: the new runner generates two tokens through the cache (slot 0, prompt at cells 0–2, then cell 3) -/
example : Gen 5 0 0 genDemoC [1, 2, 3] (genIdeal 5 0 [1, 2, 3] 2) := by
  show Gen 5 0 0 genDemoC [1, 2, 3] [_, _]
  refine .cons _ _ 0 _ _ (by decide) (by decide) (by decide) (by decide) (by decide) (by decide) ?_
  refine .cons _ _ 3 _ _ (by decide) (by decide) (by decide) (by decide) (by decide) (by decide) ?_
  exact .nil _ _

/-! ## finding F3: the pinned failure path of ShiftCacheSlot -/

/-- One slot, context 4, no shiftFn.  A 4-input prompt fills the context; the shift fails
    (ErrNotSupported after the metadata was already moved); the reset `Remove(id, 0, resetEnd)` runs; the
    two kept inputs are reprocessed.  Returns what the second reprocessed token (position 1) is shown,
    and the length of the record. -/
def f3Trace (resetEnd : Int) : List (Tok × Int) × Nat :=
  let c0 := (mkServer resetEnd 1 4 1 false false 3 0).cache
  match loadCacheSlot c0 [1, 1, 1, 1] 1 (fun _ _ _ => true) with
  | .ok (c1, i, rest) =>
    let c2 := forward c1 i rest 0
    match shiftCacheSlot c2 i 0 with
    | .reprocess c3 ins =>
      let c4 := forward c3 i ins 0
      (visible c4.cells 0 1, (getSlot c4.slots i).inputs.length)
    | _ => ([], 99)
  | _ => ([], 98)

/-- **Witness of finding F3.**  With the pinned reset `Remove(id, 0, -1)` nothing is removed and every
    position moves up by one: the reprocessed token at position 1 is shown three entries (one stale key
    row, still roped to position 2) although the record holds two inputs.  With `math.MaxInt32` it is
    shown exactly the two recorded inputs. -/
theorem F3_pinned_reset_leaves_stale_entries :
    f3Trace (-1) = ([(1, 0), (1, 1), (1, 2)], 2) ∧ f3Trace maxI32 = ([(1, 0), (1, 1)], 2) := by decide +kernel

/-- non-vacuity: the hypotheses of the invariant and of `forward_exposes` are met by a real history
    (new runner, load, forward of the whole prompt) -/
example : ∃ c1 i rest,
    loadCacheSlot (mkServer maxI32 2 8 4 true true 5 0).cache [1, 2, 3] 1 (fun _ _ _ => true) = .ok (c1, i, rest) ∧
    Steps true (mkServer maxI32 2 8 4 true true 5 0).cache (forward c1 i rest 0) := by
  refine ⟨_, _, _, rfl, ?_⟩
  refine .tail _ _ _ (.tail _ _ _ (.refl _) (.load _ [1, 2, 3] 1 (fun _ _ _ => true) _ _ _ rfl)) (.forward _ _ _ _ ?_ ?_ ?_ ?_)
  · decide
  · decide
  · decide
  · decide

/-! ## records of different slots never share storage

  In the model a record is a value, so this holds by construction; it is stated because the Go code
  can break it (a fork that aliases `longestSlot.Inputs[:longest]` instead of copying it lets the forked
  request's appends overwrite the source slot's record).  The tie is the
  `record-aliasing` monitors on the real slots of both runners and the exact L1 comparison of every
  record after every event. -/

/-- Forward + append on slot `i` leaves every other slot (record, ownership, age) unchanged. -/
theorem forward_other_records (c : Cache) (i j : Nat) (new : List Tok) (loc : Nat) (h : j ≠ i) :
    getSlot (forward c i new loc).slots j = getSlot c.slots j := by
  unfold forward; exact getSlot_setSlot_other h

/-- LoadCacheSlot (either policy, fork included: the fork's destination IS the returned slot) leaves
    every other slot unchanged — in particular the source of a fork keeps its whole record. -/
theorem load_other_records (c : Cache) (prompt : List Tok) (now : Nat) (cr : CanRes) (c' : Cache) (i : Nat)
    (rest : List Tok) (h : loadCacheSlot c prompt now cr = .ok (c', i, rest)) (j : Nat) (hj : j ≠ i) :
    getSlot c'.slots j = getSlot c.slots j := (load_spec h).other j hj

/-- ShiftCacheSlot (success or failure path) leaves every other slot unchanged. -/
theorem shift_other_records (c : Cache) (i keep : Nat) (c' : Cache)
    (h : shiftCacheSlot c i keep = .ok c' ∨ ∃ ins, shiftCacheSlot c i keep = .reprocess c' ins)
    (j : Nat) (hj : j ≠ i) : getSlot c'.slots j = getSlot c.slots j := by
  rcases h with h | ⟨ins, h⟩
  · obtain ⟨_, d, _, ⟨_, rfl⟩ | ⟨_, _, rfl⟩⟩ := shift_ok_inv h
    · rfl
    · exact getSlot_setSlot_other hj
  · obtain ⟨_, d, _, _, rfl⟩ := shift_re_inv h
    exact getSlot_setSlot_other hj

/-! ## runner/llamarunner/cache.go -/

theorem llLoad_spec {c : Cache} {prompt : List Tok} {now : Nat} {cp : Bool} {c' : Cache} {i : Nat}
    {rest : List Tok} (h : llLoad c prompt now cp = .ok (c', i, rest)) : Loaded c prompt c' i rest := by
  unfold llLoad at h
  split at h
  · cases h
  · next c1 i0 n hf => exact load_facts hf (by split <;> omega) h

/-- llamarunner's LoadCacheSlot (records only) leaves every other slot unchanged -/
theorem llLoad_other_records (c : Cache) (prompt : List Tok) (now : Nat) (cp : Bool) (c' : Cache) (i : Nat)
    (rest : List Tok) (h : llLoad c prompt now cp = .ok (c', i, rest)) (j : Nat) (hj : j ≠ i) :
    getSlot c'.slots j = getSlot c.slots j := (llLoad_spec h).other j hj

/-- llamarunner: the reused prefix is a prefix of the prompt and one input is left (cachePrompt or not) -/
theorem llLoad_prefix_sound (c : Cache) (prompt : List Tok) (now : Nat) (cp : Bool) (c' : Cache) (i : Nat)
    (rest : List Tok) (hp : prompt ≠ []) (h : llLoad c prompt now cp = .ok (c', i, rest)) :
    (getSlot c'.slots i).inputs ++ rest = prompt ∧ rest ≠ [] ∧
      ∃ hi : i < c.slots.length, c.slots[i].inUse = false :=
  ⟨(llLoad_spec h).split, (llLoad_spec h).rest_ne hp, (llLoad_spec h).valid,
    getSlot_eq (llLoad_spec h).valid ▸ (llLoad_spec h).free⟩

/-! ## sliding window: the leave-one / CanResume ordering -/

def positions (cells : List Cell) (s : Nat) : List Int := (cells.filter (·.has s)).map (·.pos)

/-- every position is held at most once -/
def PosUnique (P : List Int) : Prop := ∀ q : Int, (P.filter (fun x => x == q)).length ≤ 1

theorem PosUnique.nodup {P : List Int} (h : PosUnique P) : P.Nodup :=
  List.nodup_iff_count.mpr fun q => by simpa [List.count_eq_countP, List.countP_eq_length_filter] using h q

theorem count_eq_positions (cells : List Cell) (s : Nat) (lo hi : Int) :
    (cells.filter fun c => c.has s && decide (lo ≤ c.pos) && decide (c.pos < hi)).length =
      ((positions cells s).filter fun x => decide (lo ≤ x) && decide (x < hi)).length := by
  unfold positions
  rw [List.filter_map, List.length_map, List.filter_filter]
  congr 2
  funext c
  rw [Bool.and_assoc]
  exact Bool.and_comm ..

/-- **`CanResume` is sound** (tree version, with the presence count): if it answers yes for position
    `p` then every position of the window `[max 0 (p - W), p)` is held by the sequence. -/
theorem canResume_sound (W : Nat) (cells : List Cell) (s p : Nat) (hu : PosUnique (positions cells s))
    (h : canResume (some W) cells s p = true) :
    ∀ q : Int, max 0 ((p : Int) - W) ≤ q → q < p → q ∈ positions cells s := by
  have hcount : (cells.filter fun c => c.has s && decide (max 0 ((p : Int) - W) ≤ c.pos) && decide (c.pos < (p : Int))).length
      = ((p : Int) - max 0 ((p : Int) - W)) := by
    unfold canResume canResumeV at h
    simp only at h
    split at h
    · cases h
    · split at h
      · cases h
      · split at h
        · cases h
        · simpa using h
  generalize max 0 ((p : Int) - W) = lo at hcount ⊢
  intro q hq1 hq2
  rw [count_eq_positions] at hcount
  -- as many distinct positions in `[lo, p)` as it is long: all are there
  have hin : ∀ x ∈ (positions cells s).filter (fun x => decide (lo ≤ x) && decide (x < (p : Int))),
      lo ≤ x ∧ x < lo + (((p : Int) - lo).toNat : Nat) := fun x hx => by
    have := (List.mem_filter.mp hx).2
    simp only [Bool.and_eq_true, decide_eq_true_eq] at this
    omega
  exact (List.mem_filter.mp (Basic.pigeon ((p : Int) - lo).toNat lo _ (hu.nodup.sublist List.filter_sublist) hin
    (by omega) q (by omega))).1

theorem positions_eq_view (cells : List Cell) (s : Nat) :
    positions cells s = (view cells s).map (·.1) := by
  unfold positions view
  rw [List.map_map]; rfl

/-- **The leave-one / CanResume ordering.**  The tail of LoadCacheSlot (slot chosen) on a sliding-window cache (window `W`,
    the tree's `CanResume`, asked for the position that is really resumed, i.e. AFTER the "leave one
    input" decrement): the record is cut to `m` inputs, processing continues with `prompt.drop m` at
    position `m`, and every position of the window `[max 0 (m - W), m)` — all that the next batch's
    tokens (positions `≥ m`) can need from the cache — is held by the slot's sequence.
    (Asking CanResume before the decrement breaks exactly this: the
    answer is about `[m+1-W, m+1)` and position `m - W` may already have slid out.) -/
theorem load_window_present (c : Cache) (W i n : Nat) (prompt : List Tok) (now : Nat)
    (hb : PosBound c.cells) (hu : PosUnique (positions c.cells (getSlot c.slots i).id))
    (c' : Cache) (j : Nat) (rest : List Tok)
    (h : loadTail c i n prompt now (canResume (some W)) = .ok (c', j, rest)) :
    ∃ m, m ≤ n ∧ rest = prompt.drop m ∧
      c'.slots = setSlot c.slots i (fun s => { s with inUse := true, lastUsed := now, inputs := s.inputs.take m }) ∧
      ∀ q : Int, max 0 ((m : Int) - W) ≤ q → q < m → q ∈ positions c'.cells (getSlot c.slots i).id := by
  obtain ⟨m, cells', hmn, _, _, rfl, rfl, hcells⟩ := loadTail_ok h
  obtain ⟨rfl, hcr⟩ := hcells hb
  refine ⟨m, hmn, rfl, rfl, fun q hq1 hq2 => ?_⟩
  have hin := canResume_sound W c.cells _ m hu (hcr (by omega)) q hq1 hq2
  rw [positions_eq_view] at hin ⊢
  rw [(remove_clear c.canShift c.cells _ (m : Int) hb).2]
  obtain ⟨x, hx, hxq⟩ := List.mem_map.mp hin
  exact List.mem_map.mpr ⟨x, List.mem_filter.mpr ⟨hx, by simp only [decide_eq_true_eq]; omega⟩, hxq⟩

/-- why the order matters: window 4, the sequence holds positions 4‥8 (3 has slid
    out).  Resuming at 8 is fine, resuming at 7 is not — a CanResume answer for 8 says nothing about 7. -/
theorem canResume_not_monotone :
    let cells := [4, 5, 6, 7, 8].map fun p : Int => (⟨p, [0], 1, p⟩ : Cell)
    canResume (some 4) cells 0 8 = true ∧ canResume (some 4) cells 0 7 = false ∧
      (3 : Int) ∉ positions cells 0 := by decide

end OllamaVerif.C07
