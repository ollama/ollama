/-
  C01 — Scheduler never unloads or closes a runner that a request is still using.
  C02 — Every runner request is answered exactly once and the scheduler drains  (Properties/C02.lean)
  C11 — Loaded-runner limit, one runner per model, reuse …         (Properties/C11.lean)

  All three are statements about `Model/Sched.lean`: an interleaving transition system with one
  action per lock-protected region / channel operation of server/sched.go.  `Reach v s0 s`
  quantifies over EVERY finite interleaving of requests, completions/cancellations, load results,
  health-check results, timer expiries, explicit unloads and evictions, over any number of models
  and requests.  The theorems below are for `Variant.good` (identity-guarded delete in the expired
  handler + re-validation of the runner in useLoadedRunner); `Tie/C01.lean` states which variant
  /repo's working tree implements (facts regenerated from sched.go on every run).  For upstream's
  pinned variant the statements are FALSE: kernel-checked witness traces below (finding F12).
-/
import OllamaVerif.Proofs.Sched4

namespace OllamaVerif.C01
open OllamaVerif.Sched

abbrev init0 (maxRunners maxQueue defaultSession : Nat) : State := Sched.init maxRunners maxQueue defaultSession

/-- a request "is using" runner `r`: it was handed `r` and its completion has not been processed -/
def uses (s : State) (q : ReqId) (r : Rid) : Prop := q ∈ (s.runners r).holders

/-- a step hands runner `r` to request `q` only as the reply of its load goroutine or in useLoadedRunner -/
theorem grant_cases {v : Variant} {s s' : State} {a : Act} {q : ReqId} {r : Rid}
    (hs : step v s a = some s') (hb : (s.reqs q).gotRunner = none) (ha : (s'.reqs q).gotRunner = some r) :
    (a = .loadDone r true ∧ r < s.nRunners ∧ (s.runners r).refMuHeld = true ∧ (s.runners r).loaderReq = q) ∨
    (a = .pUse ∧ s.ppc = .use q r ∧ ¬ (v.recheckGrant = true ∧ (s.runners r).closed = true)) := by
  have key : (s'.reqs q).gotRunner = (s.reqs q).gotRunner ∨
      ((a = .loadDone r true ∧ r < s.nRunners ∧ (s.runners r).refMuHeld = true ∧ (s.runners r).loaderReq = q) ∨
       (a = .pUse ∧ s.ppc = .use q r ∧ ¬ (v.recheckGrant = true ∧ (s.runners r).closed = true))) := by
    cases Step.of_step hs
    case loadDone_ok r0 hr hh =>
      by_cases e : q = (s.runners r0).loaderReq
      · subst e
        simp only [upd, if_true, Req.granted] at ha
        cases ha
        exact Or.inr (Or.inl ⟨rfl, hr, hh, rfl⟩)
      · exact Or.inl (by simp only [upd, if_neg e])
    case pUse_grant q0 r0 hpc _ hc =>
      by_cases e : q = q0
      · subst e
        simp only [upd, if_true, Req.granted] at ha
        cases ha
        exact Or.inr (Or.inr ⟨rfl, hpc, fun h => by rw [hc h.1] at h; cases h.2⟩)
      · exact Or.inl (by simp only [upd, if_neg e])
    case submit_queued | submit_full =>
      refine Or.inl ?_
      simp only [upd]; split
      · subst_vars; exact hb.symm
      · rfl
    case cFin q0 r0 _ _ =>
      obtain ⟨_, _, e, _⟩ := cFin_writes s q0 r0
      rw [e]; exact Or.inl (upd_congr Req.gotRunner (by rfl) q)
    -- every other branch writes no request, or a record with the same `gotRunner`
    all_goals first
      | exact Or.inl rfl
      | exact Or.inl (upd_congr Req.gotRunner (by rfl) q)
  rcases key with h | h
  · rw [h, hb] at ha; cases ha
  · exact h

/-- only the expired-event region shuts a runner down, and only an unreferenced one -/
theorem close_step {v : Variant} {s s' : State} {a : Act} {r : Rid} (hs : step v s a = some s')
    (hopen : (s.runners r).closed = false) (hclosed : (s'.runners r).closed = true) :
    a = .cExp ∧ s.cpc = .exp r ∧ (s.runners r).isZero = true := by
  have key : (s'.runners r).closed = (s.runners r).closed ∨ (a = .cExp ∧ s.cpc = .exp r ∧ (s.runners r).isZero = true) := by
    cases Step.of_step hs
    case cExp_unload r0 hc _ hz =>
      by_cases e : r = r0
      · subst e; exact Or.inr ⟨rfl, hc, hz⟩
      · exact Or.inl (by simp only [upd, if_neg e])
    case cFin q r0 _ _ =>
      obtain ⟨_, _, e, hr⟩ := cFin_writes s q r0
      rw [e]; exact Or.inl (hr Runner.closed (fun _ _ _ _ _ _ => rfl) r)
    case pLoad_ok =>
      refine Or.inl ?_
      simp only [upd]; split
      · subst_vars; exact hopen.symm
      · rfl
    -- every other branch writes no runner, or a record with the same `closed`
    all_goals first
      | exact Or.inl rfl
      | exact Or.inl (upd_congr Runner.closed (by rfl) r)
  rcases key with h | h
  · rw [h, hopen] at hclosed; cases hclosed
  · exact h

/-- **C01 (a)**: in every reachable state, a runner that has been shut down is used by no request. -/
theorem closed_runner_has_no_user {mr mq ds : Nat} {s : State}
    (h : Reach Variant.good (init0 mr mq ds) s) (r : Rid) (hr : r < s.nRunners)
    (hc : (s.runners r).closed = true) : ∀ q, ¬ uses s q r := by
  intro q hq
  unfold uses at hq
  rw [(reach_inv (inv_init mr mq ds) h).i4.d r hr hc] at hq
  cases hq

/-- **C01 (a), step form**: whenever a step shuts runner `r` down, no request was using `r` —
    whatever else is in flight. -/
theorem close_step_only_when_unused {mr mq ds : Nat} {s s' : State}
    (h : Reach Variant.good (init0 mr mq ds) s) (a : Act) (hs : step Variant.good s a = some s')
    (r : Rid) (hr : r < s.nRunners) (hopen : (s.runners r).closed = false)
    (hclosed : (s'.runners r).closed = true) : ∀ q, ¬ uses s q r := by
  intro q hq
  unfold uses at hq
  rw [holders_nil_of_isZero (reach_inv (inv_init mr mq ds) h).i4 hr (close_step hs hopen hclosed).2.2] at hq
  cases hq

/-- (b) holds for every variant, the pinned one included (group 1 does not depend on the guards) -/
theorem closed_at_most_once_any_variant {v : Variant} {mr mq ds : Nat} {s : State}
    (h : Reach v (init0 mr mq ds) s) : ∀ r, r < s.nRunners → (s.runners r).closeCount ≤ 1 := by
  intro r hr
  rw [(reach_invV h).i1.cc r hr]; split <;> omega

/-- **C01 (b)**: a runner is shut down at most once. -/
theorem closed_at_most_once {mr mq ds : Nat} {s : State}
    (h : Reach Variant.good (init0 mr mq ds) s) (r : Rid) (hr : r < s.nRunners) :
    (s.runners r).closeCount ≤ 1 :=
  closed_at_most_once_any_variant h r hr

set_option linter.unusedVariables false in  -- `hq` (the property's "accepted request") is not needed
/-- **C01 (c)**: a step that hands runner `r` to request `q` (its reply changes from "no runner" to
    `r`) never hands out a runner that has been shut down. -/
theorem granted_runner_is_open {mr mq ds : Nat} {s s' : State}
    (h : Reach Variant.good (init0 mr mq ds) s) (a : Act) (hs : step Variant.good s a = some s')
    (q : ReqId) (r : Rid) (hq : q < s.nReqs) (hbefore : (s.reqs q).gotRunner = none)
    (hafter : (s'.reqs q).gotRunner = some r) : (s'.runners r).closed = false := by
  cases hc : (s'.runners r).closed with
  | false => rfl
  | true =>
    -- a granting step is not the unload region, and the runner it grants was open before it
    rcases grant_cases hs hbefore hafter with ⟨rfl, hr, hheld, _⟩ | ⟨rfl, _, hre⟩
    · cases (close_step hs ((reach_inv (inv_init mr mq ds) h).i1.held r hr hheld) hc).1
    · cases ho : (s.runners r).closed with
      | false => cases (close_step hs ho hc).1
      | true => exact absurd ⟨rfl, ho⟩ hre

theorem reach_of_run {v : Variant} {s0 : State} : ∀ (l : List Act) (s1 s : State), Reach v s0 s1 → run v s1 l = some s → Reach v s0 s := by
  intro l
  induction l with
  | nil => intro s1 s h hr; simp [run] at hr; subst hr; exact h
  | cons a as ih =>
    intro s1 s h hr
    simp only [run] at hr
    cases hs : step v s1 a with
    | none => simp [hs] at hr
    | some s2 => simp only [hs] at hr; exact ih s2 s (Reach.step a h hs) hr

theorem reach_run_getD {v : Variant} {s0 : State} (l : List Act) (h : (run v s0 l).isSome = true) :
    Reach v s0 ((run v s0 l).getD {}) := by
  cases hr : run v s0 l with
  | none => rw [hr] at h; cases h
  | some s => exact reach_of_run _ _ _ Reach.init hr

/-! ### Witnesses for upstream's pinned variant (finding F12) -/

def fit0 : Fit := {}

/-- F12a, "duplicate expired": a keep-alive expiry races with a new request for the same model.
    The pending loop sees the old runner, the expiry unloads it, `needsReload` asks for a second
    (duplicate) expired event, a new runner `r1` is loaded, and the duplicate event's handler
    deletes `r1` from `loaded` (unconditional `delete(s.loaded, path)`).  A third request then
    starts `r2`; the finish event of the request on `r1` decrements `r2`, which is shut down while
    request 2 uses it. -/
def dupExpiredTrace : List Act := [
  .submit 0 0 none, .pTake, .pLookup fit0, .pLoad true, .loadDone 0 true,
  .done 0, .finishSend 0, .cTakeFinished, .cFin,
  .timerFire 0, .timerCb 0,
  .submit 0 0 none, .pTake, .pLookup fit0,
  .cTakeExpired, .cExp, .cVram,
  .pNeedsReload, .pExpire, .pWaitUnload, .pLookup fit0, .pLoad true, .loadDone 1 true,
  .cTakeExpired, .cExp, .cVram,
  .submit 0 0 none, .pTake, .pLookup fit0, .pLoad true, .loadDone 2 true,
  .done 1, .finishSend 1, .cTakeFinished, .cFin,
  .timerFire 2, .timerCb 2, .cTakeExpired, .cExp]

/-- pinned variant: runner 2 is shut down while request 2 uses it (C01), runner 1 is alive but
    missing from `loaded` and is never shut down (C02 drain); that runners 1 and 2 were alive
    together for model 0 (C11) is `C11.F12a_two_live_runners_one_model`. -/
theorem F12a_pinned_closes_runner_in_use :
    (run Variant.pinned (init0 0 512 1) dupExpiredTrace).map
      (fun s => (s.runners 2).closed && (s.runners 2).holders == [2] && !(s.runners 1).closed && s.loaded.isEmpty)
      = some true := by decide

/-- the good variant cannot even follow the trace: after the duplicate event `r1` is still in
    `loaded`, so the third request reuses it instead of starting a new runner -/
theorem F12a_good_refuses : (run Variant.good (init0 0 512 1) dupExpiredTrace).isNone = true := by decide

/-- F12b, "grant after unload": the keep-alive expiry is handled between `needsReload` (which
    found the runner healthy) and `useLoadedRunner`; the pinned code hands out the runner whose
    `llama` is already nil. -/
def grantAfterUnloadTrace : List Act := [
  .submit 0 0 none, .pTake, .pLookup fit0, .pLoad true, .loadDone 0 true,
  .done 0, .finishSend 0, .cTakeFinished, .cFin,
  .timerFire 0, .timerCb 0,
  .submit 0 0 none, .pTake, .pLookup fit0, .pNeedsReload,
  .cTakeExpired, .cExp,
  .pUse]

theorem F12b_pinned_grants_closed_runner :
    (run Variant.pinned (init0 0 512 1) grantAfterUnloadTrace).map
      (fun s => (s.reqs 1).gotRunner == some 0 && (s.runners 0).closed) = some true := by decide

theorem F12b_good_retries :
    (run Variant.good (init0 0 512 1) grantAfterUnloadTrace).map
      (fun s => (s.reqs 1).gotRunner == none && s.ppc == PPC.eval 1) = some true := by decide

/-- non-vacuity: a reachable state of the good variant with a runner in use -/
example : ∃ s, Reach Variant.good (init0 0 512 1) s ∧ (s.runners 0).holders = [0] ∧ (s.runners 0).closed = false :=
  ⟨_, reach_run_getD (dupExpiredTrace.take 5) (by decide), by decide, by decide⟩

end OllamaVerif.C01
