/-
  C13 — Model names and digests cannot address anything outside the model store.

  Property theorems over the byte-level model `OllamaVerif.Names` (Model/Names.lean); lemmas about the model's functions that belong to
  no one property are in Proofs/Names.lean.  Every theorem is for ALL byte strings / all names (no length or alphabet bound).
  A `_partial` theorem holds under the guard its statement names; a `_witness` is a concrete case (that a guard is needed, that an
  exception is real).
-/
import OllamaVerif.Proofs.Names
namespace OllamaVerif.C13
open OllamaVerif OllamaVerif.Names

/-! ## accepted parts are safe path components -/

/-- **types/model**: a part accepted by `isValidPart` (any kind) is non-empty, within its length limit, is not
    `.` or `..`, does not start with `.`, and contains none of `/`, `\`, NUL, `@`. -/
theorem valid_part_safe_model (k : Kind) (s : Bytes) (h : validPartM k s = true) :
    SafeComp s ∧ 1 ≤ s.length ∧ s.length ≤ maxLen k := by
  refine ⟨validPartM_safe h, ?_, validPartM_len h⟩
  have := validPartM_ne_nil h
  cases s with
  | nil => exact absurd rfl this
  | cons x xs => simp

/-- **names**: the same for the new parser's `isValidPart` on a non-empty part. -/
theorem valid_part_safe_names (k : Kind) (s : Bytes) (hne : s ≠ []) (h : validPartN k s = true) :
    SafeComp s ∧ s.length ≤ maxLen k := by
  refine ⟨validPartN_safe hne h, ?_⟩
  simp only [validPartN, Bool.and_eq_true, decide_eq_true_eq] at h; exact h.1

/-! ## the loop of `names.Parse` and the bare round trip of the new parser -/

/-- **The fuel of `parseNLoop` is an artefact**: any two fuels larger than `len(s)` give the same result, so
    the `fuel = 0` branch is never reached from `parseN` and the Lean function is the Go `for` loop. -/
theorem parseNLoop_fuel (fuel : Nat) : ∀ (s t : Bytes) (fuel' : Nat), s.length < fuel → s.length < fuel' →
    parseNLoop fuel s t = parseNLoop fuel' s t := by
  induction fuel with
  | zero => intro s t fuel' h; omega
  | succ k ih =>
    intro s t fuel' h h'
    cases fuel' with
    | zero => omega
    | succ k' =>
      simp only [parseNLoop]
      split
      · rfl
      · rename_i b a sep hq
        split
        · obtain ⟨rfl, _⟩ := splitLast_some _ _ _ _ _ hq
          rw [List.length_append, List.length_cons] at h h'
          exact ih b a k' (by omega) (by omega)
        · rfl

def noSep (s : Bytes) : Prop := ∀ c ∈ s, (c == cSlash || c == cColon) = false

def loopN (s t : Bytes) : Name := parseNLoop (s.length + 1) s t

/-- the Go `for` loop, one iteration: no fuel left in the statement (`parseNLoop_fuel`) -/
theorem loopN_eq (s t : Bytes) : loopN s t =
    match splitLast (fun c => c == cSlash || c == cColon) s with
    | none => { model := s, tag := t }
    | some (b, a, sep) =>
      if sep == cColon then loopN b a
      else
        match splitLast (· == cSlash) b with
        | some (h, n, _) => { host := h, ns := n, model := a, tag := t }
        | none => { host := [], ns := b, model := a, tag := t } := by
  unfold loopN
  rw [parseNLoop]
  cases hq : splitLast (fun c => c == cSlash || c == cColon) s with
  | none => rfl
  | some v =>
    obtain ⟨b, a, sep⟩ := v
    obtain ⟨rfl, _⟩ := splitLast_some _ _ _ _ _ hq
    dsimp only
    by_cases hc : (sep == cColon) = true
    · rw [if_pos hc, if_pos hc]
      exact parseNLoop_fuel _ b a _ (by simp) (Nat.lt_succ_self _)
    · rw [if_neg hc, if_neg hc]
      rfl

theorem loopN_none (m t0 : Bytes) (hm : noSep m) : loopN m t0 = { model := m, tag := t0 } := by
  rw [loopN_eq, splitLast_none _ m hm]

theorem loopN_colon (B t t0 : Bytes) (ht : noSep t) : loopN (B ++ cColon :: t) t0 = loopN B t := by
  rw [loopN_eq, splitLast_append _ B t cColon rfl ht]
  rfl

theorem loopN_slash (P m t0 : Bytes) (hm : noSep m) :
    loopN (P ++ cSlash :: m) t0 =
      match splitLast (· == cSlash) P with
      | some (h, n, _) => { host := h, ns := n, model := m, tag := t0 }
      | none => { host := [], ns := P, model := m, tag := t0 } := by
  rw [loopN_eq, splitLast_append _ P m cSlash rfl hm]
  rfl

/-- **`names.Parse` reads back what `Name.String` prints**, for every name whose namespace, model and tag are free of `/`
    and `:`; the content of the host does not matter, only that one is printed in front of a namespace and never alone -/
theorem loopN_toStr (h ns m t : Bytes) (hm : noSep m) (hns : noSep ns) (ht : noSep t)
    (hg : ns = [] → h = []) : loopN (toStr ⟨h, ns, m, t⟩) [] = ⟨h, ns, m, t⟩ := by
  have hns' : ∀ c ∈ ns, (c == cSlash) = false := fun c hc => (Bool.or_eq_false_iff.mp (hns c hc)).1
  have tag : ∀ B : Bytes, loopN (B ++ if t.isEmpty then [] else cColon :: t) [] = loopN B t := by
    intro B
    cases t with
    | nil => simp only [List.isEmpty_nil, if_true, List.append_nil]
    | cons z zs => exact loopN_colon B (z :: zs) [] ht
  simp only [toStr, ← List.append_assoc]
  rw [tag]
  cases ns with
  | nil =>
    rw [hg rfl]
    exact loopN_none m t hm
  | cons y ys =>
    cases h with
    | nil =>
      have e : (([] : Bytes) ++ (y :: ys ++ [cSlash])) ++ m = (y :: ys) ++ cSlash :: m := by simp
      simp only [List.isEmpty_nil, List.isEmpty_cons, if_true, Bool.false_eq_true, if_false]
      rw [e, loopN_slash _ m t hm, splitLast_none _ _ hns']
    | cons x xs =>
      have e : ((x :: xs ++ [cSlash]) ++ (y :: ys ++ [cSlash])) ++ m
          = ((x :: xs) ++ cSlash :: (y :: ys)) ++ cSlash :: m := by simp
      simp only [List.isEmpty_cons, Bool.false_eq_true, if_false]
      rw [e, loopN_slash _ m t hm, splitLast_append (· == cSlash) (x :: xs) (y :: ys) cSlash rfl hns']

/-- an optional part of a `names` name: `s == "" || isValidPart(kind, s)` -/
theorem optPart_len_noSep {k : Kind} {s : Bytes} (h : (s.isEmpty || validPartN k s) = true) :
    s.length ≤ maxLen k ∧ (k ≠ .host → k ≠ .digest → noSep s) := by
  cases s with
  | nil => exact ⟨Nat.zero_le _, fun _ _ c hc => nomatch hc⟩
  | cons x xs =>
    simp only [List.isEmpty_cons, Bool.false_or, validPartN, Bool.and_eq_true, decide_eq_true_eq] at h
    refine ⟨h.1, fun hk hk' c hc => ?_⟩
    have h1 : c ≠ cSlash := (charsOk_safe k _ (List.cons_ne_nil x xs) h.2).noSlash c hc
    rw [beq_false_of_ne h1, beq_false_of_ne (charsOk_noColon hk hk' h.2 c hc)]
    rfl

theorem optPrefix_len (s : Bytes) (c : UInt8) : (if s.isEmpty then [] else s ++ [c]).length ≤ s.length + 1 := by
  split
  · exact Nat.zero_le _
  · exact Nat.le_of_eq List.length_append

theorem toStr_length_le (n : Name) :
    (toStr n).length ≤ n.host.length + n.ns.length + n.model.length + n.tag.length + 3 := by
  have a := optPrefix_len n.host cSlash
  have b := optPrefix_len n.ns cSlash
  have c : (if n.tag.isEmpty then [] else cColon :: n.tag).length ≤ n.tag.length + 1 := by
    split
    · exact Nat.zero_le _
    · exact Nat.le_refl _
  simp only [toStr, List.length_append]
  omega

/-- **names, bare round trip (guard: a host only with a namespace).**  For EVERY name `n` (not only parse
    results): if `n` is valid and does not have a host without a namespace — i.e. `isValidNv true n`, the
    `IsValid` of the working tree (`isValidNCur`) — then `Parse(n.String()) = n`.  Without the guard the
    statement is false (`N1_bare_roundtrip_witness`). -/
theorem roundtrip_names_bare_partial (n : Name) (hv : isValidNv true n = true) : parseN (toStr n) = n := by
  simp only [isValidNv, isValidN, Bool.and_eq_true, Bool.true_and, Bool.not_eq_true', Bool.and_eq_false_iff,
    Bool.not_eq_false'] at hv
  obtain ⟨⟨⟨⟨hh, hn⟩, ht⟩, _, hm⟩, hguard⟩ := hv
  have hm := optPart_len_noSep (Bool.or_eq_true_iff.mpr (Or.inr hm))
  have hn := optPart_len_noSep hn
  have ht := optPart_len_noSep ht
  have hlen : (toStr n).length ≤ maxNameLength := by
    have := toStr_length_le n
    have := (optPart_len_noSep hh).1
    simp only [maxLen] at *
    simp only [maxNameLength]
    omega
  have hg : n.ns = [] → n.host = [] := fun e =>
    hguard.elim List.isEmpty_iff.mp fun h => by rw [e] at h; cases h
  unfold parseN
  rw [if_neg (by omega)]
  exact loopN_toStr n.host n.ns n.model n.tag (hm.2 (by decide) (by decide)) (hn.2 (by decide) (by decide))
    (ht.2 (by decide) (by decide)) hg

/-- `IsFullyQualified` is the same predicate under the pinned and the repaired `IsValid` -/
theorem isFQN_eq_cur (n : Name) :
    isFQN n = (isValidNCur n && !n.host.isEmpty && !n.ns.isEmpty && !n.model.isEmpty && !n.tag.isEmpty) := by
  simp only [isFQN, isValidNCur, isValidNv]
  generalize isValidN n = a
  generalize n.host.isEmpty = e
  generalize n.ns.isEmpty = f
  generalize n.model.isEmpty = g
  generalize n.tag.isEmpty = i
  revert a e f g i; decide

/-- **names, bare round trip, on parse results** (`roundtrip_names_bare_partial` at `Parse(s)`).  For every byte string
    `s`: if `names.Parse(s).IsValid()` (the working tree's `IsValid`) then `Parse(Parse(s).String()) = Parse(s)` — the
    name need not be fully qualified: host, namespace or tag may be absent (`IsValid` admits a host only with a namespace). -/
theorem roundtrip_names_bare (s : Bytes) (h : isValidNCur (parseN s) = true) :
    parseN (toStr (parseN s)) = parseN s :=
  roundtrip_names_bare_partial _ h

/-! ## print / parse round trips -/

/-- **types/model**: printing a fully qualified name and parsing it (with or without defaults) gives the
    same four parts back. -/
theorem print_parse_model (n : Name) (h : isFQM n = true) :
    parseNameBare (toStr n) = n ∧ parseName (toStr n) = n := by
  have p := fqParts_of_isFQM h
  have hb : parseNameBare (toStr n) = n := by
    rw [toStr_fq p]
    unfold parseNameBare
    simp only [cutTag_append (n.host ++ cSlash :: n.ns ++ cSlash :: n.model) n.tag (append_cons_ne_nil _ _ _) p.tne
        p.tslash p.tcolon,
      cutPromised_append (n.host ++ cSlash :: n.ns) n.model (append_cons_ne_nil _ _ _) p.mne p.mslash,
      cutPromised_append n.host n.ns p.hne p.nne p.nslash, cutScheme_none n.host p.hslash]
  exact ⟨hb, by rw [parseName, hb, merge_fq p]⟩

/-- **types/model round trip**: for every byte string `s` that `ParseName` accepts,
    `ParseName(ParseName(s).String()) = ParseName(s)`. -/
theorem roundtrip_model (s : Bytes) (h : isFQM (parseName s) = true) :
    parseName (toStr (parseName s)) = parseName s :=
  (print_parse_model _ h).2

theorem validPartM_eq (k : Kind) (s : Bytes) : validPartM k s = (!s.isEmpty && validPartN k s) := by
  cases s with
  | nil => simp [validPartM, validPartN]
  | cons x xs => simp [validPartM, validPartN]

/-- the two packages' notions of "fully qualified" coincide on every name -/
theorem isFQM_eq_isFQN (n : Name) : isFQM n = isFQN n := by
  rw [Bool.eq_iff_iff]
  simp only [isFQM, isFQN, isValidN, validPartM_eq, Bool.and_eq_true, Bool.or_eq_true, Bool.not_eq_true']
  constructor
  · rintro ⟨⟨⟨⟨eh, vh⟩, en, vn⟩, em, vm⟩, et, vt⟩
    exact ⟨⟨⟨⟨⟨⟨⟨.inr vh, .inr vn⟩, .inr vt⟩, em, vm⟩, eh⟩, en⟩, em⟩, et⟩
  · rintro ⟨⟨⟨⟨⟨⟨⟨oh, on⟩, ot⟩, em, vm⟩, eh⟩, en⟩, _⟩, et⟩
    exact ⟨⟨⟨⟨eh, oh.resolve_left (ne_true_of_eq_false eh)⟩, en, on.resolve_left (ne_true_of_eq_false en)⟩, em, vm⟩,
      et, ot.resolve_left (ne_true_of_eq_false et)⟩

/-- **names**: printing a fully qualified name and parsing it gives the same four parts back. -/
theorem print_parse_names (n : Name) (h : isFQN n = true) : parseN (toStr n) = n := by
  rw [isFQN_eq_cur] at h
  simp only [Bool.and_eq_true] at h
  exact roundtrip_names_bare_partial n h.1.1.1.1

/-- **names round trip through the registry client**: whatever `Registry.parseName` accepts (any mask, any
    input) prints to a string that parses back to the same name, bare (as the cache's `nameToPath` does) and
    through `parseName` again. -/
theorem roundtrip_names (mask : Name) (s : Bytes) (n : Name) (h : registryParseName mask s = some n) :
    parseN (toStr n) = n ∧ registryParseName mask (toStr n) = some n ∧ isFQN n = true := by
  unfold registryParseName at h
  simp only at h
  split at h
  · rename_i hfq
    cases h
    have hp := print_parse_names _ hfq
    refine ⟨hp, ?_, hfq⟩
    unfold registryParseName
    simp only [hp, merge_fq (fqParts_of_isFQM ((isFQM_eq_isFQN _).trans hfq)), hfq, if_true]
  · cases h

/-- a bare `names.Parse` result that is valid and does not have a host without a namespace -/
def bareOk (n : Name) : Bool := isValidN n && (n.host.isEmpty || !n.ns.isEmpty)

/-! ## cross-parser agreement on fully qualified names -/

/-- **cross**: a fully qualified name printed by types/model is read back with the same parts (and as fully
    qualified) by `names.Parse`, and vice versa. -/
theorem cross_parsers (n : Name) :
    (isFQM n = true → isFQN n = true ∧ parseN (toStr n) = n) ∧
    (isFQN n = true → isFQM n = true ∧ parseName (toStr n) = n ∧ parseNameBare (toStr n) = n) := by
  constructor
  · intro h
    have h' := (isFQM_eq_isFQN n).symm.trans h
    exact ⟨h', print_parse_names n h'⟩
  · intro h
    have h' := (isFQM_eq_isFQN n).trans h
    exact ⟨h', (print_parse_model n h').2, (print_parse_model n h').1⟩

/-! ## path confinement -/

theorem clean_manifests : CleanComp sManifests := ⟨by decide, by decide, by decide, by decide⟩

theorem clean_blobs : CleanComp sBlobs := ⟨by decide, by decide, by decide, by decide⟩

/-- **`filepath.Join(root, sub, rel)` for an arbitrary non-empty root**: the stack of `Clean(root)` followed by exactly
    `sub` and the components of `rel`. -/
theorem pathJoin_anyroot (root : Bytes) (hne : root ≠ []) (sub : Bytes) (hsub : CleanComp sub)
    (comps : List Bytes) (hc0 : comps ≠ []) (hc : ∀ c ∈ comps, CleanComp c) :
    pathJoin [root, sub, joinWith cSlash comps]
      = renderPath (isRooted root) (rootStack root ++ sub :: comps) := by
  obtain ⟨c0, cs, rfl⟩ := List.exists_cons_of_ne_nil hc0
  rw [pathJoin_cons root hne]
  exact clean_join root hne (sub :: c0 :: cs) (List.cons_ne_nil _ _) (List.forall_mem_cons.mpr ⟨hsub, hc⟩)

theorem filepathM_fq {n : Name} (h : isFQM n = true) :
    filepathM n = some (joinWith cSlash [n.host, n.ns, n.model, n.tag]) := by
  rw [filepathM, if_pos h, pathJoin_comps _ (List.cons_ne_nil _ _) (fq_safe h)]

/-- **`Name.Filepath`**: defined exactly for fully qualified names, and then it is the four parts joined by
    `/` — four components, each a safe one. -/
theorem filepath_shape (n : Name) :
    (isFQM n = false → filepathM n = none) ∧
    (isFQM n = true → filepathM n = some (joinWith cSlash [n.host, n.ns, n.model, n.tag]) ∧
      ∀ c ∈ [n.host, n.ns, n.model, n.tag], SafeComp c) :=
  ⟨fun h => if_neg (ne_true_of_eq_false h), fun h => ⟨filepathM_fq h, fq_safe h⟩⟩

/-- **Legacy manifest path, any models directory**: refused, or the components of `Clean(models)` followed by exactly
    `manifests/<host>/<ns>/<model>/<tag>`, each part safe (the middle conjunct says what `rootStack root` is). -/
theorem manifest_path_confined_anyroot (root : Bytes) (hne : root ≠ []) (mp : ModelPath) :
    mpManifestPath root mp = none ∨
    (mpManifestPath root mp = some (renderPath (isRooted root)
        (rootStack root ++ [sManifests, mp.registry, mp.ns, mp.repo, mp.tag])) ∧
      clean root = renderPath (isRooted root) (rootStack root) ∧
      ∀ c ∈ [mp.registry, mp.ns, mp.repo, mp.tag], SafeComp c) := by
  cases hfq : isFQM mp.toName with
  | false => left; simp [mpManifestPath, (filepath_shape mp.toName).1 hfq]
  | true =>
    right
    have hsafe := fq_safe hfq
    refine ⟨?_, clean_eq_render root hne, hsafe⟩
    simp only [mpManifestPath, filepathM_fq hfq]
    exact congrArg some (pathJoin_anyroot root hne sManifests clean_manifests _ (by simp)
      (fun c hc => (hsafe c hc).toClean))

/-- **Legacy manifest path confinement** (`ModelPath.GetManifestPath`, i.e. `filepath.Join(models,
    "manifests", name.Filepath())`): for every name whatsoever, either the call is refused or the result is
    `<models>/manifests/<host>/<ns>/<model>/<tag>` with exactly these components, each safe — the models
    directory's own components are a prefix, the depth below it is exactly 5, nothing is `..`. -/
theorem manifest_path_confined_legacy (rc : List Bytes) (hrc : rc ≠ []) (hs : ∀ c ∈ rc, CleanComp c)
    (mp : ModelPath) :
    mpManifestPath (absPath rc) mp = none ∨
    (mpManifestPath (absPath rc) mp =
        some (absPath (rc ++ [sManifests, mp.registry, mp.ns, mp.repo, mp.tag])) ∧
      ∀ c ∈ [mp.registry, mp.ns, mp.repo, mp.tag], SafeComp c) := by
  rcases manifest_path_confined_anyroot (absPath rc) (List.cons_ne_nil _ _) mp with h | ⟨h, _, hsafe⟩
  · exact Or.inl h
  · rw [rootStack_absPath rc hs] at h
    exact Or.inr ⟨h, hsafe⟩

/-- the same for every input STRING through `ParseModelPath` -/
theorem rejected_or_confined_legacy (rc : List Bytes) (hrc : rc ≠ []) (hs : ∀ c ∈ rc, CleanComp c) (s : Bytes) :
    mpManifestPath (absPath rc) (parseModelPath s) = none ∨
    ∃ h ns m t, (∀ c ∈ [h, ns, m, t], SafeComp c) ∧
      mpManifestPath (absPath rc) (parseModelPath s) = some (absPath (rc ++ [sManifests, h, ns, m, t])) := by
  rcases manifest_path_confined_legacy rc hrc hs (parseModelPath s) with h | ⟨h, hsafe⟩
  · exact Or.inl h
  · exact Or.inr ⟨_, _, _, _, hsafe, h⟩

theorem fq_safeN {n : Name} (h : isFQN n = true) : ∀ c ∈ [n.host, n.ns, n.model, n.tag], SafeComp c :=
  fq_safe ((isFQM_eq_isFQN n).trans h)

theorem nameToPath_refused (s : Bytes) (h : isFQN (parseN s) = false) : nameToPath s = none := by
  simp only [nameToPath, h, Bool.false_eq_true, if_false]

theorem nameToPath_accepted (s : Bytes) (h : isFQN (parseN s) = true) :
    nameToPath s = some (joinWith cSlash [(parseN s).host, (parseN s).ns, (parseN s).model, (parseN s).tag]) := by
  simp only [nameToPath, h, if_true, pathJoin_comps _ (List.cons_ne_nil _ _) (fq_safeN h)]

theorem isFQN_of_nameToPath {s : Bytes} (h : nameToPath s ≠ none) : isFQN (parseN s) = true := by
  cases hq : isFQN (parseN s) with
  | true => rfl
  | false => exact absurd (nameToPath_refused s hq) h

/-- **New cache** (`blob.nameToPath`): for every input string, either `errInvalidName` or the relative path
    `<host>/<ns>/<model>/<tag>` of four safe components of the parsed (fully qualified) name. -/
theorem nameToPath_shape (s : Bytes) :
    nameToPath s = none ∨
    (isFQN (parseN s) = true ∧
     nameToPath s = some (joinWith cSlash [(parseN s).host, (parseN s).ns, (parseN s).model, (parseN s).tag]) ∧
     ∀ c ∈ [(parseN s).host, (parseN s).ns, (parseN s).model, (parseN s).tag], SafeComp c) := by
  cases hfq : isFQN (parseN s) with
  | false => exact Or.inl (nameToPath_refused s hfq)
  | true => exact Or.inr ⟨rfl, nameToPath_accepted s hfq, fq_safeN hfq⟩

/-! ## name relative paths -/

/-- **`ParseNameFromFilepath` ∘ `Filepath` = id** on fully qualified names. -/
theorem filepath_inverse (n : Name) (h : isFQM n = true) :
    filepathM n = some (joinWith cSlash [n.host, n.ns, n.model, n.tag]) ∧
    parseNameFromFilepath (joinWith cSlash [n.host, n.ns, n.model, n.tag]) = n := by
  refine ⟨filepathM_fq h, ?_⟩
  unfold parseNameFromFilepath
  rw [splitOn_joinWith cSlash _ (List.cons_ne_nil _ _) (fun p hp => (fq_safe h p hp).noSlash)]
  exact if_pos h

/-- **Accepted relative paths**: for every byte string `s`, `ParseNameFromFilepath(s)` is either the zero
    name or a fully qualified name whose `Filepath()` is `s` itself (so `s` has exactly four safe components). -/
theorem relpath_accepted (s : Bytes) :
    parseNameFromFilepath s = Name.zero ∨
    (isFQM (parseNameFromFilepath s) = true ∧ filepathM (parseNameFromFilepath s) = some s) := by
  unfold parseNameFromFilepath
  split
  · next h ns m t hsp =>
    dsimp only
    split
    · next hfq =>
      refine Or.inr ⟨hfq, ?_⟩
      rw [filepathM_fq hfq, ← hsp, joinWith_splitOn]
    · exact Or.inl rfl
  · exact Or.inl rfl

/-- the legacy path is injective on fully qualified names: names that differ (in case or otherwise) never
    share a path.  Case-insensitive lookup in the legacy store is therefore entirely the business of
    `routes.go getExistingName` (C04). -/
theorem legacy_path_injective (n1 n2 : Name) (h1 : isFQM n1 = true) (h2 : isFQM n2 = true)
    (h : filepathM n1 = filepathM n2) : n1 = n2 := by
  have a := filepath_inverse n1 h1
  have b := filepath_inverse n2 h2
  rw [a.1, b.1] at h
  rw [← a.2, ← b.2, Option.some.inj h]

/-! ## findings and what the legacy path does about case -/

/-- **Witness of finding N1** (pinned `names.IsValid`): `h//m` parses to host `h`, EMPTY namespace, model `m`;
    it is valid; it prints as `h/m`; that parses back with `h` as the namespace.  The repaired validity
    (`isValidNv true`) rejects it. -/
theorem N1_bare_roundtrip_witness :
    let s : Bytes := [104, 47, 47, 109]
    parseN s = { host := [104], ns := [], model := [109], tag := [] } ∧
    isValidN (parseN s) = true ∧
    toStr (parseN s) = [104, 47, 109] ∧
    parseN (toStr (parseN s)) = { host := [], ns := [104], model := [109], tag := [] } ∧
    isValidNv true (parseN s) = false ∧
    -- the legacy parser rejects the same input, and the client's merged name round-trips
    isFQM (parseName s) = false ∧
    registryParseName defaultMask s = some { host := [104], ns := sLibrary, model := [109], tag := sLatest } := by
  decide

/-- **Legacy path keeps case** (witness): `h/n/M:t` and `h/n/m:t` are both accepted, equal under case folding,
    and map to different legacy manifest paths, while their printed forms are equal under `equalFold`. -/
theorem legacy_case_twins_witness :
    let a : Name := { host := [104], ns := [110], model := [77], tag := [116] }
    let b : Name := { host := [104], ns := [110], model := [109], tag := [116] }
    isFQM a = true ∧ isFQM b = true ∧ equalFold (toStr a) (toStr b) = true ∧ filepathM a ≠ filepathM b := by
  decide

/-- **The legacy store keeps the case of the hex digits**: `sha256:AA…` and `sha256:aa…` are both
    accepted by `GetBlobsPath` and address two DIFFERENT files, while the new cache (`ParseDigest` → `GetFile`) maps both
    to the one lower-case file.  Both are confined; "one digest, one blob" holds in the legacy store only for the
    spelling `NewLayer` itself prints (`%x`, lower case). -/
theorem legacy_hex_case_witness :
    let up := sSha256 ++ cColon :: List.replicate 64 65
    let lo := sSha256 ++ cColon :: List.replicate 64 97
    getBlobsPath [47, 111] up ≠ none ∧ getBlobsPath [47, 111] lo ≠ none ∧
    getBlobsPath [47, 111] up ≠ getBlobsPath [47, 111] lo ∧
    (parseDigest up).map (getFile [47, 111]) = (parseDigest lo).map (getFile [47, 111]) ∧ parseDigest up ≠ none := by
  decide

/-! ## digests -/

theorem safe_blob_name (hex : Bytes) (h : ∀ c ∈ hex, isHexB c = true) : SafeComp (sSha256 ++ cDash :: hex) :=
  -- `sha256-` consists of bytes `charsOk` accepts, so `charsOk` of the whole name computes to the check of `hex`
  charsOk_safe .model _ (append_cons_ne_nil _ _ _)
    (show hex.all (restOk .model) = true from
      List.all_eq_true.mpr fun c hc => isAlnumU_restOk _ c (isHexB_alnum (h c hc)))

/-- what the digest regexp accepts: `sha256`, one of `:`/`-`, exactly 64 hex digits, nothing else -/
theorem digest_re_shape (s : Bytes) (h : matchDigestRe s = true) :
    ∃ sep hex, s = sSha256 ++ sep :: hex ∧ (sep = cColon ∨ sep = cDash) ∧ hex.length = 64 ∧
      ∀ c ∈ hex, isHexB c = true := by
  unfold matchDigestRe at h
  split at h
  next sep hex hdrop =>
    simp only [Bool.and_eq_true, Bool.or_eq_true, beq_iff_eq, List.all_eq_true] at h
    obtain ⟨h6, ⟨hsep, hlen⟩, hhex⟩ := h
    exact ⟨sep, hex, by rw [← h6, ← hdrop, List.take_append_drop], hsep, hlen, hhex⟩
  next =>
    rw [Bool.and_false] at h
    cases h

theorem colonToDash_digest (d : Bytes) (h : matchDigestRe d = true) :
    ∃ hex, hex.length = 64 ∧ (∀ c ∈ hex, isHexB c = true) ∧ colonToDash d = sSha256 ++ cDash :: hex := by
  obtain ⟨sep, hex, rfl, hsep, hlen, hhex⟩ := digest_re_shape d h
  have e : colonToDash hex = hex :=
    (List.map_congr_left fun c hc => if_neg (isAlnumU_ne (isHexB_alnum (hhex c hc)) cColon (by decide))).trans
      (List.map_id hex)
  refine ⟨hex, hlen, hhex, ?_⟩
  rcases hsep with rfl | rfl <;> exact congrArg (sSha256 ++ cDash :: ·) e

theorem getBlobsPath_refused (root d : Bytes) (hd : d ≠ []) (hm : matchDigestRe d = false) :
    getBlobsPath root d = none := by
  obtain ⟨x, xs, rfl⟩ := List.exists_cons_of_ne_nil hd
  rw [getBlobsPath, hm]
  rfl

theorem getBlobsPath_accepted (root d : Bytes) (hm : matchDigestRe d = true) :
    getBlobsPath root d = some (pathJoin [root, sBlobs, colonToDash d]) := by
  rw [getBlobsPath, hm, Bool.not_true, Bool.and_false]
  rfl

/-- **The empty digest under any models directory**: `GetBlobsPath("")` is the blobs directory of `Clean(models)` — the
    components of `Clean(models)` followed by exactly `blobs`. -/
theorem blob_path_empty_anyroot (root : Bytes) (hne : root ≠ []) :
    getBlobsPath root [] = some (renderPath (isRooted root) (rootStack root ++ [sBlobs])) := by
  -- `Join(root, "blobs", "")` cleans `root/blobs/`
  have e : joinWith cSlash [root, sBlobs, []] = (root ++ cSlash :: joinWith cSlash [sBlobs]) ++ [cSlash] :=
    (List.append_assoc root (cSlash :: sBlobs) [cSlash]).symm
  show some (pathJoin [root, sBlobs, []]) = _
  rw [pathJoin_cons root hne, e, clean_trailing _ (List.append_ne_nil_of_left_ne_nil hne _),
    clean_join root hne [sBlobs] (List.cons_ne_nil _ _) (List.forall_mem_singleton.mpr clean_blobs)]

theorem getBlobsPath_empty (rc : List Bytes) (hrc : rc ≠ []) (hs : ∀ c ∈ rc, CleanComp c) :
    getBlobsPath (absPath rc) [] = some (absPath (rc ++ [sBlobs])) := by
  rw [blob_path_empty_anyroot (absPath rc) (List.cons_ne_nil _ _), rootStack_absPath rc hs]
  rfl

/-- **Legacy blob path, any models directory** (non-empty digest): refused, or the components of `Clean(models)` followed by
    exactly `blobs/sha256-<64 hex>`. -/
theorem blob_path_confined_anyroot (root : Bytes) (hne : root ≠ []) (d : Bytes) (hd : d ≠ []) :
    getBlobsPath root d = none ∨
    ∃ hex, hex.length = 64 ∧ (∀ c ∈ hex, isHexB c = true) ∧ SafeComp (sSha256 ++ cDash :: hex) ∧
      getBlobsPath root d = some (renderPath (isRooted root) (rootStack root ++ [sBlobs, sSha256 ++ cDash :: hex])) := by
  cases hm : matchDigestRe d with
  | false => exact Or.inl (getBlobsPath_refused root d hd hm)
  | true =>
    right
    obtain ⟨hex, hlen, hhex, hname⟩ := colonToDash_digest d hm
    have hsafe := safe_blob_name hex hhex
    refine ⟨hex, hlen, hhex, hsafe, ?_⟩
    rw [getBlobsPath_accepted root d hm, hname]
    exact congrArg some (pathJoin_anyroot root hne sBlobs clean_blobs [sSha256 ++ cDash :: hex]
      (List.cons_ne_nil _ _) (fun c hc => by rw [List.mem_singleton.mp hc]; exact hsafe.toClean))

/-- **`/api/blobs/:digest` (HEAD and POST), every layer digest of an untrusted manifest (`GetModel`, `PullModel`,
    `create`'s `files` map), `NewLayer`'s own digest**: for every digest string and every models-directory string
    `GetBlobsPath` refuses, or (empty string) names the blobs directory, or names `blobs/sha256-<64 hex>` below `Clean(models)`. -/
theorem blob_handler_confined (root : Bytes) (hroot : root ≠ []) (d : Bytes) :
    getBlobsPath root d = none ∨
    (d = [] ∧ getBlobsPath root d = some (renderPath (isRooted root) (rootStack root ++ [sBlobs]))) ∨
    ∃ hex, hex.length = 64 ∧ (∀ c ∈ hex, isHexB c = true) ∧ SafeComp (sSha256 ++ cDash :: hex) ∧
      getBlobsPath root d = some (renderPath (isRooted root) (rootStack root ++ [sBlobs, sSha256 ++ cDash :: hex])) := by
  cases d with
  | nil => exact Or.inr (Or.inl ⟨rfl, blob_path_empty_anyroot root hroot⟩)
  | cons x xs =>
    rcases blob_path_confined_anyroot root hroot (x :: xs) (by simp) with h | h
    · exact Or.inl h
    · exact Or.inr (Or.inr h)

/-- **Legacy blob path confinement** (`server.GetBlobsPath`): for every byte string, the call is refused, or
    the string is empty and the result is the blobs directory itself (`<models>/blobs`, the documented
    overload), or the result is `<models>/blobs/sha256-<64 hex digits>`: one safe component below `blobs`. -/
theorem blob_path_confined_legacy (rc : List Bytes) (hrc : rc ≠ []) (hs : ∀ c ∈ rc, CleanComp c) (d : Bytes) :
    getBlobsPath (absPath rc) d = none ∨
    (d = [] ∧ getBlobsPath (absPath rc) d = some (absPath (rc ++ [sBlobs]))) ∨
    ∃ hex, hex.length = 64 ∧ (∀ c ∈ hex, isHexB c = true) ∧ SafeComp (sSha256 ++ cDash :: hex) ∧
      getBlobsPath (absPath rc) d = some (absPath (rc ++ [sBlobs, sSha256 ++ cDash :: hex])) := by
  have h := blob_handler_confined (absPath rc) (List.cons_ne_nil _ _) d
  rw [rootStack_absPath rc hs] at h
  exact h

/-! ## the new cache: case folding and confinement of `manifestPath` -/

/-- names equal up to ASCII case, part by part (`names.Name.Compare(o) == 0`) -/
def foldEqName (a b : Name) : Prop :=
  a.host.map toLowerB = b.host.map toLowerB ∧ a.ns.map toLowerB = b.ns.map toLowerB ∧
  a.model.map toLowerB = b.model.map toLowerB ∧ a.tag.map toLowerB = b.tag.map toLowerB

theorem pathJoin_manifests (comps : List Bytes) (hne : comps ≠ []) (hc : ∀ c ∈ comps, SafeComp c) :
    pathJoin [sManifests, joinWith cSlash comps] = joinWith cSlash (sManifests :: comps) := by
  obtain ⟨b, rest, rfl⟩ := List.exists_cons_of_ne_nil hne
  exact (pathJoin_cons sManifests (by decide) _).trans (clean_relPath (sManifests :: b :: rest) (List.cons_ne_nil _ _)
    (List.forall_mem_cons.mpr ⟨clean_manifests, fun c h => (hc c h).toClean⟩))

theorem manifestPath_eq_rel (dir : Bytes) (links : List Bytes) (s : Bytes) :
    manifestPath dir links s = (manifestRel links s).map (fun r => pathJoin [dir, r]) := by
  unfold manifestPath manifestRel
  cases nameToPath s with
  | none => rfl
  | some np =>
    simp only
    cases links.find? (equalFold (pathJoin [sManifests, np])) <;> rfl

/-- the link path the cache looks for and would create: `manifests/<host>/<ns>/<model>/<tag>` -/
def wantRel (n : Name) : Bytes := joinWith cSlash [sManifests, n.host, n.ns, n.model, n.tag]

theorem wantRel_clean {n : Name} (h : isFQN n = true) :
    ∀ c ∈ [sManifests, n.host, n.ns, n.model, n.tag], CleanComp c :=
  List.forall_mem_cons.mpr ⟨clean_manifests, fun c hc => (fq_safeN h c hc).toClean⟩

theorem manifestRel_accepted (disk : List Bytes) (s : Bytes) (h : isFQN (parseN s) = true) :
    manifestRel disk s
      = some ((disk.find? (equalFold (wantRel (parseN s)))).getD (wantRel (parseN s))) := by
  simp only [manifestRel, wantRel, nameToPath_accepted s h, pathJoin_manifests _ (List.cons_ne_nil _ _) (fq_safeN h)]
  cases disk.find? _ <;> rfl

theorem manifestRel_cases (disk : List Bytes) (s : Bytes) :
    manifestRel disk s = none ∨
    (isFQN (parseN s) = true ∧
      ((∃ l ∈ disk, manifestRel disk s = some l ∧ equalFold (wantRel (parseN s)) l = true) ∨
       (manifestRel disk s = some (wantRel (parseN s)) ∧ ∀ l ∈ disk, ¬ equalFold (wantRel (parseN s)) l = true))) := by
  cases hfq : isFQN (parseN s) with
  | false => left; simp only [manifestRel, nameToPath_refused s hfq]
  | true =>
    refine Or.inr ⟨rfl, ?_⟩
    rw [manifestRel_accepted disk s hfq]
    cases hfind : disk.find? (equalFold (wantRel (parseN s))) with
    | some l => exact Or.inl ⟨l, List.mem_of_find?_eq_some hfind, rfl, List.find?_some hfind⟩
    | none => exact Or.inr ⟨rfl, List.find?_eq_none.mp hfind⟩

theorem equalFold_wantRel_congr {a b : Name} (hf : foldEqName a b) :
    equalFold (wantRel a) = equalFold (wantRel b) := by
  obtain ⟨h1, h2, h3, h4⟩ := hf
  funext l
  simp only [equalFold, wantRel, joinWith, List.map_append, List.map_cons, h1, h2, h3, h4]

/-- **Case-insensitive equality ⇒ same manifest path (new cache).**  For every cache directory, every on-disk
    link listing and every two input strings that `nameToPath` accepts and whose parsed names are equal up to
    case: the lookup selects the same link for both; so whenever a manifest for either spelling exists on disk
    both names resolve to that one existing file.  (When none exists each gets the path where ITS spelling
    would be created; nothing on disk is addressed.) -/
theorem fold_same_path (dir : Bytes) (links : List Bytes) (s1 s2 : Bytes)
    (h1 : nameToPath s1 ≠ none) (h2 : nameToPath s2 ≠ none) (hf : foldEqName (parseN s1) (parseN s2)) :
    let want (s : Bytes) := pathJoin [sManifests, joinWith cSlash [(parseN s).host, (parseN s).ns, (parseN s).model, (parseN s).tag]]
    links.find? (equalFold (want s1)) = links.find? (equalFold (want s2)) ∧
    (∀ l, links.find? (equalFold (want s1)) = some l →
      manifestPath dir links s1 = some (pathJoin [dir, l]) ∧ manifestPath dir links s2 = some (pathJoin [dir, l])) ∧
    (links.find? (equalFold (want s1)) = none →
      manifestPath dir links s1 = some (pathJoin [dir, want s1]) ∧
      manifestPath dir links s2 = some (pathJoin [dir, want s2])) := by
  intro want
  have q1 := isFQN_of_nameToPath h1
  have q2 := isFQN_of_nameToPath h2
  have w1 : want s1 = wantRel (parseN s1) := pathJoin_manifests _ (List.cons_ne_nil _ _) (fq_safeN q1)
  have w2 : want s2 = wantRel (parseN s2) := pathJoin_manifests _ (List.cons_ne_nil _ _) (fq_safeN q2)
  rw [w1, w2, manifestPath_eq_rel, manifestPath_eq_rel, manifestRel_accepted links s1 q1,
    manifestRel_accepted links s2 q2, ← equalFold_wantRel_congr hf]
  refine ⟨rfl, ?_, ?_⟩
  · intro l hl; rw [hl]; exact ⟨rfl, rfl⟩
  · intro hl; rw [hl]; exact ⟨rfl, rfl⟩

/-- **New cache manifest path confinement**: for every input string and every listing, `manifestPath` refuses,
    or returns `<dir>/<l>` for a link `l` of the on-disk listing (produced by `fs.Glob("manifests/*/*/*/*")`),
    or returns `<dir>/manifests/<host>/<ns>/<model>/<tag>` with exactly these safe components. -/
theorem manifest_path_confined_cache (rc : List Bytes) (hrc : rc ≠ []) (hs : ∀ c ∈ rc, CleanComp c)
    (links : List Bytes) (s : Bytes) :
    manifestPath (absPath rc) links s = none ∨
    (∃ l ∈ links, manifestPath (absPath rc) links s = some (pathJoin [absPath rc, l])) ∨
    ∃ h ns m t, (∀ c ∈ [h, ns, m, t], SafeComp c) ∧
      manifestPath (absPath rc) links s = some (absPath (rc ++ [sManifests, h, ns, m, t])) := by
  rw [manifestPath_eq_rel]
  rcases manifestRel_cases links s with h | ⟨hfq, ⟨l, hl, h, _⟩ | ⟨h, _⟩⟩
  · rw [h]; exact Or.inl rfl
  · rw [h]; exact Or.inr (Or.inl ⟨l, hl, rfl⟩)
  · rw [h]
    exact Or.inr (Or.inr ⟨_, _, _, _, fq_safeN hfq, congrArg some
      (pathJoin_abs_rel rc hs _ (List.cons_ne_nil _ _) (wantRel_clean hfq))⟩)

theorem nameToPath_toStr {n : Name} (h : isFQN n = true) :
    nameToPath (toStr n) = some (joinWith cSlash [n.host, n.ns, n.model, n.tag]) := by
  have hp := print_parse_names n h
  rw [nameToPath_accepted _ (hp.symm ▸ h), hp]

/-- **Registry client**: whatever `parseNameExtended` accepts is either "digest only" (zero name) or a fully
    qualified name, whose printed form the cache's `nameToPath` accepts and maps to its four parts. -/
theorem ext_accepted_fq (mask : Name) (s scheme d : Bytes) (n : Name)
    (h : parseNameExtended mask s = .ok (scheme, n, d)) :
    n = Name.zero ∨ (isFQN n = true ∧
      nameToPath (toStr n) = some (joinWith cSlash [n.host, n.ns, n.model, n.tag])) := by
  unfold parseNameExtended at h
  simp only at h
  split at h
  · cases h
  · split at h
    · cases h
    · split at h
      · left; cases h; rfl
      · split at h
        · rename_i n' hn
          cases h
          have hfq := (roundtrip_names mask _ _ hn).2.2
          exact Or.inr ⟨hfq, nameToPath_toStr hfq⟩
        · cases h

/-! ## the new cache's blob path -/

theorem lowerHexDigit_hex : ∀ n, n < 16 → isHexB (lowerHexDigit n) = true := by decide

theorem hexEncode_hex (bs : Bytes) : ∀ c ∈ hexEncode bs, isHexB c = true := by
  intro c hc
  simp only [hexEncode, List.mem_flatMap, List.mem_cons, List.not_mem_nil, or_false] at hc
  obtain ⟨b, _, rfl | rfl⟩ := hc
  · exact lowerHexDigit_hex _ (by have := b.toNat_lt; omega)
  · exact lowerHexDigit_hex _ (by omega)

/-- **New cache blob path confinement** (`DiskCache.GetFile`): for every digest value (any bytes), the path is
    `<dir>/blobs/sha256-<lower-case hex>`: exactly one safe component below `blobs`. -/
theorem blob_path_confined_cache (rc : List Bytes) (hrc : rc ≠ []) (hs : ∀ c ∈ rc, CleanComp c) (sum : Bytes) :
    getFile (absPath rc) sum = absPath (rc ++ [sBlobs, sSha256 ++ cDash :: hexEncode sum]) ∧
    SafeComp (sSha256 ++ cDash :: hexEncode sum) := by
  have hsafe := safe_blob_name _ (hexEncode_hex sum)
  refine ⟨?_, hsafe⟩
  unfold getFile
  rw [show pathJoin [absPath rc, sBlobs, sSha256 ++ cDash :: hexEncode sum] = _ from
    pathJoin_anyroot (absPath rc) (List.cons_ne_nil _ _) sBlobs clean_blobs [_] (List.cons_ne_nil _ _)
      (List.forall_mem_singleton.mpr hsafe.toClean), rootStack_absPath rc hs]
  -- `GetFile` cleans once more: the identity on the absolute clean path
  exact clean_absPath' (rc ++ [sBlobs, _]) (List.forall_mem_append.mpr
    ⟨hs, List.forall_mem_cons.mpr ⟨clean_blobs, List.forall_mem_singleton.mpr hsafe.toClean⟩⟩)

/-! ## the two digest validators accept the same language -/

theorem hexNibble_isSome (c : UInt8) : (hexNibble c).isSome = isHexB c :=
  Basic.forall_byte (P := fun c => (hexNibble c).isSome = isHexB c) (by decide +kernel) c

theorem hexDecode_cons_isSome (a b : UInt8) (rest : Bytes) :
    (hexDecode (a :: b :: rest)).isSome
      = ((hexNibble a).isSome && ((hexNibble b).isSome && (hexDecode rest).isSome)) := by
  simp only [hexDecode]
  cases hexNibble a <;> cases hexNibble b <;> cases hexDecode rest <;> rfl

theorem hexDecode_isSome (hex : Bytes) :
    (hexDecode hex).isSome = (hex.length % 2 == 0 && hex.all isHexB) := by
  match hex with
  | [] => rfl
  | [_] => rfl
  | a :: b :: rest =>
    simp only [hexDecode_cons_isSome, hexDecode_isSome rest, hexNibble_isSome, List.length_cons, List.all_cons,
      Nat.add_assoc, Nat.add_mod_right, Bool.and_left_comm]

theorem matchDigestRe_shape (sep : UInt8) (hex : Bytes) :
    matchDigestRe (sSha256 ++ sep :: hex)
      = ((sep == cColon || sep == cDash) && hex.length == 64 && hex.all isHexB) := by
  show (sSha256 == sSha256 && _) = _
  rw [beq_self_eq_true]
  rfl

theorem parseDigest_shape (sep : UInt8) (hsep : sep = cColon ∨ sep = cDash) (hex : Bytes) :
    parseDigest (sSha256 ++ sep :: hex) = if hex.length = 64 then hexDecode hex else none := by
  rw [parseDigest, splitFirst_append _ _ _ _ (by rcases hsep with rfl | rfl <;> decide) (by decide)]
  by_cases hl : hex.length = 64 <;> simp [hl]

/-- **The two digest validators accept exactly the same strings**: the legacy regexp
    `^sha256[:-][0-9a-fA-F]{64}$` (`GetBlobsPath`) and `blob.ParseDigest` (first `:`/`-`, prefix `sha256`,
    64 characters that `hex.Decode` accepts) — for every byte string. -/
theorem digest_validators_agree (s : Bytes) : matchDigestRe s = (parseDigest s).isSome := by
  rw [Bool.eq_iff_iff]
  constructor
  · intro h
    obtain ⟨sep, hex, rfl, hsep, hlen, hhex⟩ := digest_re_shape s h
    rw [parseDigest_shape sep hsep, if_pos hlen, hexDecode_isSome, hlen]
    exact List.all_eq_true.mpr hhex
  · intro h
    unfold parseDigest at h
    split at h
    · cases h
    · next pre sum sep hsf =>
      obtain ⟨rfl, (hp : (sep == cColon || sep == cDash) = true)⟩ := splitFirst_some _ _ _ _ _ hsf
      split at h
      · cases h
      · next hcond =>
        simp only [Bool.or_eq_true, bne_iff_ne, ne_eq, not_or, Decidable.not_not] at hcond
        obtain ⟨rfl, hlen⟩ := hcond
        rw [hexDecode_isSome, hlen] at h
        rw [matchDigestRe_shape, hp, hlen]
        exact h

/-- the blob file of an accepted digest in the new cache: `ParseDigest` then `GetFile`, for every string -/
theorem digest_rejected_or_confined_cache (rc : List Bytes) (hrc : rc ≠ []) (hs : ∀ c ∈ rc, CleanComp c) (s : Bytes) :
    parseDigest s = none ∨
    ∃ sum, parseDigest s = some sum ∧
      getFile (absPath rc) sum = absPath (rc ++ [sBlobs, sSha256 ++ cDash :: hexEncode sum]) ∧
      SafeComp (sSha256 ++ cDash :: hexEncode sum) := by
  cases h : parseDigest s with
  | none => exact Or.inl rfl
  | some sum => exact Or.inr ⟨sum, rfl, blob_path_confined_cache rc hrc hs sum⟩

/-! ## the cache's manifest paths: `names.Parse` → `DiskCache.manifestPath` / `Resolve` -/

/-- a path as returned by `fs.Glob(os.DirFS(dir), "manifests/*/*/*/*")`: `manifests/` followed by four directory
    entry names (an entry name is non-empty, is not `.`/`..`, contains no `/`) -/
def GlobLink (l : Bytes) : Prop :=
  ∃ a b c d, (∀ x ∈ [a, b, c, d], CleanComp x) ∧ l = joinWith cSlash [sManifests, a, b, c, d]

/-- `p` is `<root>/manifests/a/b/c/d`: the root's components, then `manifests`, then exactly four components that
    `filepath.Clean` leaves alone (no `..`, no separator) — inside `<root>/manifests` at depth 4 -/
def ConfinedManifest (rc : List Bytes) (p : Bytes) : Prop :=
  ∃ a b c d, (∀ x ∈ [a, b, c, d], CleanComp x) ∧ p = absPath (rc ++ [sManifests, a, b, c, d])

theorem names_isValidPart_safe (k : Kind) (s : Bytes) (hne : s ≠ []) (h : validPartN k s = true) :
    SafeComp s ∧ CleanComp s ∧ s.length ≤ maxLen k :=
  ⟨(valid_part_safe_names k s hne h).1, (valid_part_safe_names k s hne h).1.toClean, (valid_part_safe_names k s hne h).2⟩

theorem names_manifestPath_accepts_iff (dir : Bytes) (links : List Bytes) (s : Bytes) :
    (manifestPath dir links s).isSome = isFQN (parseN s) := by
  unfold manifestPath nameToPath
  cases h : isFQN (parseN s) with
  | false => simp [h]
  | true =>
    simp only [h, if_true]
    split <;> rfl

/-- **names.Parse → DiskCache.manifestPath confinement.**  For every cache directory (absolute, clean), every
    on-disk listing of glob shape and EVERY input byte string `s`: `manifestPath` refuses (`errInvalidName`,
    exactly when `names.Parse(s)` is not fully qualified), or returns `<dir>/manifests/a/b/c/d` — either an
    existing link that equals the wanted path under case folding, or the four safe parts of the parsed name. -/
theorem names_manifestPath_confined (rc : List Bytes) (hrc : rc ≠ []) (hs : ∀ c ∈ rc, CleanComp c)
    (links : List Bytes) (hl : ∀ l ∈ links, GlobLink l) (s : Bytes) :
    manifestPath (absPath rc) links s = none ∨
    ∃ p, manifestPath (absPath rc) links s = some p ∧ ConfinedManifest rc p ∧
      ((∃ l ∈ links, p = pathJoin [absPath rc, l] ∧ equalFold (joinWith cSlash
          [sManifests, (parseN s).host, (parseN s).ns, (parseN s).model, (parseN s).tag]) l = true) ∨
       (p = absPath (rc ++ [sManifests, (parseN s).host, (parseN s).ns, (parseN s).model, (parseN s).tag]) ∧
        ∀ c ∈ [(parseN s).host, (parseN s).ns, (parseN s).model, (parseN s).tag], SafeComp c)) := by
  rw [manifestPath_eq_rel]
  rcases manifestRel_cases links s with h | ⟨hfq, ⟨l, hmem, h, hpred⟩ | ⟨h, _⟩⟩
  · rw [h]; exact Or.inl rfl
  · rw [h]
    obtain ⟨a, b, c, d, habcd, rfl⟩ := hl l hmem
    exact Or.inr ⟨_, rfl, ⟨a, b, c, d, habcd, pathJoin_abs_rel rc hs _ (List.cons_ne_nil _ _)
      (List.forall_mem_cons.mpr ⟨clean_manifests, habcd⟩)⟩, Or.inl ⟨_, hmem, rfl, hpred⟩⟩
  · rw [h]
    have := pathJoin_abs_rel rc hs _ (List.cons_ne_nil _ _) (wantRel_clean hfq)
    exact Or.inr ⟨_, rfl, ⟨_, _, _, _, fun x hx => (fq_safeN hfq x hx).toClean, this⟩, Or.inr ⟨this, fq_safeN hfq⟩⟩

theorem manifestPath_toStr_confined (rc : List Bytes) (hrc : rc ≠ []) (hs : ∀ c ∈ rc, CleanComp c)
    (links : List Bytes) (hl : ∀ l ∈ links, GlobLink l) (n : Name) (hfq : isFQN n = true) :
    ∃ p, manifestPath (absPath rc) links (toStr n) = some p ∧ ConfinedManifest rc p := by
  rcases names_manifestPath_confined rc hrc hs links hl (toStr n) with hnone | ⟨p, hp, hc, _⟩
  · have := names_manifestPath_accepts_iff (absPath rc) links (toStr n)
    rw [hnone, print_parse_names n hfq, hfq] at this
    cases this
  · exact ⟨p, hp, hc⟩

/-- **Registry client → cache.**  For every extended name string (`scheme://host/ns/model:tag@digest`, any part
    optional, any mask) that `parseNameExtended` accepts with a name: the string the client hands to the cache
    (`n.String()`) is accepted by `DiskCache.manifestPath` and resolves inside `<dir>/manifests` at depth 4. -/
theorem client_manifestPath_confined (rc : List Bytes) (hrc : rc ≠ []) (hs : ∀ c ∈ rc, CleanComp c)
    (links : List Bytes) (hl : ∀ l ∈ links, GlobLink l) (mask : Name) (s scheme d : Bytes) (n : Name)
    (h : parseNameExtended mask s = .ok (scheme, n, d)) (hn : n ≠ Name.zero) :
    isFQN n = true ∧ ∃ p, manifestPath (absPath rc) links (toStr n) = some p ∧ ConfinedManifest rc p := by
  rcases ext_accepted_fq mask s scheme d n h with h0 | ⟨hfq, _⟩
  · exact absurd h0 hn
  · exact ⟨hfq, manifestPath_toStr_confined rc hrc hs links hl n hfq⟩

/-- **DiskCache.Resolve addressing.**  For every input string: invalid, or a digest (whose blob file is
    `<dir>/blobs/sha256-<hex>`, see `blob_path_confined_cache`), or a manifest file inside `<dir>/manifests` at
    depth 4. -/
theorem cacheResolve_confined (rc : List Bytes) (hrc : rc ≠ []) (hs : ∀ c ∈ rc, CleanComp c)
    (links : List Bytes) (hl : ∀ l ∈ links, GlobLink l) (s : Bytes) :
    cacheResolve (absPath rc) links s = .invalid ∨
    (∃ sum, cacheResolve (absPath rc) links s = .digest sum ∧ parseDigest (splitNameDigest s).2 = some sum) ∨
    ∃ p, cacheResolve (absPath rc) links s = .manifest p ∧ ConfinedManifest rc p := by
  unfold cacheResolve
  simp only
  split
  · cases hd : parseDigest (splitNameDigest s).2 with
    | none => left; rfl
    | some sum => right; left; exact ⟨sum, rfl, rfl⟩
  · rcases names_manifestPath_confined rc hrc hs links hl (splitNameDigest s).1 with hnone | ⟨p, hp, hc, _⟩
    · left; simp [hnone]
    · right; right; exact ⟨p, by simp [hp], hc⟩

/-! ## the property statement, entry point by entry point -/

/-- **C13, top level.**  For every byte string `s` and every models directory `<root>` (absolute, `CleanComp` components):
    (1) as a name through the legacy `ParseModelPath`/`GetManifestPath`: refused or `<root>/manifests/h/ns/m/t`;
    (2) as a name through `model.ParseName`/`Filepath`: refused (panic guard) or four safe components;
    (3) as a name relative path: zero name, or exactly `Filepath()` of the returned qualified name;
    (4) as a digest through `GetBlobsPath`: refused, blobs dir for the empty string, or `<root>/blobs/sha256-<hex>`;
    (5) as a digest through `blob.ParseDigest`/`GetFile`: refused or `<root>/blobs/sha256-<lower hex>`;
    (6) as a name through the new cache (any glob-shaped listing): refused or `<root>/manifests/a/b/c/d`. -/
theorem C13_rejected_or_confined (rc : List Bytes) (hrc : rc ≠ []) (hs : ∀ c ∈ rc, CleanComp c)
    (links : List Bytes) (hl : ∀ l ∈ links, GlobLink l) (s : Bytes) :
    (mpManifestPath (absPath rc) (parseModelPath s) = none ∨
      ∃ h ns m t, (∀ c ∈ [h, ns, m, t], SafeComp c) ∧
        mpManifestPath (absPath rc) (parseModelPath s) = some (absPath (rc ++ [sManifests, h, ns, m, t]))) ∧
    (filepathM (parseName s) = none ∨
      (filepathM (parseName s) = some (joinWith cSlash
          [(parseName s).host, (parseName s).ns, (parseName s).model, (parseName s).tag]) ∧
        ∀ c ∈ [(parseName s).host, (parseName s).ns, (parseName s).model, (parseName s).tag], SafeComp c)) ∧
    (parseNameFromFilepath s = Name.zero ∨
      (isFQM (parseNameFromFilepath s) = true ∧ filepathM (parseNameFromFilepath s) = some s)) ∧
    (getBlobsPath (absPath rc) s = none ∨
      (s = [] ∧ getBlobsPath (absPath rc) s = some (absPath (rc ++ [sBlobs]))) ∨
      ∃ hex, hex.length = 64 ∧ (∀ c ∈ hex, isHexB c = true) ∧ SafeComp (sSha256 ++ cDash :: hex) ∧
        getBlobsPath (absPath rc) s = some (absPath (rc ++ [sBlobs, sSha256 ++ cDash :: hex]))) ∧
    (parseDigest s = none ∨
      ∃ sum, parseDigest s = some sum ∧
        getFile (absPath rc) sum = absPath (rc ++ [sBlobs, sSha256 ++ cDash :: hexEncode sum]) ∧
        SafeComp (sSha256 ++ cDash :: hexEncode sum)) ∧
    (manifestPath (absPath rc) links s = none ∨
      ∃ p, manifestPath (absPath rc) links s = some p ∧ ConfinedManifest rc p) := by
  refine ⟨rejected_or_confined_legacy rc hrc hs s, ?_, relpath_accepted s,
    blob_path_confined_legacy rc hrc hs s, digest_rejected_or_confined_cache rc hrc hs s, ?_⟩
  · cases h : isFQM (parseName s) with
    | false => exact Or.inl ((filepath_shape _).1 h)
    | true => exact Or.inr ((filepath_shape _).2 h)
  · rcases names_manifestPath_confined rc hrc hs links hl s with h | ⟨p, hp, hc, _⟩
    · exact Or.inl h
    · exact Or.inr ⟨p, hp, hc⟩

/-! ## the model's formulations are the literal Go text -/

/-- `strings.LastIndex(s, string(c))` (`none` = -1) -/
def lastIndex (c : UInt8) : Bytes → Option Nat
  | [] => none
  | x :: xs =>
    match lastIndex c xs with
    | some i => some (i + 1)
    | none => if x == c then some 0 else none

/-- `i > j` on Go's index results, `none` standing for -1 -/
def gtIdx : Option Nat → Option Nat → Bool
  | some i, some j => decide (i > j)
  | some _, none => true
  | none, _ => false

/-- the literal text of ParseNameBare's first statement:
    `if strings.LastIndex(s, ":") > strings.LastIndex(s, "/") { s, n.Tag, _ = cutPromised(s, ":") }` -/
def cutTagLit (s : Bytes) : Bytes × Bytes :=
  if gtIdx (lastIndex cColon s) (lastIndex cSlash s) then
    match cutPromised cColon s with
    | some (b, a) => (b, a)
    | none => (s, [])
  else (s, [])

theorem lastIndex_eq (c : UInt8) (s : Bytes) :
    lastIndex c s = (splitLast (· == c) s).map (·.1.length) := by
  induction s with
  | nil => rfl
  | cons x xs ih =>
    rw [lastIndex, splitLast, ih]
    cases splitLast (· == c) xs with
    | some t => rfl
    | none =>
      dsimp only
      cases x == c <;> rfl

theorem gtIdx_succ (i j : Nat) : gtIdx (some (i + 1)) (some (j + 1)) = gtIdx (some i) (some j) :=
  decide_eq_decide.mpr Nat.succ_lt_succ_iff

/-- the later of the two last occurrences wins -/
theorem splitLast_or (p q : UInt8 → Bool) (s : Bytes) :
    splitLast (fun x => p x || q x) s
      = if gtIdx ((splitLast p s).map (·.1.length)) ((splitLast q s).map (·.1.length)) then splitLast p s
        else splitLast q s := by
  induction s with
  | nil => rfl
  | cons x xs ih =>
    rw [splitLast, splitLast, splitLast, ih]
    cases splitLast p xs with
    | some t =>
      cases splitLast q xs with
      | some u =>
        simp only [Option.map_some, List.length_cons, gtIdx_succ]
        by_cases hg : gtIdx (some t.1.length) (some u.1.length) = true
        · rw [if_pos hg, if_pos hg]
        · rw [if_neg hg, if_neg hg]
      | none => cases q x <;> rfl
    | none =>
      cases splitLast q xs with
      | some u => cases p x <;> rfl
      | none => cases p x <;> cases q x <;> rfl

/-- **The model's `cutTag` is the literal Go statement**: comparing the two `strings.LastIndex` results (with -1
    for "absent") and then cutting at the last `:` is the same, for every byte string, as the one-pass
    formulation used in `parseNameBare`. -/
theorem cutTag_literal (s : Bytes) : cutTagLit s = cutTag s := by
  rw [cutTagLit, cutTag, cutPromised, lastIndex_eq, lastIndex_eq, splitLast_or (· == cColon) (· == cSlash)]
  split
  · cases h : splitLast (· == cColon) s with
    | none => rfl
    | some t => exact (if_pos (splitLast_some _ _ _ _ _ h).2).symm
  · cases h : splitLast (· == cSlash) s with
    | none => rfl
    | some t =>
      have := eq_of_beq (splitLast_some _ _ _ _ _ h).2
      simp only [this]
      rfl

/-! ## the left operand of EqualFold is ASCII -/

/-- **The wanted manifest path is pure ASCII** for every accepted name — the precondition under which the
    model's `equalFold` is exactly `strings.EqualFold` (any bytes on the link side). -/
theorem manifest_want_ascii (s : Bytes) (h : isFQN (parseN s) = true) :
    ∀ c ∈ joinWith cSlash [sManifests, (parseN s).host, (parseN s).ns, (parseN s).model, (parseN s).tag],
      c.toNat < 128 := by
  obtain ⟨hh, hn, hm, ht⟩ := (isFQM_iff _).mp ((isFQM_eq_isFQN _).trans h)
  have part := fun k p (hp : validPartM k p = true) => charsOk_ascii k p (validPartM_charsOk hp)
  have hs : cSlash.toNat < 128 := by decide
  simp only [joinWith, List.forall_mem_append, List.forall_mem_cons]
  exact ⟨by decide, hs, part _ _ hh, hs, part _ _ hn, hs, part _ _ hm, hs, part _ _ ht⟩

/-! ## histories on one DiskCache over a shared manifests directory (foreign writers) -/

/-- Running a history and then one more operation is one `stepH` on the directory contents the history left behind
    (that a call depends on nothing else is how `stepH` is built). -/
theorem runH_append (disk : List Bytes) (h : List HOp) (op : HOp) :
    runH disk (h ++ [op]) = ((stepH (runH disk h).1 op).1, (runH disk h).2 ++ [(stepH (runH disk h).1 op).2]) := by
  induction h generalizing disk with
  | nil => simp [runH]
  | cons o os ih =>
    simp only [List.cons_append, runH]
    rw [ih]

/-- no two manifests on disk differ only by (ASCII) letter case -/
def NoTwins (disk : List Bytes) : Prop :=
  ∀ x ∈ disk, ∀ y ∈ disk, x.map toLowerB = y.map toLowerB → x = y

theorem NoTwins.subset {d d' : List Bytes} (h : NoTwins d) (hs : ∀ x ∈ d', x ∈ d) : NoTwins d' :=
  fun x hx y hy => h x (hs x hx) y (hs y hy)

/-- a string that is equal to the ASCII string `w` up to case is matched by `EqualFold(w, ·)` -/
theorem equalFold_of_lowerEq (w y : Bytes) (hw : ∀ c ∈ w, c.toNat < 128)
    (h : w.map toLowerB = y.map toLowerB) : equalFold w y = true := by
  -- `y` is ASCII as well: each of its bytes has the lower-case form of a byte of `w`
  refine (foldMatch_ascii _ y fun c hc => ?_).mpr h
  obtain ⟨d, hd, e⟩ := List.mem_map.mp (h ▸ List.mem_map_of_mem (f := toLowerB) hc)
  exact (toLowerB_ascii c).mp (e ▸ (toLowerB_ascii d).mpr (hw d hd))

/-- **Cache operations never create a case twin.**  If no two manifests on disk differ only by case, then after
    `Resolve`, `Link` or `Unlink` of ANY name string none do (`Link` writes to the existing spelling when one
    exists; it creates a new path only when no link equals it under case folding). -/
theorem stepH_cache_noTwins (disk : List Bytes) (h : NoTwins disk) (n : Bytes) :
    NoTwins (stepH disk (.resolve n)).1 ∧ NoTwins (stepH disk (.link n)).1 ∧ NoTwins (stepH disk (.unlink n)).1 := by
  refine ⟨h, ?_, ?_⟩
  · simp only [stepH]
    rcases manifestRel_cases disk n with h0 | ⟨hfq, ⟨l, hl, h1, _⟩ | ⟨h1, hno⟩⟩
    · rw [h0]; exact h
    · rw [h1]
      exact h.subset fun x hx => (mem_insertLink _ _ _ hx).elim (fun e => e ▸ hl) id
    · rw [h1]
      have hascii := manifest_want_ascii n hfq
      intro x hx y hy hxy
      rcases mem_insertLink _ _ _ hx with rfl | mx <;> rcases mem_insertLink _ _ _ hy with rfl | my
      · rfl
      · exact absurd (equalFold_of_lowerEq _ y hascii hxy) (hno y my)
      · exact absurd (equalFold_of_lowerEq _ x hascii hxy.symm) (hno x mx)
      · exact h x mx y my hxy
  · simp only [stepH]
    cases manifestRel disk n with
    | none => exact h
    | some r => exact h.subset (mem_removeLink r disk)

def HOp.isCache : HOp → Bool
  | .resolve _ | .link _ | .unlink _ => true
  | .fwrite _ | .fremove _ => false

/-- foreign removals cannot create twins either; only a foreign WRITE can -/
theorem stepH_noTwins (disk : List Bytes) (h : NoTwins disk) (op : HOp)
    (hop : ∀ rel, op ≠ .fwrite rel) : NoTwins (stepH disk op).1 := by
  cases op with
  | resolve n => exact (stepH_cache_noTwins disk h n).1
  | link n => exact (stepH_cache_noTwins disk h n).2.1
  | unlink n => exact (stepH_cache_noTwins disk h n).2.2
  | fwrite rel => exact absurd rfl (hop rel)
  | fremove rel => exact h.subset (mem_removeLink rel disk)

/-- **After any history without a foreign write, no two manifest paths differ only by case** (from a twin-free
    directory, e.g. the empty one). -/
theorem runH_noTwins (disk : List Bytes) (h : NoTwins disk) (ops : List HOp)
    (hops : ∀ op ∈ ops, ∀ rel, op ≠ .fwrite rel) : NoTwins (runH disk ops).1 := by
  induction ops generalizing disk with
  | nil => exact h
  | cons op rest ih =>
    simp only [runH]
    exact ih _ (stepH_noTwins disk h op (hops op List.mem_cons_self))
      (fun o ho => hops o (List.mem_cons_of_mem _ ho))

/-- **Every spelling resolves to the same file**, whatever the directory contains (twins made by foreign writers
    included: the first in glob order wins for all spellings): two accepted names equal up to case select the
    same existing link, or both select none. -/
theorem manifestRel_fold (disk : List Bytes) (s1 s2 : Bytes)
    (h1 : nameToPath s1 ≠ none) (h2 : nameToPath s2 ≠ none) (hf : foldEqName (parseN s1) (parseN s2)) :
    (∀ l ∈ disk, manifestRel disk s1 = some l → manifestRel disk s2 = some l) ∧
    ((∀ l ∈ disk, manifestRel disk s1 ≠ some l) → ∀ l ∈ disk, manifestRel disk s2 ≠ some l) := by
  have q1 := isFQN_of_nameToPath h1
  have q2 := isFQN_of_nameToPath h2
  have hpred := equalFold_wantRel_congr hf
  rw [manifestRel_accepted disk s1 q1, manifestRel_accepted disk s2 q2, ← hpred]
  cases hq : disk.find? (equalFold (wantRel (parseN s1))) with
  | some l0 => exact ⟨fun l _ h => h, fun hno => absurd rfl (hno l0 (List.mem_of_find?_eq_some hq))⟩
  | none =>
    -- a wanted path that no link matches is not itself on disk: it would match itself
    have hno := List.find?_eq_none.mp hq
    constructor
    · intro l hl hsome
      cases hsome
      exact absurd (equalFold_of_lowerEq _ _ (manifest_want_ascii s1 q1) rfl) (hno _ hl)
    · intro _ l hl hsome
      cases hsome
      exact absurd (equalFold_of_lowerEq _ _ (manifest_want_ascii s2 q2) rfl) (hpred ▸ hno _ hl)

/-- a concrete history: lookup, FOREIGN write of `h/n/Phi/t`, then `h/n/phi:t`
    resolves to the foreign file, `Link` under `h/n/PHI:t` goes to that same file and creates no twin -/
example :
    let phiRel : Bytes := [109, 97, 110, 105, 102, 101, 115, 116, 115, 47, 104, 47, 110, 47, 80, 104, 105, 47, 116]
    let lower : Bytes := [104, 47, 110, 47, 112, 104, 105, 58, 116]
    let upper : Bytes := [104, 47, 110, 47, 80, 72, 73, 58, 116]
    runH [] [.resolve lower, .fwrite phiRel, .resolve lower, .link upper, .resolve lower]
      = ([phiRel], [some ⟨some [109, 97, 110, 105, 102, 101, 115, 116, 115, 47, 104, 47, 110, 47, 112, 104, 105, 47, 116], false⟩,
          none, some ⟨some phiRel, true⟩, some ⟨some phiRel, true⟩, some ⟨some phiRel, true⟩]) := by
  decide

/-! ## non-vacuity -/

/-- the hypotheses of the theorems above are met by non-trivial concrete values: a fully qualified name with a
    port in the host and dots/dashes, a two-component models directory, a well-formed digest -/
example :
    let n : Name := { host := [104, 58, 56, 48], ns := [110, 45, 49], model := [109, 46, 50], tag := [118, 95, 51] }
    isFQM n = true ∧ isFQN n = true ∧ isFQM (parseName [109]) = true ∧
    registryParseName defaultMask [104, 47, 47, 109] ≠ none ∧
    nameToPath (toStr n) ≠ none ∧
    matchDigestRe (sSha256 ++ cColon :: List.replicate 64 97) = true ∧
    parseNameFromFilepath [104, 47, 110, 47, 109, 47, 116] ≠ Name.zero := by
  decide

/-- the DEFAULT models directory `/home/u/.ollama/models` -/
def defaultRoot : List Bytes := [[104, 111, 109, 101], [117], [46, 111, 108, 108, 97, 109, 97], [109, 111, 100, 101, 108, 115]]

/-- `.ollama` starts with a dot and is not a `SafeComp`: the reason the root hypothesis is `CleanComp` components -/
theorem defaultRoot_clean : defaultRoot ≠ [] ∧ (∀ c ∈ defaultRoot, CleanComp c) ∧ ¬ SafeComp [46, 111, 108, 108, 97, 109, 97] := by
  refine ⟨by decide, ?_, ?_⟩
  · intro c hc
    simp only [defaultRoot, List.mem_cons, List.not_mem_nil, or_false] at hc
    rcases hc with rfl | rfl | rfl | rfl <;> exact ⟨by decide, by decide, by decide, by decide⟩
  · intro h; exact h.2.2.2.2 rfl

theorem defaultRoot_nonvacuous :
    mpManifestPath (absPath defaultRoot) (parseModelPath [109])
      = some (absPath (defaultRoot ++ [sManifests, sDefaultHost, sLibrary, [109], sLatest])) ∧
    getBlobsPath (absPath defaultRoot) (sSha256 ++ cColon :: List.replicate 64 97)
      = some (absPath (defaultRoot ++ [sBlobs, sSha256 ++ cDash :: List.replicate 64 97])) := by
  constructor <;> decide

end OllamaVerif.C13
