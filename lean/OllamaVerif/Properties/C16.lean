/-
  C16 — the memory estimate never plans more on a GPU than it has free.

  The estimator (`Memory.estimate` / `Memory.predictFit`: llm/memory.go EstimateGPULayers /
  PredictServerFit), for every input.  `layers_le`, `split_sum`, `counts_sum`, `cpu_zero`,
  `fit_only_if_placed` need no side condition (the uint64 sums may wrap).  `alloc_le_free_partial`,
  `total_ge_vram_partial` hold under the decidable guard `NoWrap` (no sum the estimator forms reaches
  2^64); without it they are false: of the code before cdbdf6013 through the overhead alone
  (`W1_overhead_wraps`, finding W1), of the fixed variant as well through figures near 2^64
  (`W2_graph_wraps_fixed`, `W3_minimum_wraps_fixed`, finding W2).
  Around it (server/sched.go): `ByLibrary`, the pick functions, `updateFreeSpace`, the GPU and CPU
  branches of `processPending`, every history of requests, completed loads and unloads
  (`history_within_total`).  Inside it: `GraphSize`, the projector / vision figures.  Witnesses of
  the findings stand last.
-/
import OllamaVerif.Proofs.Memory

namespace OllamaVerif.C16
open OllamaVerif.Memory

/-- per-GPU layer counts of the plan (what `TensorSplit` prints when there are ≥ 2 GPUs) -/
def planCounts (inp : Inp) : List Nat := (plan (mkCore inp) inp.gpus).gs.map (·.count)

/-- **The no-wrap guard** (both code variants; in the fixed variant `ovSafe = true` the overhead
    term is absent, see `Room`), a decidable predicate on the estimator's inputs (through the
    constants `mkCore` derives from them, each already a uint64):
    * for every GPU `g` and every layer size `L` the estimator may try on it (each block's
      `layerSize`, and the output layer):
      `overhead + gzo + max(gP,gF) + g.minimum + 2*layer0 + g.free + L < 2^64`;
    * `Σ free + blocks * lastLayerSize + memoryLayerOutput < 2^64` (the summaries). -/
def NoWrap (inp : Inp) : Prop :=
  RoomAll (mkCore inp) inp.gpus ∧
  (inp.gpus.map (·.free)).sum + (mkCore inp).layerSizes.length * lastLayer (mkCore inp)
    + (mkCore inp).memOut < W

instance (c : Core) (f m L : Nat) : Decidable (Room c f m L) := by unfold Room; infer_instance
instance (c : Core) (gpus : List Gpu) : Decidable (RoomAll c gpus) := by unfold RoomAll; infer_instance
instance (inp : Inp) : Decidable (NoWrap inp) := by unfold NoWrap; infer_instance

/-- `8 * B`: seven terms per GPU, one doubled; `n + m + 1`: GPUs, blocks, output layer -/
theorem noWrap_of_lt (inp : Inp) (B n m : Nat) (hB : 8 * B ≤ W) (hnm : (n + m + 1) * B ≤ W)
    (hov : inp.overhead < B)
    (hcore : (mkCore inp).gzo < B ∧ (mkCore inp).gP < B ∧ (mkCore inp).gF < B ∧
      (mkCore inp).layer0 < B ∧ (mkCore inp).memOut < B ∧ ∀ L ∈ (mkCore inp).layerSizes, L < B)
    (hblocks : inp.blocks.length ≤ m)
    (hgpus : ∀ g ∈ inp.gpus, g.free < B ∧ g.minimum < B)
    (hn : inp.gpus.length ≤ n) : NoWrap inp := by
  obtain ⟨h1, h2, h3, h4, h5, h7⟩ := hcore
  constructor
  · intro g hg L hL
    exact room_of_lt hB hov h1 (Nat.max_lt.mpr ⟨h2, h3⟩) (hgpus g hg).2 h4 (hgpus g hg).1
      ((List.mem_cons.mp hL).elim (fun e => e ▸ h5) (h7 L))
  · have hs := sum_map_le (·.free) (fun _ => B) inp.gpus fun g hg => Nat.le_of_lt (hgpus g hg).1
    rw [List.map_const', List.sum_replicate_nat] at hs
    have := Nat.mul_le_mul_right B hn
    have hb : (mkCore inp).layerSizes.length * lastLayer (mkCore inp) ≤ m * B :=
      Nat.mul_le_mul (mkCore_blocks inp ▸ hblocks) (Nat.le_of_lt (lastLayer_lt h4 h7))
    rw [Nat.add_mul, Nat.add_mul, Nat.one_mul] at hnm
    omega

/-- a simple sufficient condition for the guard: everything the estimator adds up is small
    (the realistic envelope: 2^40 B = 1 TiB per quantity, < 2^16 blocks, ≤ 2^8 GPUs); the bound on
    `lastLayer` follows from the others (`lastLayer_lt`) -/
theorem noWrap_of_small (inp : Inp)
    (hov : inp.overhead < 2 ^ 40)
    (hcore : (mkCore inp).gzo < 2 ^ 40 ∧ (mkCore inp).gP < 2 ^ 40 ∧ (mkCore inp).gF < 2 ^ 40 ∧
      (mkCore inp).layer0 < 2 ^ 40 ∧ (mkCore inp).memOut < 2 ^ 40 ∧ lastLayer (mkCore inp) < 2 ^ 40 ∧
      ∀ L ∈ (mkCore inp).layerSizes, L < 2 ^ 40)
    (hblocks : inp.blocks.length < 2 ^ 16)
    (hgpus : ∀ g ∈ inp.gpus, g.free < 2 ^ 40 ∧ g.minimum < 2 ^ 40)
    (hn : inp.gpus.length ≤ 2 ^ 8) : NoWrap inp :=
  noWrap_of_lt inp (2 ^ 40) (2 ^ 8) (2 ^ 16) (by decide) (by decide) hov
    ⟨hcore.1, hcore.2.1, hcore.2.2.1, hcore.2.2.2.1, hcore.2.2.2.2.1, hcore.2.2.2.2.2.2⟩ (Nat.le_of_lt hblocks) hgpus hn

theorem resolve_bound (B : Nat) (bl : List (Option Nat × Nat)) (prev : Nat) : prev < B →
    (∀ b ∈ bl, b.1.getD 0 + b.2 < B) → ∀ L ∈ resolve prev bl, L < B := by
  fun_induction resolve prev bl with
  | case1 => intro _ _ L hL; cases hL
  | case2 prev w kv rest ih =>
    intro _ hb L hL
    have hw : wr (w + kv) < B := Nat.lt_of_le_of_lt (wr_le _) (hb (some w, kv) List.mem_cons_self)
    rcases List.mem_cons.mp hL with rfl | hL
    · exact hw
    · exact ih hw (fun b hb' => hb b (List.mem_cons_of_mem _ hb')) L hL
  | case3 prev kv rest ih =>
    intro hp hb L hL
    rcases List.mem_cons.mp hL with rfl | hL
    · exact hp
    · exact ih hp (fun b hb' => hb b (List.mem_cons_of_mem _ hb')) L hL

theorem layer0_lt {inp : Inp} {B : Nat}
    (h : inp.blk0.getD 0 + (inp.blocks.head?.map (·.2)).getD 0 < B) : layer0 inp < B := by
  unfold layer0
  cases hb : inp.blocks with
  | nil => rw [hb] at h; simpa using h
  | cons b rest =>
    rw [hb] at h
    exact Nat.lt_of_le_of_lt (wr_le _) h

theorem gzo_lt {inp : Inp} {B : Nat}
    (hp : (inp.projs.map (·.1)).sum + (inp.projs.map (·.2)).sum < B) (hv : inp.vision.1 + inp.vision.2 < B) :
    (mkCore inp).gzo < B := by
  have h1 := accW_zero_le (inp.projs.map (·.1))
  have h2 := accW_zero_le (inp.projs.map (·.2))
  refine Nat.lt_of_le_of_lt (wr_le ((projTotals inp).1 + (projTotals inp).2)) ?_
  unfold projTotals
  simp only
  split
  · exact hv
  · simp only; omega

theorem graphs_lt {inp : Inp} {B : Nat}
    (hp : inp.graphPartial < B) (hf : inp.graphFull < B) (hkvs : inp.gqa * (inp.blocks.map (·.2)).sum < 6 * B) :
    (graphs inp).1 < B ∧ (graphs inp).2 < B := by
  have hgp0 : (if inp.graphPartial == 0 then wr (inp.gqa * kvTotal inp) / 6 else inp.graphPartial) < B := by
    split
    · have hkv : kvTotal inp ≤ (inp.blocks.map (·.2)).sum := accW_zero_le _
      have := Nat.le_trans (wr_le (inp.gqa * kvTotal inp)) (Nat.mul_le_mul_left _ hkv)
      omega
    · exact hp
  have hgf0 : (if inp.graphFull == 0 then (if inp.graphPartial == 0 then wr (inp.gqa * kvTotal inp) / 6
      else inp.graphPartial) else inp.graphFull) < B := by
    split
    · exact hgp0
    · exact hf
  unfold graphs
  simp only
  split
  · exact ⟨hgf0, hgf0⟩
  · split
    · exact ⟨hgp0, hgp0⟩
    · exact ⟨hgp0, hgf0⟩

theorem memOut_lt {inp : Inp} {B : Nat}
    (h1 : inp.outNorm.getD 0 + inp.output.getD 0 < B) (h2 : inp.outNorm.getD 0 + inp.tokenEmbd.getD 0 < B) :
    memOut inp < B := by
  unfold memOut
  cases ho : inp.output with
  | some o => rw [ho] at h1; exact Nat.lt_of_le_of_lt (wr_le _) h1
  | none =>
    cases ht : inp.tokenEmbd with
    | some t => rw [ht] at h2; exact Nat.lt_of_le_of_lt (wr_le _) h2
    | none => rw [ho] at h1; exact h1

/-- **The guard from bounds on the RAW inputs** (what the estimator reads from the file and the
    environment, before any of its own sums): projector / vision figures, per-block weight + KV sizes,
    the two `GraphSize` figures and the GQA fallback `gqa * Σ kv / 6`, the output tensors, every GPU's
    free / minimum memory and the overhead each below 2^40 (1 TiB), fewer than 2^16 blocks, at most 2^8
    GPUs.  Unlike `noWrap_of_small` no hypothesis mentions a derived (possibly already wrapped) constant. -/
theorem noWrap_of_small_raw (inp : Inp)
    (hov : inp.overhead < 2 ^ 40)
    (hproj : (inp.projs.map (·.1)).sum + (inp.projs.map (·.2)).sum < 2 ^ 40 ∧ inp.vision.1 + inp.vision.2 < 2 ^ 40)
    (hblk0 : inp.blk0.getD 0 + (inp.blocks.head?.map (·.2)).getD 0 < 2 ^ 40)
    (hblocks : ∀ b ∈ inp.blocks, b.1.getD 0 + b.2 < 2 ^ 40)
    (hgraph : inp.graphPartial < 2 ^ 40 ∧ inp.graphFull < 2 ^ 40 ∧ inp.gqa * (inp.blocks.map (·.2)).sum < 6 * 2 ^ 40)
    (hout : inp.outNorm.getD 0 + inp.output.getD 0 < 2 ^ 40 ∧ inp.outNorm.getD 0 + inp.tokenEmbd.getD 0 < 2 ^ 40)
    (hn : inp.blocks.length < 2 ^ 16)
    (hgpus : ∀ g ∈ inp.gpus, g.free < 2 ^ 40 ∧ g.minimum < 2 ^ 40)
    (hng : inp.gpus.length ≤ 2 ^ 8) : NoWrap inp :=
  have hg := graphs_lt hgraph.1 hgraph.2.1 hgraph.2.2
  noWrap_of_lt inp (2 ^ 40) (2 ^ 8) (2 ^ 16) (by decide) (by decide) hov
    ⟨gzo_lt hproj.1 hproj.2, hg.1, hg.2, layer0_lt hblk0, memOut_lt hout.1 hout.2,
      resolve_bound _ inp.blocks (layer0 inp) (layer0_lt hblk0) hblocks⟩ (Nat.le_of_lt hn) hgpus hng

/-! ### shape of the estimate -/

def partialReq (inp : Inp) : Nat := accW 0 ((plan (mkCore inp) inp.gpus).gs.map (·.alloc))

/-- the two shapes `EstimateGPULayers` returns: the early returns (cpu library, or no layer
    placed) and the full summary -/
theorem estimate_cases (inp : Inp) :
    let p := plan (mkCore inp) inp.gpus
    let e := estimate inp
    e.total = wr (partialReq inp + p.overflow) ∧
    (((inp.lib = Lib.cpu ∨ p.lc = 0) ∧ e.layers = 0 ∧ e.vram = 0 ∧ e.graph = 0 ∧ e.sizes = [] ∧
        e.split = none) ∨
     (inp.lib ≠ Lib.cpu ∧ p.lc ≠ 0 ∧ e.layers = p.lc ∧ e.vram = partialReq inp ∧
        e.sizes = p.gs.map (·.alloc) ∧
        (e.split = if inp.gpus.length > 1 then some (p.gs.map (·.count)) else none) ∧
        e.graph = if p.fully then (mkCore inp).gF else (mkCore inp).gP)) := by
  by_cases h1 : inp.lib = Lib.cpu
  · simp [estimate, partialReq, h1]
  · by_cases h2 : (plan (mkCore inp) inp.gpus).lc = 0 <;> simp [estimate, partialReq, h1, h2]

/-! ### unconditional clauses -/

/-- **Layer count bounds.**  Never more layers than the model has (blocks + output), and never
    more than a non-negative `num_gpu`. -/
theorem layers_le (inp : Inp) :
    (estimate inp).layers ≤ inp.blocks.length + 1 ∧
    (0 ≤ inp.numGPU → ((estimate inp).layers : Int) ≤ inp.numGPU) := by
  have hp := plan_ok (mkCore inp) inp.gpus
  obtain ⟨_, ⟨_, hl, _⟩ | ⟨_, _, hl, _⟩⟩ := estimate_cases inp
  · rw [hl]; exact ⟨by omega, fun h => by simpa using h⟩
  · rw [hl]; exact ⟨mkCore_blocks inp ▸ hp.le, hp.cap⟩

/-- **Per-GPU counts.**  Whenever layers are reported, the plan has one count per GPU and the
    counts sum to the reported layer count; with ≥ 2 GPUs these counts are the tensor split. -/
theorem counts_sum (inp : Inp) (h : 0 < (estimate inp).layers) :
    (planCounts inp).sum = (estimate inp).layers ∧
    (planCounts inp).length = inp.gpus.length ∧
    (estimate inp).sizes.length = inp.gpus.length ∧
    (1 < inp.gpus.length → (estimate inp).split = some (planCounts inp)) := by
  have hp := (plan_ok (mkCore inp) inp.gpus).count
  have hlen : (plan (mkCore inp) inp.gpus).gs.length = inp.gpus.length := by
    simpa using congrArg List.length (plan_ok (mkCore inp) inp.gpus).figs
  obtain ⟨_, ⟨_, hl, _⟩ | ⟨_, _, hl, _, hs, hsp, _⟩⟩ := estimate_cases inp
  · rw [hl] at h; omega
  · rw [hl, hs, hsp]
    simp only [planCounts, List.length_map, hlen]
    refine ⟨hp, trivial, trivial, ?_⟩
    intro hn
    simp [hn]

/-- **Tensor split sums to the layer count** (and has one entry per GPU). -/
theorem split_sum (inp : Inp) (l : List Nat) (h : (estimate inp).split = some l) :
    l.sum = (estimate inp).layers ∧ l.length = inp.gpus.length := by
  obtain ⟨_, ⟨_, _, _, _, _, hsp⟩ | ⟨_, hlc, hl, _, _, hsp, _⟩⟩ := estimate_cases inp
  · rw [hsp] at h; cases h
  · obtain ⟨h1, h2, _, _⟩ := counts_sum inp (hl ▸ Nat.pos_of_ne_zero hlc)
    rw [hsp] at h
    split at h
    · cases h; exact ⟨h1, h2⟩
    · cases h

/-- **CPU ⇒ nothing offloaded.** -/
theorem cpu_zero (inp : Inp) (h : inp.lib = Lib.cpu) :
    (estimate inp).layers = 0 ∧ (estimate inp).vram = 0 ∧ (estimate inp).graph = 0 ∧
    (estimate inp).sizes = [] ∧ (estimate inp).split = none := by
  obtain ⟨_, ⟨_, hzero⟩ | ⟨hgpu, _⟩⟩ := estimate_cases inp
  · exact hzero
  · exact absurd h hgpu

/-! ### clauses under the no-wrap guard -/

/-- the guard is GPU `i`'s alone: figures of another GPU that wrap (`w3`) leave the bound standing -/
theorem alloc_with_reserve (inp : Inp) (i : Nat) (g : Gpu) (a : Nat) (hroom : RoomG (mkCore inp) g)
    (hg : inp.gpus[i]? = some g) (ha : (estimate inp).sizes[i]? = some a) :
    (a = 0 ∨ a + ((mkCore inp).maxg - (estimate inp).graph) + inp.overhead ≤ g.free) ∧
    (∀ n, (planCounts inp)[i]? = some n → 0 < n →
      a + ((mkCore inp).maxg - (estimate inp).graph) + inp.overhead < g.free) := by
  obtain ⟨_, ⟨_, _, _, _, hsz, _⟩ | ⟨_, _, _, _, hsz, _, hgraph⟩⟩ := estimate_cases inp
  · rw [hsz] at ha; cases ha
  · rw [hsz, List.getElem?_map, Option.map_eq_some_iff] at ha
    obtain ⟨s, hs, rfl⟩ := ha
    have hsg : gpuOf s = g := by
      have := congrArg (fun l => l[i]?) (plan_ok (mkCore inp) inp.gpus).figs
      simpa only [List.getElem?_map, hs, hg, Option.map_some, Option.some.injEq] using this
    subst hsg
    have hok := (plan_ok (mkCore inp) inp.gpus).final s (List.mem_of_getElem? hs) hroom
    rw [← hgraph] at hok
    refine ⟨hok.le, fun n hn hpos => hok.lt ?_⟩
    simp only [planCounts, List.getElem?_map, hs, Option.map_some, Option.some.injEq] at hn
    omega

/-- **The bound the code really enforces.**  The estimator reserves the LARGER of the two graphs while it
    places layers and charges the applicable one at the end, so under the guard the reported size leaves
    room for the difference too: `size + (max(gP,gF) - Graph) + overhead ≤ free` (strict for a GPU with
    layers), where `Graph` is the graph figure of the estimate.  Stronger than `alloc_le_free_partial`
    whenever the two graphs differ (single non-metal GPU). -/
theorem alloc_with_reserve_partial (inp : Inp) (hnw : NoWrap inp) (i : Nat) (g : Gpu) (a : Nat)
    (hg : inp.gpus[i]? = some g) (ha : (estimate inp).sizes[i]? = some a) :
    (a = 0 ∨ a + ((mkCore inp).maxg - (estimate inp).graph) + inp.overhead ≤ g.free) ∧
    (∀ n, (planCounts inp)[i]? = some n → 0 < n →
      a + ((mkCore inp).maxg - (estimate inp).graph) + inp.overhead < g.free) :=
  alloc_with_reserve inp i g a (hnw.1 g (List.mem_of_getElem? hg)) hg ha

/-- **No GPU is planned beyond its free memory less the overhead.**  For GPU `i` with reported
    size `a`: either nothing at all was put on it (`a = 0`, the GPU was not admitted) or
    `a + overhead ≤ free`; and strictly below for every GPU that received a layer.  (`a` includes
    the GPU minimum, the one-layer buffer, gpu-zero projector overhead, layers, graph.) -/
theorem alloc_le_free_partial (inp : Inp) (hnw : NoWrap inp) (i : Nat) (g : Gpu) (a : Nat)
    (hg : inp.gpus[i]? = some g) (ha : (estimate inp).sizes[i]? = some a) :
    (a = 0 ∨ a + inp.overhead ≤ g.free) ∧
    (∀ n, (planCounts inp)[i]? = some n → 0 < n → a + inp.overhead < g.free) := by
  obtain ⟨h1, h2⟩ := alloc_with_reserve_partial inp hnw i g a hg ha
  exact ⟨h1.imp_right fun h => by omega, fun n hn hpos => by have := h2 n hn hpos; omega⟩

/-- **TotalSize ≥ VRAMSize**, and VRAMSize is the exact sum of the per-GPU sizes. -/
theorem total_ge_vram_partial (inp : Inp) (hnw : NoWrap inp) :
    (estimate inp).vram ≤ (estimate inp).total ∧
    (0 < (estimate inp).layers → (estimate inp).vram = (estimate inp).sizes.sum) := by
  have hp := plan_ok (mkCore inp) inp.gpus
  have hle := sum_map_le (·.alloc) ((fun g : Gpu => g.free) ∘ gpuOf) _ fun s hs =>
    (hp.final s hs (hnw.1 _ (hp.figs ▸ List.mem_map_of_mem hs))).alloc_le
  rw [← List.map_map, hp.figs] at hle
  have hov := plan_overflow_le (mkCore inp) inp.gpus
  have hguard := hnw.2
  have hacc : partialReq inp = ((plan (mkCore inp) inp.gpus).gs.map (·.alloc)).sum :=
    (accW_zero _).trans (wr_id (by omega))
  obtain ⟨ht, ⟨_, hl, hv, _⟩ | ⟨_, _, _, hv, hs, _⟩⟩ := estimate_cases inp
  · rw [hl, hv]; exact ⟨Nat.zero_le _, fun h => absurd h (Nat.lt_irrefl 0)⟩
  · rw [ht, wr_id (by omega), hv, hs]
    exact ⟨Nat.le_add_right _ _, fun _ => hacc⟩

/-! ### PredictServerFit -/

/-- **A complete fit is declared only if all requested layers were placed.**  In the code "fits
    completely" means: for some library group, the estimate places at least one layer and
    `num_gpu < 0` (auto): *all* `blocks + 1` layers; `num_gpu ≥ 0`: exactly the `num_gpu` layers
    the request asks for (so for `num_gpu > blocks + 1` a fit is never declared).  The returned
    VRAM figure is that group's. -/
theorem fit_only_if_placed (common : Inp) (groups : List (Lib × List Gpu)) (v : Nat)
    (h : predictFit common groups = (true, v)) :
    ∃ lib gpus, (lib, gpus) ∈ groups ∧
      let e := estimate { common with lib := lib, gpus := gpus }
      v = e.vram ∧ 0 < e.layers ∧
      (common.numGPU < 0 → e.layers = common.blocks.length + 1) ∧
      (0 ≤ common.numGPU → (e.layers : Int) = common.numGPU) := by
  have ⟨v0, h'⟩ : ∃ v0, predictFitLoop common v0 groups = (true, v) := ⟨0, h⟩
  clear h
  fun_induction predictFitLoop common v0 groups with
  | case1 => cases h'
  | case2 v0 lib gpus rest e hc =>
    cases h'
    refine ⟨lib, gpus, List.mem_cons_self, ?_⟩
    have hl := layers_le { common with lib := lib, gpus := gpus }
    simp only at hl
    unfold fitCond at hc
    split at hc <;> simp only [decide_eq_true_eq, e] at hc
    · exact ⟨rfl, hc.1, fun _ => by omega, fun hp => by omega⟩
    · exact ⟨rfl, hc.1, fun hn => by omega, fun hp => by have := hl.2 hp; omega⟩
  | case3 v0 lib gpus rest e hc ih =>
    obtain ⟨l, g, hm, hh⟩ := ih h'
    exact ⟨l, g, List.mem_cons_of_mem _ hm, hh⟩

theorem every_layer_of_requested (inp : Inp) (hauto : inp.numGPU < 0 → (estimate inp).layers = inp.blocks.length + 1)
    (huser : 0 ≤ inp.numGPU → ((estimate inp).layers : Int) = inp.numGPU)
    (hguard : inp.numGPU < 0 ∨ ((inp.blocks.length + 1 : Nat) : Int) ≤ inp.numGPU) :
    (estimate inp).layers = inp.blocks.length + 1 := by
  have hl := (layers_le inp).1
  rcases hguard with h | h
  · exact hauto h
  · have := huser (by omega)
    omega

/-- **The clause as the property states it** ("declared to fit completely only if ALL of its layers
    were placed"), under the guard that excludes a user limit below the model's layer count: for
    `num_gpu < 0` (auto) or `num_gpu ≥ blocks+1`, a declared fit means some library group's estimate
    places every one of the `blocks+1` layers.  Without the guard the clause is false of the model and
    of the code (finding N1, witness `N1_fit_with_partial_offload`): `PredictServerFit` compares with
    the user's `num_gpu`, not with the model's layer count. -/
theorem fit_only_if_every_layer_placed_partial (common : Inp) (groups : List (Lib × List Gpu)) (v : Nat)
    (hguard : common.numGPU < 0 ∨ ((common.blocks.length + 1 : Nat) : Int) ≤ common.numGPU)
    (h : predictFit common groups = (true, v)) :
    ∃ lib gpus, (lib, gpus) ∈ groups ∧
      (estimate { common with lib := lib, gpus := gpus }).layers = common.blocks.length + 1 ∧
      v = (estimate { common with lib := lib, gpus := gpus }).vram := by
  obtain ⟨lib, gpus, hm, hh⟩ := fit_only_if_placed common groups v h
  exact ⟨lib, gpus, hm, every_layer_of_requested _ hh.2.2.1 hh.2.2.2 hguard, hh.1⟩

/-- with `num_gpu` beyond the model's layer count a complete fit is never declared -/
theorem fit_never_when_numGPU_huge (common : Inp) (groups : List (Lib × List Gpu))
    (h : (common.blocks.length + 1 : Nat) < common.numGPU) :
    (predictFit common groups).1 = false := by
  cases hp : predictFit common groups with
  | mk b v =>
    cases b with
    | false => rfl
    | true =>
      obtain ⟨lib, gpus, _, hh⟩ := fit_only_if_placed common groups v hp
      have hl := (layers_le { common with lib := lib, gpus := gpus }).1
      simp only at hh hl
      have := hh.2.2.2 (by omega)
      omega

/-! ### `ByLibrary` and `PredictServerFit` on the whole GPU list -/

/-- **`ByLibrary` partitions the list**: group sizes add up to the list length, no group is empty
    (the estimator reads `gpus[0]`), every member carries its group's `Library[_Variant]` key. -/
theorem byLibrary_partition (l : List FGpu) :
    groupTotal (byLibrary l) = l.length ∧
    (∀ g ∈ byLibrary l, g.members ≠ []) ∧
    (∀ g ∈ byLibrary l, ∀ m ∈ g.members, m.key = g.key) := by
  refine ⟨?_, fun g hg => (byLibrary_groups l g hg).1, fun g hg m hm => ((byLibrary_groups l g hg).2 m hm).1⟩
  exact foldl_invariant _ (fun pre acc => groupTotal acc = pre.length) l [] rfl fun pre acc x _ h => by
    rw [insertGroup_total, h, List.length_append]; rfl

/-- `fit_only_if_placed` for the real entry point: the groups are the ones `ByLibrary` forms. -/
theorem fit_all_only_if_placed (common : Inp) (all : List FGpu) (v : Nat)
    (h : predictFitAll common all = (true, v)) :
    ∃ g ∈ byLibrary all, g.members ≠ [] ∧
      let e := estimate { common with lib := g.lib, gpus := g.gpus }
      v = e.vram ∧ 0 < e.layers ∧
      (common.numGPU < 0 → e.layers = common.blocks.length + 1) ∧
      (0 ≤ common.numGPU → (e.layers : Int) = common.numGPU) := by
  obtain ⟨lib, gpus, hm, hh⟩ := fit_only_if_placed common _ v h
  obtain ⟨g, hg, heq⟩ := List.mem_map.mp hm
  cases heq
  exact ⟨g, hg, (byLibrary_groups all g hg).1, hh⟩

/-! ### the scheduler's full-fit decision (server/sched.go `pickBestFullFitByLibrary`) -/

/-- `gpus[0].Library` of a list -/
def headLib : List FGpu → Lib
  | [] => Lib.other
  | x :: _ => x.lib

/-- **A full fit is declared only for a list on which all requested layers are placed — the very
    list that is returned.**  If `pickBestFullFitByLibrary` returns `L` (non-nil) and parallelism `p`,
    then `p` is one of the values tried, `L` is non-empty, consists of GPUs of the inventory that share
    one `Library[_Variant]`, is sorted by free memory (descending), and `EstimateGPULayers` run **on `L`
    in the returned order** with the options of that `p` (what `NewLlamaServer` does next) places every
    requested layer: all `blocks+1` for `num_gpu < 0`, exactly `num_gpu` otherwise. -/
theorem full_fit_places_all (commonOf : Nat → Inp) (np : Int) (dp : Nat) (spread : Bool)
    (all L : List FGpu) (p : Nat) (h : pickFull commonOf np dp spread all = some (L, p)) :
    p ∈ toTry np dp ∧ L ≠ [] ∧ (∀ m ∈ L, m ∈ all) ∧ (∃ k, ∀ m ∈ L, m.key = k) ∧ DescSorted L ∧
    let common := commonOf p
    let e := estimate { common with lib := headLib L, gpus := L.map (·.gpu) }
    0 < e.layers ∧
    (common.numGPU < 0 → e.layers = common.blocks.length + 1) ∧
    (0 ≤ common.numGPU → (e.layers : Int) = common.numGPU) := by
  obtain ⟨hp, hfit, g, hg, hL⟩ := pickFullGroups_some h
  obtain ⟨hne, hgk⟩ := byLibrary_groups all g hg
  obtain ⟨hsub, hLne, hsorted⟩ : (∀ m ∈ L, m ∈ g.members) ∧ L ≠ [] ∧ DescSorted L := by
    rcases hL with rfl | ⟨x, hx, rfl⟩
    · exact ⟨fun m hm => (sortDesc_perm _).mem_iff.mp hm,
        fun hnil => hne (hnil ▸ sortDesc_perm g.members).symm.eq_nil, sortDesc_sorted _⟩
    · exact ⟨fun m hm => List.mem_singleton.mp hm ▸ (sortDesc_perm _).mem_iff.mp hx, List.cons_ne_nil _ _,
        List.pairwise_singleton _ _⟩
  have hkey : ∀ m ∈ L, m.key = g.key := fun m hm => (hgk m (hsub m hm)).1
  refine ⟨hp, hLne, fun m hm => (hgk m (hsub m hm)).2, ⟨g.key, hkey⟩, hsorted, ?_⟩
  have hlib : (⟨g.key, L⟩ : Group).lib = headLib L := by cases L <;> rfl
  have hfit' : (predictFit (commonOf p) [(headLib L, L.map (·.gpu))]).1 = true := by
    simpa only [predictFitAll, byLibrary_homog g.key L hLne hkey, List.map_cons, List.map_nil, hlib,
      Group.gpus] using hfit
  obtain ⟨lib, gpus, hm, hh⟩ := fit_only_if_placed (commonOf p) _ _ (Prod.ext hfit' rfl)
  cases List.mem_singleton.mp hm
  exact hh.2

/-- the scheduler-level form of `fit_only_if_every_layer_placed_partial`: under the same guard on the
    options of the parallelism that is settled on, the list `pickBestFullFitByLibrary` returns holds
    every one of the model's `blocks+1` layers -/
theorem full_fit_places_every_layer_partial (commonOf : Nat → Inp) (np : Int) (dp : Nat) (spread : Bool)
    (all L : List FGpu) (p : Nat) (h : pickFull commonOf np dp spread all = some (L, p))
    (hguard : (commonOf p).numGPU < 0 ∨ (((commonOf p).blocks.length + 1 : Nat) : Int) ≤ (commonOf p).numGPU) :
    (estimate { commonOf p with lib := headLib L, gpus := L.map (·.gpu) }).layers
      = (commonOf p).blocks.length + 1 := by
  have hff := (full_fit_places_all commonOf np dp spread all L p h).2.2.2.2.2
  exact every_layer_of_requested _ hff.2.1 hff.2.2 hguard

/-- `pickBestPartialFitByLibrary` returns the whole inventory (≤ 1 library) or one ByLibrary group -/
theorem pickPartial_is_group (common : Inp) (all : List FGpu) :
    pickPartial common all = all ∨ ∃ g ∈ byLibrary all, pickPartial common all = g.members := by
  unfold pickPartial
  simp only
  split
  · exact Or.inl rfl
  · split
    · rename_i g hg
      exact Or.inr ⟨g, List.mem_of_getElem? hg, rfl⟩
    · -- unreachable: the index the loop returns is in range
      rename_i hnone
      have hlt := bestLoop_lt common (byLibrary all) 0 0 0 (by omega)
      rw [List.getElem?_eq_none_iff] at hnone
      omega

/-! ### the scheduler's adjustment of the free figure (server/sched.go `updateFreeSpace`) -/

/-- **The adjusted free memory never exceeds the reported one.**  For every GPU list (duplicate
    IDs, any total/free figures, free > total included), every set of loaded runners and every
    prediction map (sums wrap mod 2^64 as in the code): the free figure `updateFreeSpace` leaves
    for GPU `i` is at most the one the GPU reported. -/
theorem free_never_raised (gpus : List SGpu) (runners : List Runner) (i : Nat) (g : SGpu) (f : Nat)
    (hg : gpus[i]? = some g) (hf : (updateFree gpus runners)[i]? = some f) : f ≤ g.free := by
  unfold updateFree at hf
  split at hf
  · simp only [List.getElem?_map, hg, Option.map_some, Option.some.injEq] at hf
    subst hf
    exact adjust_le_free _ _
  · simp only [List.getElem?_map, hg, Option.map_some, Option.some.injEq] at hf
    omega

/-- and when some runner is loaded and the prediction does not exceed the total, adjusted free +
    predicted usage ≤ total memory -/
theorem free_within_total (gpus : List SGpu) (runners : List Runner) (i : Nat) (g : SGpu) (f : Nat)
    (hany : runners.any (·.isSome) = true) (hp : predOf gpus runners g.key ≤ g.total)
    (hg : gpus[i]? = some g) (hf : (updateFree gpus runners)[i]? = some f) :
    f + predOf gpus runners g.key ≤ g.total := by
  unfold updateFree at hf
  simp only [hany, ↓reduceIte, List.getElem?_map, hg, Option.map_some, Option.some.injEq] at hf
  subst hf
  exact adjust_le_total _ _ hp

/-- **Composition: estimator on adjusted GPUs ⇒ within the REPORTED free memory.**  If GPU `i`
    of the estimator's input carries the free figure that `updateFreeSpace` left for GPU `j` of
    the reported list (the scheduler filters, groups and sorts the adjusted list before it calls
    the estimator, hence the free correspondence `i ↦ j`), then under the no-wrap guard the size
    planned on it is 0 or `size + overhead ≤` the free memory GPU `j` *reported*. -/
theorem sched_alloc_le_reported (inp : Inp) (hnw : NoWrap inp)
    (rep : List SGpu) (runners : List Runner) (i j : Nat) (g : Gpu) (r : SGpu) (a : Nat)
    (hg : inp.gpus[i]? = some g) (hr : rep[j]? = some r)
    (hadj : (updateFree rep runners)[j]? = some g.free)
    (ha : (estimate inp).sizes[i]? = some a) :
    a = 0 ∨ a + inp.overhead ≤ r.free :=
  (alloc_le_free_partial inp hnw i g a hg ha).1.imp_right
    (Nat.le_trans · (free_never_raised rep runners j r g.free hr hadj))

/-- **History level: what is planned for the next model plus what was predicted for the loaded
    ones fits in the GPU's total memory.**  Same correspondence as `sched_alloc_le_reported`; some
    runner is loaded and its/their summed prediction for the GPU does not exceed the total. -/
theorem planned_plus_predicted_le_total (inp : Inp) (hnw : NoWrap inp)
    (rep : List SGpu) (runners : List Runner) (i j : Nat) (g : Gpu) (r : SGpu) (a : Nat)
    (hany : runners.any (·.isSome) = true) (hp : predOf rep runners r.key ≤ r.total)
    (hg : inp.gpus[i]? = some g) (hr : rep[j]? = some r)
    (hadj : (updateFree rep runners)[j]? = some g.free)
    (ha : (estimate inp).sizes[i]? = some a) :
    a = 0 ∨ a + inp.overhead + predOf rep runners r.key ≤ r.total :=
  (alloc_le_free_partial inp hnw i g a hg ha).1.imp_right fun h =>
    Nat.le_trans (Nat.add_le_add_right h _) (free_within_total rep runners j r g.free hany hp hr hadj)

/-- `EstimatedVRAMByGPU` (what feeds the predictions) reports 0 or a size of the estimate -/
theorem vramByGPU_is_planned_size (ids sizes : List Nat) (id : Nat) :
    vramByGPU ids sizes id = 0 ∨
    ∃ k : Nat, ids[k]? = some id ∧ sizes[k]? = some (vramByGPU ids sizes id) := by
  fun_induction vramByGPU ids sizes id with
  | case1 => exact Or.inl rfl
  | case2 => exact Or.inl rfl
  | case3 i is s ss id h => exact Or.inr ⟨0, by simp only [beq_iff_eq] at h; simp [h], rfl⟩
  | case4 i is s ss id h ih => exact ih.imp_right fun ⟨k, h1, h2⟩ => ⟨k + 1, h1, h2⟩

/-- `FreeMemory = Total - predicted` unconditionally ("always trust our numbers") is excluded by
    `free_never_raised`: with 1000 total, 100 reported free and 300 predicted it would hand 700 to
    the estimator; the code hands 100. Also: predicted > total ⇒ 0; no runner ⇒ unchanged;
    two list entries with the same (Library, ID) count the prediction twice. -/
example :
    updateFree [⟨0, 0, 1000, 100⟩] [some [(0, 300)]] = [100] ∧
    updateFree [⟨0, 0, 1000, 900⟩] [some [(0, 300)]] = [700] ∧
    updateFree [⟨0, 0, 1000, 900⟩] [some [(0, 1300)]] = [0] ∧
    updateFree [⟨0, 0, 1000, 900⟩] [none] = [900] ∧
    updateFree [⟨0, 0, 1000, 900⟩, ⟨0, 0, 1000, 900⟩] [some [(0, 300)]] = [400, 400] := by decide

/-! ### the scheduler's load path (server/sched.go `processPending`, GPU branch) -/

/-- the estimator input `NewLlamaServer` forms for a load decision: the options of parallelism `p`
    on the list `L` in the order it was handed over -/
def loadInp (commonOf : Nat → Inp) (L : List FGpu) (p : Nat) : Inp :=
  { commonOf p with lib := headLib L, gpus := L.map (·.gpu) }

/-- **Soundness of the load decision** (the `i ↦ j` hypothesis of `sched_alloc_le_reported`
    discharged on the model of the glue).  If `processPending` decides to load on `L` with parallelism
    `p`: (1) with other models loaded this is a *full* fit; (2) a full fit places every requested layer
    on `L` in that order; (3) every GPU of `L` is a GPU of the reported inventory (same library key, ID,
    minimum memory) whose free figure was not raised, and — with other models loaded — it survived the
    loading filter and, whenever the summed prediction does not exceed the total, free + predicted ≤ total. -/
theorem load_sound (commonOf : Nat → Inp) (np : Int) (dp : Nat) (spread : Bool)
    (inv : List IGpu) (runners : List LRunner) (full : Bool) (L : List FGpu) (p : Nat)
    (h : loadDecision commonOf np dp spread inv runners = .load full L p) :
    (runners ≠ [] → full = true) ∧
    (full = true → 0 < (estimate (loadInp commonOf L p)).layers ∧
      ((commonOf p).numGPU < 0 → (estimate (loadInp commonOf L p)).layers = (commonOf p).blocks.length + 1) ∧
      (0 ≤ (commonOf p).numGPU → ((estimate (loadInp commonOf L p)).layers : Int) = (commonOf p).numGPU)) ∧
    (∀ m ∈ L, ∃ g ∈ inv, m.key = g.f.key ∧ m.idk = g.f.idk ∧ m.lib = g.f.lib ∧
      m.gpu.minimum = g.f.gpu.minimum ∧ m.gpu.free ≤ g.f.gpu.free ∧
      (runners ≠ [] → g ∈ filterLoading runners inv ∧
        (loadPred inv runners g ≤ g.total → m.gpu.free + loadPred inv runners g ≤ g.total))) := by
  rcases loadDecision_load h with ⟨rfl, hpf⟩ | ⟨rfl, rfl, rfl⟩
  · have hff := full_fit_places_all commonOf np dp spread _ L p hpf
    exact ⟨fun _ => rfl, fun _ => hff.2.2.2.2.2, fun m hm => offered_mem inv runners m (hff.2.2.1 m hm)⟩
  · refine ⟨fun hne => absurd rfl hne, fun ht => Bool.noConfusion ht, fun m hm => ?_⟩
    rcases pickPartial_is_group (commonOf p) (offered inv []) with he | ⟨g, hg, he⟩
    · exact offered_mem inv [] m (he ▸ hm)
    · exact offered_mem inv [] m ((byLibrary_groups _ g hg).2 m (he ▸ hm)).2

/-- **What is planned for the new model fits into what the GPU reported, and — together with what
    was predicted for the loaded models — into the GPU's total memory.**  For a load decision and the
    estimate `NewLlamaServer` computes for it (under the no-wrap guard): the size `a` planned on the
    `i`-th GPU of the list is 0, or `a + overhead ≤` the free memory that GPU **reported** in the
    inventory; and with other models loaded, `a + overhead + predicted ≤ total` whenever the summed
    prediction is within the total (and the GPU survived the loading filter).  No correspondence
    hypothesis: the GPU is found in the inventory. -/
theorem load_alloc_within_reported (commonOf : Nat → Inp) (np : Int) (dp : Nat) (spread : Bool)
    (inv : List IGpu) (runners : List LRunner) (full : Bool) (L : List FGpu) (p : Nat)
    (h : loadDecision commonOf np dp spread inv runners = .load full L p)
    (hnw : NoWrap (loadInp commonOf L p)) (i : Nat) (m : FGpu) (a : Nat)
    (hm : L[i]? = some m) (ha : (estimate (loadInp commonOf L p)).sizes[i]? = some a) :
    ∃ g ∈ inv, m.idk = g.f.idk ∧ m.key = g.f.key ∧
      (a = 0 ∨ a + (commonOf p).overhead ≤ g.f.gpu.free) ∧
      (runners ≠ [] → g ∈ filterLoading runners inv ∧ (loadPred inv runners g ≤ g.total →
        a = 0 ∨ a + (commonOf p).overhead + loadPred inv runners g ≤ g.total)) := by
  obtain ⟨_, _, hmem⟩ := load_sound commonOf np dp spread inv runners full L p h
  obtain ⟨g, hg, hk, hid, _, _, hfree, hrest⟩ := hmem m (List.mem_of_getElem? hm)
  have hgi : (loadInp commonOf L p).gpus[i]? = some m.gpu := by
    simp [loadInp, List.getElem?_map, hm]
  have hal : a = 0 ∨ a + (commonOf p).overhead ≤ m.gpu.free :=
    (alloc_le_free_partial (loadInp commonOf L p) hnw i m.gpu a hgi ha).1
  exact ⟨g, hg, hid, hk, hal.imp_right (Nat.le_trans · hfree), fun hne => ⟨(hrest hne).1, fun hp =>
    hal.imp_right fun h => Nat.le_trans (Nat.add_le_add_right h _) ((hrest hne).2 hp)⟩⟩

/-- **A model is never placed on a GPU on which another model is still loading** (unique GPU IDs in
    the inventory; other models loaded) -/
theorem load_not_on_loading_gpu (commonOf : Nat → Inp) (np : Int) (dp : Nat) (spread : Bool)
    (inv : List IGpu) (runners : List LRunner) (full : Bool) (L : List FGpu) (p : Nat)
    (h : loadDecision commonOf np dp spread inv runners = .load full L p)
    (hids : (idsOf inv).Nodup) (r : LRunner) (hr : r ∈ runners) (hld : r.loading = true)
    (id : Nat) (hid : id ∈ r.ids) : ∀ m ∈ L, m.idk ≠ id := by
  intro m hm
  have hne : runners ≠ [] := List.ne_nil_of_mem hr
  obtain ⟨_, _, hmem⟩ := load_sound commonOf np dp spread inv runners full L p h
  obtain ⟨g, _, _, hidk, _, _, _, hrest⟩ := hmem m hm
  rw [hidk]
  exact filterLoading_gone runners inv hids r hr hld id hid g (hrest hne).1

/-- `processPending` forces `numParallel = 1` for embedding models and for the mllama family -/
theorem effParallel_forced (np : Int) (mllama embed : Bool) (h : mllama = true ∨ embed = true) :
    effParallel np mllama embed = 1 := by
  unfold effParallel
  rcases h with rfl | rfl
  · cases embed
    · by_cases hn : np = 1 <;> simp [hn]
    · rfl
  · rfl

/-- **The estimator is never called on an empty list by the load path** (`gpus[0]` would panic): a load
    decision on a non-empty inventory names a non-empty list -/
theorem load_list_nonempty (commonOf : Nat → Inp) (np : Int) (dp : Nat) (spread : Bool)
    (inv : List IGpu) (runners : List LRunner) (full : Bool) (L : List FGpu) (p : Nat)
    (hinv : inv ≠ []) (h : loadDecision commonOf np dp spread inv runners = .load full L p) : L ≠ [] := by
  rcases loadDecision_load h with ⟨_, hpf⟩ | ⟨rfl, _, rfl⟩
  · exact (full_fit_places_all commonOf np dp spread _ L p hpf).2.1
  · have hne : offered inv [] ≠ [] := fun hn => hinv (List.map_eq_nil_iff.mp hn)
    rcases pickPartial_is_group (commonOf p) (offered inv []) with he | ⟨g, hg, he⟩
    · rw [he]; exact hne
    · rw [he]; exact (byLibrary_partition _).2.1 g hg

/-! ### the CPU branch -/

/-- **CPU mode: next to loaded models a model is started only if its whole requirement fits into the
    free system memory**, and the estimate it is judged by offloads nothing (`cpu_zero`) -/
theorem cpu_load_within_system_memory (commonOf : Nat → Inp) (np : Int) (dp : Nat) (g : FGpu) (n : Nat)
    (full : Bool) (L : List FGpu) (p : Nat) (hlib : g.lib = Lib.cpu) (hn : n ≠ 0)
    (h : cpuDecision commonOf np dp g n = .load full L p) :
    L = [g] ∧ p = cpuParallel np dp ∧
    (estimate { commonOf p with lib := g.lib, gpus := [g.gpu] }).total ≤ g.gpu.free ∧
    (estimate { commonOf p with lib := g.lib, gpus := [g.gpu] }).layers = 0 := by
  unfold cpuDecision at h
  have hn' : (n == 0) = false := by simp [hn]
  simp only [hn', Bool.false_eq_true, ↓reduceIte] at h
  split at h
  · rename_i hle
    simp only [Decision.load.injEq] at h
    obtain ⟨_, hl, hp⟩ := h
    subst hl; subst hp
    exact ⟨rfl, rfl, hle, (cpu_zero _ hlib).1⟩
  · cases h

/-! ### every reachable state of the load path -/

/-- a request for a model that is not loaded, with the inventory reported at that moment -/
structure Req where
  commonOf : Nat → Inp
  np : Int
  dp : Nat
  spread : Bool
  inv : List IGpu

/-- what happens to the set of loaded runners -/
inductive Ev
  | request (r : Req)      -- `processPending` handles a request (GPU branch, model not loaded)
  | finished (k : Nat)     -- runner `k` finishes loading
  | unloaded (k : Nat)     -- runner `k` is unloaded (expired or evicted)

/-- the runner `Scheduler.load` installs: still loading, provisioned on `L`, predicted per-GPU sizes
    = the estimate `NewLlamaServer` computes on `L` -/
def newRunner (r : Req) (L : List FGpu) (p : Nat) : LRunner :=
  ⟨true, L.map (·.idk), (estimate (loadInp r.commonOf L p)).sizes⟩

def stepEv (rs : List LRunner) : Ev → List LRunner
  | .request r =>
    match loadDecision r.commonOf r.np r.dp r.spread r.inv rs with
    | .load _ L p => rs ++ [newRunner r L p]
    | _ => rs
  | .finished k => finishAt k rs
  | .unloaded k => rs.eraseIdx k

def runEvs (rs : List LRunner) (es : List Ev) : List LRunner := es.foldl stepEv rs

/-- what a request must satisfy in state `rs`: unique GPU IDs, and for every GPU: its `(Library, ID)`
    class is its ID class, its total memory is the fixed `totalOf id` and the reported free memory does
    not exceed it; and the estimate of the decision meets the no-wrap guard -/
def ReqOk (totalOf : Nat → Nat) (rs : List LRunner) (r : Req) : Prop :=
  (idsOf r.inv).Nodup ∧
  (∀ g ∈ r.inv, g.lkey = g.f.idk ∧ g.total = totalOf g.f.idk ∧ g.f.gpu.free ≤ g.total) ∧
  (∀ full L p, loadDecision r.commonOf r.np r.dp r.spread r.inv rs = .load full L p →
    NoWrap (loadInp r.commonOf L p))

def HistOk (totalOf : Nat → Nat) : List LRunner → List Ev → Prop
  | _, [] => True
  | rs, e :: es =>
    (match e with
      | .request r => ReqOk totalOf rs r
      | _ => True) ∧ HistOk totalOf (stepEv rs e) es

theorem step_request_within_total (totalOf : Nat → Nat) (htot : ∀ id, totalOf id < W)
    (rs : List LRunner) (r : Req) (hinv : ∀ id, usedOn rs id ≤ totalOf id) (hok : ReqOk totalOf rs r) :
    ∀ id, usedOn (stepEv rs (.request r)) id ≤ totalOf id := by
  intro id
  obtain ⟨hnd, hgs, hnw⟩ := hok
  rw [stepEv]
  split
  case h_2 => exact hinv id
  case h_1 full L p hd =>
    rw [usedOn_append]
    rcases vramByGPU_is_planned_size (newRunner r L p).ids (newRunner r L p).sizes id with h0 | ⟨k, hk1, hk2⟩
    · rw [h0]; exact hinv id
    · generalize vramByGPU _ _ id = v at hk2 ⊢
      simp only [newRunner, List.getElem?_map, Option.map_eq_some_iff] at hk1
      obtain ⟨m, hm, hmid⟩ := hk1
      obtain ⟨g, hg, hid, _, hfree, hrest⟩ := load_alloc_within_reported r.commonOf r.np r.dp r.spread r.inv rs
        full L p hd (hnw full L p hd) k m v hm hk2
      obtain ⟨hlk, htt, hft⟩ := hgs g hg
      have hidg : g.f.idk = id := hid ▸ hmid
      subst hidg
      by_cases hemp : rs = []
      · subst hemp
        have : usedOn [] g.f.idk = 0 := rfl
        omega
      · obtain ⟨hav, hpred⟩ := hrest hemp
        have hpe := loadPred_eq_usedOn r.inv rs g hnd (fun x hx => (hgs x hx).1) hav
          (Nat.lt_of_le_of_lt (hinv _) (htot _))
        have := hinv g.f.idk
        have := hpred (by omega)
        omega

/-- **Every reachable state: the loaded models together are never planned beyond a GPU's total
    memory.**  Start from any state in which, for every GPU ID, the sizes the loaded runners' estimates
    plan on it sum to at most its total memory (e.g. nothing loaded).  After ANY history of requests
    (each handled by `processPending`'s GPU branch: first model — full or partial fit on the reported
    figures; further models — loading filter, `updateFreeSpace`, full fit only), completions of loads
    and unloads, in which every request is well-formed (`ReqOk`: unique GPU IDs, fixed totals,
    reported free ≤ total, no-wrap guard of the estimate that is loaded), the same holds again. -/
theorem history_within_total (totalOf : Nat → Nat) (htot : ∀ id, totalOf id < W) :
    ∀ (es : List Ev) (rs : List LRunner), (∀ id, usedOn rs id ≤ totalOf id) → HistOk totalOf rs es →
      ∀ id, usedOn (runEvs rs es) id ≤ totalOf id := by
  intro es
  induction es with
  | nil => intro rs h _; exact h
  | cons e rest ih =>
    intro rs hinv hok
    obtain ⟨he, hrest⟩ := hok
    simp only [runEvs, List.foldl_cons]
    apply ih (stepEv rs e) _ hrest
    cases e with
    | request r => exact step_request_within_total totalOf htot rs r hinv he
    | finished k => intro id; simp only [stepEv]; rw [finishAt_usedOn]; exact hinv id
    | unloaded k => intro id; simp only [stepEv]; exact Nat.le_trans (eraseIdx_usedOn_le id rs k) (hinv id)

theorem history_from_empty (totalOf : Nat → Nat) (htot : ∀ id, totalOf id < W) (es : List Ev)
    (hok : HistOk totalOf [] es) : ∀ id, usedOn (runEvs [] es) id ≤ totalOf id :=
  history_within_total totalOf htot es [] (fun _ => Nat.zero_le _) hok

/-! ### `GGML.GraphSize` inside the model -/

/-- **`GraphSize` returns one KV figure per block** (the estimator indexes `kv[i]` for every block
    that has tensors; a shorter slice would panic), for every architecture and every input -/
theorem graphSize_kv_length (m : GMeta) (context batch p kvct : Nat) :
    (graphSize m context batch p kvct).1.length = m.blocks := by
  unfold graphSize kvOf
  simp only
  cases m.arch <;> simp

/-- for figures below 2^53 (8 PiB) the float64 detour is exact: the default (f16) cache costs exactly
    2 bytes per element, q8_0 one, q4_0 half (rounded down) -/
theorem kvBytes_exact (x : Nat) (h : x < 9007199254740992) :
    kvBytes 0 x = 2 * x ∧ kvBytes 1 x = x ∧ kvBytes 2 x = x / 2 := by
  have hr : roundF64 x = x := by unfold roundF64; simp [h]
  unfold kvBytes toU64
  simp only [hr]
  refine ⟨?_, ?_, ?_⟩
  · split <;> omega
  · split <;> omega
  · split <;> omega

/-- the estimator's input with the `GraphSize` part computed by the model from the file-level data:
    `weights[i]` = size of `blk.i` if it has tensors -/
def inpOfGraph (base : Inp) (m : GMeta) (weights : List (Option Nat)) (context batch p kvct : Nat) : Inp :=
  { base with
    blocks := weights.zip (graphSize m context batch p kvct).1
    graphPartial := (graphSize m context batch p kvct).2.1
    graphFull := (graphSize m context batch p kvct).2.2
    gqa := m.heads / m.headsKV }

/-- with `GraphSize` inside the model the layer bound reads in file terms: never more layers than
    `block_count + 1` -/
theorem layers_le_block_count (base : Inp) (m : GMeta) (weights : List (Option Nat)) (context batch p kvct : Nat)
    (hw : weights.length = m.blocks) :
    (estimate (inpOfGraph base m weights context batch p kvct)).layers ≤ m.blocks + 1 := by
  have h := (layers_le (inpOfGraph base m weights context batch p kvct)).1
  have hl : (inpOfGraph base m weights context batch p kvct).blocks.length = m.blocks := by
    simp [inpOfGraph, List.length_zip, graphSize_kv_length, hw]
  rw [hl] at h
  exact h

/-- a 4-block llama-shaped file: 4096-wide, 32 heads, 8 KV heads, vocabulary 32000 -/
def exMeta : GMeta :=
  { arch := .llama, blocks := 4, embedding := 4096, heads := 32, headsKV := 8, keyLen := none, valLen := none,
    vocab := 32000, ffnGateExps := none, ff := 0, ffnGate1 := none, cross := [], ropeFreqs := 0, sliding := 0,
    qkvBias := none }

/-- non-vacuity / sanity: context 2048, batch 512: 8 MiB of f16 KV cache per layer (2048·(128+128)·8·2),
    half of it with q8_0; the two graph figures the real `GraphSize` returns for this file -/
example : (graphSize exMeta 2048 512 1 0).1 = [8388608, 8388608, 8388608, 8388608] ∧
    (graphSize exMeta 2048 512 1 1).1 = [4194304, 4194304, 4194304, 4194304] ∧
    (graphSize exMeta 2048 512 1 0).2 = (189833216, 171968512) ∧
    roundF64 9007199254740993 = 9007199254740992 ∧ roundF64 9007199254740995 = 9007199254740996 := by decide

/-! ### projector / vision figures -/

/-- **`projectorMemoryRequirements` panics exactly on an mllama projector file without a (non-zero)
    `vision.patch_size`** (integer division by zero, reached from `EstimateGPULayers` for every request
    that names that projector); on every other decodable file it returns -/
theorem projReq_panics_iff (m : VMeta) : projReq m = none ↔ (m.mllama = true ∧ m.patchSize = 0) := by
  unfold projReq
  simp only
  by_cases h1 : m.mllama = true
  · by_cases h2 : m.patchSize = 0
    · simp [h1, h2]
    · simp [h1, h2]
  · simp [h1]

/-- `VisionGraphSize` reports nothing for a model without vision blocks, and never panics (the zero patch
    size is tested before the division) -/
theorem visionGraphSize_no_blocks (m : VMeta) (h : m.visionBlocks = 0) : visionGraphSize m = (0, 0) := by
  unfold visionGraphSize
  simp [h]

/-- mllama vision tower 560 px / patch 14 / 4 tiles: 1601 patches with the class embedding, padded to 1608 -/
example : numPatches ⟨true, false, 32, [], 560, 14, 3, 4, 1280, 16, true⟩ = 1601 ∧ paddedPatches 1601 = 1608 ∧
    projReq ⟨true, false, 32, [100, 28], 560, 14, 3, 4, 1280, 16, true⟩ = some (128, 2991947808) ∧
    projReq ⟨true, false, 32, [100, 28], 560, 0, 3, 4, 1280, 16, true⟩ = none := by decide

/-! ### witnesses and non-vacuity -/

/-- a one-block model on one GPU with 100 bytes free; `overhead` is the parameter -/
def w1 (overhead : Nat) : Inp :=
  { lib := .other, gpus := [⟨100, 0⟩], overhead := overhead, projs := [], vision := (0, 0),
    blk0 := some 10, blocks := [(some 10, 0)], graphPartial := 1, graphFull := 1, gqa := 1,
    outNorm := none, output := none, tokenEmbd := none, numGPU := -1 }

/-- **Witness of finding W1.**  `OLLAMA_GPU_OVERHEAD = 2^64 - 10`: the admission sum and the
    placement sum wrap around, the GPU is admitted and gets the layer: 21 bytes planned on a GPU
    whose free memory (100) is far below the overhead alone.  With overhead 50 the same model
    behaves (21 + 50 ≤ 100); with overhead 90 nothing is placed. -/
theorem W1_overhead_wraps :
    (estimate (w1 18446744073709551606)).sizes = [21] ∧
    (estimate (w1 18446744073709551606)).layers = 1 ∧
    ¬ (21 + (w1 18446744073709551606).overhead ≤ 100) ∧
    ¬ NoWrap (w1 18446744073709551606) ∧
    (estimate (w1 50)).sizes = [21] ∧ NoWrap (w1 50) ∧
    (estimate (w1 90)).layers = 0 := by decide

/-! ### the fixed variant (fix C16-W1, cdbdf6013 in /repo): the overhead is in no sum -/

theorem noWrap_fixed_any_overhead (inp : Inp) (hv : inp.ovSafe = true) (o : Nat) :
    NoWrap inp ↔ NoWrap { inp with overhead := o } := by
  have hc : mkCore { inp with overhead := o } = { mkCore inp with overhead := o } := by
    simp [mkCore, projTotals, graphs, layer0, memOut, kvTotal]
  have hvc : (mkCore inp).ovSafe = true := by rw [mkCore_ovSafe]; exact hv
  unfold NoWrap RoomAll
  rw [hc]
  simp only [Room, hvc, ↓reduceIte, lastLayer, Core.maxg]

/-- **Fixed variant: the allocation clause for every overhead.**  With fix C16-W1 applied, if the
    remaining sums (`gzo + max(gP,gF) + minimum + 2*layer0 + free + L`, none of which contains the
    overhead) stay below 2^64 for overhead 0, then for *every* value of `OLLAMA_GPU_OVERHEAD` each
    reported size is 0 or `size + overhead ≤ free`. -/
theorem alloc_le_free_fixed (inp : Inp) (hv : inp.ovSafe = true)
    (hnw : NoWrap { inp with overhead := 0 }) (i : Nat) (g : Gpu) (a : Nat)
    (hg : inp.gpus[i]? = some g) (ha : (estimate inp).sizes[i]? = some a) :
    (a = 0 ∨ a + inp.overhead ≤ g.free) ∧
    (∀ n, (planCounts inp)[i]? = some n → 0 < n → a + inp.overhead < g.free) :=
  alloc_le_free_partial inp
    ((noWrap_fixed_any_overhead { inp with overhead := 0 } hv inp.overhead).mp hnw) i g a hg ha

/-- the W1 input under the fixed variant: nothing is planned, for the wrapping overhead too -/
theorem W1_fixed_variant :
    (estimate { w1 18446744073709551606 with ovSafe := true }).layers = 0 ∧
    (estimate { w1 18446744073709551606 with ovSafe := true }).sizes = [] ∧
    NoWrap { w1 18446744073709551606 with ovSafe := true } ∧
    (estimate { w1 50 with ovSafe := true }).sizes = [21] := by decide

/-- 10 blocks of 10 bytes, one GPU with 100 bytes free, partial-offload graph figure 2^64 - 15 -/
def w2 : Inp :=
  { lib := .other, gpus := [⟨100, 0⟩], overhead := 0, projs := [], vision := (0, 0),
    blk0 := some 10, blocks := List.replicate 10 (some 10, 0), graphPartial := 18446744073709551601,
    graphFull := 1, gqa := 1, outNorm := none, output := none, tokenEmbd := none, numGPU := -1,
    ovSafe := true }

/-- **The remaining guard is needed after the fix.**  A graph-size figure near 2^64 (reachable
    only through wrapped `GraphSize` arithmetic, e.g. an absurd `num_ctx`) makes the admission sum
    `gzo+graph+min+2*layer` and every placement sum `used+layer` wrap: all 10 layers go to a GPU
    with 100 bytes free (111 bytes planned), in the fixed variant as well as in the pinned one. -/
theorem W2_graph_wraps_fixed :
    (estimate w2).layers = 10 ∧ (estimate w2).sizes = [111] ∧ ¬ NoWrap w2 ∧
    (estimate { w2 with ovSafe := false }).sizes = [111] := by decide

/-- two GPUs; the second reports a minimum-memory figure of 2^64 - 15 and 100 bytes free -/
def w3 : Inp :=
  { lib := .other, gpus := [⟨1000, 0⟩, ⟨100, 18446744073709551601⟩], overhead := 0, projs := [],
    vision := (0, 0), blk0 := some 10, blocks := [(some 10, 0)], graphPartial := 1, graphFull := 1,
    gqa := 1, outNorm := none, output := none, tokenEmbd := none, numGPU := -1, ovSafe := true }

/-- **Second witness of finding W2 (remaining wrap-around after fix C16-W1; input `w3`).**  A GPU minimum-memory
    figure near 2^64 makes the admission requirement `gzo+graph+minimum+2*layer` wrap to 6: the
    GPU (100 bytes free) is admitted and reported with `minimum + layer = 2^64 - 5` bytes planned
    (no layer lands on it; the layer goes to the other GPU). -/
theorem W3_minimum_wraps_fixed :
    (estimate w3).layers = 1 ∧ (estimate w3).split = some [1, 0] ∧
    (estimate w3).sizes = [21, 18446744073709551611] ∧ ¬ NoWrap w3 := by decide

/-- the first GPU of `w3` meets its own guard although `¬ NoWrap w3` -/
example : RoomG (mkCore w3) ⟨1000, 0⟩ := by unfold RoomG; decide

/-- a two-GPU, three-block model with an output layer, uneven layers -/
def ex2 : Inp :=
  { lib := .other, gpus := [⟨400, 10⟩, ⟨150, 5⟩], overhead := 7, projs := [(3, 2)], vision := (0, 0),
    blk0 := some 20, blocks := [(some 20, 4), (none, 4), (some 31, 4)], graphPartial := 9,
    graphFull := 6, gqa := 1, outNorm := some 1, output := some 12, tokenEmbd := some 50,
    numGPU := -1 }

/-- non-vacuity: the guard holds for a non-trivial input on which layers are spread over both
    GPUs, and the theorems' hypotheses (`sizes[i]? = some a`, `split = some l`) are met -/
example : NoWrap ex2 ∧ (estimate ex2).layers = 4 ∧ (estimate ex2).split = some [2, 2] ∧
    (estimate ex2).sizes = [107, 75] ∧ (estimate ex2).vram = 182 ∧ (estimate ex2).total = 182 ∧
    predictFit ex2 [(.other, ex2.gpus)] = (true, 182) := by decide

/-- `ex2` in the fixed variant (fix C16-W1 applied: what /repo implements) -/
def ex2f : Inp := { ex2 with ovSafe := true }

/-- same model, second GPU with 80 B free: it is admitted, takes one layer and then drops out of the
    round-robin (uneven split) -/
def ex3 : Inp := { ex2f with gpus := [⟨400, 10⟩, ⟨80, 5⟩] }

/-- second GPU with 60 B free: not admitted at all (size 0, no layers) -/
def ex5 : Inp := { ex2f with gpus := [⟨400, 10⟩, ⟨60, 5⟩] }

/-- non-vacuity in the fixed variant: the guard holds, layers are spread; a GPU dropping out mid-loop;
    a GPU that is not admitted (the `a = 0` disjunct of `alloc_le_free_partial`) -/
example : NoWrap ex2f ∧ (estimate ex2f).sizes = [107, 75] ∧ (estimate ex2f).split = some [2, 2] ∧
    NoWrap ex3 ∧ (estimate ex3).sizes = [120, 62] ∧ (estimate ex3).split = some [3, 1] ∧ (estimate ex3).layers = 4 ∧
    NoWrap ex5 ∧ (estimate ex5).sizes = [144, 0] ∧ (estimate ex5).split = some [4, 0] := by decide

/-- **Witness of finding N1.**  `num_gpu = 1` on the 4-layer model `ex2f`: `PredictServerFit` answers
    "fits" (VRAM 101 B) although 1 of 4 layers is placed and 70 B of the requirement stay outside the
    GPUs (`TotalSize 171 > VRAMSize 101`).  The guard of `fit_only_if_every_layer_placed_partial`
    excludes exactly this class (`0 ≤ num_gpu < blocks+1`); `num_gpu = 4` and auto place all 4. -/
theorem N1_fit_with_partial_offload :
    predictFit { ex2f with numGPU := 1 } [(.other, ex2f.gpus)] = (true, 101) ∧
    (estimate { ex2f with numGPU := 1 }).layers = 1 ∧ ex2f.blocks.length + 1 = 4 ∧
    (estimate { ex2f with numGPU := 1 }).total = 171 ∧
    predictFit { ex2f with numGPU := 4 } [(.other, ex2f.gpus)] = (true, 182) ∧
    (estimate { ex2f with numGPU := 4 }).layers = 4 := by decide

/-- two GPUs (500 / 400 B total, 400 / 150 B reported free) -/
def exInv : List IGpu :=
  [⟨⟨0, 0, .other, ⟨400, 10⟩⟩, 0, 500⟩, ⟨⟨0, 1, .other, ⟨150, 5⟩⟩, 1, 400⟩]

/-- the list the load path settles on for `exInv` with a runner predicted to use 200 B of GPU 0,
    `OLLAMA_SCHED_SPREAD` set: GPU 0 with its free figure lowered to 300, then GPU 1 -/
def exL : List FGpu := [⟨0, 0, .other, ⟨300, 10⟩⟩, ⟨0, 1, .other, ⟨150, 5⟩⟩]

/-- non-vacuity of the load-path theorems: first model (auto parallel: 4 fits on GPU 0); a loaded
    runner lowers GPU 0 to 300 and, with spread, both GPUs are used; the same runner still loading
    while another one fills GPU 1: requeue; predictions that leave too little: evict -/
example :
    loadDecision (fun _ => ex2f) 0 4 false exInv [] = .load true [⟨0, 0, .other, ⟨400, 10⟩⟩] 4 ∧
    loadDecision (fun _ => ex2f) 1 4 true exInv [⟨false, [0], [200]⟩] = .load true exL 1 ∧
    loadPred exInv [⟨false, [0], [200]⟩] ⟨⟨0, 0, .other, ⟨400, 10⟩⟩, 0, 500⟩ = 200 ∧
    NoWrap (loadInp (fun _ => ex2f) exL 1) ∧ (estimate (loadInp (fun _ => ex2f) exL 1)).sizes = [107, 75] ∧
    loadDecision (fun _ => ex2f) 1 4 false exInv [⟨true, [0], [200]⟩, ⟨false, [1], [300]⟩] = .delay ∧
    loadDecision (fun _ => ex2f) 1 4 false exInv [⟨false, [0, 1], [450, 350]⟩] = .evict ∧
    effParallel 4 true false = 1 ∧ effParallel 0 false false = 0 := by decide

/-- what `load_alloc_within_reported` concludes for that decision: 107 B planned on GPU 0 — within the
    400 B it reported and, with the 200 B predicted for the loaded model, within its 500 B total -/
example : ∃ g ∈ exInv, g.f.idk = 0 ∧ (107 + ex2f.overhead ≤ g.f.gpu.free) ∧
    (107 + ex2f.overhead + loadPred exInv [⟨false, [0], [200]⟩] g ≤ g.total) := by decide

/-- a history on `exInv` (totals 500 / 400 B): a first model is loaded with spread on both GPUs, its
    load completes, a second copy is requested while the GPUs still report 400 / 150 B free -/
def exHist : List Ev :=
  [.request ⟨fun _ => ex2f, 1, 4, true, exInv⟩, .finished 0, .request ⟨fun _ => ex2f, 1, 4, true, exInv⟩]

def exTotal (id : Nat) : Nat := if id = 0 then 500 else 400

/-- non-vacuity of `history_within_total`: the history is well-formed (`HistOk`), both models end up
    loaded on both GPUs (the second on a free figure of GPU 0 lowered from 400 to 393), and the sums
    planned per GPU (214 and 150 B) are within the totals -/
example : HistOk exTotal [] exHist ∧ (runEvs [] exHist).length = 2 ∧
    usedOn (runEvs [] exHist) 0 = 214 ∧ usedOn (runEvs [] exHist) 1 = 150 := by
  have hinvOk : (idsOf exInv).Nodup ∧
      (∀ g ∈ exInv, g.lkey = g.f.idk ∧ g.total = exTotal g.f.idk ∧ g.f.gpu.free ≤ g.total) := by decide
  have hreq : ∀ rs L0, loadDecision (fun _ => ex2f) 1 4 true exInv rs = .load true L0 1 →
      NoWrap (loadInp (fun _ => ex2f) L0 1) → ReqOk exTotal rs ⟨fun _ => ex2f, 1, 4, true, exInv⟩ := by
    intro rs L0 hd hnw
    refine ⟨hinvOk.1, hinvOk.2, fun full L p h => ?_⟩
    rw [hd] at h
    cases h
    exact hnw
  exact ⟨⟨hreq _ [⟨0, 0, .other, ⟨400, 10⟩⟩, ⟨0, 1, .other, ⟨150, 5⟩⟩] (by decide) (by decide), trivial,
    hreq _ [⟨0, 0, .other, ⟨393, 10⟩⟩, ⟨0, 1, .other, ⟨150, 5⟩⟩] (by decide) (by decide), trivial⟩,
    by decide, by decide, by decide⟩

/-- non-vacuity of `noWrap_of_small_raw`: its raw-input hypotheses hold for `ex3` -/
example : NoWrap ex3 :=
  noWrap_of_small_raw ex3 (by decide) (by decide) (by decide) (by decide) (by decide) (by decide) (by decide)
    (by decide) (by decide)

/-- one GPU, partial graph 9 > full graph 6, everything placed: 5 bytes of the reservation are not charged -/
example : (estimate { ex2f with gpus := [⟨400, 10⟩] }).graph = 6 ∧ (mkCore { ex2f with gpus := [⟨400, 10⟩] }).maxg = 9 ∧
    (estimate { ex2f with gpus := [⟨400, 10⟩] }).sizes = [141] ∧ NoWrap { ex2f with gpus := [⟨400, 10⟩] } := by decide

/-- non-vacuity of the CPU-branch theorem: first model; fits next to two loaded ones; does not fit ⇒ evict -/
example : cpuDecision (fun _ => ex2f) 0 4 ⟨0, 0, .cpu, ⟨1000, 0⟩⟩ 0 = .load false [⟨0, 0, .cpu, ⟨1000, 0⟩⟩] 4 ∧
    cpuDecision (fun _ => ex2f) 1 4 ⟨0, 0, .cpu, ⟨1000, 0⟩⟩ 2 = .load false [⟨0, 0, .cpu, ⟨1000, 0⟩⟩] 1 ∧
    cpuDecision (fun _ => ex2f) 1 4 ⟨0, 0, .cpu, ⟨100, 0⟩⟩ 2 = .evict ∧
    (estimate { ex2f with lib := .cpu, gpus := [⟨1000, 0⟩] }).total = 131 ∧
    (estimate { ex2f with lib := .cpu, gpus := [⟨100, 0⟩] }).total = 134 := by decide

end OllamaVerif.C16
