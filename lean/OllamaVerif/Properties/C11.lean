/-
  C11 — Loaded-runner limit, one runner per model, reuse when compatible, idle-first eviction,
        fit-before-load.

  Model: `Model/Sched.lean`.  "Live" = started and not shut down.  In the good variant every live
  runner is the entry of its model in `loaded` (no orphans), which yields the count bound and
  one-runner-per-model for every reachable state; the decision clauses (reuse, idle-first victim,
  fit before load) are theorems about the decision functions the model shares with the code
  (`decideLoad`, `findVictim`, the needsReload region).  Upstream's pinned variant violates
  one-runner-per-model: witness `F12a_two_live_runners_one_model`.
-/
import OllamaVerif.Properties.C01

namespace OllamaVerif.C11
open OllamaVerif.Sched OllamaVerif.C01

def live (s : State) (r : Rid) : Prop := r < s.nRunners ∧ (s.runners r).closed = false

/-- every live runner is THE loaded runner of its model -/
theorem live_runner_is_loaded {mr mq ds : Nat} {s : State} (h : Reach Variant.good (init0 mr mq ds) s)
    (r : Rid) (hl : live s r) : lookup s.loaded (s.runners r).model = some r :=
  (reach_inv (inv_init mr mq ds) h).i3.live r hl.1 hl.2

/-- **At most one runner per model.** -/
theorem one_runner_per_model {mr mq ds : Nat} {s : State} (h : Reach Variant.good (init0 mr mq ds) s)
    (r r' : Rid) (hl : live s r) (hl' : live s r') (hm : (s.runners r).model = (s.runners r').model) : r = r' := by
  have h1 := live_runner_is_loaded h r hl
  have h2 := live_runner_is_loaded h r' hl'
  rw [hm, h2] at h1
  cases h1; rfl

/-- **The number of simultaneously live runners never exceeds the limit in force**
    (`maxRunners` = OLLAMA_MAX_LOADED_MODELS, or the automatic value once it has been set):
    any duplicate-free list of live runners is no longer than it. -/
theorem live_count_le_max {mr mq ds : Nat} {s : State} (h : Reach Variant.good (init0 mr mq ds) s)
    (l : List Rid) (hn : l.Nodup) (hl : ∀ r, r ∈ l → live s r) : l.length ≤ s.maxRunners := by
  -- the live runners, paired with their models, are distinct entries of `loaded`
  have hsub : l.map (fun r => ((s.runners r).model, r)) ⊆ s.loaded := by
    intro p hp
    obtain ⟨r, hr, rfl⟩ := List.mem_map.mp hp
    exact lookup_some_mem _ _ _ (live_runner_is_loaded h r (hl r hr))
  have hnd : (l.map (fun r => ((s.runners r).model, r))).Nodup :=
    List.Pairwise.map _ (fun _ _ hab e => hab (Prod.mk.inj e).2) hn
  have := hnd.length_le_of_subset hsub
  rw [List.length_map] at this
  exact Nat.le_trans this (reach_inv (inv_init mr mq ds) h).i3.bound

/-- **Reuse when compatible**: a request for a model whose runner is loaded, open, healthy and was
    started with the same options is handed that very runner, and no runner is started. -/
theorem reuse_compatible {s : State} {q : ReqId} {r : Rid} {fit : Fit}
    (hpc : s.ppc = .eval q) (hg : fit.ngpus ≠ 0)
    (hl : lookup s.loaded (s.reqs q).model = some r)
    (hopts : (s.runners r).opts = (s.reqs q).opts) (hping : (s.runners r).pingOk = true)
    (hopen : (s.runners r).closed = false) (hmu : (s.runners r).locked = false)
    (hnb : (s.runners r).pingBlock = false) :
    ∃ s3, run Variant.good s [.pLookup fit, .pNeedsReload, .pUse] = some s3 ∧
      (s3.reqs q).gotRunner = some r ∧ s3.nRunners = s.nRunners ∧ s3.loaded = s.loaded ∧ s3.ppc = .idle := by
  have hd : decideLoad s fit q = .reuse r := by unfold decideLoad; simp [hl]
  exact ⟨_, run_cons (.pLookup_reuse fit q r hpc hg hd) (run_cons (.pNeedsReload_ok q r rfl hmu hopen hopts hnb hping)
    (run_cons (.pUse_grant q r rfl hmu (fun _ => hopen)) rfl)), by simp [upd, Req.granted], rfl, rfl, rfl⟩

/-- a request with different options (or a failed health check) makes the scheduler expire that
    runner rather than hand it out … -/
theorem incompatible_expires {v : Variant} {s s' : State} {q : ReqId} {r : Rid}
    (hpc : s.ppc = .needsReload q r) (hmu : (s.runners r).locked = false)
    (hbad : (s.runners r).opts ≠ (s.reqs q).opts ∨
            ((s.runners r).pingOk = false ∧ (s.runners r).pingBlock = false))
    (hs : step v s .pNeedsReload = some s') : s'.ppc = .expire q r := by
  simp only [step, hpc, hmu] at hs
  rcases hbad with h | ⟨h1, h2⟩
  · simp [h] at hs; rw [← hs]
  · simp [h1, h2] at hs
    rw [← hs]

/-- … and a runner that is started is started with the options of the request it is started for -/
theorem started_with_request_options {v : Variant} {s s' : State} {q : ReqId}
    (hpc : s.ppc = .load q) (hs : step v s (.pLoad true) = some s') :
    s'.nRunners = s.nRunners + 1 ∧ (s'.runners s.nRunners).opts = (s.reqs q).opts ∧
    (s'.runners s.nRunners).model = (s.reqs q).model := by
  cases Step.of_step hs
  rename_i q' hpc'
  cases hpc.symm.trans hpc'
  exact ⟨rfl, by simp [upd], by simp [upd]⟩

/-- model 0 loaded by request 0 (options 0), request 1 for the same model taken by the pending loop -/
def reuseTrace (opts : Nat) : List Act :=
  [.submit 0 0 none, .pTake, .pLookup fit0, .pLoad true, .loadDone 0 true, .submit 0 opts none, .pTake]

/-! ### eviction prefers an idle runner -/

def idle (s : State) (r : Rid) : Bool := (s.runners r).refCount = 0 && !(s.runners r).wrapped

/-- **Making room evicts an idle runner when one exists.** -/
theorem victim_idle_first (s : State) (r : Rid) (hr : r ∈ s.loaded.map (·.2)) (hidle : idle s r = true) :
    ∃ vic, findVictim s = some vic ∧ idle s vic = true ∧ vic ∈ s.loaded.map (·.2) := by
  unfold findVictim
  simp only []
  have hmem : r ∈ sortVictims s (s.loaded.map (·.2)) := (mem_sortVictims s _ r).mpr hr
  cases hf : (sortVictims s (s.loaded.map (·.2))).find?
      (fun r => (s.runners r).refCount = 0 && !(s.runners r).wrapped) with
  | none =>
    have := List.find?_eq_none.mp hf r hmem
    unfold idle at hidle
    simp_all
  | some vic =>
    refine ⟨vic, rfl, ?_, ?_⟩
    · have := List.find?_some hf
      unfold idle; simpa using this
    · exact (mem_sortVictims s _ vic).mp (List.mem_of_find?_eq_some hf)

theorem victim_is_loaded (s : State) (vic : Rid) (h : findVictim s = some vic) : vic ∈ s.loaded.map (·.2) :=
  Sched.victim_is_loaded s vic h

/-! ### fit before load -/

/-- **While other models are loaded, a new runner is started only if it is predicted to fit** in
    the memory they leave free (GPU mode: full fit on the GPUs not busy loading; CPU mode: fits
    in free system memory); otherwise a runner is evicted first, or the request waits for loads
    in progress. -/
theorem fit_before_load (s : State) (fit : Fit) (q : ReqId) (hne : s.loaded ≠ [])
    (h : decideLoad s fit q = .load) :
    fit.loadModelOk = true ∧ (if fit.cpu then fit.cpuFits = true else fit.fitsFull = true) := by
  unfold decideLoad at h
  have hlen : s.loaded.length ≠ 0 := by
    intro h0; exact hne (List.eq_nil_of_length_eq_zero h0)
  cases hl : lookup s.loaded (s.reqs q).model with
  | some r => simp [hl] at h
  | none =>
    simp only [hl] at h
    repeat' split at h
    all_goals (first | cases h | skip)
    all_goals simp_all

/-- and when it does not fit (and nothing is still loading) the decision is to evict -/
theorem no_fit_evicts (s : State) (fit : Fit) (q : ReqId) (hne : s.loaded ≠ [])
    (hl : lookup s.loaded (s.reqs q).model = none) (hok : fit.loadModelOk = true)
    (hroom : ¬ (s.maxRunners > 0 ∧ s.loaded.length ≥ s.maxRunners))
    (hgpu : fit.cpu = false) (hno : fit.fitsFull = false) (hquiet : fit.someBusy = false) :
    decideLoad s fit q = .evict := by
  have hlen : s.loaded.length ≠ 0 := by
    intro h0; exact hne (List.eq_nil_of_length_eq_zero h0)
  unfold decideLoad
  simp [hl, hok, hroom, hgpu, hno, hquiet, hlen]

/-- at the limit the decision is always to evict (never to start) -/
theorem at_limit_evicts (s : State) (fit : Fit) (q : ReqId)
    (hl : lookup s.loaded (s.reqs q).model = none)
    (hfull : s.maxRunners > 0 ∧ s.loaded.length ≥ s.maxRunners) : decideLoad s fit q = .evict := by
  unfold decideLoad
  simp [hl, hfull]

/-! ### witness for the pinned variant -/

/-- F12a on upstream's pinned variant: after the duplicate expired event, runners 1 and 2 are
    both alive for model 0 (31 actions into the trace of Properties/C01.lean) -/
theorem F12a_two_live_runners_one_model :
    (run Variant.pinned (init0 0 512 1) (dupExpiredTrace.take 31)).map
      (fun s => !(s.runners 1).closed && !(s.runners 2).closed &&
                (s.runners 1).model == (s.runners 2).model && s.nRunners == 3) = some true := by decide

end OllamaVerif.C11
