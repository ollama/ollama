/-
  C08 — Blob cache entries of the right size always have the right content.

  Property theorems over Model/BlobCache.lean: one store under crashes, Put/Get, Link, concurrent stores, Link then
  Resolve, histories without crashes, name confinement, Link as effects, the `noEarlyFull` shape.  `hash` is an
  arbitrary function everywhere (no injectivity, no SHA-256 facts): it enters only through `hash content = digest`.
-/
import OllamaVerif.Proofs.BlobCache

namespace OllamaVerif.C08
open OllamaVerif OllamaVerif.BlobCache

/-- the name `h/n/m:t` -/
def nm : Bytes := [0x68, 0x2f, 0x6e, 0x2f, 0x6d, 0x3a, 0x74]

/-- the identity as "hash function" for the concrete witnesses (any function would do; the theorems never look
    inside `hash`) -/
def idh : Bytes → Digest := fun b => b

/-! ## one writer, any source, any crash point -/

/-- **Single-writer crash safety.**  For every source-reader script (any chunking; short, long, corrupted or
    erroring), every current state of the blob file that is itself trusted — in particular absent, shorter
    garbage, longer garbage, the partial file of an earlier crash — and every crash point `p` of
    `copyNamedFile` (any prefix of its effects, the last write cut at any byte), the file left on disk is
    trusted: if `Get` reports it present with the stored size, it hashes to its digest.

    Mechanism (the code writes IN PLACE, there is no temp name): (1) the only file that is left alone is one
    that already has the right size; (2) `O_TRUNC` exactly when the old file is longer, so after `open` the file
    is shorter than `size`; (3) writes are sequential from offset 0 and `checkWriter` lets the length reach
    `size` only with the one write issued after the digest of the whole stream matched; a cut of that write is
    shorter than `size`; (4) every failure ends in `Truncate(0)`, which `Get` reports as absent. -/
theorem single_writer_crash_safe (hash : Bytes → Digest) (d : Digest) (size : Nat) (s : Script)
    (st : FileSt) (h0 : Trusted hash st d size) (p : List Eff)
    (hc : Cut (copyNamedEffs hash st d size s).1 p) :
    Trusted hash (run p st) d size := by
  unfold copyNamedEffs at hc
  split at hc
  · cases hc; exact h0
  · next hne =>
    by_cases hsz : size = 0
    · subst hsz; exact trusted_size_zero
    · rw [afterStat_of_pos hsz] at hc
      cases hc with
      | stop => exact h0
      | next _ _ p' hc' =>
        obtain ⟨g, hopen, _, hg⟩ := open_short hne
        obtain ⟨cs, he, hs, _⟩ := copyLoop_seq hash d size 0 s.chunks [] s.fin (seenOK_nil hsz)
        rw [run_cons, hopen]
        exact seqWrites_cut_trusted (hg hsz) _ cs [] hs p' (he ▸ hc')

/-- The three starting states named in the property are instances: absent, shorter garbage, longer garbage. -/
theorem single_writer_crash_safe_from_garbage (hash : Bytes → Digest) (d : Digest) (size : Nat) (s : Script)
    (st : FileSt) (hst : st = none ∨ ∃ g, st = some g ∧ g.length ≠ size) (p : List Eff)
    (hc : Cut (copyNamedEffs hash st d size s).1 p) :
    Trusted hash (run p st) d size := by
  apply single_writer_crash_safe hash d size s st _ p hc
  rcases hst with rfl | ⟨g, rfl, hg⟩
  · exact trusted_none
  · intro f hf _ hl; cases hf; exact absurd hl hg

/-- `Import` (temp file + rename): a crash leaves the old file or the complete new one. -/
theorem import_crash_safe (hash : Bytes → Digest) (size : Nat) (s : Script) (st : FileSt)
    (d : Digest) (es : List Eff) (hi : (importEffs hash size s).1 = some (d, es)) (p : List Eff)
    (hc : Cut es p) (sz : Nat) (h0 : Trusted hash st d sz) :
    Trusted hash (run p st) d sz := by
  obtain ⟨rfl, rfl⟩ := importEffs_some hi
  rcases cut_replace hc with rfl | rfl
  · exact h0
  · exact trusted_hash s.data

/-- the tie between the strace enumeration and `Cut`: what the oracle's `crash` command evaluates is a cut -/
theorem prefixBefore_is_cut (kd : EffKind) : ∀ (es : List Eff) (n : Nat) (p : List Eff),
    prefixBefore kd n es = some p → Cut es p := by
  intro es
  induction es with
  | nil => intro n p h; cases h
  | cons e es ih =>
    intro n p h
    unfold prefixBefore at h
    split at h
    · split at h
      · cases h; exact Cut.stop _
      · obtain ⟨q, hq, rfl⟩ := Option.map_eq_some_iff.mp h
        exact Cut.next _ _ _ (ih _ _ hq)
    · obtain ⟨q, hq, rfl⟩ := Option.map_eq_some_iff.mp h
      exact Cut.next _ _ _ (ih _ _ hq)

/-! ## Put / Get -/

@[simp] theorem setBlob_same (k : Disk) (d : Digest) (v : FileSt) : (k.setBlob d v).blob d = v := by
  simp [Disk.setBlob]

theorem setBlob_other (k : Disk) (d d' : Digest) (v : FileSt) (h : d' ≠ d) :
    (k.setBlob d v).blob d' = k.blob d' := by
  simp [Disk.setBlob, h]

/-- **A successful store makes the blob retrievable** (sizes > 0; a zero-length blob is never "present":
    upstream pins that in TestPutZero / TestPutGetZero — see `empty_put_not_retrievable`). -/
theorem put_ok_retrievable (hash : Bytes → Digest) (k : Disk) (d : Digest) (size : Nat) (s : Script)
    (hsz : size ≠ 0) (h0 : Trusted hash (k.blob d) d size)
    (hok : (put hash k d size s).2 = .ok) :
    getB (put hash k d size s).1 d = .entry size ∧
    ∃ f, (put hash k d size s).1.blob d = some f ∧ f.length = size ∧ hash f = d := by
  suffices hfile : _ from ⟨by obtain ⟨f, hb, rfl, _⟩ := hfile; exact getB_of_blob hb hsz, hfile⟩
  rw [put, setBlob_same]
  by_cases heq : (k.blob d).map List.length = some size
  · rw [copyNamed_same heq]
    cases hb : k.blob d with
    | none => rw [hb] at heq; cases heq
    | some f =>
      rw [hb] at heq
      have hl : f.length = size := Option.some.inj heq
      exact ⟨f, rfl, hl, h0 f hb (hl ▸ hsz) hl⟩
  · obtain ⟨f, hrun, hl, h⟩ := copyNamed_ok_run heq hok
    exact ⟨f, hrun, hl, h.elim (fun h => absurd (h ▸ hl).symm hsz) And.right⟩

theorem put_exact_get (hash : Bytes → Digest) (k : Disk) (data : Bytes) (hne : data ≠ [])
    (ht : Trusted hash (k.blob (hash data)) (hash data) data.length) :
    getB (put hash k (hash data) data.length ⟨[data], .eof⟩).1 (hash data) = .entry data.length :=
  (put_ok_retrievable hash k (hash data) data.length _ (mt List.eq_nil_of_length_eq_zero hne) ht
    (copyNamed_exact_ok hash _ data)).1

/-- the designed exception: `Put` of size 0 answers ok and `Get` answers "does not exist" -/
theorem empty_put_not_retrievable :
    let hash : Bytes → Digest := fun b => b
    (put hash Disk.empty [] 0 ⟨[], .eof⟩).2 = .ok ∧
    getB (put hash Disk.empty [] 0 ⟨[], .eof⟩).1 [] = .res .notExist := by decide

/-- `Put` never touches another digest's file -/
theorem put_frame (hash : Bytes → Digest) (k : Disk) (d d' : Digest) (size : Nat) (s : Script)
    (h : d' ≠ d) : (put hash k d size s).1.blob d' = k.blob d' := by
  unfold put; exact setBlob_other _ _ _ _ h

/-! ## Link -/

/-- **Link requires the blob FILE.**  If `Link(name, d)` succeeds, a file named after `d` exists. -/
theorem link_requires_blob (hash : Bytes → Digest) (fixed : Bool) (k : Disk) (name : Bytes) (d : Digest)
    (hok : (link hash fixed k name d).2 = .ok) : ∃ f, k.blob d = some f := by
  unfold link at hok
  split at hok
  · cases hok
  · split at hok
    · cases hok
    · next f hf => exact ⟨f, hf⟩

/-- The unrepaired `Link` does NOT require that the cache itself considers the blob present (finding F8-zero): a failed `Put`
    leaves a zero-length file (`Truncate(0)`, not `Remove`); `Get` says "does not exist", `Link` succeeds and links
    the name to an empty manifest, and `Resolve` then returns the digest of the empty string. -/
theorem F8zero_link_to_failed_put :
    let hash : Bytes → Digest := fun b => b        -- any function will do; identity keeps it readable
    let d : Digest := [1, 2, 3]
    let k1 := (put hash Disk.empty d 3 ⟨[[1]], .eof⟩).1           -- short source: the Put fails …
    (put hash Disk.empty d 3 ⟨[[1]], .eof⟩).2 = .short ∧
    getB k1 d = .res .notExist ∧                                    -- … the cache reports the blob absent …
    (link hash false k1 nm d).2 = .ok ∧                            -- … and still links the name to it
    (resolve hash (link hash false k1 nm d).1 nm).2 = .digest [] := by decide

/-- the repaired `Link` (proposed_fixes/C08-F8.patch) links only verified bytes: when it answers ok, either
    the name already held a manifest hashing to `d`, or the blob file's own bytes hash to `d` (or are empty:
    zero-length manifests are used by upstream's push tests and stay linkable — finding F8-zero is not
    repaired by the patch) -/
theorem link_requires_blob_fixed (hash : Bytes → Digest) (k : Disk) (name : Bytes) (d : Digest)
    (hok : (link hash true k name d).2 = .ok) :
    ∃ f, k.blob d = some f ∧
      (f = [] ∨ hash f = d ∨
        ∃ want g, nameToPath name = some want ∧ manGet k.mans (manifestPathOf k.mans want) = some g ∧ hash g = d) := by
  unfold link at hok
  cases hp : nameToPath name with
  | none => simp [hp] at hok
  | some want =>
    simp only [hp] at hok
    cases hb : k.blob d with
    | none => simp [hb] at hok
    | some f =>
      simp only [hb, if_true] at hok
      refine ⟨f, rfl, ?_⟩
      split at hok
      · next hm =>
        obtain ⟨g, hg, hm⟩ := Option.map_eq_some_iff.mp hm
        exact Or.inr (Or.inr ⟨want, g, rfl, hg, hm⟩)
      · split at hok
        · next hr => exact (copyNamed_whole_ok (fun h => by cases h) hr).2.imp id Or.inl
        · next hne => exact absurd hok (by simpa using hne)

/-! ## concurrent writers of one blob -/

/-- **Concurrent good writers are safe.**  Any number of writers of the same digest whose sources all deliver
    the true content (any chunkings), any interleaving of their stats, opens and writes, any of them dying at
    any point with its current write cut at any byte (`Ev.tear`), starting from an absent file, a shorter
    file (garbage or a crash's leftover) or an already complete one: at EVERY moment the file is trusted.
    Why: nobody truncates (no file is ever longer than `size`), everybody writes `content`'s own bytes at their
    own offsets sequentially from 0, so the file is always a correct prefix plus leftovers and is full-size
    only when it equals `content`. -/
theorem concurrent_good_writers_safe (hash : Bytes → Digest) (d : Digest) (content : Bytes)
    (hh : hash content = d) (scripts : List Script) (hgood : ∀ s ∈ scripts, GoodScript content s)
    (f0 : FileSt)
    (h0 : f0 = none ∨ ∃ g, f0 = some g ∧
      (g.length < content.length ∨ (g.length = content.length ∧ hash g = d)))
    (evs : List Ev) :
    Trusted hash (exec hash d content.length evs ⟨f0, scripts.map W.init⟩).file d content.length := by
  by_cases hsz : content.length = 0
  · rw [hsz]; exact trusted_size_zero
  · have hpos : ([] : Bytes).length < content.length := Nat.pos_of_ne_zero hsz
    rcases h0 with rfl | ⟨g, rfl, hlt | ⟨hl, hg⟩⟩
    · exact concInv_trusted hh hpos _
        (exec_inv hh hpos evs _ (concInv_init scripts (Nat.zero_le _) ⟨rfl, rfl⟩ (Or.inr hgood)))
    · exact concInv_trusted hh hlt _ (exec_inv hh hlt evs _ (concInv_init scripts (Nat.zero_le _) rfl (Or.inr hgood)))
    · -- a complete file with the right hash is what the writers take for the content: none of them opens it
      rw [← hl] at hpos ⊢
      exact concInv_trusted hg hpos _ (exec_inv hg hpos evs _ (concInv_init scripts (Nat.le_refl _)
        (by rw [List.take_length, overlay_nil] : g = overlay (g.take g.length) []) (Or.inl rfl)))

/-- **Finding F9: concurrent writers are NOT safe with one misbehaving co-writer.**  Content `[1,2,3,4]`; writer 0 is
    good (chunks `[1,2]`,`[3,4]`), writer 1's source fails at once.  Schedule: 0 stats, opens, writes `[1,2]`;
    1 stats (2 ≠ 4 bytes: proceeds, no O_TRUNC), opens, fails ⇒ `Truncate(0)`; 0 writes `[3,4]` at offset 2
    and returns ok.  Left on disk for good: a 4-byte file `[0,0,3,4]` — present, right size, wrong content,
    acknowledged with `nil` to the good writer.  (Second part: if instead the good writer finishes first, the
    failing writer's `Truncate(0)` destroys the completed, acknowledged blob.) -/
theorem F9_failing_cowriter_breaks_trust :
    let c : Bytes := [1, 2, 3, 4]
    let good : Script := ⟨[[1, 2], [3, 4]], .eof⟩
    let bad : Script := ⟨[], .err⟩
    let s := exec idh c 4
      [.step 0, .step 0, .step 0, .step 1, .step 1, .step 1, .step 0, .step 0, .step 0, .step 1, .step 1]
      ⟨none, [.init good, .init bad]⟩
    (s.file = some [0, 0, 3, 4] ∧ ¬ Trusted idh s.file c 4) ∧
    let s2 := exec idh c 4
      [.step 0, .step 0, .step 0, .step 1, .step 1, .step 0, .step 0, .step 0, .step 1, .step 1, .step 1]
      ⟨none, [.init good, .init bad]⟩
    s2.file = some [] := by decide

/-- Model-only witness (cannot be forced on the real code without a hook between `os.Stat` and
    `os.OpenFile`): starting from a LONGER garbage file even two good writers can expose a full-size holey
    file for a while, because both may decide on `O_TRUNC` before either opens.  This is why
    `concurrent_good_writers_safe` excludes a longer initial file. -/
theorem good_writers_from_longer_file_transiently_unsafe :
    let c : Bytes := [1, 2, 3, 4]
    let good : Script := ⟨[[1, 2], [3, 4]], .eof⟩
    (exec idh c 4 [.step 0, .step 1, .step 0, .step 0, .step 1, .step 0]
      ⟨some [9, 9, 9, 9, 9], [.init good, .init good]⟩).file = some [0, 0, 3, 4] := by decide

/-- non-vacuity of the hypotheses of the universally quantified theorems above: a good script, a proper
    crash cut with a torn write, a trusted shorter-garbage start -/
example : GoodScript [1, 2, 3, 4] ⟨[[1], [], [2, 3], [4]], .eof⟩ ∧
    Cut (copyNamedEffs idh (some [9, 9]) [1, 2, 3, 4] 4 ⟨[[1], [2, 3, 4]], .eof⟩).1
      [.openCreate false, .pwrite 0 [1], .pwrite 1 [2, 3]] ∧
    Trusted idh (some [9, 9]) [1, 2, 3, 4] 4 ∧
    run [.openCreate false, .pwrite 0 [1], .pwrite 1 [2, 3]] (some [9, 9]) = some [1, 2, 3] := by
  exact ⟨⟨by decide, rfl⟩, .next _ _ _ (.next _ _ _ (.torn 1 [2, 3, 4] [.close] 2)), by decide, by decide⟩

/-! ## chunked writes -/

/-- **Finding F10 at the cache level: a chunked blob is "present with the right size" before all chunks are
    written.**  `Chunked(d,4)` + `Put(Chunk{2,3})` of content `[1,2,3,4]`: the file is `[0,0,3,4]`; `Get` reports
    size 4; it is not trusted; and a later `Put` of the true content is answered `ok` from the size shortcut
    without repairing it. -/
theorem F10_chunk_holes_present_with_full_size :
    let c : Bytes := [1, 2, 3, 4]
    let k := chunk idh Disk.empty c 4 2 3 [3, 4] ⟨[[3, 4]], .eof⟩
    k.2 = .ok ∧ k.1.blob c = some [0, 0, 3, 4] ∧ getB k.1 c = .entry 4 ∧
    ¬ Trusted idh (k.1.blob c) c 4 ∧
    (put idh k.1 c 4 ⟨[c], .eof⟩).2 = .ok ∧ (put idh k.1 c 4 ⟨[c], .eof⟩).1.blob c = some [0, 0, 3, 4] := by
  decide

/-! ## Link then Resolve -/

/-- **Finding F8: `Link n d = ok → Resolve n = d` is FALSE** when `n` is already linked to a different manifest
    of the same size: the second `Link` answers ok and changes nothing.  (Second part: the repaired `Link`.) -/
theorem F8_relink_same_size_keeps_old :
    let A : Bytes := [1, 1, 1]
    let B : Bytes := [2, 2, 2]
    let ops : List Op := [.put A 3 ⟨[A], .eof⟩, .put B 3 ⟨[B], .eof⟩, .link nm A, .link nm B, .resolve nm]
    (runOps idh false false ops Disk.empty).2 = [.res .ok, .res .ok, .res .ok, .res .ok, .digest A] ∧
    (runOps idh true false ops Disk.empty).2 = [.res .ok, .res .ok, .res .ok, .res .ok, .digest B] := by decide

theorem resolve_plain (hash : Bytes → Digest) {k : Disk} {name : Bytes} {want : MPath} {data : Bytes}
    (hnd : (splitNameDigest name).2 = []) (hp : nameToPath (splitNameDigest name).1 = some want)
    (hm : manGet k.mans (manifestPathOf k.mans want) = some data) :
    resolve hash k name = ((put hash k (hash data) data.length ⟨[data], .eof⟩).1, .digest (hash data)) := by
  have hok : (put hash k (hash data) data.length ⟨[data], .eof⟩).2 = .ok := copyNamed_exact_ok hash _ data
  unfold resolve
  simp only [hnd, ne_eq, not_true_eq_false, if_false, hp, hm, hok]

/-- the discipline of `Resolve(name)` on the disk `k`: the manifest bytes it is about to read have the length `sz`
    assigns to their digest (it stores them with `PutBytes(hash data, data)`).  Only THESE bytes are constrained — no
    global assumption that the digest determines the length. -/
def ResolveDisc (hash : Bytes → Digest) (sz : Digest → Nat) (k : Disk) (name : Bytes) : Prop :=
  ∀ want data, nameToPath (splitNameDigest name).1 = some want →
    manGet k.mans (manifestPathOf k.mans want) = some data → sz (hash data) = data.length

theorem resolve_blob_cases (hash : Bytes → Digest) (k : Disk) (name : Bytes) :
    (resolve hash k name).1.mans = k.mans ∧
    ((resolve hash k name).1.blob = k.blob ∨
      ∃ d size s, (resolve hash k name).1.blob = (put hash k d size s).1.blob ∧
        ∀ sz, ResolveDisc hash sz k name → size = sz d) := by
  by_cases hnd : (splitNameDigest name).2 = []
  · cases hp : nameToPath (splitNameDigest name).1 with
    | none =>
      simp only [resolve, hnd, ne_eq, not_true_eq_false, if_false, hp]
      exact ⟨trivial, Or.inl trivial⟩
    | some want =>
      cases hm : manGet k.mans (manifestPathOf k.mans want) with
      | none =>
        simp only [resolve, hnd, ne_eq, not_true_eq_false, if_false, hp, hm]
        exact ⟨trivial, Or.inl trivial⟩
      | some data =>
        rw [resolve_plain hash hnd hp hm]
        exact ⟨rfl, Or.inr ⟨_, _, _, rfl, fun sz hd => (hd want data hp hm).symm⟩⟩
  · unfold resolve
    rw [if_pos hnd]
    split <;> exact ⟨rfl, Or.inl rfl⟩

/-- **Resolve returns the hash of the manifest file.**  Whenever `Resolve(name)` (a plain name, no `@digest`)
    answers a digest, a manifest file exists at `manifestPath(name)`, the digest is the hash of exactly its
    bytes, no manifest is touched, and — if the blob slot of that digest was trusted — the bytes are now
    retrievable as a blob of that size. -/
theorem resolve_hash_of_file (hash : Bytes → Digest) (k : Disk) (name : Bytes) (d' : Digest)
    (hnd : (splitNameDigest name).2 = [])
    (h : (resolve hash k name).2 = .digest d') :
    ∃ want data, nameToPath (splitNameDigest name).1 = some want ∧
      manGet k.mans (manifestPathOf k.mans want) = some data ∧ d' = hash data ∧
      (resolve hash k name).1.mans = k.mans ∧
      (data ≠ [] → Trusted hash (k.blob (hash data)) (hash data) data.length →
        getB (resolve hash k name).1 (hash data) = .entry data.length) := by
  cases hp : nameToPath (splitNameDigest name).1 with
  | none => simp [resolve, hnd, hp] at h
  | some want =>
    cases hm : manGet k.mans (manifestPathOf k.mans want) with
    | none => simp [resolve, hnd, hp, hm] at h
    | some data =>
      rw [resolve_plain hash hnd hp hm] at h ⊢
      exact ⟨want, data, rfl, hm, (Out.digest.inj h).symm, rfl, put_exact_get hash k data⟩

theorem resolve_linked (hash : Bytes → Digest) (k : Disk) {name : Bytes} (f : Bytes) {want : MPath}
    (hat : splitNameDigest name = (name, [])) (hp : nameToPath name = some want) :
    (resolve hash { k with mans := manSet k.mans (manifestPathOf k.mans want) (some f) } name).2 =
      .digest (hash f) := by
  rw [resolve_plain hash (by rw [hat]) (by rw [hat]; exact hp)
    (by dsimp only; rw [manifestPathOf_manSet, manGet_manSet_same])]

/-- **Link then Resolve (partial).**  `Link(name, d) = ok` and `Resolve(name) = d`, PROVIDED the blob file's
    bytes hash to `d` and the name is not currently linked to a manifest of the same size (the guard excludes
    exactly finding F8; a same-size manifest that happens to be the same bytes is excluded too, harmlessly).
    What is missing for the full statement: `Link` must not apply the same-size shortcut to the mutable
    manifest name (proposed_fixes/C08-F8.patch; see `link_then_resolve_fixed`). -/
theorem link_then_resolve_partial (hash : Bytes → Digest) (k : Disk) (name : Bytes) (d : Digest)
    (f : Bytes) (want : MPath)
    (hat : splitNameDigest name = (name, []))
    (hp : nameToPath name = some want)
    (hb : k.blob d = some f) (hh : hash f = d)
    (hguard : (manGet k.mans (manifestPathOf k.mans want)).map List.length ≠ some f.length) :
    (link hash false k name d).2 = .ok ∧
    (resolve hash (link hash false k name d).1 name).2 = .digest d := by
  subst hh
  unfold link
  simp only [hp, hb, Bool.false_eq_true, if_false, copyNamed_exact_file hash _ f hguard, copyNamed_exact_ok]
  exact ⟨trivial, resolve_linked hash k f hat hp⟩

/-- with the repaired `Link` the guard on the old manifest disappears -/
theorem link_then_resolve_fixed (hash : Bytes → Digest) (k : Disk) (name : Bytes) (d : Digest)
    (f : Bytes) (want : MPath)
    (hat : splitNameDigest name = (name, []))
    (hp : nameToPath name = some want)
    (hb : k.blob d = some f) (hh : hash f = d) :
    (link hash true k name d).2 = .ok ∧
    (resolve hash (link hash true k name d).1 name).2 = .digest d := by
  subst hh
  unfold link
  simp only [hp, hb, if_true]
  split
  · next hm =>
    -- already linked to a manifest with this digest: nop
    obtain ⟨g, hg, hm⟩ := Option.map_eq_some_iff.mp hm
    rw [resolve_plain hash (by rw [hat]) (by rw [hat]; exact hp) hg, hm]
    exact ⟨rfl, rfl⟩
  · simp only [copyNamed_exact_ok, copyNamed_exact_file hash none f (fun h => by cases h)]
    exact ⟨trivial, resolve_linked hash k f hat hp⟩

/-- non-vacuity of `link_then_resolve_partial`: name `h/n/m:t`, a 3-byte blob, nothing linked yet -/
example : splitNameDigest nm = (nm, []) ∧ (nameToPath nm).isSome = true ∧
    (manGet Disk.empty.mans (manifestPathOf Disk.empty.mans [[0x68], [0x6e], [0x6d], [0x74]])).map List.length
      ≠ some 3 := by decide

/-! ## every history (no crash, no chunked writes) -/

def BlobOK (hash : Bytes → Digest) (k : Disk) : Prop :=
  ∀ d f, k.blob d = some f → f = [] ∨ hash f = d

/-- `BlobOK`, of the file of one digest -/
def FileOKFor (hash : Bytes → Digest) (d : Digest) (st : FileSt) : Prop :=
  ∀ f, st = some f → f = [] ∨ hash f = d

theorem forall_setBlob {P : Digest → FileSt → Prop} {k : Disk} {d : Digest} {v : FileSt} (h : ∀ d, P d (k.blob d))
    (hv : P d v) : ∀ d', P d' ((k.setBlob d v).blob d') := by
  intro d'
  by_cases hd : d' = d
  · subst hd; rw [setBlob_same]; exact hv
  · rw [setBlob_other _ _ _ _ hd]; exact h d'

theorem copyNamed_final (hash : Bytes → Digest) (st : FileSt) (d : Digest) (size : Nat) (s : Script)
    (h0 : FileOKFor hash d st) : FileOKFor hash d (run (copyNamedEffs hash st d size s).1 st) := by
  by_cases heq : st.map List.length = some size
  · rw [copyNamed_same heq]
    exact h0
  · intro f hf
    by_cases hok : (copyNamedEffs hash st d size s).2 = .ok
    · obtain ⟨f', hrun, _, h⟩ := copyNamed_ok_run heq hok
      rw [hrun] at hf
      cases hf
      exact h.imp id And.right
    · exact Or.inl (copyNamed_fail_run heq hok f hf)

theorem copyNamedNeg_file (refuse : Bool) (st : FileSt) (s : Script) :
    run (copyNamedNegEffs refuse st s).1 st = st ∨ run (copyNamedNegEffs refuse st s).1 st = some [] := by
  have hopen : applyEff (.openCreate st.isSome) st = some [] := by cases st <;> rfl
  unfold copyNamedNegEffs
  split
  · exact Or.inl rfl
  · right
    split
    · rw [run_cons, hopen]; rfl
    · split <;> (rw [run_cons, hopen]; rfl)

theorem edit_blob (k : Disk) (name data : Bytes) : (edit k name data).1.blob = k.blob := by
  unfold edit; split <;> rfl

theorem unlink_blob (k : Disk) (name : Bytes) : (unlink k name).1.blob = k.blob := by
  unfold unlink
  split
  · rfl
  · dsimp only
    split <;> rfl

def noChunk : Op → Bool
  | .chunk .. => false
  | .session .. => false
  | _ => true

theorem linkZ_disk_cases (hash : Bytes → Digest) (zc fixed : Bool) (k : Disk) (name : Bytes) (d : Digest) :
    (linkZ hash zc fixed k name d).1 = k ∨
    ∃ want v, nameToPath name = some want ∧
      (linkZ hash zc fixed k name d).1 = { k with mans := manSet k.mans (manifestPathOf k.mans want) v } := by
  unfold linkZ
  split
  · exact Or.inl rfl
  · next want hp =>
    split
    · exact Or.inl rfl
    · unfold link
      rw [hp]
      dsimp only
      split
      · exact Or.inl rfl
      · split
        · split
          · exact Or.inl rfl
          · split
            · exact Or.inr ⟨want, _, rfl, rfl⟩
            · exact Or.inl rfl
        · exact Or.inr ⟨want, _, rfl, rfl⟩

theorem linkZ_blob_eq (hash : Bytes → Digest) (zc fixed : Bool) (k : Disk) (name : Bytes) (d : Digest) :
    (linkZ hash zc fixed k name d).1.blob = k.blob := by
  rcases linkZ_disk_cases hash zc fixed k name d with h | ⟨_, _, _, h⟩ <;> rw [h]

theorem stepOp_linkR_disk (hash : Bytes → Digest) (fixed zc : Bool) (k : Disk) (name : Bytes) (d : Digest) :
    (stepOp hash fixed zc k (.linkR name d)).1 = (linkZ hash zc fixed k name d).1 ∨
    (stepOp hash fixed zc k (.linkR name d)).1 = (linkZ hash zc fixed (resolve hash k name).1 name d).1 := by
  simp only [stepOp]
  split
  · exact Or.inr rfl
  · exact Or.inl rfl

theorem importB_cases (hash : Bytes → Digest) (k : Disk) (n : Nat) (s : Script) :
    (∃ r, importB hash k n s = (k, .res r)) ∨
    importB hash k n s = (k.setBlob (hash s.data) (some s.data), .digest (hash s.data)) := by
  unfold importB
  split
  · next d es _ heq =>
    obtain ⟨rfl, rfl⟩ := importEffs_some (by rw [heq])
    exact Or.inr rfl
  · exact Or.inl ⟨_, rfl⟩

/-- the size discipline of an operation on the disk `k`: `Put(d, r, size)` is called with the size `sz d`; `Resolve`
    (also the one fired inside `linkR`) reads a manifest whose length is the one `sz` gives its digest; `Chunked` is
    excluded (finding F10).  `Import` needs no discipline for trust (it renames a complete file). -/
def Disciplined (hash : Bytes → Digest) (sz : Digest → Nat) (k : Disk) : Op → Prop
  | .put d size _ => size = sz d
  | .chunk .. => False
  | .session .. => False
  | .resolve name => ResolveDisc hash sz k name
  | .linkR name _ => ResolveDisc hash sz k name
  | _ => True

theorem Disciplined.noChunk {hash : Bytes → Digest} {sz : Digest → Nat} {k : Disk} {op : Op}
    (hd : Disciplined hash sz k op) : noChunk op = true := by
  cases op <;> first | rfl | exact hd.elim

/-- **Per-file invariants, complete operations.**  A property `P` of each blob file separately is kept by an operation
    (`Chunked` apart) if a complete store keeps it, content renamed in under its own hash has it, and so has the empty file.
    The size premise is for every `sz` at once: `history_blobs_valid` has no `sz`. -/
theorem stepOp_forall_blob {hash : Bytes → Digest} {P : Digest → FileSt → Prop} (fixed zc : Bool) (k : Disk) (op : Op)
    (hn : noChunk op = true)
    (hstore : ∀ d size s, (∀ sz, Disciplined hash sz k op → size = sz d) → P d (k.blob d) →
      P d (run (copyNamedEffs hash (k.blob d) d size s).1 (k.blob d)))
    (hrename : ∀ n s, op = .importB n s → P (hash s.data) (some s.data))
    (hneg : ∀ d s, op = .putNeg d s → P d (some []))
    (h : ∀ d, P d (k.blob d)) : ∀ d, P d ((stepOp hash fixed zc k op).1.blob d) := by
  have hres : ∀ name, (∀ sz, Disciplined hash sz k op → ResolveDisc hash sz k name) →
      ∀ d, P d ((resolve hash k name).1.blob d) := fun name hd => by
    rcases (resolve_blob_cases hash k name).2 with h1 | ⟨d, size, s, h1, hsz⟩ <;> rw [h1]
    · exact h
    · exact forall_setBlob h (hstore d size s (fun sz hop => hsz sz (hd sz hop)) (h d))
  cases op with
  | put d size s => exact forall_setBlob h (hstore d size s (fun _ hd => hd) (h d))
  | importB n s =>
    show ∀ d, P d ((importB hash k n s).1.blob d)
    rcases importB_cases hash k n s with ⟨_, h1⟩ | h1 <;> rw [h1]
    · exact h
    · exact forall_setBlob h (hrename n s rfl)
  | get d => exact h
  | link name d => exact (linkZ_blob_eq hash zc fixed k name d).symm ▸ h
  | linkR name d =>
    rcases stepOp_linkR_disk hash fixed zc k name d with h1 | h1 <;> rw [h1, linkZ_blob_eq]
    · exact h
    · exact hres name fun _ hd => hd
  | unlink name => exact (unlink_blob k name).symm ▸ h
  | resolve name => exact hres name fun _ hd => hd
  | putNeg d s =>
    refine forall_setBlob h ?_
    rcases copyNamedNeg_file false (k.blob d) s with e | e <;> rw [e]
    · exact h d
    · exact hneg d s rfl
  | edit name data => exact (edit_blob k name data).symm ▸ h
  | chunk | session => cases hn

/-- **Every history.**  Starting from a disk whose blob files are each empty or correct (in particular the
    empty disk), after ANY sequence of Put / Import / Get / Link / Unlink / Resolve with arbitrary — faulty —
    sources (no crash; `Chunked` excluded: finding F10), every blob file is absent, empty, or hashes to its
    name. -/
theorem history_blobs_valid (hash : Bytes → Digest) (fixed zc : Bool) : ∀ (ops : List Op) (k : Disk),
    (∀ op ∈ ops, noChunk op = true) → BlobOK hash k → BlobOK hash (runOps hash fixed zc ops k).1 := by
  intro ops
  induction ops with
  | nil => intro k _ h; exact h
  | cons op ops ih =>
    intro k hn h
    simp only [runOps]
    exact ih _ (fun o ho => hn o (List.mem_cons_of_mem _ ho))
      (stepOp_forall_blob (P := FileOKFor hash) fixed zc k op (hn op List.mem_cons_self)
        (fun d size s _ => copyNamed_final hash (k.blob d) d size s)
        (fun _ _ _ f hf => Or.inr (by cases hf; rfl)) (fun _ _ _ f hf => Or.inl (by cases hf; rfl)) h)

/-- After such a history from the empty disk, whatever `Get` reports present — under ANY size — has the right content. -/
theorem history_get_trusted (hash : Bytes → Digest) (fixed zc : Bool) (ops : List Op)
    (hn : ∀ op ∈ ops, noChunk op = true) (d : Digest) (n : Nat)
    (hg : getB (runOps hash fixed zc ops Disk.empty).1 d = .entry n) :
    ∃ f, (runOps hash fixed zc ops Disk.empty).1.blob d = some f ∧ f.length = n ∧ hash f = d := by
  have hok := history_blobs_valid hash fixed zc ops Disk.empty hn (by intro d f hf; cases hf)
  obtain ⟨f, hb, hl, hz⟩ := getB_entry hg
  exact ⟨f, hb, hl, (hok d f hb).resolve_left fun h => hz (h ▸ rfl)⟩

/-! ## Link with the zero-length refusal (proposed_fixes/C08-F8-zero.patch) -/

/-- Link-then-Resolve for the repaired `Link`, with or without the zero-length refusal: no guard -/
theorem linkZ_then_resolve_fixed (hash : Bytes → Digest) (zc : Bool) (k : Disk) (name : Bytes) (d : Digest)
    (f : Bytes) (want : MPath)
    (hat : splitNameDigest name = (name, []))
    (hp : nameToPath name = some want)
    (hb : k.blob d = some f) (hh : hash f = d) :
    (linkZ hash zc true k name d).2 = .ok ∧
    (resolve hash (linkZ hash zc true k name d).1 name).2 = .digest d := by
  have hno : ¬ (zc = true ∧ k.blob d = some [] ∧ d ≠ hash []) := by
    rintro ⟨_, he, hne⟩
    rw [hb] at he
    cases he
    exact hne hh.symm
  unfold linkZ
  rw [hp]
  dsimp only
  rw [if_neg hno]
  exact link_then_resolve_fixed hash k name d f want hat hp hb hh

theorem linkZ_ok (hash : Bytes → Digest) (zc fixed : Bool) (k : Disk) (name : Bytes) (d : Digest)
    (hok : (linkZ hash zc fixed k name d).2 = .ok) :
    ¬ (zc = true ∧ k.blob d = some [] ∧ d ≠ hash []) ∧ (link hash fixed k name d).2 = .ok := by
  unfold linkZ at hok
  split at hok
  · cases hok
  · split at hok
    · cases hok
    · next h => exact ⟨h, hok⟩

/-- **Link requires the blob, full strength, for `Link` with both repairs**: if it answers ok, the blob file
    exists and its bytes hash to `d` (so `Get` reports it present unless `d` is the digest of the empty string),
    or the name already holds a manifest hashing to `d`.  This closes finding F8-zero. -/
theorem link_requires_blob_zero_checked (hash : Bytes → Digest) (k : Disk) (name : Bytes) (d : Digest)
    (hok : (linkZ hash true true k name d).2 = .ok) :
    ∃ f, k.blob d = some f ∧
      (hash f = d ∨
        ∃ want g, nameToPath name = some want ∧ manGet k.mans (manifestPathOf k.mans want) = some g ∧ hash g = d) := by
  obtain ⟨hno, hl⟩ := linkZ_ok hash true true k name d hok
  obtain ⟨f, hb, h⟩ := link_requires_blob_fixed hash k name d hl
  refine ⟨f, hb, ?_⟩
  rcases h with rfl | h | h
  · left
    by_cases hd : d = hash []
    · exact hd.symm
    · exact absurd ⟨rfl, hb, hd⟩ hno
  · exact Or.inl h
  · exact Or.inr h

/-- the F8-zero history with the zero-length refusal: the Link is refused -/
theorem F8zero_refused_with_zero_check :
    let d : Digest := [1, 2, 3]
    let k1 := (put idh Disk.empty d 3 ⟨[[1]], .eof⟩).1
    (linkZ idh true true k1 nm d).2 = .notExist ∧ (linkZ idh false true k1 nm d).2 = .ok := by decide

/-! ## name operations are confined to manifests/ -/

/-- **Frame of the name operations.**  `Link` (any variant, any string as name — hostile ones included; `Unlink`:
    `unlink_confined`) leaves every blob untouched, and keeps every manifest at a path of exactly four safe components
    (`SafePath`: non-empty, not starting with `.`, no `/`), i.e. strictly inside `manifests/`.  The model keeps
    blobs and manifests in two maps; THIS theorem is what justifies that split: a name can never denote a
    file outside `manifests/<h>/<n>/<m>/<t>`. -/
theorem link_confined (hash : Bytes → Digest) (zc fixed : Bool) (k : Disk) (name : Bytes) (d : Digest)
    (hm : AllSafe k.mans) :
    (linkZ hash zc fixed k name d).1.blob = k.blob ∧ AllSafe (linkZ hash zc fixed k name d).1.mans := by
  refine ⟨linkZ_blob_eq hash zc fixed k name d, ?_⟩
  rcases linkZ_disk_cases hash zc fixed k name d with h | ⟨want, v, hp, h⟩
  · rw [h]; exact hm
  · rw [h]; exact manSet_safe _ hm (manifestPathOf_safe hm (nameToPath_safe name want hp))

theorem unlink_confined (k : Disk) (name : Bytes) (hm : AllSafe k.mans) :
    (unlink k name).1.blob = k.blob ∧ AllSafe (unlink k name).1.mans := by
  refine ⟨unlink_blob k name, ?_⟩
  unfold unlink
  cases hp : nameToPath name with
  | none => exact hm
  | some want =>
    dsimp only
    split
    · exact hm
    · exact manSet_safe none hm (manifestPathOf_safe hm (nameToPath_safe name want hp))

theorem history_manifests_confined (hash : Bytes → Digest) (fixed zc : Bool) : ∀ (ops : List Op) (k : Disk),
    AllSafe k.mans → AllSafe (runOps hash fixed zc ops k).1.mans := by
  intro ops
  induction ops with
  | nil => intro k h; exact h
  | cons op ops ih =>
    intro k h
    simp only [runOps]
    apply ih
    cases op with
    | importB size s =>
      show AllSafe (importB hash k size s).1.mans
      rcases importB_cases hash k size s with ⟨_, h1⟩ | h1 <;> rw [h1] <;> exact h
    | link name d => exact (link_confined hash zc fixed k name d h).2
    | linkR name d =>
      rcases stepOp_linkR_disk hash fixed zc k name d with h1 | h1
      · rw [h1]; exact (link_confined hash zc fixed k name d h).2
      · rw [h1]; exact (link_confined hash zc fixed _ name d (by rw [(resolve_blob_cases hash k name).1]; exact h)).2
    | unlink name => exact (unlink_confined k name h).2
    | resolve name => exact (resolve_blob_cases hash k name).1.symm ▸ h
    | edit name data =>
      simp only [stepOp, edit]
      cases hp : nameToPath name with
      | none => exact h
      | some want => exact manSet_safe (some data) h (nameToPath_safe name want hp)
    | put | get | chunk | putNeg | session => exact h

/-! ## crash – restart – retry histories of one blob file -/

/-- states of one blob file reachable by any number of `Put`s (arbitrary scripts) and `Import`s of content
    hashing to `d`, EACH of which may be cut by a crash at any point (a complete run is a cut too), every `Put`
    under the size `size` -/
inductive CrashReach (hash : Bytes → Digest) (d : Digest) (size : Nat) : FileSt → FileSt → Prop
  | refl (st) : CrashReach hash d size st st
  | put (st st' : FileSt) (s : Script) (p : List Eff) :
      CrashReach hash d size st st' → Cut (copyNamedEffs hash st' d size s).1 p →
      CrashReach hash d size st (run p st')
  | imp (st st' : FileSt) (n : Nat) (s : Script) (es p : List Eff) :
      CrashReach hash d size st st' → (importEffs hash n s).1 = some (d, es) → Cut es p →
      CrashReach hash d size st (run p st')

/-- **Crash histories.**  Any sequence of possibly-crashed writes of `d` keeps the file trusted: what a crash
    leaves is a legitimate start for the retry, for any number of rounds. -/
theorem crash_history_trusted (hash : Bytes → Digest) (d : Digest) (size : Nat) (st st' : FileSt)
    (hr : CrashReach hash d size st st') (h0 : Trusted hash st d size) : Trusted hash st' d size := by
  induction hr with
  | refl => exact h0
  | put st' s p _ hc ih => exact single_writer_crash_safe hash d size s st' ih p hc
  | imp st' n s es p _ hi hc ih => exact import_crash_safe hash n s st' d es hi p hc size ih

/-! ## Link as effects on the manifest file: crash cuts and concurrent Resolve -/

/-- `linkFileEffs` IS what the repaired `Link` does to the manifest of a valid name: same result, and the
    manifest file ends as the effects leave it -/
theorem linkZ_file_effs (hash : Bytes → Digest) (zc : Bool) (k : Disk) (name : Bytes) (d : Digest)
    (want : MPath) (hp : nameToPath name = some want) :
    (linkZ hash zc true k name d).2 =
      (linkFileEffs hash zc (manGet k.mans (manifestPathOf k.mans want)) (k.blob d) d).2 ∧
    manGet (linkZ hash zc true k name d).1.mans (manifestPathOf k.mans want) =
      run (linkFileEffs hash zc (manGet k.mans (manifestPathOf k.mans want)) (k.blob d) d).1
        (manGet k.mans (manifestPathOf k.mans want)) := by
  unfold linkZ link linkFileEffs
  simp only [hp]
  cases k.blob d with
  | none =>
    simp only [reduceCtorEq, and_false, false_and, if_false]
    exact ⟨trivial, rfl⟩
  | some f =>
    simp only [Option.some.injEq, if_true]
    split
    · exact ⟨rfl, rfl⟩
    · split
      · exact ⟨rfl, rfl⟩
      · by_cases hr : (copyNamedEffs hash none d f.length ⟨[f], .eof⟩).2 = .ok
        · simp only [hr, (copyNamed_whole_ok (fun h => by cases h) hr).1]
          exact ⟨trivial, manGet_manSet_same ..⟩
        · split
          · next h => exact absurd h hr
          · exact ⟨rfl, rfl⟩

/-- **Link is atomic on the manifest under crashes** (the repaired `Link`: temp + rename, zero-length refusal).  Whatever
    the manifest and the blob file are, every crash cut of `Link`'s effects leaves the manifest exactly as it was,
    or holding the blob's complete bytes, which hash to `d`.  No cut exposes an empty or partial manifest. -/
theorem link_crash_atomic (hash : Bytes → Digest) (man blob : FileSt) (d : Digest) (p : List Eff)
    (hc : Cut (linkFileEffs hash true man blob d).1 p) :
    run p man = man ∨ ∃ f, run p man = some f ∧ blob = some f ∧ hash f = d := by
  have hread : ∀ q, Cut [Eff.openRead] q → run q man = man := by
    intro q hq
    cases hq with
    | stop => rfl
    | next _ _ _ hq' => cases hq'; rfl
  unfold linkFileEffs at hc
  cases blob with
  | none => cases hc; exact Or.inl rfl
  | some f =>
    dsimp only at hc
    split at hc
    · cases hc; exact Or.inl rfl
    · next hz =>
      split at hc
      · exact Or.inl (hread p hc)
      · split at hc
        · next hr =>
          have hh : hash f = d := (copyNamed_whole_ok (fun h => by cases h) hr).2.elim
            (fun hf => Decidable.by_contra fun hd => hz ⟨rfl, hf, fun e => hd (hf ▸ e.symm)⟩) id
          cases hc with
          | stop => exact Or.inl rfl
          | next _ _ p' hc' =>
            rcases cut_replace hc' with rfl | rfl
            · exact Or.inl rfl
            · exact Or.inr ⟨f, rfl, rfl, hh⟩
        · exact Or.inl (hread p hc)

/-- **One Link keeps: every name that resolves, resolves to a digest somebody asked for.**  Let `S` hold of the digests that
    acknowledged Links of this name asked for, and let the manifest currently hash into `S` (or be absent).  Then at
    every crash cut of a `Link(name, d)` — equivalently, at every moment a concurrent `Resolve` can read the
    manifest while that Link is in flight, since each such moment is a prefix of its effects — the manifest is
    absent or its bytes hash to a digest in `S` or to `d`.  (`Resolve` returns exactly that hash:
    `resolve_hash_of_file`.) -/
theorem link_cut_resolves_asked (hash : Bytes → Digest) (S : Digest → Prop) (man blob : FileSt) (d : Digest)
    (h0 : ∀ g, man = some g → S (hash g)) (p : List Eff)
    (hc : Cut (linkFileEffs hash true man blob d).1 p) :
    ∀ g, run p man = some g → S (hash g) ∨ hash g = d := by
  intro g hg
  rcases link_crash_atomic hash man blob d p hc with h | ⟨f, hf, _, hh⟩
  · rw [h] at hg; exact Or.inl (h0 g hg)
  · rw [hf] at hg; cases hg; exact Or.inr hh

/-- the first Link done in place, as effects, and its cut that the repaired Link cannot have:
    the name exists with EMPTY content after the open, so it resolves to the digest of the empty string -/
theorem inplace_first_link_exposes_empty_manifest :
    let f : Bytes := [1, 2, 3]
    let inplace := (copyNamedEffs idh none f 3 ⟨[f], .eof⟩).1
    Cut inplace [.openCreate false] ∧ run [.openCreate false] none = some [] ∧
    ¬ (∃ p, Cut (linkFileEffs idh true none (some f) f).1 p ∧ run p none = some []) := by
  refine ⟨.next _ _ _ (.stop _), by decide, ?_⟩
  · rintro ⟨p, hc, hr⟩
    rcases link_crash_atomic idh none (some [1, 2, 3]) [1, 2, 3] p hc with h | ⟨f, hf, hb, _⟩
    · rw [h] at hr; cases hr
    · rw [hf] at hr; cases hb; cases hr

/-! ## the effect-list shape crash safety rests on (`noEarlyFull`) -/

/-- **Every store of the model has the shape**: in the effect list of `copyNamedFile`, for every source script and
    every prior file, no effect brings the file to `size` before `size` data bytes have been written.  This is the
    shape the proof of `single_writer_crash_safe` exploits; the check evaluates the same predicate on the real syscall
    trace of stores (L2 `trace-shape`), so a preallocating `ftruncate(size)` is flagged without any crash. -/
theorem copyNamedEffs_noEarlyFull (hash : Bytes → Digest) (st : FileSt) (d : Digest) (size : Nat) (s : Script)
    (hsz : size ≠ 0) :
    noEarlyFull size (fileLen st) 0 ((copyNamedEffs hash st d size s).1.map Eff.toSize) = true := by
  unfold copyNamedEffs
  split
  · rfl
  · next hne =>
    obtain ⟨g, hopen, _, hg⟩ := open_short hne
    obtain ⟨cs, he, hs, _⟩ := copyLoop_seq hash d size 0 s.chunks [] s.fin (seenOK_nil hsz)
    have := seqWrites_noEarlyFull (hg hsz) (copyLoop hash d size 0 [] s.chunks s.fin).2 cs 0
      (by rw [Nat.zero_add]; exact hs.1)
    rw [afterStat_of_pos hsz, he, List.map_cons, Eff.toSize, noEarlyFull_open, hopen, Bool.and_eq_true, decide_eq_true_eq]
    exact ⟨fun e => absurd e (Nat.ne_of_lt (hg hsz)), by simpa [fileLen] using this⟩

/-- what the shape excludes: a size-only effect before the data (a preallocation).  The list violates
    `noEarlyFull`, and its cut after two data bytes is a full-size file with a zero tail: present, right size, wrong
    content. -/
theorem prealloc_violates_shape_and_safety :
    let c : Bytes := [1, 2, 3, 4]
    let es : List Eff := [.openCreate false, .truncate 4, .pwrite 0 [1, 2], .pwrite 2 [3, 4], .close]
    noEarlyFull 4 0 0 (es.map Eff.toSize) = false ∧
    Cut es [.openCreate false, .truncate 4, .pwrite 0 [1, 2]] ∧
    run [.openCreate false, .truncate 4, .pwrite 0 [1, 2]] none = some [1, 2, 0, 0] ∧
    ¬ Trusted idh (some [1, 2, 0, 0]) c 4 := by
  exact ⟨by decide, .next _ _ _ (.next _ _ _ (.next _ _ _ (.stop _))), by decide, by decide⟩

end OllamaVerif.C08
