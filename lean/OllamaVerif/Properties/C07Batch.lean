/-
  C07 — the executable `processBatch` / `runEvent` of Model/Runner.lean (the functions the oracle runs and
  L1 compares with the real code) keep the cache coherent and the slots exclusively owned.

  Properties/C07.lean speaks about the hand-written operation alphabet `Step`; the theorems here are about
  `innerLoop`, `phase1`, `phase3`, `processBatch`, `runEvent`, `runEvents` themselves (mixed batches of
  several sequences included).
-/
import OllamaVerif.Properties.C07

namespace OllamaVerif.C07
open OllamaVerif OllamaVerif.Runner

/-! ## the frame of an operation on one slot -/

/-- what an operation on slot `s` leaves alone -/
structure Frame (s : Nat) (c c' : Cache) : Prop where
  numCtx : c'.numCtx = c.numCtx
  window : c'.window = c.window
  resetEnd : c'.resetEnd = c.resetEnd
  len : c'.slots.length = c.slots.length
  other : ∀ j, j ≠ s → getSlot c'.slots j = getSlot c.slots j
  inUse : (getSlot c'.slots s).inUse = (getSlot c.slots s).inUse

theorem Frame.refl (s : Nat) (c : Cache) : Frame s c c := ⟨rfl, rfl, rfl, rfl, fun _ _ => rfl, rfl⟩

theorem Frame.trans {s : Nat} {a b c : Cache} (h1 : Frame s a b) (h2 : Frame s b c) : Frame s a c :=
  ⟨h2.numCtx.trans h1.numCtx, h2.window.trans h1.window, h2.resetEnd.trans h1.resetEnd, h2.len.trans h1.len,
   fun j hj => (h2.other j hj).trans (h1.other j hj), h2.inUse.trans h1.inUse⟩

theorem frame_setSlot (c : Cache) (i : Nat) (f : Slot → Slot) (cells' : List Cell) (hi : i < c.slots.length)
    (hf : (f (getSlot c.slots i)).inUse = (getSlot c.slots i).inUse) :
    Frame i c { c with cells := cells', slots := setSlot c.slots i f } :=
  ⟨rfl, rfl, rfl, setSlot_length _ _ _, fun j hj => getSlot_setSlot_other hj,
   by simp only [getSlot_setSlot_same hi]; exact hf⟩

/-! ## ShiftCacheSlot frees room -/

/-- shape of a successful ShiftCacheSlot: only slot `i`'s record and the cells change; the record does not
    grow, and **when the context was full the shift frees room**: afterwards at least one more input fits -/
theorem shift_ok_shape (c : Cache) (i keep : Nat) (c' : Cache) (hi : i < c.slots.length)
    (h : shiftCacheSlot c i keep = .ok c') :
    Frame i c c' ∧ (getSlot c'.slots i).inputs.length ≤ (getSlot c.slots i).inputs.length ∧
      (c.numCtx ≤ (getSlot c.slots i).inputs.length → (getSlot c'.slots i).inputs.length + 1 ≤ c.numCtx) := by
  obtain ⟨hk, d, hd, ⟨hd0, hc⟩ | ⟨_, _, rfl⟩⟩ := shift_ok_inv h
  · rw [hc]
    refine ⟨Frame.refl _ _, Nat.le_refl _, fun hfull => ?_⟩
    have := (shiftDiscard_full c.numCtx _ keep hk hfull).1
    omega
  · refine ⟨frame_setSlot c i _ _ hi rfl, ?_, fun hfull => ?_⟩ <;>
      simp only [getSlot_setSlot_same hi, List.length_append, List.length_take, List.length_drop]
    · omega
    · have := shiftDiscard_full c.numCtx _ keep hk hfull
      rw [hd] at this
      omega

/-- shape of ShiftCacheSlot's failure path: the record is emptied, everything else of the slots is kept -/
theorem shift_re_shape (c : Cache) (i keep : Nat) (c' : Cache) (ins : List Tok) (hi : i < c.slots.length)
    (h : shiftCacheSlot c i keep = .reprocess c' ins) :
    Frame i c c' ∧ (getSlot c'.slots i).inputs = [] := by
  obtain ⟨_, d, _, _, rfl⟩ := shift_re_inv h
  exact ⟨frame_setSlot c i _ _ hi rfl, by simp only [getSlot_setSlot_same hi]⟩

/-! ## NewSequence: prompts longer than the context -/

/-- **NewSequence truncates to the context.**  For a positive context the inputs never exceed it and `numKeep` is below it,
    the first `numKeep` inputs are the prompt's first `numKeep`, the rest is a suffix of the prompt, and a
    prompt that fits is passed through unchanged. -/
theorem newSequence_spec (numCtx : Nat) (prompt : List Tok) (keep : Int) (ins : List Tok) (k : Nat)
    (h : newSequence numCtx prompt keep = .ok (ins, k)) :
    ins ≠ [] ∧ ins.length ≤ max numCtx prompt.length ∧ (0 < numCtx → ins.length ≤ numCtx ∧ k < numCtx) ∧
      ins.take k = prompt.take k ∧ (∃ d, ins.drop k = prompt.drop d) ∧
      (prompt.length ≤ numCtx → ins = prompt) := by
  revert h
  fun_cases newSequence numCtx prompt keep with
  | case1 | case2 => nofun
  | case3 hp k1 k2 hlong discard start hge =>
    intro h
    cases h
    have hpl : 0 < prompt.length := List.length_pos_iff.mpr (by simpa using hp)
    have hk2 : k2 ≤ (numCtx : Int) - 1 ∧ (0 < numCtx → 0 ≤ k2) := by
      have : 0 ≤ k1 := by simp only [k1]; split <;> omega
      simp only [k2]; omega
    generalize hs : start.toNat = s
    generalize hk : k2.toNat = k
    have hks : k ≤ s ∧ s < prompt.length ∧ (0 < numCtx → k + (prompt.length - s) ≤ numCtx ∧ k < numCtx) := by
      simp only [start, discard] at hs hge; omega
    have hl : (prompt.take k).length = k := by rw [List.length_take]; omega
    have hlen : (prompt.take k ++ prompt.drop s).length = k + (prompt.length - s) := by
      rw [List.length_append, hl, List.length_drop]
    refine ⟨fun hnil => ?_, by omega, fun hc => by have := hks.2.2 hc; omega, List.take_left' hl,
      ⟨s, List.drop_left' hl⟩, fun hh => by omega⟩
    rw [hnil] at hlen
    simp only [List.length_nil] at hlen
    omega
  | case4 hp k1 k2 hlong =>
    intro h
    cases h
    have hpl : 0 < prompt.length := List.length_pos_iff.mpr (by simpa using hp)
    have : k2 ≤ (numCtx : Int) - 1 := by simp only [k2]; omega
    exact ⟨by simpa using hp, by omega, fun hc => ⟨by omega, by omega⟩, rfl, ⟨k2.toNat, rfl⟩, fun _ => rfl⟩

example : ∃ ins k, newSequence 4 [1, 2, 3, 4, 5, 6, 7] 2 = .ok (ins, k) ∧ ins = [1, 2, 6, 7] ∧ k = 2 := ⟨_, _, rfl, rfl, rfl⟩

/-! ## batch assembly (`innerLoop`, `phase1`) -/

/-- the batch assembled so far, seen per slot: for slot `j` it holds the inputs `pend j` at positions
    record length, record length + 1, … ; the context is never exceeded -/
def BV (c : Cache) (batch : List BTok) (pend : Nat → List Tok) : Prop :=
  (∀ j, j < c.slots.length →
      view (batch.map BTok.cell) j = canonFrom (getSlot c.slots j).inputs.length (pend j) ∧
      (getSlot c.slots j).inputs.length + (pend j).length ≤ c.numCtx) ∧
  ∀ t ∈ batch, t.pos < c.numCtx

theorem BV.view {c : Cache} {batch : List BTok} {pend : Nat → List Tok} (h : BV c batch pend) {j : Nat}
    (hj : j < c.slots.length) : view (batch.map BTok.cell) j = canonFrom (getSlot c.slots j).inputs.length (pend j) :=
  (h.1 j hj).1

theorem BV.room {c : Cache} {batch : List BTok} {pend : Nat → List Tok} (h : BV c batch pend) {j : Nat}
    (hj : j < c.slots.length) : (getSlot c.slots j).inputs.length + (pend j).length ≤ c.numCtx :=
  (h.1 j hj).2

def upd (f : Nat → List Tok) (s : Nat) (v : List Tok) : Nat → List Tok := fun j => if j = s then v else f j

/-- fixed facts of a runner on a plain causal cache whose failed-shift reset clears the sequence -/
structure Cfg (c : Cache) : Prop where
  win : c.window = none
  fix : c.resetEnd = maxI32
  ctx : (c.numCtx : Int) < maxI32

theorem Cfg.frame {s : Nat} {c c' : Cache} (h : Cfg c) (f : Frame s c c') : Cfg c' :=
  ⟨f.window.trans h.win, f.resetEnd.trans h.fix, by rw [f.numCtx]; exact h.ctx⟩

theorem BV.transfer {c c' : Cache} {batch : List BTok} {pend : Nat → List Tok} (h : BV c batch pend)
    (hlen : c'.slots.length = c.slots.length) (hctx : c'.numCtx = c.numCtx)
    (hrec : ∀ j, j < c.slots.length →
      (getSlot c'.slots j).inputs.length = (getSlot c.slots j).inputs.length ∨
      (pend j = [] ∧ (getSlot c'.slots j).inputs.length ≤ c.numCtx)) : BV c' batch pend := by
  refine ⟨fun j hj => ?_, fun t ht => hctx ▸ h.2 t ht⟩
  rw [hlen] at hj
  obtain ⟨hv, hl⟩ := h.1 j hj
  rw [hctx]
  rcases hrec j hj with e | ⟨e, hle⟩
  · rw [e]; exact ⟨hv, hl⟩
  · rw [e] at hv ⊢; exact ⟨hv, hle⟩

/-- invariant of the inner loop for the sequence owning slot `s`, started on cache `c0`: `fr` only slot `s` has changed;
    `bs` batch tokens name existing slots; `oo` output indices point into the batch; `bv` the batch seen per slot, slot `s`
    with the sequence's pending inputs -/
structure IL (s : Nat) (pend0 : Nat → List Tok) (c0 : Cache) (st : P1) : Prop where
  coh : Coherent st.cache
  fr : Frame s c0 st.cache
  slot : st.seq.slot = s
  bs : ∀ t ∈ st.batch, t.seq < st.cache.slots.length
  oo : ∀ bi ∈ st.outs, bi < st.batch.length
  bv : BV st.cache st.batch (upd pend0 s st.seq.pending)

theorem IL.add (s : Nat) (pend0 : Nat → List Tok) (c0 : Cache) (st : P1) (inp : Tok) (i : Nat)
    (h : IL s pend0 c0 st) (hs : s < c0.slots.length)
    (hroom : (getSlot st.cache.slots s).inputs.length + st.seq.pending.length + 1 ≤ st.cache.numCtx) :
    IL s pend0 c0 (addInput st st.cache st.seq inp i) := by
  obtain ⟨coh, fr, slot, bs, oo, bv⟩ := h
  have hs' : s < st.cache.slots.length := by rw [fr.len]; exact hs
  have hid : (getSlot st.cache.slots s).id = s := by
    rw [getSlot_eq hs']; exact (coh.2 s hs').1
  refine ⟨coh, fr, slot, ?_, ?_, ?_, ?_⟩
  · exact List.forall_mem_append.mpr ⟨bs, fun t ht => by rw [List.mem_singleton.mp ht, slot, hid]; exact hs'⟩
  · intro bi hbi
    simp only [addInput, List.length_append, List.length_singleton] at hbi ⊢
    split at hbi
    · rcases List.mem_append.mp hbi with h1 | h1
      · have := oo bi h1; omega
      · simp only [List.mem_singleton] at h1; omega
    · have := oo bi hbi; omega
  · intro j hj
    obtain ⟨hv, hl⟩ := bv.1 j hj
    simp only [addInput, slot, hid]
    -- the new token is a one-element run of slot `s` at the next position
    have hm : view ([(⟨inp, _, s⟩ : BTok)].map BTok.cell) j = _ :=
      mkBatch_view s ((getSlot st.cache.slots s).inputs.length + st.seq.pending.length) [inp] j
    rw [List.map_append, view_append, hv, hm]
    by_cases hjs : j = s
    · subst hjs
      simp only [upd, if_true] at hl ⊢
      exact ⟨(canonFrom_append ..).symm, by simp only [List.length_append, List.length_singleton]; omega⟩
    · simp only [upd, hjs, if_false] at hl ⊢
      exact ⟨List.append_nil _, hl⟩
  · exact List.forall_mem_append.mpr ⟨bv.2, fun t ht => by rw [List.mem_singleton.mp ht, slot]; exact hroom⟩

theorem IL.shift {s : Nat} {pend0 : Nat → List Tok} {c0 : Cache} {st : P1} (h : IL s pend0 c0 st)
    (hcfg : Cfg c0) (hs : s < c0.slots.length) (hu : (getSlot c0.slots s).inUse = true)
    (hp : st.seq.pending = []) (hfull : st.cache.numCtx ≤ (getSlot st.cache.slots s).inputs.length)
    {keep : Nat} {c : Cache}
    (hsh : shiftCacheSlot st.cache s keep = .ok c ∨ ∃ ins, shiftCacheSlot st.cache s keep = .reprocess c ins)
    (sq : Seq) (hsq : sq.slot = s) (hq : sq.pending = []) :
    IL s pend0 c0 { st with cache := c, seq := sq } ∧ (getSlot c.slots s).inputs.length + 1 ≤ c.numCtx := by
  have hs' : s < st.cache.slots.length := h.fr.len ▸ hs
  have hcfg' := hcfg.frame h.fr
  have hlen := h.bv.room hs'
  have hfr : Frame s st.cache c ∧ (getSlot c.slots s).inputs.length + 1 ≤ st.cache.numCtx := by
    rcases hsh with hsh | ⟨ins, hsh⟩
    · exact ⟨(shift_ok_shape _ s _ c hs' hsh).1, (shift_ok_shape _ s _ c hs' hsh).2.2 hfull⟩
    · obtain ⟨hfr, hnil⟩ := shift_re_shape _ s _ c ins hs' hsh
      have := (shift_re_inv hsh).1
      rw [hnil]; exact ⟨hfr, by simp only [List.length_nil]; omega⟩
  have hc : Coherent c := coherent_shift st.cache h.coh s keep hs' (h.fr.inUse.trans hu)
    (by have := hcfg'.ctx; omega) c (hsh.imp id fun e => ⟨hcfg'.fix, e⟩)
  refine ⟨⟨hc, h.fr.trans hfr.1, hsq, fun t ht => hfr.1.len ▸ h.bs t ht, h.oo, ?_⟩, hfr.1.numCtx ▸ hfr.2⟩
  have := h.bv
  rw [hp] at this
  rw [show ({ st with cache := c, seq := sq } : P1).seq.pending = [] from hq]
  refine this.transfer hfr.1.len hfr.1.numCtx fun j hj => ?_
  by_cases hjs : j = s
  · subst hjs
    exact Or.inr ⟨by simp [upd], Nat.le_of_succ_le hfr.2⟩
  · exact Or.inl (by rw [hfr.1.other j hjs])

/-- **The batch-assembly loop of processBatch keeps the cache coherent** — including the context shift it
    triggers (success path and failure path with its `continue`) — touches only the slot of its own
    sequence, and assigns positions record length + pending length below the context size. -/
theorem innerLoop_IL (bs seqIdx s : Nat) (pend0 : Nat → List Tok) (c0 : Cache) (hcfg : Cfg c0)
    (hs : s < c0.slots.length) (hu : (getSlot c0.slots s).inUse = true) :
    ∀ (l : List Tok) (i : Nat) (st st' : P1), IL s pend0 c0 st → innerLoop bs seqIdx l i st = .ok st' →
      IL s pend0 c0 st' := by
  intro l i st st' h hr
  fun_induction innerLoop bs seqIdx l i st with
  | case1 | case3 => cases hr; exact h
  | case2 =>
    cases hr
    split
    · exact ⟨h.coh, h.fr, h.slot, h.bs, h.oo, h.bv⟩  -- only `resume` has changed
    · exact h
  | case4 => cases hr
  | case5 inp rest i st _ sl hover hpe c ins hsh ih =>
    have hpnil : st.seq.pending = [] := by simpa using hpe
    simp only [sl, h.slot, hpnil, List.length_nil] at hover hsh
    exact ih (h.shift hcfg hs hu hpnil (by omega) (Or.inr ⟨ins, hsh⟩)
      { st.seq with inputs := ins ++ st.seq.inputs } h.slot hpnil).1 hr
  | case6 inp rest i st _ sl hover hpe c hsh ih =>
    have hpnil : st.seq.pending = [] := by simpa using hpe
    simp only [sl, h.slot, hpnil, List.length_nil] at hover hsh
    obtain ⟨hil, hroom⟩ := h.shift hcfg hs hu hpnil (by omega) (Or.inl hsh) st.seq h.slot hpnil
    exact ih (IL.add s pend0 c0 { st with cache := c } inp i hil hs
      (by simp only [hpnil, List.length_nil, Nat.add_zero]; exact hroom)) hr
  | case7 inp rest i st _ sl hover ih =>
    simp only [sl, h.slot] at hover
    exact ih (IL.add s pend0 c0 st inp i h hs (by omega)) hr

/-! ## ownership of slots by live sequences (history-level exclusivity) -/

/-- entry `i` of `s.seqs` is the live sequence `sq` -/
def Live (sv : Server) (i : Nat) (sq : Seq) : Prop := sv.seqs[i]? = some (some sq)

/-- **Every live sequence owns its slot, exclusively**: the slot exists, is marked in use, and no two
    live sequences have the same slot. -/
structure Owned (sv : Server) : Prop where
  valid : ∀ i sq, Live sv i sq → sq.slot < sv.cache.slots.length ∧ (getSlot sv.cache.slots sq.slot).inUse = true
  distinct : ∀ i i' sq sq', Live sv i sq → Live sv i' sq' → sq.slot = sq'.slot → i = i'

theorem getD_live {sv : Server} {i : Nat} {sq : Seq} : sv.seqs.getD i none = some sq ↔ Live sv i sq := by
  rw [Live, List.getD_eq_getElem?_getD]
  cases sv.seqs[i]? <;> simp

theorem live_lt {sv : Server} {i : Nat} {sq : Seq} (h : Live sv i sq) : i < sv.seqs.length := by
  rcases Nat.lt_or_ge i sv.seqs.length with h1 | h1
  · exact h1
  · rw [Live, List.getElem?_eq_none h1] at h; cases h

theorem live_setSeq {sv sv' : Server} {i : Nat} {v : Option Seq} (hs : sv'.seqs = setSeq sv.seqs i v)
    (hi : i < sv.seqs.length) {i' : Nat} {sq' : Seq} :
    Live sv' i' sq' ↔ (i' = i ∧ v = some sq') ∨ (i' ≠ i ∧ Live sv i' sq') := by
  unfold Live
  rw [hs, setSeq]
  by_cases h : i' = i
  · subst h
    rw [List.getElem?_set_self hi]
    simp
  · rw [List.getElem?_set_ne (fun e => h e.symm)]
    simp [h]

theorem live_of_setNone {sv sv' : Server} {i : Nat} (hs : sv'.seqs = setSeq sv.seqs i none) (hi : i < sv.seqs.length)
    {i' : Nat} {sq' : Seq} (h : Live sv' i' sq') : i' ≠ i ∧ Live sv i' sq' :=
  ((live_setSeq hs hi).mp h).elim (fun e => nomatch e.2) id

theorem Owned.set {sv sv' : Server} {i : Nat} {v : Option Seq} (h : Owned sv) (hi : i < sv.seqs.length)
    (hs : sv'.seqs = setSeq sv.seqs i v) (hlen : sv'.cache.slots.length = sv.cache.slots.length)
    (hkeep : ∀ i' s', i' ≠ i → Live sv i' s' → (getSlot sv'.cache.slots s'.slot).inUse = true)
    (hv : ∀ sq', v = some sq' → sq'.slot < sv.cache.slots.length ∧ (getSlot sv'.cache.slots sq'.slot).inUse = true ∧
      ∀ i' s', i' ≠ i → Live sv i' s' → s'.slot ≠ sq'.slot) : Owned sv' := by
  refine ⟨fun i' s' h' => ?_, fun i1 i2 s1 s2 h1 h2 he => ?_⟩
  · rcases (live_setSeq hs hi).mp h' with ⟨_, e⟩ | ⟨hne, hold⟩
    · exact ⟨hlen ▸ (hv s' e).1, (hv s' e).2.1⟩
    · exact ⟨hlen ▸ (h.valid i' s' hold).1, hkeep i' s' hne hold⟩
  · rcases (live_setSeq hs hi).mp h1 with ⟨e1, v1⟩ | ⟨n1, o1⟩ <;>
      rcases (live_setSeq hs hi).mp h2 with ⟨e2, v2⟩ | ⟨n2, o2⟩
    · rw [e1, e2]
    · exact absurd he.symm ((hv s1 v1).2.2 i2 s2 n2 o2)
    · exact absurd he ((hv s2 v2).2.2 i1 s1 n1 o1)
    · exact h.distinct i1 i2 s1 s2 o1 o2 he

theorem Owned.ne {sv : Server} {i : Nat} {sq : Seq} (h : Owned sv) (hl : Live sv i sq) :
    ∀ i' s', i' ≠ i → Live sv i' s' → s'.slot ≠ sq.slot :=
  fun i' s' hne hold e => hne (h.distinct i' i s' sq hold hl e)

theorem Owned.replace {sv sv' : Server} {i : Nat} {sq : Seq} {v : Option Seq} (h : Owned sv) (hl : Live sv i sq)
    (hs : sv'.seqs = setSeq sv.seqs i v) (hlen : sv'.cache.slots.length = sv.cache.slots.length)
    (hother : ∀ j, j ≠ sq.slot → getSlot sv'.cache.slots j = getSlot sv.cache.slots j)
    (hv : ∀ sq', v = some sq' → sq'.slot = sq.slot ∧ (getSlot sv'.cache.slots sq.slot).inUse = true) :
    Owned sv' := by
  have hne := h.ne hl
  refine h.set (live_lt hl) hs hlen (fun i' s' hi' hold => ?_) (fun sq' e => ?_)
  · rw [hother _ (hne i' s' hi' hold)]; exact (h.valid i' s' hold).2
  · obtain ⟨e1, e2⟩ := hv sq' e
    rw [e1]
    exact ⟨(h.valid i sq hl).1, e2, hne⟩

theorem unowned_of_replace {sv sv' : Server} {i : Nat} {sq : Seq} {v : Option Seq} (hl : Live sv i sq)
    (hs : sv'.seqs = setSeq sv.seqs i v) {j : Nat} (hj : j ≠ sq.slot)
    (hno : ∀ i' s', Live sv' i' s' → s'.slot ≠ j) : ∀ i' s', Live sv i' s' → s'.slot ≠ j := by
  intro i' s' hl'
  by_cases hii : i' = i
  · subst hii
    rw [← Option.some.inj (Option.some.inj (hl.symm.trans hl'))]
    exact fun e => hj e.symm
  · exact hno i' s' ((live_setSeq hs (live_lt hl)).mpr (Or.inr ⟨hii, hl'⟩))

theorem coherent_release (c : Cache) (hc : Coherent c) (i : Nat) (hi : i < c.slots.length) :
    Coherent { c with slots := setSlot c.slots i fun s => { s with inUse := false } } := by
  obtain ⟨hid, hok⟩ := hc.2 i hi
  exact coherent_update hc hi (fun s => { s with inUse := false }) c.cells hid hc.1
    (fun t _ => List.Perm.refl _) ⟨hok.1, fun h => by cases h⟩

/-- invariant of the outer loop of batch assembly: `bv` the batch seen per slot is `pend`; `lp` a live sequence's pending
    inputs are `pend` of its slot; `np` a slot that no live sequence owns has nothing pending -/
structure PInv (sv : Server) (batch : List BTok) (pend : Nat → List Tok) : Prop where
  coh : Coherent sv.cache
  cfg : Cfg sv.cache
  own : Owned sv
  bv : BV sv.cache batch pend
  lp : ∀ i sq, Live sv i sq → sq.pending = pend sq.slot
  np : ∀ j, j < sv.cache.slots.length → (∀ i sq, Live sv i sq → sq.slot ≠ j) → pend j = []

/-- the server after `removeSequence` of entry `i` owning slot `s` -/
def releaseSv (sv : Server) (i s : Nat) : Server :=
  { sv with cache := { sv.cache with slots := setSlot sv.cache.slots s fun s => { s with inUse := false } },
            seqs := setSeq sv.seqs i none }

def innerSv (sv : Server) (i : Nat) (p : P1) (ins : List Tok) : Server :=
  { sv with cache := p.cache, seqs := setSeq sv.seqs i (some { p.seq with inputs := ins }) }

/-- removeSequence inside batch assembly (numPredict reached): the slot is released by its owner -/
theorem PInv_release {sv : Server} {batch : List BTok} {pend : Nat → List Tok} {i : Nat} {sq : Seq}
    (h : PInv sv batch pend) (hl : Live sv i sq) (hpe : sq.pending = []) :
    PInv (releaseSv sv i sq.slot) batch pend := by
  obtain ⟨hsv, hsu⟩ := h.own.valid i sq hl
  refine ⟨coherent_release _ h.coh _ hsv, ⟨h.cfg.win, h.cfg.fix, h.cfg.ctx⟩,
    h.own.replace hl rfl (setSlot_length ..) (fun j hj => getSlot_setSlot_other hj) (fun _ e => nomatch e),
    h.bv.transfer (setSlot_length ..) rfl fun j _ => Or.inl ?_,
    fun i' sq' h' => h.lp i' sq' (live_of_setNone rfl (live_lt hl) h').2, fun j hj hno => ?_⟩
  · show (getSlot (setSlot sv.cache.slots sq.slot _) j).inputs.length = _
    rw [getSlot_setSlot _ _ _ _ hsv]
    split <;> simp [*]
  · by_cases hjs : j = sq.slot
    · rw [hjs, ← h.lp i sq hl]; exact hpe
    · exact h.np j (by simpa [releaseSv, setSlot_length] using hj) (unowned_of_replace hl rfl hjs hno)

theorem PInv_inner {sv : Server} {batch : List BTok} {pend : Nat → List Tok} {i : Nat} {sq : Seq} {p : P1}
    (ins : List Tok) (h : PInv sv batch pend) (hl : Live sv i sq) (hp : IL sq.slot pend sv.cache p) :
    PInv (innerSv sv i p ins) p.batch
      (upd pend sq.slot p.seq.pending) := by
  obtain ⟨hsv, hsu⟩ := h.own.valid i sq hl
  have hi := live_lt hl
  refine ⟨hp.coh, h.cfg.frame hp.fr,
    h.own.replace hl rfl hp.fr.len hp.fr.other (fun sq' e => ?_), hp.bv, fun i' sq' h' => ?_, fun j hj hno => ?_⟩
  · cases e; exact ⟨hp.slot, hp.fr.inUse.trans hsu⟩
  · rcases (live_setSeq rfl hi).mp h' with ⟨_, e⟩ | ⟨hne, hold⟩
    · cases e; simp only [hp.slot, upd, if_true]
    · simp only [upd, h.own.ne hl i' sq' hne hold, if_false]; exact h.lp i' sq' hold
  · have hjs : j ≠ sq.slot := fun e =>
      hno i _ ((live_setSeq (v := some { p.seq with inputs := ins }) rfl hi).mpr (Or.inl ⟨rfl, rfl⟩)) (hp.slot.trans e.symm)
    simp only [upd, hjs, if_false]
    exact h.np j (hp.fr.len ▸ hj) (unowned_of_replace hl rfl hjs hno)

theorem removeSequence_spec (sv : Server) (o : StepObs) (i : Nat) (sq : Seq) (r : Nat) :
    (removeSequence sv o i sq r).1 = releaseSv sv i sq.slot ∧
    (removeSequence sv o i sq r).2.batch = o.batch ∧ (removeSequence sv o i sq r).2.outs = o.outs := by
  unfold removeSequence
  simp only
  split <;> exact ⟨rfl, rfl, rfl⟩

theorem upd_self (f : Nat → List Tok) (s : Nat) : upd f s (f s) = f := by
  funext j; unfold upd; split
  · next h => rw [h]
  · rfl

/-- sequences that already have inputs in the batch are not visited again by the remaining `k` iterations -/
def Fut (sv : Server) (seqIdx k : Nat) : Prop :=
  ∀ i sq, Live sv i sq → sq.pending ≠ [] → ∀ m, 1 ≤ m → m ≤ k → (seqIdx + m) % sv.seqs.length ≠ i

theorem mod_add_ne (n idx m : Nat) (hidx : idx < n) (h1 : 1 ≤ m) (hm : m < n) : (idx + m) % n ≠ idx := by
  intro h
  have h2 : (idx + m) % n = idx % n := by rw [h, Nat.mod_eq_of_lt hidx]
  have h3 := Nat.sub_mod_eq_zero_of_mod_eq h2
  rw [Nat.add_sub_cancel_left, Nat.mod_eq_of_lt hm] at h3
  omega

theorem Fut.step {sv sv' : Server} {seqIdx k idx : Nat} (h : Fut sv seqIdx (k + 1)) (hk : k + 1 ≤ sv.seqs.length)
    (hidx : (seqIdx + 1) % sv.seqs.length = idx) (hlen : sv'.seqs.length = sv.seqs.length)
    (hlive : ∀ i sq, Live sv' i sq → sq.pending ≠ [] → i = idx ∨ Live sv i sq) : Fut sv' idx k := by
  subst hidx
  intro i sq hl hp m h1 h2
  rw [hlen]
  rcases hlive i sq hl hp with rfl | hold
  · exact mod_add_ne _ _ _ (Nat.mod_lt _ (by omega)) h1 (by omega)
  · rw [Nat.mod_add_mod, Nat.add_assoc, Nat.add_comm 1 m]
    exact h i sq hold hp (m + 1) (by omega) (by omega)

/-- every batch token belongs to an existing slot; every output index points into the batch; no output is recorded yet -/
def BO (st : Ph1) : Prop :=
  (∀ t ∈ st.obs.batch, t.seq < st.sv.cache.slots.length) ∧ (∀ bi ∈ st.outs, bi < st.obs.batch.length) ∧
    st.obs.outs = []

/-- **Batch assembly (the outer loop of processBatch) keeps the cache coherent and the slots owned**, for any
    number of sequences batched together. -/
theorem phase1_PInv : ∀ (k : Nat) (st st' : Ph1), phase1 k st = .ok st' → k ≤ st.sv.seqs.length →
    Fut st.sv st.seqIdx k → (∃ pend, PInv st.sv st.obs.batch pend) → BO st →
    (∃ pend, PInv st'.sv st'.obs.batch pend) ∧ st'.sv.seqs.length = st.sv.seqs.length ∧ BO st' := by
  intro k
  induction k with
  | zero =>
    intro st st' hr _ _ h hbo
    simp only [phase1, pure, Except.pure, Except.ok.injEq] at hr
    subst hr; exact ⟨h, rfl, hbo⟩
  | succ k ih =>
    intro st st' hr hk hfut h hbo
    obtain ⟨pend, h⟩ := h
    unfold phase1 at hr
    simp only at hr
    generalize hidx : (st.seqIdx + 1) % st.sv.seqs.length = idx at hr
    have hidxlt : idx < st.sv.seqs.length := by rw [← hidx]; exact Nat.mod_lt _ (by omega)
    have hlenset : ∀ v, (setSeq st.sv.seqs idx v).length = st.sv.seqs.length := fun v => List.length_set ..
    cases hq : st.sv.seqs.getD idx none with
    | none =>
      simp only [hq] at hr
      exact ih { st with seqIdx := idx } st' hr (Nat.le_of_succ_le hk) (hfut.step hk hidx rfl fun i sq hl _ => Or.inr hl) ⟨pend, h⟩ hbo
    | some sq =>
      simp only [hq] at hr
      have hl : Live st.sv idx sq := getD_live.mp hq
      have hpe : sq.pending = [] := by
        cases hp : sq.pending with
        | nil => rfl
        | cons a as =>
          exact absurd hidx (hfut idx sq hl (by rw [hp]; simp) 1 (by omega) (by omega))
      split at hr
      · obtain ⟨hsv, hb, ho⟩ := removeSequence_spec st.sv st.obs idx sq 1
        rw [hsv] at hr
        obtain ⟨hres, hlen, hbo'⟩ := ih _ st' hr (by show k ≤ (setSeq st.sv.seqs idx _).length; rw [hlenset]; omega)
          (hfut.step hk hidx (hlenset _) fun i sq' hl' _ =>
            Or.inr (live_of_setNone rfl hidxlt hl').2)
          ⟨pend, hb ▸ PInv_release h hl hpe⟩
          ⟨hb ▸ (by simpa [releaseSv, setSlot_length] using hbo.1), hb ▸ hbo.2.1, ho ▸ hbo.2.2⟩
        exact ⟨hres, hlen.trans (hlenset _), hbo'⟩
      · cases hin : innerLoop st.sv.batchSize idx sq.inputs 0
            { cache := st.sv.cache, seq := sq, batch := st.obs.batch, outs := st.outs, resume := st.resume } with
        | error e => simp [hin, bind, Except.bind] at hr
        | ok p =>
          simp only [hin, bind, Except.bind] at hr
          obtain ⟨hsv, hsu⟩ := h.own.valid idx sq hl
          have hil := innerLoop_IL st.sv.batchSize idx sq.slot pend st.sv.cache h.cfg hsv hsu sq.inputs 0 _ p
            ⟨h.coh, Frame.refl _ _, rfl, hbo.1, hbo.2.1, by simp only [h.lp idx sq hl, upd_self]; exact h.bv⟩ hin
          obtain ⟨hres, hlen, hbo'⟩ := ih _ st' hr (by show k ≤ (setSeq st.sv.seqs idx _).length; rw [hlenset]; omega)
            (hfut.step hk hidx (hlenset _) fun i sq' hl' _ =>
              ((live_setSeq (sv' := innerSv st.sv idx p _) rfl hidxlt).mp hl').elim (Or.inl ·.1) (Or.inr ·.2))
            ⟨_, PInv_inner _ h hl hil⟩ ⟨hil.bs, hil.oo, hbo.2.2⟩
          exact ⟨hres, hlen.trans (hlenset _), hbo'⟩

/-! ## Forward: the whole mixed batch is stored at once -/

theorem findGo_free (n : Nat) : ∀ (cs pre : List Cell) (i start count r : Nat),
    pre.length = i → start + count = i → (∀ x ∈ pre.drop start, x.seqs = []) →
    findGo n cs i start count = some r → ∀ x ∈ ((pre ++ cs).drop r).take n, x.seqs = [] := by
  intro cs
  induction cs with
  | nil => intro pre i start count r _ _ _ h; simp [findGo] at h
  | cons c cs ih =>
    intro pre i start count r hlen hsc hfree h
    unfold findGo at h
    have hassoc : pre ++ c :: cs = (pre ++ [c]) ++ cs := by simp
    by_cases hce : c.seqs.isEmpty
    · have hc : c.seqs = [] := by simpa using hce
      simp only [hce, if_true] at h
      by_cases hn : count + 1 ≥ n
      · simp only [hn, if_true, Option.some.injEq] at h
        subst h
        intro x hx
        rw [hassoc, List.drop_append_of_le_length (by simp; omega)] at hx
        rw [List.take_append_of_le_length (by simp; omega)] at hx
        have hx2 := List.mem_of_mem_take hx
        rw [List.drop_append_of_le_length (by omega)] at hx2
        rcases List.mem_append.mp hx2 with h1 | h1
        · exact hfree x h1
        · simp only [List.mem_singleton] at h1
          rw [h1]; exact hc
      · simp only [hn, if_false] at h
        rw [hassoc]
        apply ih (pre ++ [c]) (i + 1) start (count + 1) r (by simp; omega) (by omega) _ h
        intro x hx
        rw [List.drop_append_of_le_length (by omega)] at hx
        rcases List.mem_append.mp hx with h1 | h1
        · exact hfree x h1
        · simp only [List.mem_singleton] at h1; rw [h1]; exact hc
    · simp only [hce, Bool.false_eq_true, if_false] at h
      rw [hassoc]
      apply ih (pre ++ [c]) (i + 1) (i + 1) 0 r (by simp; omega) (by omega) _ h
      intro x hx
      rw [List.drop_eq_nil_of_le (by simp; omega)] at hx
      cases hx

/-- `findStartLoc` returns the start of a run of free cells -/
theorem findStartLoc_free (cells : List Cell) (n loc : Nat) (h : findStartLoc cells n = some loc) :
    ∀ x ∈ (cells.drop loc).take n, x.seqs = [] := by
  exact findGo_free n cells [] 0 0 0 loc rfl rfl nofun h

/-- `Coherent` with `pend j` appended to record `j`: the cache holds, for every slot, the record followed by the slot's
    part of the batch -/
def PC (c : Cache) (pend : Nat → List Tok) : Prop :=
  PosBound c.cells ∧ ∀ j, ∀ hj : j < c.slots.length, c.slots[j].id = j ∧
    SlotOK c.cells { c.slots[j] with inputs := c.slots[j].inputs ++ pend j }

theorem slot_append_nil (sl : Slot) : ({ sl with inputs := sl.inputs ++ [] } : Slot) = sl := by
  cases sl; simp

/-- **Batching several sequences together**: one `store` of a batch that interleaves the runs of several
    slots (each at positions record length + k) leaves every slot's sequence holding exactly its record
    followed by its own part of the batch.  `cells0` is any relocation of the cells (defrag). -/
theorem store_PC (c : Cache) (batch : List BTok) (pend : Nat → List Tok) (loc : Nat) (cells0 : List Cell)
    (hc : Coherent c) (hcfg : Cfg c) (hbv : BV c batch pend)
    (hpu : ∀ j, j < c.slots.length → pend j ≠ [] → (getSlot c.slots j).inUse = true)
    (hperm : ∀ s, s < c.slots.length → (view cells0 s).Perm (view c.cells s)) (hb0 : PosBound cells0)
    (hfree : ∀ x ∈ (cells0.drop loc).take batch.length, x.seqs = []) :
    PC { c with cells := store cells0 loc batch } pend := by
  refine ⟨store_bound cells0 loc batch hb0 (fun t ht => by have := hbv.2 t ht; have := hcfg.ctx; omega), fun j hj => ?_⟩
  have hj' : j < c.slots.length := hj
  obtain ⟨hid, hok⟩ := hc.2 j hj'
  have hv := hbv.view hj'
  rw [getSlot_eq hj'] at hv
  refine ⟨hid, ?_⟩
  show SlotOK (store cells0 loc batch) { c.slots[j] with inputs := c.slots[j].inputs ++ pend j }
  by_cases hp : pend j = []
  · -- slot `j` may be released, with entries beyond its record
    have := store_view cells0 loc batch j hfree
    rw [hv, hp, canonFrom, List.append_nil] at this
    rw [hp, slot_append_nil]
    exact SlotOK.perm c.cells _ _ (by rw [hid]; exact this.trans (hperm j hj')) hok
  · have hu := hpu j hj' hp
    rw [getSlot_eq hj'] at hu
    exact SlotOK.of_full hid (store_full cells0 loc batch j _ _ hfree hv ((hperm j hj').trans (hok.full hid hu)))

/-! ## after Forward: records appended, stop cut, release (`phase3`) -/

/-- invariant of the per-sequence loop after Forward, at loop index `d = l`: entries below `d` are done (`dn`), entries
    from `l` on still have their part of the batch in `pend` (`lp`); `lenb` record + pending fit the context; `np` as in `PInv` -/
structure R (sv : Server) (pend : Nat → List Tok) (d l : Nat) : Prop where
  pc : PC sv.cache pend
  cfg : Cfg sv.cache
  own : Owned sv
  lenb : ∀ j, j < sv.cache.slots.length →
    (getSlot sv.cache.slots j).inputs.length + (pend j).length ≤ sv.cache.numCtx
  np : ∀ j, j < sv.cache.slots.length → (∀ i sq, Live sv i sq → sq.slot ≠ j) → pend j = []
  dn : ∀ i sq, Live sv i sq → i < d → sq.pending = [] ∧ pend sq.slot = []
  lp : ∀ i sq, Live sv i sq → l ≤ i → sq.pending = pend sq.slot

theorem PC_update (c : Cache) (pend pend' : Nat → List Tok) (s : Nat) (hs : s < c.slots.length) (g : Slot → Slot)
    (hpc : PC c pend) (hid : (g c.slots[s]).id = s) (hother : ∀ j, j ≠ s → pend' j = pend j)
    (hself : SlotOK c.cells { g c.slots[s] with inputs := (g c.slots[s]).inputs ++ pend' s }) :
    PC { c with slots := setSlot c.slots s g } pend' := by
  refine ⟨hpc.1, fun j hj => ?_⟩
  have hj' : j < c.slots.length := by simpa [setSlot] using hj
  simp only [setSlot, List.getElem_modify]
  by_cases hsj : s = j
  · subst hsj; simp only [if_true]; exact ⟨hid, hself⟩
  · simp only [hsj, if_false]
    rw [hother j (fun e => hsj e.symm)]
    exact hpc.2 j hj'

theorem R_skip {sv : Server} {pend : Nat → List Tok} {i : Nat} (h : R sv pend i i)
    (hn : sv.seqs.getD i none = none) : R sv pend (i + 1) (i + 1) := by
  refine ⟨h.pc, h.cfg, h.own, h.lenb, h.np, ?_, fun i' sq hl hle => h.lp i' sq hl (by omega)⟩
  intro i' sq hl hlt
  by_cases hi : i' = i
  · subst hi; rw [getD_live.mpr hl] at hn; cases hn
  · exact h.dn i' sq hl (by omega)

theorem appendPending_eq (sv : Server) (sq : Seq) :
    appendPending sv sq = { sv with cache := { sv.cache with slots := setSlot sv.cache.slots sq.slot fun s => { s with inputs := s.inputs ++ sq.pending } } } := by
  unfold appendPending
  split
  · next h =>
    rw [List.isEmpty_iff.mp h]
    simp only [List.append_nil, setSlot]
    rw [show (fun s : Slot => s) = id from rfl, List.modify_id]
  · rfl

/-- what one turn of the loop after Forward does to the sequence's slot (`g`) and to its entry of `s.seqs` (`v`) -/
inductive Turn (sq : Seq) : (Slot → Slot) → Option Seq → Prop
  | goesOn (g : Slot → Slot) (sq' : Seq) : sq'.slot = sq.slot → sq'.pending = [] →
      (∀ s, g s = { s with inputs := s.inputs ++ sq.pending }) → Turn sq g (some sq')
  /-- EOS, or a stop string with its cut of the record to `t` inputs: the slot is released -/
  | ends (g : Slot → Slot) :
      (∀ s, ∃ t, g s = { s with inputs := (s.inputs ++ sq.pending).take t, inUse := false }) → Turn sq g none

theorem phase3Seq_shape (logits : List Tok) (i : Nat) (sv : Server) (o : StepObs) (sq : Seq) :
    (phase3Seq logits i sv o sq).2.outs = o.outs ∧
    ∃ g v, (phase3Seq logits i sv o sq).1 =
        { sv with cache := { sv.cache with slots := setSlot sv.cache.slots sq.slot g }, seqs := setSeq sv.seqs i v } ∧
      Turn sq g v := by
  unfold phase3Seq
  simp only
  generalize hs : appendPending sv sq = sv1
  rw [appendPending_eq] at hs
  by_cases hin : (!sq.inputs.isEmpty) = true
  · rw [if_pos hin]
    subst hs
    exact ⟨rfl, _, _, rfl, .goesOn _ _ rfl rfl fun _ => rfl⟩
  · rw [if_neg hin]
    by_cases heos : logits.getD sq.iBatch 0 = sv1.vocab - 1
    · rw [if_pos heos]
      refine ⟨(removeSequence_spec ..).2.2, ?_⟩
      rw [(removeSequence_spec ..).1]
      subst hs
      simp only [releaseSv, setSlot, List.modify_modify_eq]
      exact ⟨_, none, rfl, .ends _ fun s => ⟨(s.inputs ++ sq.pending).length, by simp only [Function.comp, List.take_length]⟩⟩
    · rw [if_neg heos]
      cases findStop sv1.stopEarliest (sq.pendingResp ++ [decodeTok (logits.getD sq.iBatch 0)]).flatten sq.stops with
      | some stop =>
        -- stop string: cut of the record, then release
        refine ⟨(removeSequence_spec ..).2.2, ?_⟩
        simp only
        rw [(removeSequence_spec ..).1]
        subst hs
        simp only [releaseSv, setSlot, List.modify_modify_eq]
        exact ⟨_, none, rfl, .ends _ fun s => ⟨_, rfl⟩⟩
      | none =>
        subst hs
        simp only
        split
        · exact ⟨rfl, _, _, rfl, .goesOn _ _ rfl rfl fun _ => rfl⟩
        · refine ⟨?_, _, _, rfl, .goesOn _ _ rfl rfl fun _ => rfl⟩
          simp only; split <;> rfl

theorem R_step {sv : Server} {pend : Nat → List Tok} {i : Nat} {sq : Seq} {g : Slot → Slot} {v : Option Seq}
    (h : R sv pend i i) (hl : Live sv i sq) (hg : Turn sq g v) :
    R { sv with cache := { sv.cache with slots := setSlot sv.cache.slots sq.slot g }, seqs := setSeq sv.seqs i v }
      (upd pend sq.slot []) (i + 1) (i + 1) := by
  obtain ⟨hsv, hsu⟩ := h.own.valid i sq hl
  have hi := live_lt hl
  have hp : sq.pending = pend sq.slot := h.lp i sq hl (Nat.le_refl _)
  obtain ⟨hid, hok⟩ := h.pc.2 _ hsv
  rw [getSlot_eq hsv] at hsu
  -- all that matters of `g`: the slot keeps its id and holds a prefix of record ++ pending; if the sequence goes on it
  -- keeps its slot, in use, and has nothing pending
  have hgs : (g sv.cache.slots[sq.slot]).id = sq.slot ∧ SlotOK sv.cache.cells (g sv.cache.slots[sq.slot]) ∧
      (g sv.cache.slots[sq.slot]).inputs.length ≤ sv.cache.slots[sq.slot].inputs.length + (pend sq.slot).length ∧
      ∀ sq', v = some sq' → sq'.slot = sq.slot ∧ sq'.pending = [] ∧ (g sv.cache.slots[sq.slot]).inUse = true := by
    rw [← hp] at hok ⊢
    cases hg with
    | goesOn sq' h1 h2 e =>
      rw [e]; exact ⟨hid, hok, by simp only [List.length_append]; omega, fun _ e => by cases e; exact ⟨h1, h2, hsu⟩⟩
    | ends e =>
      obtain ⟨t, e⟩ := e sv.cache.slots[sq.slot]
      rw [e]; exact ⟨hid, hok.release_cut t, by simp only [List.length_take, List.length_append]; omega, nofun⟩
  have hne := h.own.ne hl
  refine ⟨?_, ⟨h.cfg.win, h.cfg.fix, h.cfg.ctx⟩,
    h.own.replace hl rfl (setSlot_length ..) (fun j hj => getSlot_setSlot_other hj)
      (fun s' e => ⟨(hgs.2.2.2 s' e).1, by simp only [getSlot_setSlot_same hsv, getSlot_eq hsv]; exact (hgs.2.2.2 s' e).2.2⟩),
    fun j hj => ?_, fun j hj hno => ?_, fun i' s' h' hlt => ?_, fun i' s' h' hle => ?_⟩
  · apply PC_update sv.cache pend _ sq.slot hsv g h.pc hgs.1 (fun j hj => by simp only [upd, hj, if_false])
    simp only [upd, if_true, List.append_nil]
    exact hgs.2.1
  · simp only [setSlot_length] at hj
    have := h.lenb j hj
    simp only [getSlot_setSlot _ _ _ _ hsv, upd]
    split
    · next hjs => subst hjs; rw [getSlot_eq hsv] at this ⊢; have := hgs.2.2.1; simp only [List.length_nil]; omega
    · exact this
  · simp only [upd]
    split
    · rfl
    · next hjs => exact h.np j (by simpa [setSlot_length] using hj) (unowned_of_replace hl rfl hjs hno)
  · rcases (live_setSeq rfl hi).mp h' with ⟨_, e⟩ | ⟨hne', hold⟩
    · simp only [upd, (hgs.2.2.2 s' e).1, if_true]; exact ⟨(hgs.2.2.2 s' e).2.1, trivial⟩
    · simp only [upd, hne i' s' hne' hold, if_false]; exact h.dn i' s' hold (by omega)
  · rcases (live_setSeq rfl hi).mp h' with ⟨e, _⟩ | ⟨hne', hold⟩
    · omega
    · simp only [upd, hne i' s' hne' hold, if_false]; exact h.lp i' s' hold (by omega)

/-- **The per-sequence work after Forward** (append the pending inputs to the record, EOS / numPredict /
    stop string with its cut of the record, release of the slot by its owner) keeps the invariant. -/
theorem phase3Seq_R (logits : List Tok) (i : Nat) (sv : Server) (o : StepObs) (sq : Seq) (pend : Nat → List Tok)
    (h : R sv pend i i) (hl : Live sv i sq) :
    (∃ pend', R (phase3Seq logits i sv o sq).1 pend' (i + 1) (i + 1)) ∧
      (phase3Seq logits i sv o sq).1.seqs.length = sv.seqs.length := by
  obtain ⟨_, g, v, e, hg⟩ := phase3Seq_shape logits i sv o sq
  rw [e]
  exact ⟨⟨_, R_step h hl hg⟩, List.length_set ..⟩

theorem phase3_R (logits : List Tok) : ∀ (k i : Nat) (sv : Server) (o : StepObs) (pend : Nat → List Tok),
    R sv pend i i →
    (∃ pend', R (phase3 logits k i sv o).1 pend' (i + k) (i + k)) ∧ (phase3 logits k i sv o).1.seqs.length = sv.seqs.length := by
  intro k i sv o pend h
  fun_induction phase3 logits k i sv o generalizing pend with
  | case1 => exact ⟨⟨pend, h⟩, rfl⟩
  | case2 k i sv o hq ih =>
    rw [show i + (k + 1) = i + 1 + k by omega]
    exact ih pend (R_skip h hq)
  | case3 k i sv o sq hq r ih =>
    obtain ⟨⟨pend', h'⟩, hlen⟩ := phase3Seq_R logits i sv o sq pend h (getD_live.mp hq)
    rw [show i + (k + 1) = i + 1 + k by omega]
    exact ⟨(ih pend' h').1, (ih pend' h').2.trans hlen⟩

/-! ## processBatch as a whole -/

/-- **The invariant of the runner between two events**: the cache is coherent, every live sequence owns
    its slot exclusively, no record exceeds the context, nothing is pending. -/
structure SInv (sv : Server) : Prop where
  coh : Coherent sv.cache
  cfg : Cfg sv.cache
  own : Owned sv
  lenb : ∀ j, j < sv.cache.slots.length → (getSlot sv.cache.slots j).inputs.length ≤ sv.cache.numCtx
  idle : ∀ i sq, Live sv i sq → sq.pending = []

/-- the initial state of batch assembly -/
def ph1Init (sv : Server) : Ph1 :=
  { sv := sv, obs := {}, outs := [], resume := none, seqIdx := (sv.nextSeq + sv.seqs.length - 1) % sv.seqs.length }

/-- what the model's check of an adopted layout establishes -/
theorem relocOK_spec (cells0 cs : List Cell) (n : Nat) (h : relocOK cells0 cs n = true) :
    (∀ s, s < n → (view cs s).Perm (view cells0 s)) ∧ PosBound cs := by
  unfold relocOK at h
  simp only [Bool.and_eq_true, List.all_eq_true, decide_eq_true_eq, List.mem_range] at h
  refine ⟨fun s hs => ?_, fun c hc => h.1 c hc⟩
  have := h.2 s hs
  rw [seqEntries_eq_view, seqEntries_eq_view] at this
  exact List.isPerm_iff.mp this

theorem processBatch_unfold (sv : Server) (adopt : Option (List Cell)) (sv' : Server) (o : StepObs)
    (h : processBatch sv adopt = .ok (sv', o)) :
    ∃ p, phase1 sv.seqs.length (ph1Init sv) = .ok p ∧
      ((p.obs.batch = [] ∧ ∃ nx, sv' = { p.sv with nextSeq := nx } ∧ o = p.obs) ∨
       (p.obs.batch ≠ [] ∧ ∃ cells loc logits nx,
          (cells = evict p.sv.cache.window p.sv.cache.cells p.obs.batch ∨
            relocOK (evict p.sv.cache.window p.sv.cache.cells p.obs.batch) cells p.sv.cache.slots.length = true) ∧
          findStartLoc cells p.obs.batch.length = some loc ∧
          logits = (p.outs.map fun bi =>
            nextTok p.sv.vocab p.sv.eosMod (visibleW p.sv.cache.window (store cells loc p.obs.batch)
              (p.obs.batch.getD bi ⟨0, 0, 0⟩).seq (p.obs.batch.getD bi ⟨0, 0, 0⟩).pos)) ∧
          (sv', o) = phase3 logits sv.seqs.length 0
            { p.sv with nextSeq := nx, cache := { p.sv.cache with cells := store cells loc p.obs.batch } }
            { p.obs with outs := (p.outs.zip logits).map fun (bi, t) => ((p.obs.batch.getD bi ⟨0, 0, 0⟩).seq, t) })) := by
  unfold processBatch at h
  simp only [bind, Except.bind] at h
  cases hp : phase1 sv.seqs.length
      { sv := sv, obs := {}, outs := [], resume := none, seqIdx := (sv.nextSeq + sv.seqs.length - 1) % sv.seqs.length } with
  | error e => simp [hp] at h
  | ok p =>
    refine ⟨p, hp, ?_⟩
    simp only [hp] at h
    by_cases hb : p.obs.batch.isEmpty
    · simp only [hb, if_true, pure, Except.pure, Except.ok.injEq, Prod.mk.injEq] at h
      exact Or.inl ⟨by simpa using hb, _, h.1.symm, h.2.symm⟩
    · simp only [hb, Bool.false_eq_true, if_false] at h
      right
      refine ⟨by simpa using hb, ?_⟩
      cases hf : findStartLoc (evict p.sv.cache.window p.sv.cache.cells p.obs.batch) p.obs.batch.length with
      | some loc =>
        simp only [hf] at h
        cases adopt with
        | some cs => simp [throw, throwThe, MonadExceptOf.throw] at h
        | none =>
          simp only [pure, Except.pure, Except.ok.injEq] at h
          exact ⟨_, loc, _, _, Or.inl rfl, hf, rfl, h.symm⟩
      | none =>
        simp only [hf] at h
        cases adopt with
        | none => simp [throw, throwThe, MonadExceptOf.throw] at h
        | some cs =>
          simp only at h
          cases hro : relocOK (evict p.sv.cache.window p.sv.cache.cells p.obs.batch) cs p.sv.cache.slots.length with
          | false => simp [hro, throw, throwThe, MonadExceptOf.throw] at h
          | true =>
            simp only [hro, Bool.not_true, Bool.false_eq_true, if_false] at h
            cases hf2 : findStartLoc cs p.obs.batch.length with
            | none => simp [hf2, throw, throwThe, MonadExceptOf.throw] at h
            | some loc =>
              simp only [hf2, pure, Except.pure, Except.ok.injEq] at h
              exact ⟨cs, loc, _, _, Or.inr hro, hf2, rfl, h.symm⟩

theorem owner_of_pend {sv : Server} {pend : Nat → List Tok} {j : Nat}
    (np : (∀ i sq, Live sv i sq → sq.slot ≠ j) → pend j = []) (hne : pend j ≠ []) :
    ∃ i sq, Live sv i sq ∧ sq.slot = j :=
  Classical.byContradiction fun hex => hne (np fun i sq hl e => hex ⟨i, sq, hl, e⟩)

theorem PInv.inUse {sv : Server} {batch : List BTok} {pend : Nat → List Tok} (h : PInv sv batch pend) {j : Nat}
    (hj : j < sv.cache.slots.length) (hne : pend j ≠ []) : (getSlot sv.cache.slots j).inUse = true := by
  obtain ⟨i, sq, hl, rfl⟩ := owner_of_pend (h.np j hj) hne
  exact (h.own.valid i sq hl).2

theorem SInv_of_R {sv : Server} {pend : Nat → List Tok} (h : R sv pend sv.seqs.length sv.seqs.length) : SInv sv := by
  have hdn : ∀ i sq, Live sv i sq → sq.pending = [] ∧ pend sq.slot = [] := fun i sq hl =>
    h.dn i sq hl (live_lt hl)
  have hp : ∀ j, j < sv.cache.slots.length → pend j = [] := fun j hj =>
    Classical.byContradiction fun hne => by
      obtain ⟨i, sq, hl, rfl⟩ := owner_of_pend (h.np j hj) hne
      exact hne (hdn i sq hl).2
  refine ⟨⟨h.pc.1, fun j hj => ?_⟩, h.cfg, h.own, fun j hj => ?_, fun i sq hl => (hdn i sq hl).1⟩
  · have := h.pc.2 j hj
    rwa [hp j hj, slot_append_nil] at this
  · have := h.lenb j hj
    omega

theorem phase1_SInv (sv : Server) (hinv : SInv sv) (p : Ph1) (hp1 : phase1 sv.seqs.length (ph1Init sv) = .ok p) :
    (∃ pend, PInv p.sv p.obs.batch pend) ∧ p.sv.seqs.length = sv.seqs.length ∧ BO p :=
  phase1_PInv sv.seqs.length (ph1Init sv) p hp1 (Nat.le_refl _)
    (fun i sq hl hne => absurd (hinv.idle i sq hl) hne)
    ⟨fun _ => [], hinv.coh, hinv.cfg, hinv.own, ⟨fun j hj => ⟨rfl, hinv.lenb j hj⟩, fun _ ht => nomatch ht⟩,
      hinv.idle, fun _ _ _ => rfl⟩
    ⟨fun _ ht => (nomatch ht), fun _ hbi => (nomatch hbi), rfl⟩

theorem forward_PC {sv : Server} {batch : List BTok} {pend : Nat → List Tok} (hP : PInv sv batch pend)
    {cells : List Cell} {loc : Nat}
    (hcells : cells = evict sv.cache.window sv.cache.cells batch ∨
      relocOK (evict sv.cache.window sv.cache.cells batch) cells sv.cache.slots.length = true)
    (hfind : findStartLoc cells batch.length = some loc) :
    PC { sv.cache with cells := store cells loc batch } pend := by
  rw [hP.cfg.win] at hcells
  have hrel : (∀ s, s < sv.cache.slots.length → (view cells s).Perm (view sv.cache.cells s)) ∧ PosBound cells := by
    rcases hcells with rfl | hro
    · exact ⟨fun s _ => List.Perm.refl _, hP.coh.1⟩
    · exact relocOK_spec _ _ _ hro
  exact store_PC sv.cache batch pend loc cells hP.coh hP.cfg hP.bv (fun _ => hP.inUse) hrel.1 hrel.2
    (findStartLoc_free cells _ loc hfind)

/-- **processBatch keeps the runner's invariant.**  For every server state satisfying `SInv` (plain causal
    cache, failed-shift reset = MaxInt32), any number of live sequences batched together, any batch size,
    shifts on either path, stop cuts and releases: if the executable `processBatch` of the model — the
    function the oracle runs and L1 compares with the real code after every event — returns normally, the
    cache is coherent again, every live sequence still owns its slot exclusively, no record exceeds the
    context, and nothing is left pending. -/
theorem processBatch_SInv (sv : Server) (adopt : Option (List Cell)) (sv' : Server) (o : StepObs)
    (hinv : SInv sv) (h : processBatch sv adopt = .ok (sv', o)) :
    SInv sv' ∧ sv'.seqs.length = sv.seqs.length := by
  obtain ⟨p, hp1, hrest⟩ := processBatch_unfold sv adopt sv' o h
  obtain ⟨⟨pend, hP⟩, hlen, _⟩ := phase1_SInv sv hinv p hp1
  rcases hrest with ⟨hb, nx, rfl, _⟩ | ⟨hb, cells, loc, logits, nx, hcells, hfind, _, hres⟩
  · -- nothing to decode
    have hpn : ∀ j, j < p.sv.cache.slots.length → pend j = [] := fun j hj => by
      have := hP.bv.view hj
      rw [hb] at this
      exact canonFrom_eq_nil _ _ this.symm
    exact ⟨⟨hP.coh, ⟨hP.cfg.win, hP.cfg.fix, hP.cfg.ctx⟩, ⟨hP.own.valid, hP.own.distinct⟩,
      fun j hj => Nat.le_of_add_right_le (hP.bv.room hj),
      fun i sq hl => by rw [hP.lp i sq hl]; exact hpn _ (hP.own.valid i sq hl).1⟩, hlen⟩
  · -- Forward: StartForward (+ defrag), Put; then the per-sequence loop
    have hR0 : R { p.sv with nextSeq := nx, cache := { p.sv.cache with cells := store cells loc p.obs.batch } } pend 0 0 :=
      ⟨forward_PC hP hcells hfind, ⟨hP.cfg.win, hP.cfg.fix, hP.cfg.ctx⟩, ⟨hP.own.valid, hP.own.distinct⟩,
        fun j hj => hP.bv.room hj, hP.np, fun i sq _ hlt => by omega, fun i sq hl _ => hP.lp i sq hl⟩
    obtain ⟨⟨pend', hR⟩, hl3⟩ := phase3_R logits sv.seqs.length 0 _
      { p.obs with outs := (p.outs.zip logits).map fun (bi, t) => ((p.obs.batch.getD bi ⟨0, 0, 0⟩).seq, t) } pend hR0
    rw [← hres, Nat.zero_add] at hR
    rw [← hres] at hl3
    have hl4 : sv'.seqs.length = sv.seqs.length := hl3.trans hlen
    rw [← hl4] at hR
    exact ⟨SInv_of_R hR, hl4⟩

/-! ## what processBatch samples depends only on the effective input -/

theorem phase3_outs (logits : List Tok) : ∀ (k i : Nat) (sv : Server) (o : StepObs),
    (phase3 logits k i sv o).2.outs = o.outs := by
  intro k i sv o
  fun_induction phase3 logits k i sv o with
  | case1 => rfl
  | case2 k i sv o hq ih => exact ih
  | case3 k i sv o sq hq r ih => rw [ih, (phase3Seq_shape logits i sv o _).1]

theorem mem_zip_map {α β} (f : α → β) {a : α} {b : β} : ∀ {l : List α}, (a, b) ∈ l.zip (l.map f) → a ∈ l ∧ b = f a
  | [], h => by cases h
  | x :: xs, h => by
    rw [List.map_cons, List.zip_cons_cons, List.mem_cons, Prod.mk.injEq] at h
    rcases h with ⟨rfl, rfl⟩ | h
    · exact ⟨List.mem_cons_self .., rfl⟩
    · exact ⟨List.mem_cons_of_mem _ (mem_zip_map f h).1, (mem_zip_map f h).2⟩

theorem key_mem_view (batch : List BTok) (b : BTok) (h : b ∈ batch) :
    b.cell.key ∈ view (batch.map BTok.cell) b.seq := by
  unfold view
  apply List.mem_map.mpr
  refine ⟨b.cell, List.mem_filter.mpr ⟨List.mem_map.mpr ⟨b, h, rfl⟩, ?_⟩, rfl⟩
  simp [BTok.cell, Cell.has]

/-- **The tokens processBatch samples are a function of the effective input only.**  For every output of a
    pass (slot `j`, token `t`): `t` is the scripted model's answer to `record ++ pending` of slot `j` — the
    slot's record when Forward starts followed by its own inputs of this batch — seen up to the output's
    position, each input at its own position; i.e. what a fresh runner with an empty cache is shown when it
    processes that effective input from position 0 (`ideal_is_fresh`).  Whatever prefixes were
    reused, forked or shifted before, and whatever other sequences share the batch. -/
theorem processBatch_outputs (sv : Server) (adopt : Option (List Cell)) (sv' : Server) (o : StepObs)
    (hinv : SInv sv) (h : processBatch sv adopt = .ok (sv', o)) :
    ∃ (p : Ph1) (pend : Nat → List Tok), phase1 sv.seqs.length (ph1Init sv) = .ok p ∧
      ∀ x ∈ o.outs, x.1 < p.sv.cache.slots.length ∧ ∃ pos : Nat,
        (getSlot p.sv.cache.slots x.1).inputs.length ≤ pos ∧
        pos < (getSlot p.sv.cache.slots x.1).inputs.length + (pend x.1).length ∧
        x.2 = nextTok p.sv.vocab p.sv.eosMod (idealHistory ((getSlot p.sv.cache.slots x.1).inputs ++ pend x.1) pos) := by
  obtain ⟨p, hp1, hrest⟩ := processBatch_unfold sv adopt sv' o h
  obtain ⟨⟨pend, hP⟩, _, hbo⟩ := phase1_SInv sv hinv p hp1
  refine ⟨p, pend, hp1, fun x hx => ?_⟩
  rcases hrest with ⟨_, _, _, ho⟩ | ⟨_, cells, loc, logits, nx, hcells, hfind, hlog, hres⟩
  · -- nothing decoded: processBatch returns phase1's observations, which have no outputs
    rw [ho, hbo.2.2] at hx
    cases hx
  · have houts : o.outs = (p.outs.zip logits).map fun (bi, t) => ((p.obs.batch.getD bi ⟨0, 0, 0⟩).seq, t) := by
      rw [show o = _ from congrArg Prod.snd hres, phase3_outs]
    rw [houts, hlog] at hx
    obtain ⟨⟨bi, t⟩, hmem, rfl⟩ := List.mem_map.mp hx
    obtain ⟨hbi, ht⟩ := mem_zip_map _ hmem
    have hb := Basic.getD_mem p.obs.batch bi ⟨0, 0, 0⟩ (hbo.2.1 bi hbi)
    simp only
    generalize p.obs.batch.getD bi ⟨0, 0, 0⟩ = b at hb ht ⊢
    have hj : b.seq < p.sv.cache.slots.length := hbo.1 b hb
    -- the output's own cell is one of the slot's part of the batch, hence at a position of `pend`
    have hkey := key_mem_view p.obs.batch b hb
    rw [hP.bv.view hj] at hkey
    have hrange := canonFrom_mem _ _ _ hkey
    simp only [BTok.cell, Cell.key] at hrange
    have hu := hP.inUse hj (fun hnil => by rw [hnil] at hkey; cases hkey)
    refine ⟨hj, b.pos, by omega, by omega, ?_⟩
    rw [ht, hP.cfg.win]
    apply nextTok_perm
    obtain ⟨hid, hok⟩ := (forward_PC hP hcells hfind).2 b.seq hj
    rw [getSlot_eq hj] at hu ⊢
    exact hok.visible hid hu (b.pos : Int)

/-- the right-hand side of `processBatch_outputs` is what a fresh runner produces: any coherent cache whose
    slot `i` has an empty record (a new runner after LoadCacheSlot, or one that erased everything) and that
    processes the whole effective input `eff` from position 0 shows exactly `idealHistory eff p` at position `p` -/
theorem ideal_is_fresh (vocab eosMod : Nat) (fresh : Cache) (hf : Coherent fresh) (i : Nat) (hif : i < fresh.slots.length)
    (eff : List Tok) (locf : Nat) (huf : (getSlot fresh.slots i).inUse = true)
    (hempty : (getSlot fresh.slots i).inputs = [])
    (hfreef : ∀ x ∈ (fresh.cells.drop locf).take eff.length, x.seqs = [])
    (hpos : (eff.length : Int) < maxI32) (p : Int) :
    nextTok vocab eosMod (idealHistory eff p) =
      nextTok vocab eosMod (visible (forward fresh i eff locf).cells i p) :=
  (nextTok_perm _ _ _ _ (forward_exposes_fresh fresh hf i hif eff locf huf hempty hfreef hpos p)).symm

/-- non-vacuity of `ideal_is_fresh` / `processBatch_outputs`: a brand-new runner that loads `1 2 3 4` (the first
    request of the demo history below) has the empty record, the slot in use and the free cells they ask for -/
example : ∃ c1 i rest,
    loadCacheSlot (mkServer maxI32 2 6 2 true true 7 0).cache [1, 2, 3, 4] 1 (fun _ _ _ => true) = .ok (c1, i, rest) ∧
    rest = [1, 2, 3, 4] ∧ (getSlot c1.slots i).inputs = [] ∧ (getSlot c1.slots i).inUse = true ∧
    (∀ x ∈ (c1.cells.drop 0).take 4, x.seqs = []) := by
  refine ⟨_, _, _, rfl, rfl, rfl, rfl, by decide⟩

/-! ## admission (`completion`'s slot-loading block) and whole histories -/

/-- LoadCacheSlot on the server: the invariant is kept and the returned slot belongs to no live sequence -/
theorem SInv_load {sv : Server} (h : SInv sv) {prompt : List Tok} {now : Nat} {cr : CanRes} {c : Cache} {si : Nat}
    {rest : List Tok} (hload : loadCacheSlot sv.cache prompt now cr = .ok (c, si, rest)) :
    SInv { sv with cache := c } ∧ si < c.slots.length ∧ (getSlot c.slots si).inUse = true ∧
      ∀ i sq, Live sv i sq → sq.slot ≠ si := by
  have hcoh := load_coherent h.coh hload
  have ls := load_spec hload
  obtain ⟨cells', slots', rfl, hlen⟩ := ls.shape
  obtain ⟨k, hk, hrec⟩ := ls.short
  have hfresh : ∀ i sq, Live sv i sq → sq.slot ≠ si := by
    intro i sq hl e
    have := (h.own.valid i sq hl).2
    rw [e, ls.free] at this; cases this
  refine ⟨⟨hcoh, ⟨h.cfg.win, h.cfg.fix, h.cfg.ctx⟩, ⟨fun i sq hl => ?_, h.own.distinct⟩, fun j hj => ?_, h.idle⟩,
    hlen ▸ ls.valid, ls.inUse, hfresh⟩
  · obtain ⟨h1, h2⟩ := h.own.valid i sq hl
    exact ⟨hlen ▸ h1, by rw [ls.other _ (hfresh i sq hl)]; exact h2⟩
  · by_cases hjs : j = si
    · rw [hjs]; exact Nat.le_trans hrec (h.lenb k hk)
    · rw [ls.other j hjs]; exact h.lenb j (hlen ▸ hj)

/-- the new Sequence is entered into `s.seqs` with the slot LoadCacheSlot returned -/
theorem SInv_admit {sv : Server} (h : SInv sv) {i si : Nat} (sq : Seq) (hi : i < sv.seqs.length)
    (hsi : si < sv.cache.slots.length) (hu : (getSlot sv.cache.slots si).inUse = true)
    (hfresh : ∀ i' s', Live sv i' s' → s'.slot ≠ si) (hslot : sq.slot = si) (hp : sq.pending = []) :
    SInv { sv with seqs := sv.seqs.set i (some sq) } := by
  refine ⟨h.coh, h.cfg, h.own.set hi rfl rfl (fun i' s' _ hold => (h.own.valid i' s' hold).2) (fun s' e => ?_),
    h.lenb, fun i' s' h' => ?_⟩
  · cases e
    rw [hslot]
    exact ⟨hsi, hu, fun i' s' _ => hfresh i' s'⟩
  · rcases (live_setSeq rfl hi).mp h' with ⟨_, e⟩ | ⟨_, hold⟩
    · cases e; exact hp
    · exact h.idle i' s' hold

/-- **One event of a history keeps the invariant**: a request admitted by the slot-loading block of
    `completion` (NewSequence, free entry, LoadCacheSlot, new Sequence), a load with every entry busy, or a
    `processBatch`. -/
theorem runEvent_SInv (sv : Server) (now : Nat) (e : Event) (sv' : Server) (h : SInv sv)
    (hr : (runEvent sv now e).2 = some sv') : SInv sv' := by
  have same : some sv = some sv' → SInv sv' := fun e => Option.some.inj e ▸ h
  revert hr
  fun_cases runEvent sv now e with
  | case1 | case2 | case3 | case5 | case6 | case8 => exact same
  | case9 | case10 => nofun
  | case4 keep np stops prompt inputs numKeep _ i hfi c si rest hload =>
    intro hr
    cases hr
    obtain ⟨h1, h2, h3, h4⟩ := SInv_load h hload
    exact SInv_admit h1 _ (List.findIdx?_eq_some_iff_getElem.mp hfi).1 h2 h3 h4 rfl rfl
  | case7 prompt c si rest hload =>
    intro hr
    cases hr
    exact (SInv_load h hload).1
  | case11 adopt _ svn o hpb =>
    intro hr
    cases hr
    exact (processBatch_SInv sv adopt _ o h hpb).1

/-- **Every reachable state of the executable model satisfies the invariant** (induction over the event
    list of `runEvents`, the function the oracle folds over a `hist` line). -/
theorem runEvents_SInv : ∀ (evs : List Event) (sv : Server) (now : Nat) (sv' : Server), SInv sv →
    runEvents sv evs now = some sv' → SInv sv' := by
  intro evs sv now sv' h hr
  fun_induction runEvents sv evs now with
  | case1 => exact Option.some.inj hr ▸ h
  | case2 => cases hr
  | case3 sv e es now sv1 hre ih => exact ih (runEvent_SInv sv now e sv1 h hre) hr

/-- a brand-new runner (plain causal cache, repaired reset, context below `MaxInt32` = 2^31 − 1) satisfies the invariant -/
theorem SInv_init (parallel ctx batch : Nat) (multi canShift : Bool) (vocab eosMod : Nat) (se cc : Bool)
    (hctx : (ctx : Int) < maxI32) :
    SInv { mkServer maxI32 parallel ctx batch multi canShift vocab eosMod with stopEarliest := se, crCounted := cc } := by
  have hnone : ∀ {i sq}, (List.replicate parallel (none : Option Seq))[i]? ≠ some (some sq) := fun {i sq} hl => by
    rw [List.getElem?_replicate] at hl
    split at hl <;> cases hl
  refine ⟨coherent_init maxI32 parallel ctx batch multi canShift vocab eosMod, ⟨rfl, rfl, hctx⟩,
    ⟨fun i sq hl => absurd hl hnone, fun i _ sq _ hl => absurd hl hnone⟩, fun j hj => ?_, fun i sq hl => absurd hl hnone⟩
  simp only [mkServer, List.length_map, List.length_range] at hj
  simp only [mkServer, getSlot, List.getD_eq_getElem?_getD, List.getElem?_map, List.getElem?_range hj]
  exact Nat.zero_le _

/-- **Records = cache contents, and slot exclusivity, for every history of the executable model.**  Start a new runner (any number of
    slots, context size, batch size, slot policy, with or without shiftFn; plain causal cache; repaired
    reset), run ANY list of events (requests with any prompt / keep / numPredict / stop
    strings, loads with every entry busy, processBatch passes with or without a layout adopted after a
    defrag).  If the run does not abort, then in the state reached the cached contents of every slot
    are the slot's recorded inputs (`Coherent`: for a slot in use nothing else), and every live sequence owns an in-use slot that no
    other live sequence has. -/
theorem reachable_coherent_owned (parallel ctx batch : Nat) (multi canShift : Bool) (vocab eosMod : Nat) (se cc : Bool)
    (hctx : (ctx : Int) < maxI32) (evs : List Event) (sv : Server)
    (hr : runEvents { mkServer maxI32 parallel ctx batch multi canShift vocab eosMod with stopEarliest := se, crCounted := cc } evs 1 = some sv) :
    Coherent sv.cache ∧ Owned sv := by
  have := runEvents_SInv evs _ 1 sv (SInv_init parallel ctx batch multi canShift vocab eosMod se cc hctx) hr
  exact ⟨this.coh, this.own⟩

/-! ## non-vacuity: a concrete history that meets every hypothesis

  Two slots, context 6, batch size 2, multi-user policy, shiftFn present.  Two concurrent requests (shared
  prefix `1 2`, so their runs are interleaved in mixed batches), the first one generating past the context
  (three successful shifts with `numKeep = 1`), the second one ending by numPredict; then a third request with
  a stop string that reuses the prefix `1 2` of the released slot's record `1 2 5 4 2`. -/

def demoSv : Server := { mkServer maxI32 2 6 2 true true 7 0 with stopEarliest := true, crCounted := true }

def demoEvs : List Event :=
  [.req 1 9 [] [1, 2, 3, 4], .req 0 3 [] [1, 2, 5]] ++ List.replicate 9 (.step none) ++
  [.req 0 2 [['b']] [1, 2, 3]] ++ List.replicate 3 (.step none)

/-- the history runs to the end; final records and ownership flags -/
theorem demo_runs :
    (runEvents demoSv demoEvs 1).map (fun sv => (sv.cache.slots.map (·.inputs), sv.cache.slots.map (·.inUse))) =
      some ([[1, 1, 3, 4, 0, 3], [1, 2, 3, 2]], [false, false]) := by decide +kernel

/-- after the first 8 events (6 processBatch passes, the last three with both requests) the first slot's record
    has been shifted (`1 2 3 4 0 3` → `1 4 0 3 1`) while the second request is still live -/
theorem demo_mid :
    (runEvents demoSv (demoEvs.take 8) 1).map (fun sv => (sv.cache.slots.map (·.inputs), sv.seqs.map (·.isSome))) =
      some ([[1, 4, 0, 3, 1], [1, 2, 5, 4, 2]], [true, true]) := by decide +kernel

example : ∃ sv, runEvents demoSv demoEvs 1 = some sv ∧ Coherent sv.cache ∧ Owned sv := by
  cases h : runEvents demoSv demoEvs 1 with
  | none => have := demo_runs; rw [h] at this; cases this
  | some sv =>
    exact ⟨sv, rfl, reachable_coherent_owned 2 6 2 true true 7 0 true true (by decide) demoEvs sv h⟩

end OllamaVerif.C07
