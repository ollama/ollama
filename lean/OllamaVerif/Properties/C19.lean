/-
  C19 — the chat prompt keeps the newest messages that fit, system messages, each image once.

  First about `Prompt.chatPrompt cfg cost bad msgs` for EVERY configuration `cfg` (variant, mllama, projector,
  context length), EVERY cost function `cost : Nat → Nat` (= every template and tokenizer) and EVERY conversation
  `msgs`.  An `.ok q n sys ret imgs` outcome means: `q` tokenizer calls were made, the final `Template.Execute`
  receives `sys ++ ret`, where `ret` is `msgs[n:]` with rewritten contents, and `imgs` is returned (`Prompt.OkSpec` is
  the one statement the results about such an outcome project from).  Then about the
  prompt bytes of the three harness templates (`chatPromptT`) and about the callers (`chatHandler`, `fromOpenAI`).
-/
import OllamaVerif.Proofs.PromptRender

namespace OllamaVerif.C19
open OllamaVerif OllamaVerif.Prompt

variable {cfg : Cfg} {cost : Nat → Nat} {bad : Nat → Bool} {msgs : List Msg}
  {q n : Nat} {sys ret : List Msg} {imgs : List ImgOut}

/-! ### the byte strings of the witnesses and examples -/

def txt (b : Bytes) : List Piece := [Piece.lit b]

def bLong : Bytes := [108, 111, 110, 103, 32, 108, 111, 110, 103, 32, 108, 111, 110, 103] -- "long long long"

def bSYS : Bytes := [83, 89, 83]       -- "SYS"

def bHi : Bytes := [104, 105]          -- "hi"

/-! ### chatPrompt, for every cost: which messages are kept -/

/-- **The cut is the specified one** (refinement): the first retained index is `specCut` of the
    fit predicate — walk back from the latest message and stop at the first longer run that does not fit. -/
theorem cut_is_spec (h : chatPrompt cfg cost bad msgs = .ok q n sys ret imgs) :
    n = specCut (fits cfg cost msgs) (msgs.length - 1) :=
  (ok_spec h).cut

/-- **Retained messages are a suffix of the conversation, in the original order.**  `ret`
    corresponds message by message to `msgs.drop n`: same role, same images, same literal text
    (only `[img]` placeholders, `[img-k]` tags and the mllama marker differ). -/
theorem retained_is_suffix_in_order (h : chatPrompt cfg cost bad msgs = .ok q n sys ret imgs) :
    AllSame (msgs.drop n) ret :=
  (ok_spec h).same

/-- **The latest message is always kept**: the cut index is a valid index, and the last message
    handed to the template is the (rewritten) last message of the conversation. -/
theorem latest_kept (h : chatPrompt cfg cost bad msgs = .ok q n sys ret imgs) :
    n < msgs.length ∧
    ∃ m m', msgs.getLast? = some m ∧ ret.getLast? = some m' ∧ SameMsg m m' := by
  have hlt := (ok_spec h).lt
  refine ⟨hlt, ?_⟩
  have hne : msgs.drop n ≠ [] := by
    intro hd
    have := congrArg List.length hd
    simp at this; omega
  obtain ⟨m, m', h1, h2, h3⟩ := AllSame.getLast (retained_is_suffix_in_order h) hne
  refine ⟨m, m', ?_, h2, h3⟩
  rw [List.getLast?_drop] at h1
  have : ¬ (msgs.length ≤ n) := by omega
  simpa [this] using h1

/-- **The cut is the first failure.**  Every suffix from `n` on that the loop measured fits,
    and either everything was kept or the next longer suffix does not fit:
    the retained run is the longest suffix all of whose shorter suffixes fit (only the latest
    message if `msgs[L-2:]` already does not fit).  The latest message alone is never measured. -/
theorem retained_first_failure (h : chatPrompt cfg cost bad msgs = .ok q n sys ret imgs) :
    (∀ j, n ≤ j → j + 1 < msgs.length → fits cfg cost msgs j = true) ∧
    (n = 0 ∨ fits cfg cost msgs (n - 1) = false) := by
  obtain ⟨_, h2, h3⟩ := (ok_spec h).cut ▸ specCut_spec (fits cfg cost msgs) (msgs.length - 1)
  exact ⟨fun j h1 hj => h2 j h1 (Nat.lt_sub_of_add_lt hj), h3⟩

/-- **For a cost that is monotone in suffix extension the retained run is the longest suffix
    that fits**: a measured suffix `msgs[j:]` fits iff it is retained. -/
theorem retained_longest_fitting (h : chatPrompt cfg cost bad msgs = .ok q n sys ret imgs)
    (hmono : ∀ i j, i ≤ j → j + 1 < msgs.length →
      total cfg cost msgs j ≤ total cfg cost msgs i) :
    ∀ j, j + 1 < msgs.length → (fits cfg cost msgs j = true ↔ n ≤ j) := by
  obtain ⟨h1, h2⟩ := retained_first_failure h
  have hlt := (ok_spec h).lt
  intro j hj
  constructor
  · intro hf
    refine Nat.le_of_not_lt fun hnj => ?_
    rcases h2 with h2 | h2
    · omega
    · have hm := hmono j (n - 1) (by omega) (by omega)
      simp only [fits, decide_eq_true_eq, decide_eq_false_iff_not] at hf h2
      omega
  · intro hnj; exact h1 j hnj hj

/-- number of tokenizer calls: one per retained message beyond the latest, plus the one that
    failed (if any) -/
theorem tokenizer_calls (h : chatPrompt cfg cost bad msgs = .ok q n sys ret imgs) :
    q = (msgs.length - 1 - n) + (if n = 0 then 0 else 1) :=
  (ok_spec h).calls

/-! ### the images and their tags -/

/-- **The returned image list in closed form**: exactly the images of the retained messages, in order,
    image `k` with `ID = k`, preprocessed iff mllama with a projector — nothing else, nothing twice. -/
theorem images_are_spec (h : chatPrompt cfg cost bad msgs = .ok q n sys ret imgs) :
    imgs = specImagesFrom cfg 0 ((msgs.drop n).flatMap (·.images)) :=
  (ok_spec h).images

/-- **Each image of a retained message exactly once, tagged with its index.**  The returned
    images are the retained messages' images, concatenated in order; the `ID` of the image at
    position `k` is `k`; and the rewritten contents handed to the template contain the tag
    `[img-k]` exactly once for every returned image and no other tag.
    Hypothesis (recorded assumption): the incoming contents contain no `[img-k]` tag. -/
theorem images_once_indexed (h : chatPrompt cfg cost bad msgs = .ok q n sys ret imgs)
    (hno : ∀ m ∈ msgs, ∀ k, countTag k m.content = 0) :
    imgs.map (·.src) = (msgs.drop n).flatMap (fun m => m.images.map (·.src)) ∧
    (∀ k (hk : k < imgs.length), (imgs[k]).id = k) ∧
    ∀ k, countTag k (ret.flatMap (·.content)) = if k < imgs.length then 1 else 0 := by
  have himgs := images_are_spec h
  refine ⟨?_, ?_, fun k => ?_⟩
  · rw [himgs, specImagesFrom_src, List.map_flatMap]
  · subst himgs
    exact fun k hk => (specImagesFrom_id cfg _ 0 k hk).trans (Nat.zero_add k)
  · rw [(ok_spec h).owned.count k,
      countTag_flatMap_zero k _ (fun m hm => hno m (List.mem_of_mem_drop hm) k), himgs, specImagesFrom_length]
    simp

/-- **Each tag sits in the message that owns the image**: walking the retained messages with
    `b` = number of images returned so far, the rewrite adds to a message's content exactly one
    tag `[img-k]` for every `k` in `[b, b + #images of that message)` and nothing else. -/
theorem tags_in_owner (h : chatPrompt cfg cost bad msgs = .ok q n sys ret imgs) :
    Owned 0 (msgs.drop n) ret :=
  (ok_spec h).owned

/-- **Images of dropped messages are not sent**: every returned image is an image of a retained
    message; and if the sources of dropped and retained images are different, no image of a
    dropped message is returned. -/
theorem dropped_images_not_sent (h : chatPrompt cfg cost bad msgs = .ok q n sys ret imgs) :
    (∀ o ∈ imgs, ∃ m ∈ msgs.drop n, ∃ im ∈ m.images, im.src = o.src) ∧
    ((∀ m ∈ msgs.take n, ∀ im ∈ m.images, ∀ m2 ∈ msgs.drop n, ∀ im2 ∈ m2.images,
        im.src ≠ im2.src) →
      ∀ m ∈ msgs.take n, ∀ im ∈ m.images, ∀ o ∈ imgs, o.src ≠ im.src) := by
  have key : ∀ o ∈ imgs, ∃ m ∈ msgs.drop n, ∃ im ∈ m.images, im.src = o.src := by
    intro o ho
    have : o.src ∈ imgs.map (·.src) := List.mem_map.mpr ⟨o, ho, rfl⟩
    rw [images_are_spec h, specImagesFrom_src] at this
    obtain ⟨im, him, he⟩ := List.mem_map.mp this
    obtain ⟨m, hm, him'⟩ := List.mem_flatMap.mp him
    exact ⟨m, hm, im, him', he⟩
  refine ⟨key, ?_⟩
  intro hd m hm im him o ho heq
  obtain ⟨m2, hm2, im2, him2, he2⟩ := key o ho
  exact hd m hm im him m2 hm2 im2 him2 (by rw [he2, heq])

/-- **The piece representation is faithful to the bytes**: parsing raw content and rendering it
    back is the identity, and parsed content contains no tag piece — so for a conversation given
    as raw bytes the hypothesis of `images_once_indexed` always holds in the model; what remains
    an assumption is that the literal text does not itself spell `[img-k]`. -/
theorem pieces_faithful (s : Bytes) :
    renderPieces (splitImg s) = s ∧ ∀ k, countTag k (splitImg s) = 0 :=
  ⟨splitImg_render s, fun k => splitImg_noTag k s⟩

/-- **What the runner does with the result**: every tag of the contents handed to the template
    resolves (`inputs` never reports "invalid image index"), tag `k` resolves to the image at
    position `k` of the returned list, and that is an image of a retained message. -/
theorem runner_resolves_every_tag (h : chatPrompt cfg cost bad msgs = .ok q n sys ret imgs)
    (hno : ∀ m ∈ msgs, ∀ k, countTag k m.content = 0) :
    (∀ k ∈ tagsOf (ret.flatMap (·.content)), ∃ hk : k < imgs.length, resolveTag imgs k = some imgs[k]) ∧
    ∃ l, resolveTags imgs (tagsOf (ret.flatMap (·.content))) = some l ∧
      l.length = (tagsOf (ret.flatMap (·.content))).length := by
  obtain ⟨_, hid, hcount⟩ := images_once_indexed h hno
  exact resolves_of_count hid (fun k => by rw [count_tagsOf, hcount k])

/-- **What the runner's `\[img-(\d+)\]` finds in a retained message is exactly what chatPrompt wrote — partial.**
    Guard: `cleanPieces` (decidable: no `[` of the literal text starts a prefix of `[img-` that completes or runs to
    the end of the text).  Statement: for every retained message the matches of the rendered content are its tag
    pieces in order, with their numbers, and every one of them resolves to the image at that position — the link
    between the `tag` pieces the theorems above count and the BYTES the runner scans.  What is missing: text that
    itself spells `[img-N]` (finding F5, witnesses `F5_literal_tag_duplicates_image` /
    `F5_literal_tag_invalid_index` below): without the guard the statement is false. -/
theorem runner_scan_is_tags_partial (h : chatPrompt cfg cost bad msgs = .ok q n sys ret imgs)
    (hclean : ∀ m ∈ msgs, cleanPieces m.content = true)
    (hno : ∀ m ∈ msgs, ∀ k, countTag k m.content = 0) :
    ∀ m' ∈ ret, scanTags (renderPieces m'.content) 0 = tagsOf m'.content ∧
      ∀ k ∈ scanTags (renderPieces m'.content) 0, ∃ hk : k < imgs.length, resolveTag imgs k = some imgs[k] := by
  intro m' hm'
  obtain ⟨m, hm, hs⟩ := AllSame.mem_right (retained_is_suffix_in_order h) m' hm'
  have e := scanTags_renderPieces m'.content (hs.clean.trans (hclean m (List.mem_of_mem_drop hm)))
  refine ⟨e, ?_⟩
  intro k hk
  rw [e] at hk
  apply (runner_resolves_every_tag h hno).1 k
  simp only [tagsOf, List.mem_filterMap, List.mem_flatMap] at hk ⊢
  obtain ⟨p, hp, hpk⟩ := hk
  exact ⟨p, ⟨m', hm', hp⟩, hpk⟩

/-- non-vacuity: `safeText` accepts ordinary text, brackets included, and rejects a literal tag or a text
    ending in the middle of one; decimal rendering is what Go prints for the numbers that occur -/
example :
    -- "s[1] [img] [image-3]", "a [img-3]", "x[im"
    safeText [115, 91, 49, 93, 32, 91, 105, 109, 103, 93, 32, 91, 105, 109, 97, 103, 101, 45, 51, 93] = true ∧
    safeText [97, 32, 91, 105, 109, 103, 45, 51, 93] = false ∧ safeText [120, 91, 105, 109] = false ∧
    natBytes 0 = [48] ∧ natBytes 7 = [55] ∧ natBytes 10 = [49, 48] ∧ natBytes 123 = [49, 50, 51] ∧
    scanTags (renderPieces [.tag 12, .lit [97], .slot, .tag 0, .mm]) 0 = [12, 0] := by decide +kernel

/-! ### the system messages -/

/-- (variant `cfg.fixed = false`; `Tie.C19.tree_is_current_variant` ties the tree to `fixed = true`.)  What the pinned code passes as system messages: those before index `n - 1`, i.e. the
    slice computed for the iteration that broke (`n - 1` truncated: none for `n = 0`) -/
theorem system_pinned_exact (h : chatPrompt cfg cost bad msgs = .ok q n sys ret imgs)
    (hv : cfg.fixed = false) : sys = systemsBefore msgs (n - 1) := by
  simpa [hv] using (ok_spec h).system

/-- **System messages, repaired variant**: exactly the system messages that precede the
    retained run are passed to the template, in order. -/
theorem system_kept_fixed (h : chatPrompt cfg cost bad msgs = .ok q n sys ret imgs)
    (hv : cfg.fixed = true) :
    sys = systemsBefore msgs n ∧
    ∀ m ∈ msgs.take n, m.role = Role.system → m ∈ sys := by
  have : sys = systemsBefore msgs n := by simpa [hv] using (ok_spec h).system
  exact ⟨this, fun m hm hr => this ▸ mem_systemsBefore hm hr⟩

/-- (variant `cfg.fixed = false`, not the tied tree.)  **System messages, pinned code (partial)**: the statement holds under the decidable guard
    "nothing was dropped, or the message just before the retained run is not a system message".
    What is missing: the system message AT the cut (finding F4, witness below). -/
theorem system_kept_partial (h : chatPrompt cfg cost bad msgs = .ok q n sys ret imgs)
    (hv : cfg.fixed = false)
    (hguard : n = 0 ∨ ∀ m, msgs[n - 1]? = some m → m.role ≠ Role.system) :
    sys = systemsBefore msgs n ∧
    ∀ m ∈ msgs.take n, m.role = Role.system → m ∈ sys := by
  have hlt := (ok_spec h).lt
  have : sys = systemsBefore msgs n := by
    rw [system_pinned_exact h hv]
    cases n with
    | zero => rfl
    | succ k =>
      have hg := hguard.resolve_left (Nat.succ_ne_zero k) _ (List.getElem?_eq_getElem (Nat.lt_of_succ_lt hlt))
      rw [Nat.add_sub_cancel, systemsBefore_succ msgs k (Nat.lt_of_succ_lt hlt), if_neg hg, List.append_nil]
  exact ⟨this, fun m hm hr => this ▸ mem_systemsBefore hm hr⟩

/-- **Repaired variant: the prompt that is sent is one that was measured.**  If anything was
    dropped or more than the latest message was kept (`n + 1 < L`), the list handed to the final
    `Execute` is — up to the image rewrite — exactly `system(n) ++ msgs[n:]`, the argument of
    `cost n`, and that measurement fit the context length.  (On the pinned code the final list
    can lack a system message that was part of the measured one.) -/
theorem measured_prompt_fits_fixed (h : chatPrompt cfg cost bad msgs = .ok q n sys ret imgs)
    (hv : cfg.fixed = true) (hn : n + 1 < msgs.length) :
    sys = systemsBefore msgs n ∧ AllSame (msgs.drop n) ret ∧ fits cfg cost msgs n = true :=
  ⟨(system_kept_fixed h hv).1, retained_is_suffix_in_order h,
    (retained_first_failure h).1 n (Nat.le_refl _) hn⟩

/-! ### failures, totality, refinement to the specification in one statement -/

/-- **Every failure has its cause** (converse of `chatPrompt_total`): "single image per message" only for an mllama
    model and a message with more than one image; a measuring failure at `i` only if rendering / tokenizing candidate
    `i` fails; a preprocessing failure only for an mllama model with a projector and an undecodable image; the panic
    only for the empty conversation. -/
theorem errors_are_justified :
    (chatPrompt cfg cost bad msgs = .errTooMany → cfg.mllama = true ∧ ∃ m ∈ msgs, 1 < m.images.length) ∧
    (∀ i, chatPrompt cfg cost bad msgs = .execFail i → bad i = true ∧ i < msgs.length) ∧
    (chatPrompt cfg cost bad msgs = .errPreprocess → ¬ ∀ m ∈ msgs, ∀ im ∈ m.images, imgOk cfg im) ∧
    (chatPrompt cfg cost bad msgs = .panicEmpty → msgs = []) := by
  have cause := scan_failure cfg cost bad msgs msgs.length (msgs.length - 1) none 0
  refine ⟨fun h => ?_, fun i h => by rw [chatPrompt_inv _ h] at cause; exact cause, fun h hall => ?_,
    fun h => chatPrompt_inv _ h⟩
  · rw [chatPrompt_inv _ h] at cause
    obtain ⟨hm, i, _, hi⟩ := cause
    rcases imagesAt_cases msgs i with h0 | ⟨x, hx, he⟩
    · rw [h0] at hi; cases hi
    · exact ⟨hm, x, hx, he ▸ hi⟩
  · obtain ⟨n, _, _, e, _, hr⟩ := chatPrompt_inv _ h
    obtain ⟨r, hr'⟩ := rewriteAll_total cfg (msgs.drop n) [] (fun x hx => hall x (List.mem_of_mem_drop hx))
    rw [hr'] at hr
    cases hr

/-- non-vacuity: each failure is reachable, with its cause -/
example :
    chatPrompt ⟨true, true, 2, 100⟩ (fun _ => 1) (fun _ => false) [⟨.user, txt bHi, [⟨1, true⟩, ⟨2, true⟩]⟩] = .errTooMany ∧
    chatPrompt ⟨true, true, 2, 100⟩ (fun _ => 1) (fun _ => false) [⟨.user, txt bHi, [⟨1, false⟩]⟩] = .errPreprocess ∧
    chatPrompt ⟨true, false, 0, 100⟩ (fun _ => 1) (fun i => i == 0) [⟨.user, txt bHi, []⟩, ⟨.user, txt bHi, []⟩] = .execFail 0 ∧
    chatPrompt ⟨true, false, 0, 100⟩ (fun _ => 1) (fun _ => false) [] = .panicEmpty := by decide +kernel

/-- **A prompt is always built**: for a non-empty conversation, when no rendering / tokenizing fails and —
    for an mllama model — no message carries more than one image and every image can be preprocessed,
    chatPrompt succeeds (so the statements about `.ok` outcomes are not vacuous for any such input). -/
theorem chatPrompt_total (hne : msgs ≠ []) (hbad : ∀ i, bad i = false)
    (himg : cfg.mllama = true → ∀ m ∈ msgs, m.images.length ≤ 1)
    (hok : ∀ m ∈ msgs, ∀ im ∈ m.images, imgOk cfg im) :
    ∃ q n sys ret imgs, chatPrompt cfg cost bad msgs = .ok q n sys ret imgs := by
  cases h : chatPrompt cfg cost bad msgs with
  | ok q n sys ret imgs => exact ⟨_, _, _, _, _, rfl⟩
  | panicEmpty => exact absurd (errors_are_justified.2.2.2 h) hne
  | errTooMany =>
    obtain ⟨hm, m, hmem, h1⟩ := errors_are_justified.1 h
    exact absurd h1 (Nat.not_lt.mpr (himg hm m hmem))
  | execFail i =>
    have := (errors_are_justified.2.1 i h).1
    rw [hbad i] at this
    cases this
  | errPreprocess => exact absurd hok (errors_are_justified.2.2.1 h)

/-- **chatPrompt refines its specification** (current /repo variant; every conversation, context length, cost
    function): if nothing fails — and `chatPrompt_total` / `errors_are_justified` say exactly when that is — the
    outcome is `.ok q n sys ret imgs` with every component in closed form or characterised up to the tags it owns:
    `n = specCut` (walk back from the latest message while the next longer run fits), `q` = the measurements that
    implies, `sys` = the system messages before `n`, `imgs = specImagesFrom` (images of `msgs[n:]`, id = position),
    `ret` = `msgs[n:]` message by message (role, images, literal text) with exactly the tags of its own images added
    (`Owned`), and the latest message is the last one handed to the template. -/
theorem chatPrompt_refines_spec (hv : cfg.fixed = true) (hne : msgs ≠ []) (hbad : ∀ i, bad i = false)
    (himg : cfg.mllama = true → ∀ m ∈ msgs, m.images.length ≤ 1)
    (hok : ∀ m ∈ msgs, ∀ im ∈ m.images, imgOk cfg im) :
    ∃ q sys ret imgs,
      let n := specCut (fits cfg cost msgs) (msgs.length - 1)
      chatPrompt cfg cost bad msgs = .ok q n sys ret imgs ∧
      n < msgs.length ∧
      q = (msgs.length - 1 - n) + (if n = 0 then 0 else 1) ∧
      sys = systemsBefore msgs n ∧
      imgs = specImagesFrom cfg 0 ((msgs.drop n).flatMap (·.images)) ∧
      AllSame (msgs.drop n) ret ∧ Owned 0 (msgs.drop n) ret := by
  obtain ⟨q, n, sys, ret, imgs, h⟩ := chatPrompt_total (cost := cost) hne hbad himg hok
  have s := ok_spec h
  refine ⟨q, sys, ret, imgs, ?_⟩
  simp only
  rw [← s.cut]
  exact ⟨h, s.lt, s.calls, by simpa [hv] using s.system, s.images, s.same, s.owned⟩

/-- the conversation of the non-vacuity examples -/
def nvconv : List Msg :=
  [⟨.system, txt [83], []⟩,
   ⟨.user, txt [111, 108, 100], [⟨1, true⟩]⟩,
   ⟨.assistant, txt [114, 101], []⟩,
   ⟨.user, [Piece.lit [97], Piece.slot, Piece.lit [98]], [⟨2, true⟩, ⟨3, true⟩]⟩]

/-- non-vacuity: an `.ok` outcome with dropped messages, a kept system message, images renumbered
    after the drop, one placeholder filled and one tag prefixed (hypotheses of the theorems above
    without `fixed = true` are met: the call succeeds, contents are tag-free). -/
example :
    chatPrompt ⟨false, false, 2, 1600⟩ (fun i => [9, 8, 5].getD i 0) (fun _ => false) nvconv
      = .ok 2 2 [⟨.system, txt [83], []⟩]
          [⟨.assistant, txt [114, 101], []⟩,
           ⟨.user, [Piece.tag 1, Piece.lit [97], Piece.tag 0, Piece.lit [98]], [⟨2, true⟩, ⟨3, true⟩]⟩]
          [⟨0, 2, false⟩, ⟨1, 3, false⟩] ∧
    (∀ m ∈ nvconv, ∀ k, countTag k m.content = 0) := by
  refine ⟨by decide +kernel, ?_⟩
  intro m hm k
  simp only [nvconv, List.mem_cons, List.not_mem_nil, or_false] at hm
  rcases hm with rfl | rfl | rfl | rfl <;> simp [countTag, txt]

/-- `chatPrompt_total`: its hypotheses hold for `nvconv` on a projector model, and the cut it produces is the
    specified one (`cut_is_spec`), the images the specified ones (`images_are_spec`) -/
example :
    nvconv ≠ [] ∧ (∀ m ∈ nvconv, ∀ im ∈ m.images, imgOk ⟨true, false, 2, 1600⟩ im) ∧
    specCut (fits ⟨true, false, 2, 1600⟩ (fun i => [9, 8, 5].getD i 0) nvconv) (nvconv.length - 1) = 2 ∧
    specImagesFrom ⟨true, false, 2, 1600⟩ 0 ((nvconv.drop 2).flatMap (·.images)) = [⟨0, 2, false⟩, ⟨1, 3, false⟩] := by
  refine ⟨by decide, ?_, by decide +kernel, by decide +kernel⟩
  intro m _ im _
  exact Or.inl rfl

/-- non-vacuity: the hypotheses of `chatPrompt_total` hold for `nvconv` on a projector model -/
example : nvconv ≠ [] ∧ (∀ m ∈ nvconv, ∀ im ∈ m.images, imgOk ⟨true, false, 2, 1600⟩ im) :=
  ⟨by decide, fun _ _ _ _ => Or.inl rfl⟩

/-! ### witnesses: finding F4; the first failure is not the longest run that fits -/

/-- `[user "long long long", system "SYS", user "hi"]` -/
def f4conv : List Msg :=
  [⟨.user, txt bLong, []⟩, ⟨.system, txt bSYS, []⟩, ⟨.user, txt bHi, []⟩]

/-- whitespace-token cost of the legacy template on `system(i) ++ msgs[i:]` -/
def f4cost : Nat → Nat := fun i => [5, 2].getD i 0

/-- (variant `fixed = false`, not the tied tree.)  **Witness of F4**: context length 1.  The pinned code passes NO system message although
    `SYS` precedes the retained run `[hi]`; the repaired variant passes it. -/
theorem F4_system_at_cut_dropped :
    chatPrompt ⟨false, false, 0, 1⟩ f4cost (fun _ => false) f4conv
      = .ok 1 2 [] [⟨.user, txt bHi, []⟩] [] ∧
    chatPrompt ⟨true, false, 0, 1⟩ f4cost (fun _ => false) f4conv
      = .ok 1 2 [⟨.system, txt bSYS, []⟩] [⟨.user, txt bHi, []⟩] [] ∧
    systemsBefore f4conv 2 = [⟨.system, txt bSYS, []⟩] := by decide +kernel

/-- the pinned template layer -/
def tv0 : TVar := ⟨0, false⟩

/-- the same through the modelled `Template.Execute`: prompt `"hi "` vs `"SYS hi "` -/
example :
    execute tv0 tLegacy (([⟨.user, txt bHi, []⟩] : List Msg).map toRMsg) = .ok (bHi ++ [32]) ∧
    execute tv0 tLegacy (([⟨.system, txt bSYS, []⟩, ⟨.user, txt bHi, []⟩] : List Msg).map toRMsg)
      = .ok (bSYS ++ [32] ++ bHi ++ [32]) := by decide +kernel

/-- **The walk stops at the FIRST candidate that is over budget; with a cost that is not monotone this is not the
    longest run that fits.**  Four messages, measured totals `[3, 9, 2]` for the runs starting at 0, 1, 2, context
    length 5: the run `[2:]` fits (2), the run `[1:]` does not (9) — the walk stops and keeps `[2:]` although the whole
    conversation `[0:]` would fit (3).  What holds for EVERY cost is `retained_first_failure` / `cut_is_spec`;
    "longest run that fits" holds exactly when the measured total is monotone in the run (`retained_longest_fitting`),
    which `total_antitone_inplace_bytes` proves for the in-place template with the byte tokenizer and which the real
    tokenizers / collate's merging do not guarantee (the driver counts such conversations: `spec_nonmonotone_cost`). -/
theorem first_failure_not_longest_nonmonotone :
    let conv : List Msg := [⟨.user, txt bHi, []⟩, ⟨.assistant, txt bLong, []⟩, ⟨.user, txt bHi, []⟩, ⟨.assistant, txt bHi, []⟩]
    let cfg : Cfg := ⟨true, false, 0, 5⟩
    let cost : Nat → Nat := fun i => [3, 9, 2].getD i 0
    (match chatPrompt cfg cost (fun _ => false) conv with | .ok _ n _ _ _ => some n | _ => none) = some 2 ∧
    fits cfg cost conv 0 = true ∧ fits cfg cost conv 1 = false ∧ fits cfg cost conv 2 = true := by
  decide +kernel

/-! ### the template layer: collate, the legacy loop, the three harness trees -/

/-- **collate loses nothing** (both Execute paths start with it): every message's content is
    inside a merged message of the same role, and every system message's content is inside the
    `.System` string. -/
theorem collate_keeps_everything (msgs : List RMsg) (m : RMsg) (hm : m ∈ msgs) :
    (∃ g ∈ (collate msgs).2, g.1 = m.1 ∧ m.2 <:+: g.2) ∧
    (m.1 = Role.system → m.2 <:+: (collate msgs).1) :=
  ⟨collateMsgs_infix msgs m hm, collate_system_infix msgs m hm⟩

/-- (`lmode = 0`, not the tied tree.)  **Witness of F4b (legacy template loop)**: `[user "hi", assistant "", user "SYS"]` (any
    three byte strings do) rendered by the legacy template: the pinned loop overwrites the
    pending prompt `hi`; the flush repair renders it as its own turn; the join repair keeps it
    in the same turn, separated by a blank line as `collate` would. -/
theorem F4b_legacy_overwrite :
    execute ⟨0, false⟩ tLegacy [(.user, bHi), (.assistant, []), (.user, bSYS)] = .ok (bSYS ++ [32]) ∧
    execute ⟨1, false⟩ tLegacy [(.user, bHi), (.assistant, []), (.user, bSYS)]
      = .ok (bHi ++ [32] ++ bSYS ++ [32]) ∧
    execute ⟨2, false⟩ tLegacy [(.user, bHi), (.assistant, []), (.user, bSYS)]
      = .ok (bHi ++ [10, 10] ++ bSYS ++ [32]) ∧
    execute ⟨0, false⟩ tLegacy [(.user, bHi), (.tool, bLong), (.user, bSYS)] = .ok (bSYS ++ [32]) ∧
    execute ⟨2, false⟩ tLegacy [(.user, bHi), (.tool, bLong), (.user, bSYS)]
      = .ok (bHi ++ [10, 10] ++ bSYS ++ [32]) := by
  decide +kernel

/-- a legacy template whose `.Response` sits in an `if` WITH an `else` branch:
    `{{ .Prompt }}{{ if .System }}{{ .Response }}{{ else }}x{{ end }}` -/
def tElse : List Node :=
  [.action (.field .prompt),
   .ite (.field .system) [.action (.field .response)] true [.text [120]]]

/-- (`efix = false`, not the tied tree.)  **Witness of F4c**: on the pinned code every `Execute` of such a template panics in
    `deleteNode` (the else-list is visited after the cut); the repaired `deleteNode` drops the
    else-list and the prompt is rendered. -/
theorem F4c_cut_else_panics :
    execute ⟨0, false⟩ tElse [(.user, bHi)] = .err .panicCut ∧
    execute ⟨0, true⟩ tElse [(.user, bHi)] = .ok bHi ∧
    chatPromptT ⟨true, false, 0, 100⟩ ⟨0, false⟩ tElse 0 [⟨.user, txt bHi, []⟩]
      = .tmplErr .panicCut := by
  decide +kernel

/-- **Legacy template of prompt_test.go (join repair = current /repo): the conversation is rendered
    in its order.** -/
theorem legacy_join_in_order_tLegacy (efix : Bool) (msgs : List RMsg) (tools : ToolsV := {}) :
    ∃ b, execute ⟨2, efix⟩ tLegacy msgs tools = .ok b ∧ InOrder (contentsOf legacyRole msgs) b :=
  legacy_join_in_order tLegacy tLegacyCut efix true (by decide) (tLegacy_cut efix)
    tLegacy_renders_ordered tLegacyCut_renders_ordered msgs tools

/-- **Join repair, the legacy template of prompt_test.go: nothing is lost.**  For every list of
    messages, the content of every system / user / assistant message is in the prompt. -/
theorem legacy_join_nothing_lost_tLegacy (efix : Bool) (msgs : List RMsg) (m : RMsg) (hm : m ∈ msgs)
    (hrole : m.1 = Role.system ∨ m.1 = Role.user ∨ m.1 = Role.assistant) :
    ∃ b, execute ⟨2, efix⟩ tLegacy msgs = .ok b ∧ m.2 <:+: b :=
  legacy_join_nothing_lost tLegacy tLegacyCut efix true (by decide) (tLegacy_cut efix)
    tLegacy_renders_ordered.renders tLegacyCut_renders_ordered.renders msgs m hm hrole

/-- `legacy_join_in_order_tLegacy` / `prompt_in_order_legacy` talk about something: an unanswered user turn,
    a late system message, another user turn — three contents, three
    places in the prompt, in the order of the conversation -/
example :
    execute ⟨2, true⟩ tLegacy [(.user, bHi), (.system, bSYS), (.user, bLong)]
      = .ok (bHi ++ [32] ++ bSYS ++ [32] ++ bLong ++ [32]) ∧
    contentsOf legacyRole [(.user, bHi), (.system, bSYS), (.user, bLong)] = [bHi, bSYS, bLong] := by decide +kernel

/-- `InOrder` is not satisfiable by overlapping occurrences: the strings need room one after the other -/
example : ¬ InOrder [bLong, bHi, bLong] (bLong ++ bHi ++ [32]) := by
  intro h
  have := h.length_le
  simp [bLong, bHi] at this

/-- **In-place messages template: the messages are rendered in the order of the conversation.** -/
theorem inplace_in_order (tv : TVar) (msgs : List RMsg) (tools : ToolsV := {}) :
    ∃ b, execute tv tInPlace msgs tools = .ok b ∧ InOrder (contentsOf (fun _ => true) msgs) b := by
  have := inplace_reads InOrder.reading tv tools _ (rdBytes_valid InOrder.one msgs)
  rwa [itemsOf_rdBytes, map_rdBytes] at this

/-- **In-place messages template: every message handed to the template is in the prompt.** -/
theorem inplace_renders_all (tv : TVar) (msgs : List RMsg) (m : RMsg) (hm : m ∈ msgs)
    (tools : ToolsV := {}) :
    ∃ b, execute tv tInPlace msgs tools = .ok b ∧ m.2 <:+: b := by
  obtain ⟨b, hb, hord⟩ := inplace_in_order tv msgs tools
  exact ⟨b, hb, Scattered.infix_of_contents hord.infix_of_mem hm rfl⟩

/-- **Header messages template (harness style 0): the system messages come first, in order, then the
    other messages in the order of the conversation.** -/
theorem header_in_order (tv : TVar) (msgs : List RMsg) (tools : ToolsV := {}) :
    ∃ b, execute tv tHeader msgs tools = .ok b ∧
      InOrder (contentsOf isSys msgs ++ contentsOf (fun r => !isSys r) msgs) b := by
  have := header_reads InOrder.reading tv tools _ (rdBytes_valid InOrder.one msgs)
  rwa [itemsOf_rdBytes, itemsOf_rdBytes, map_rdBytes] at this

/-! ### chatPromptT: the prompt bytes -/

/-- the template-level function is the generic one instantiated with the executed template -/
theorem templ_ok_exact {tv : TVar} {t : List Node} {mode : Nat} {p : Bytes} {tf : Option Nat}
    {tools : ToolsV}
    (h : chatPromptT cfg tv t mode msgs tf tools = .ok q n sys ret imgs p) :
    chatPrompt cfg (tcost tv t mode msgs tools) (tbad tv t msgs tools tf) msgs = .ok q n sys ret imgs ∧
      execute tv t ((sys ++ ret).map toRMsg) tools = .ok p := by
  unfold chatPromptT at h
  split at h
  · cases h
  · cases h
  · cases h
  · split at h <;> cases h
  · rename_i q' n' sys' ret' imgs' hc
    split at h
    · cases h
    · rename_i p' hp
      injection h with h1 h2 h3 h4 h5 h6
      subst h1; subst h2; subst h3; subst h4; subst h5; subst h6
      exact ⟨hc, hp⟩

theorem templ_ok_generic {tv : TVar} {t : List Node} {mode : Nat} {p : Bytes} {tf : Option Nat}
    {tools : ToolsV}
    (h : chatPromptT cfg tv t mode msgs tf tools = .ok q n sys ret imgs p) :
    ∃ cost bad, chatPrompt cfg cost bad msgs = .ok q n sys ret imgs ∧
      execute tv t ((sys ++ ret).map toRMsg) tools = .ok p :=
  ⟨_, _, (templ_ok_exact h).1, (templ_ok_exact h).2⟩

theorem prompt_of_execute {tv : TVar} {t : List Node} {mode : Nat} {p : Bytes} {tf : Option Nat} {tools : ToolsV}
    {P : Bytes → Prop} (h : chatPromptT cfg tv t mode msgs tf tools = .ok q n sys ret imgs p)
    (hx : ∃ b, execute tv t ((sys ++ ret).map toRMsg) tools = .ok b ∧ P b) : P p := by
  obtain ⟨b, hb, hP⟩ := hx
  rw [(templ_ok_exact h).2] at hb
  cases hb
  exact hP

def cutOf : OutcomeT → Option Nat
  | .ok _ n _ _ _ _ => some n
  | _ => none

def scanOf : OutcomeT → List Nat
  | .ok _ _ _ _ _ p => scanTags p 0
  | _ => []

def imgsOf : OutcomeT → List ImgOut
  | .ok _ _ _ _ imgs _ => imgs
  | _ => []

def promptOf : OutcomeT → Bytes
  | .ok _ _ _ _ _ p => p
  | _ => []

/-- **The prompt that is sent fits the context length** (current /repo variant, conversations
    without images, any template of the subset, any tools): whenever more than the latest message
    is retained, the final prompt is byte for byte the candidate that was measured for the retained
    run — the SAME `Values` (messages and tools) go into the measurement and into the final
    `Execute` — and its token count is within `num_ctx`. -/
theorem final_prompt_fits {tv : TVar} {t : List Node} {mode : Nat} {tf : Option Nat} {p : Bytes}
    {tools : ToolsV} (hv : cfg.fixed = true)
    (h : chatPromptT cfg tv t mode msgs tf tools = .ok q n sys ret imgs p)
    (hno : ∀ m ∈ msgs, m.images = []) (hn : n + 1 < msgs.length) :
    renderAt tv t msgs tools n = .ok p ∧ ((tokenCount mode p : Nat) : Int) ≤ cfg.limit := by
  obtain ⟨hg, hexec⟩ := templ_ok_exact h
  obtain ⟨_, s, _, hr, _⟩ := chatPrompt_inv _ hg
  have hnd : ∀ m ∈ msgs.drop n, m.images = [] := fun m hm => hno m (List.mem_of_mem_drop hm)
  rw [rewriteAll_noimg cfg _ _ hnd] at hr
  cases hr
  have hrender : renderAt tv t msgs tools n = .ok p := by
    rw [← hexec, (system_kept_fixed hg hv).1]
    rfl
  have hfit := (retained_first_failure hg).1 n (Nat.le_refl _) hn
  simp only [fits, decide_eq_true_eq, total, tcost, hrender, imgCount_noimg _ hnd, Nat.mul_zero, ite_self,
    Nat.add_zero] at hfit
  exact ⟨hrender, hfit⟩

/-- **The property's first sentence, end to end, for the in-place messages template** (current
    /repo variant): whenever chatPrompt succeeds, the PROMPT BYTES contain the content of every
    system message that precedes the retained run, of every retained message, and in particular of
    the (rewritten) latest message of the conversation. -/
theorem prompt_contains_system_and_retained_inplace {tv : TVar} {mode : Nat} {tf : Option Nat} {p : Bytes}
    {tools : ToolsV} (hv : cfg.fixed = true)
    (h : chatPromptT cfg tv tInPlace mode msgs tf tools = .ok q n sys ret imgs p) :
    (∀ m ∈ msgs.take n, m.role = Role.system → renderPieces m.content <:+: p) ∧
    (∀ m ∈ ret, renderPieces m.content <:+: p) ∧
    (∃ m m', msgs.getLast? = some m ∧ ret.getLast? = some m' ∧ SameMsg m m' ∧
      renderPieces m'.content <:+: p) := by
  have hg := (templ_ok_exact h).1
  have key : ∀ m ∈ sys ++ ret, renderPieces m.content <:+: p := fun m hm =>
    prompt_of_execute h (inplace_renders_all tv _ (toRMsg m) (List.mem_map.mpr ⟨m, hm, rfl⟩) tools)
  refine ⟨?_, fun m hm => key m (List.mem_append_right _ hm), ?_⟩
  · intro m hm hr
    exact key m (List.mem_append_left _ ((system_kept_fixed hg hv).2 m hm hr))
  · obtain ⟨_, m, m', h1, h2, h3⟩ := latest_kept hg
    exact ⟨m, m', h1, h2, h3, key m' (List.mem_append_right _ (List.mem_of_getLast? h2))⟩

/-- **"In their original order" on the PROMPT BYTES, in-place messages template** (current /repo
    variant): the non-empty contents of the system messages that precede the retained run, then of the
    retained messages (as rewritten), occur in the prompt one after the other in the order of the
    conversation. -/
theorem prompt_in_order_inplace {tv : TVar} {mode : Nat} {tf : Option Nat} {p : Bytes}
    {tools : ToolsV} (hv : cfg.fixed = true)
    (h : chatPromptT cfg tv tInPlace mode msgs tf tools = .ok q n sys ret imgs p) :
    sys = systemsBefore msgs n ∧ AllSame (msgs.drop n) ret ∧
    InOrder (contentsOf (fun _ => true) ((sys ++ ret).map toRMsg)) p :=
  ⟨(system_kept_fixed (templ_ok_exact h).1 hv).1, retained_is_suffix_in_order (templ_ok_exact h).1,
    prompt_of_execute h (inplace_in_order tv _ tools)⟩

/-- the same for the header messages template: system messages first, then the rest in order -/
theorem prompt_in_order_header {tv : TVar} {mode : Nat} {tf : Option Nat} {p : Bytes}
    {tools : ToolsV} (hv : cfg.fixed = true)
    (h : chatPromptT cfg tv tHeader mode msgs tf tools = .ok q n sys ret imgs p) :
    sys = systemsBefore msgs n ∧ AllSame (msgs.drop n) ret ∧
    InOrder (contentsOf isSys ((sys ++ ret).map toRMsg) ++
      contentsOf (fun r => !isSys r) ((sys ++ ret).map toRMsg)) p :=
  ⟨(system_kept_fixed (templ_ok_exact h).1 hv).1, retained_is_suffix_in_order (templ_ok_exact h).1,
    prompt_of_execute h (header_in_order tv _ tools)⟩

/-- the same for the legacy template of prompt_test.go on the join-repaired legacy loop (current
    /repo): system / user / assistant contents in the order of the conversation -/
theorem prompt_in_order_legacy {efix : Bool} {mode : Nat} {tf : Option Nat} {p : Bytes}
    {tools : ToolsV} (hv : cfg.fixed = true)
    (h : chatPromptT cfg ⟨2, efix⟩ tLegacy mode msgs tf tools = .ok q n sys ret imgs p) :
    sys = systemsBefore msgs n ∧ AllSame (msgs.drop n) ret ∧
    InOrder (contentsOf legacyRole ((sys ++ ret).map toRMsg)) p :=
  ⟨(system_kept_fixed (templ_ok_exact h).1 hv).1, retained_is_suffix_in_order (templ_ok_exact h).1,
    prompt_of_execute h (legacy_join_in_order_tLegacy efix _ tools)⟩

/-! ### the image tags in the prompt bytes, as the runner reads them; finding F5 -/

theorem handed_count (h : chatPrompt cfg cost bad msgs = .ok q n sys ret imgs)
    (hno : ∀ m ∈ msgs, ∀ k, countTag k m.content = 0) (k : Nat) :
    ((sys ++ ret).flatMap (fun m => tagsOf m.content)).count k = if k < imgs.length then 1 else 0 := by
  have hsys : ∀ m ∈ sys, countTag k m.content = 0 := fun m hm => by
    rw [(ok_spec h).system] at hm
    exact hno m (List.mem_of_mem_take (List.mem_filter.mp hm).1) k
  simp only [tagsOf]
  rw [← List.filterMap_flatMap]
  show (tagsOf ((sys ++ ret).flatMap (·.content))).count k = _
  rw [count_tagsOf, List.flatMap_append, countTag_append,
    countTag_flatMap_zero k sys hsys, (images_once_indexed h hno).2.2 k, Nat.zero_add]

theorem handed_clean (h : chatPrompt cfg cost bad msgs = .ok q n sys ret imgs)
    (okRole : Role → Prop) (hroles : ∀ m ∈ msgs, okRole m.role)
    (hclean : ∀ m ∈ msgs, cleanPieces m.content = true) :
    ∀ x ∈ sys ++ ret, cleanPieces x.content = true ∧ okRole x.role := by
  intro x hx
  rcases List.mem_append.mp hx with h1 | h1
  · rw [(ok_spec h).system] at h1
    have hx' := List.mem_of_mem_take (List.mem_filter.mp h1).1
    exact ⟨hclean x hx', hroles x hx'⟩
  · obtain ⟨y, hy, hs⟩ := AllSame.mem_right (retained_is_suffix_in_order h) x h1
    have hy' := List.mem_of_mem_drop hy
    exact ⟨hs.clean.trans (hclean y hy'), (show okRole x.role from hs.role ▸ hroles y hy')⟩

/-- for a template that shows the tags of every message whose role is in `okRole`, in the arrangement `arr`.  No
    hypothesis on `cfg.fixed`: whichever system slice survives consists of messages of the conversation, without tags (the three results below
    state `hv : cfg.fixed = true` all the same). -/
theorem prompt_tags_of_reads {tv : TVar} {t : List Node} {mode : Nat} {tf : Option Nat} {p : Bytes} {tools : ToolsV}
    (okRole : Role → Prop) {arr : List (Rd Nat) → List Nat}
    (hreads : ∀ l : List (Rd Nat), Valid Tagged l → ∃ b, execute tv t (l.map (·.msg)) tools = .ok b ∧ Tagged (arr l) b)
    (harr : ∀ l : List (Rd Nat), (∀ x ∈ l, okRole x.msg.1) → ∀ k, (arr l).count k = (itemsOf (fun _ => true) l).count k)
    (h : chatPromptT cfg tv t mode msgs tf tools = .ok q n sys ret imgs p)
    (hroles : ∀ m ∈ msgs, okRole m.role)
    (hclean : ∀ m ∈ msgs, cleanPieces m.content = true)
    (hno : ∀ m ∈ msgs, ∀ k, countTag k m.content = 0) :
    scanTags p 0 = arr ((sys ++ ret).map rdTags) ∧
    (∀ k, (scanTags p 0).count k = if k < imgs.length then 1 else 0) ∧
    ∃ l, resolveTags imgs (scanTags p 0) = some l ∧ l.length = (scanTags p 0).length := by
  have hg := (templ_ok_exact h).1
  have hc := handed_clean hg okRole hroles hclean
  have e := prompt_of_execute (P := fun b => scanTags b 0 = _) h (scan_of_reads hreads _ (fun m hm => (hc m hm).1))
  have hcnt : ∀ k, (scanTags p 0).count k = if k < imgs.length then 1 else 0 := fun k => by
    rw [e, harr _ (fun x hx => by obtain ⟨m, hm, rfl⟩ := List.mem_map.mp hx; exact (hc m hm).2) k, itemsOf_rdTags,
      handed_count hg hno k]
  exact ⟨e, hcnt, (resolves_of_count (images_once_indexed hg hno).2.1 hcnt).2⟩

/-- **Each image exactly once in the PROMPT, tagged with its index — on the bytes, as the runner reads them**
    (in-place messages template, current /repo variant, user text `safeText` and tag-free): the matches of the
    runner's `\[img-(\d+)\]` in the prompt are the tags of the kept system messages and of the retained
    messages in order; every index `k < #images` is matched exactly once and no other number is; every
    match resolves in the runner's lookup. -/
theorem prompt_tags_inplace_partial {tv : TVar} {mode : Nat} {tf : Option Nat} {p : Bytes} {tools : ToolsV}
    (h : chatPromptT cfg tv tInPlace mode msgs tf tools = .ok q n sys ret imgs p)
    (hv : cfg.fixed = true)
    (hclean : ∀ m ∈ msgs, cleanPieces m.content = true)
    (hno : ∀ m ∈ msgs, ∀ k, countTag k m.content = 0) :
    scanTags p 0 = (sys ++ ret).flatMap (fun m => tagsOf m.content) ∧
    (∀ k, (scanTags p 0).count k = if k < imgs.length then 1 else 0) ∧
    ∃ l, resolveTags imgs (scanTags p 0) = some l ∧ l.length = (scanTags p 0).length := by
  have := prompt_tags_of_reads (fun _ => True) (inplace_reads Tagged.reading tv tools) (fun _ _ _ => rfl) h
    (fun _ _ => trivial) hclean hno
  rwa [itemsOf_rdTags] at this

/-- non-vacuity of `prompt_tags_inplace_partial` and `retained_longest_fitting_inplace_bytes`: `nvconv` through the in-place
    template with the byte tokenizer.  Everything kept (context length 1000): the runner finds tags 0, 2, 1 in the
    prompt (the last user message has its second image's tag prefixed, the first one in the placeholder).  Context
    length 40: cut at 2, tags 1, 0.  The text is `safeText`. -/
example :
    scanOf (chatPromptT ⟨true, false, 0, 1000⟩ ⟨2, true⟩ tInPlace 1 nvconv) = [0, 2, 1] ∧
    cutOf (chatPromptT ⟨true, false, 0, 1000⟩ ⟨2, true⟩ tInPlace 1 nvconv) = some 0 ∧
    scanOf (chatPromptT ⟨true, false, 0, 40⟩ ⟨2, true⟩ tInPlace 1 nvconv) = [1, 0] ∧
    cutOf (chatPromptT ⟨true, false, 0, 40⟩ ⟨2, true⟩ tInPlace 1 nvconv) = some 2 ∧
    (nvconv.all fun m => cleanPieces m.content) = true := by decide +kernel

/-- **Each image exactly once in the PROMPT BYTES, header messages template** (partial: guard `cleanPieces`; finding
    F5 otherwise): every index `k < #images` is matched exactly once by the runner's regexp, no other number is,
    every match resolves. -/
theorem prompt_tags_header_partial {tv : TVar} {mode : Nat} {tf : Option Nat} {p : Bytes} {tools : ToolsV}
    (h : chatPromptT cfg tv tHeader mode msgs tf tools = .ok q n sys ret imgs p)
    (hv : cfg.fixed = true)
    (hclean : ∀ m ∈ msgs, cleanPieces m.content = true)
    (hno : ∀ m ∈ msgs, ∀ k, countTag k m.content = 0) :
    (∀ k, (scanTags p 0).count k = if k < imgs.length then 1 else 0) ∧
    ∃ l, resolveTags imgs (scanTags p 0) = some l ∧ l.length = (scanTags p 0).length :=
  (prompt_tags_of_reads (fun _ => True) (header_reads Tagged.reading tv tools)
    (fun l _ k => itemsOf_count_split isSys k l) h (fun _ _ => trivial) hclean hno).2

/-- non-vacuity of `prompt_tags_header_partial`: `nvconv` through the header template, everything kept: the runner
    reads the tags 0, 2, 1; context length 30 (bytes): only the latest message, tags 1, 0 -/
example :
    scanOf (chatPromptT ⟨true, false, 0, 1000⟩ ⟨2, true⟩ tHeader 1 nvconv) = [0, 2, 1] ∧
    cutOf (chatPromptT ⟨true, false, 0, 30⟩ ⟨2, true⟩ tHeader 1 nvconv) = some 3 ∧
    scanOf (chatPromptT ⟨true, false, 0, 30⟩ ⟨2, true⟩ tHeader 1 nvconv) = [1, 0] := by decide +kernel

/-- **Each image exactly once in the PROMPT BYTES, legacy template on the join-repaired loop** (partial: guard
    `cleanPieces`, finding F5 otherwise; every role is one the legacy loop renders — system, user, assistant): every
    index `k < #images` is matched exactly once by the runner's regexp, no other number is, every match resolves. -/
theorem prompt_tags_legacy_partial {efix : Bool} {mode : Nat} {tf : Option Nat} {p : Bytes} {tools : ToolsV}
    (h : chatPromptT cfg ⟨2, efix⟩ tLegacy mode msgs tf tools = .ok q n sys ret imgs p)
    (hv : cfg.fixed = true)
    (hroles : ∀ m ∈ msgs, legacyRole m.role = true)
    (hclean : ∀ m ∈ msgs, cleanPieces m.content = true)
    (hno : ∀ m ∈ msgs, ∀ k, countTag k m.content = 0) :
    (∀ k, (scanTags p 0).count k = if k < imgs.length then 1 else 0) ∧
    ∃ l, resolveTags imgs (scanTags p 0) = some l ∧ l.length = (scanTags p 0).length :=
  (prompt_tags_of_reads (fun r => legacyRole r = true) (tLegacy_reads Tagged.reading efix tools)
    (fun l hl k => by rw [itemsOf_congr (keep' := fun _ => true) hl]) h hroles hclean hno).2

/-- non-vacuity of `prompt_tags_legacy_partial`: `nvconv` (roles system / user / assistant) through the legacy template -/
example :
    scanOf (chatPromptT ⟨true, false, 0, 1000⟩ ⟨2, true⟩ tLegacy 1 nvconv) = [0, 2, 1] ∧
    (nvconv.all fun m => legacyRole m.role) = true := by decide +kernel

/-- "see [img-0]" -/
def bSeeTag0 : Bytes := [115, 101, 101, 32, 91, 105, 109, 103, 45, 48, 93]

/-- "[img-5]" -/
def bTag5 : Bytes := [91, 105, 109, 103, 45, 53, 93]

/-- **Witness of F5 (a)**: `[user "see [img-0]" + one image]`, in-place template, everything fits.  The prompt is
    `[user|[img-0]see [img-0]]`: the tag of the single returned image occurs TWICE (once written by chatPrompt,
    once typed by the user), so the runner's scan yields `[0, 0]` and the image is embedded twice — "each image
    exactly once in the prompt" is false for this conversation.  The text is not `cleanPieces`. -/
theorem F5_literal_tag_duplicates_image :
    let conv : List Msg := [⟨.user, splitImg bSeeTag0, [⟨1, true⟩]⟩]
    let out := chatPromptT ⟨true, false, 2, 2048⟩ ⟨2, true⟩ tInPlace 0 conv
    imgsOf out = [⟨0, 1, false⟩] ∧
    promptOf out = [91, 117, 115, 101, 114, 124] ++ [91, 105, 109, 103, 45, 48, 93] ++ bSeeTag0 ++ [93] ∧
    scanOf out = [0, 0] ∧
    (resolveTags (imgsOf out) (scanOf out)).map (·.length) = some 2 ∧
    (conv.all fun m => cleanPieces m.content) = false ∧
    (∀ m ∈ conv, ∀ k, countTag k m.content = 0) := by
  refine ⟨by decide +kernel, by decide +kernel, by decide +kernel, by decide +kernel, by decide +kernel, ?_⟩
  intro m hm k
  simp only [List.mem_cons, List.not_mem_nil, or_false] at hm
  subst hm
  exact splitImg_noTag k bSeeTag0

/-- **Witness of F5 (b)**: `[user "[img-5]"]` without any image: the prompt mentions image 5, no image is returned,
    and the runner's lookup answers "invalid image index" — the request fails because of six characters of text. -/
theorem F5_literal_tag_invalid_index :
    let out := chatPromptT ⟨true, false, 2, 2048⟩ ⟨2, true⟩ tInPlace 0 [⟨.user, splitImg bTag5, []⟩]
    imgsOf out = [] ∧ scanOf out = [5] ∧ resolveTags (imgsOf out) (scanOf out) = none := by
  decide +kernel

/-- **F5 repaired** (`proposed_fixes/C19-F5-literal-image-tag.patch`: every incoming content goes through
    `strings.ReplaceAll(content, "[img-", "[img -")` before anything else): on the two witnesses the runner finds the
    single image's tag exactly once, resp. no tag at all; text without `[img-` is untouched. -/
theorem F5_repaired_witnesses :
    scanOf (chatPromptT ⟨true, false, 2, 2048⟩ ⟨2, true⟩ tInPlace 0 [⟨.user, splitImg (sanitizeBytes bSeeTag0), [⟨1, true⟩]⟩]) = [0] ∧
    scanOf (chatPromptT ⟨true, false, 2, 2048⟩ ⟨2, true⟩ tInPlace 0 [⟨.user, splitImg (sanitizeBytes bTag5), []⟩]) = [] ∧
    cleanPieces (splitImg (sanitizeBytes bSeeTag0)) = true ∧ cleanPieces (splitImg (sanitizeBytes bTag5)) = true ∧
    sanitizeBytes bLong = bLong ∧ sanitizeBytes bImg = bImg := by decide +kernel

/-! ### the longest run that fits, with the byte tokenizer -/

/-- **With the in-place template and the byte tokenizer the measured total never grows when the run gets
    shorter** — the hypothesis of `retained_longest_fitting`, proved for this template from the model of
    collate and Execute (dropping a message removes its bytes and at most merges its two neighbours) -/
theorem total_antitone_inplace_bytes (cfg : Cfg) (tv : TVar) (msgs : List Msg) (tools : ToolsV) :
    ∀ i j, i ≤ j → j + 1 < msgs.length →
      total cfg (tcost tv tInPlace 1 msgs tools) msgs j ≤ total cfg (tcost tv tInPlace 1 msgs tools) msgs i :=
  total_antitone_of_remove cfg msgs _ (bodiesLen (fun _ => False)) (fun _ => tcost_bytes (inplace_exact tv _ tools))
    (fun x a b _ => bodiesLen_remove _ x (fun h => h) a b)

/-- **The retained messages are THE longest recent run that fits** (in-place template, byte tokenizer; every
    conversation, context length, model kind): a run `msgs[j:]` of at least two messages fits iff it is
    retained — no hypothesis on the cost. -/
theorem retained_longest_fitting_inplace_bytes {tv : TVar} {tf : Option Nat} {p : Bytes} {tools : ToolsV}
    (h : chatPromptT cfg tv tInPlace 1 msgs tf tools = .ok q n sys ret imgs p) :
    ∀ j, j + 1 < msgs.length →
      (fits cfg (tcost tv tInPlace 1 msgs tools) msgs j = true ↔ n ≤ j) :=
  retained_longest_fitting (templ_ok_exact h).1 (total_antitone_inplace_bytes cfg tv msgs tools)

/-- the measured total never grows when the run gets shorter: header template, byte tokenizer -/
theorem total_antitone_header_bytes (cfg : Cfg) (tv : TVar) (msgs : List Msg) (tools : ToolsV) :
    ∀ i j, i ≤ j → j + 1 < msgs.length →
      total cfg (tcost tv tHeader 1 msgs tools) msgs j ≤ total cfg (tcost tv tHeader 1 msgs tools) msgs i :=
  total_antitone_of_remove cfg msgs _ headerLen (tcost_header_bytes tv msgs tools) (fun x a b hx => by
    unfold headerLen
    rw [collate_system_remove x hx]
    exact Nat.add_le_add_left (bodiesLen_remove _ x hx a b) _)

/-- **The retained messages are THE longest recent run that fits** — header messages template, byte tokenizer;
    no hypothesis on the cost. -/
theorem retained_longest_fitting_header_bytes {tv : TVar} {tf : Option Nat} {p : Bytes} {tools : ToolsV}
    (h : chatPromptT cfg tv tHeader 1 msgs tf tools = .ok q n sys ret imgs p) :
    ∀ j, j + 1 < msgs.length →
      (fits cfg (tcost tv tHeader 1 msgs tools) msgs j = true ↔ n ≤ j) :=
  retained_longest_fitting (templ_ok_exact h).1 (total_antitone_header_bytes cfg tv msgs tools)

/-- **First failure is not longest-fitting on a REAL template path with a whitespace tokenizer** (the tokenizer of
    prompt_test.go): `[system a, user b, system c, user d]`, in-place template, context length 1.  The run `[2:]` is
    measured as `[system|a\n\nc][user|d]` — collate joins the two system messages with a blank line: 2 tokens, over
    budget — so the walk stops and keeps only the latest message, although the runs `[1:]` and `[0:]` render to
    `[system|a][user|b][system|c][user|d]`, ONE token, and fit.  (With the byte tokenizer this cannot happen:
    `total_antitone_inplace_bytes`.) -/
theorem first_failure_not_longest_inplace_fields :
    let conv : List Msg := [⟨.system, txt [97], []⟩, ⟨.user, txt [98], []⟩, ⟨.system, txt [99], []⟩, ⟨.user, txt [100], []⟩]
    cutOf (chatPromptT ⟨true, false, 0, 1⟩ ⟨2, true⟩ tInPlace 0 conv) = some 3 ∧
    (List.range 3).map (fun i => tcost ⟨2, true⟩ tInPlace 0 conv {} i) = [1, 1, 2] := by
  decide +kernel

/-! ### the callers: ChatHandler and the OpenAI-compatible entry -/

/-- the request's latest message is the conversation's latest message -/
theorem handler_latest (mm : List Msg) (s : Bytes) (req : List Msg) (hne : req ≠ []) :
    (handlerMsgs mm s req).getLast? = req.getLast? := by
  cases req with
  | nil => exact absurd rfl hne
  | cons r0 rs =>
    simp only [handlerMsgs]
    split
    · rw [List.getLast?_cons, List.getLast?_append]
      simp [List.getLast?_cons]
    · rw [List.getLast?_append]
      simp [List.getLast?_cons]

/-- the model's SYSTEM comes first unless the request itself starts with a system message -/
theorem handler_model_system_first (mm : List Msg) (s : Bytes) (r0 : Msg) (rs : List Msg)
    (hr : r0.role ≠ Role.system) (hs : s ≠ []) :
    handlerMsgs mm s (r0 :: rs) = ⟨Role.system, splitImg s, []⟩ :: (mm ++ r0 :: rs) := by
  have : s.isEmpty = false := by cases s <;> simp_all
  simp [handlerMsgs, hr, this]

/-- **End to end (repaired chatPrompt)**: a non-empty model SYSTEM (request not starting with a system message) is
    always handed to the template — among the system messages kept in front of the retained run, or nothing was
    dropped (`n = 0`: it is then the first message, `handler_model_system_first`). -/
theorem handler_model_system_reaches_template (mm : List Msg) (s : Bytes) (r0 : Msg) (rs : List Msg)
    (hr : r0.role ≠ Role.system) (hs : s ≠ []) (hv : cfg.fixed = true)
    (h : chatPrompt cfg cost bad (handlerMsgs mm s (r0 :: rs)) = .ok q n sys ret imgs) :
    n = 0 ∨ (⟨Role.system, splitImg s, []⟩ : Msg) ∈ sys := by
  rw [handler_model_system_first mm s r0 rs hr hs] at h
  by_cases h0 : n = 0
  · exact Or.inl h0
  · right
    apply (system_kept_fixed h hv).2
    · cases n with
      | zero => exact absurd rfl h0
      | succ k => simp [List.take]
    · rfl

/-- **POST /api/chat cuts for the REQUEST's context length.**  Whatever number of parallel slots
    the scheduler loaded the runner with (its own copy of the options holds
    `runnerNumCtx lim numParallel`), a successful chat retains the longest recent run all of whose
    shorter suffixes fit `requestNumCtx dflt modelParam reqOpt` — request option, else the model's
    PARAMETER, else the default — measured with the model's template on the handler's conversation.
    (The first conjunct holds by definition: without `useRunnerOpts`, `chatHandler` does not read `numParallel`.) -/
theorem handler_limit_is_request {fixed : Bool} {tv : TVar} {t : List Node} {dflt : Int}
    {modelParam reqOpt : Option Int} {numParallel : Nat} {mm : List Msg} {s : Bytes} {req : List Msg}
    {q n : Nat} {sys ret : List Msg} {imgs : List ImgOut} {p : Bytes} {tools : ToolsV}
    (h : chatHandler fixed false tv t dflt modelParam reqOpt numParallel mm s req tools = .ok q n sys ret imgs p) :
    (∀ np, chatHandler fixed false tv t dflt modelParam reqOpt np mm s req tools = .ok q n sys ret imgs p) ∧
    ∃ cost bad,
      let cfg : Cfg := ⟨fixed, false, 0, requestNumCtx dflt modelParam reqOpt⟩
      let msgs := handlerMsgs mm s req
      chatPrompt cfg cost bad msgs = .ok q n sys ret imgs ∧
      (∀ j, n ≤ j → j + 1 < msgs.length → ((cost j : Nat) : Int) ≤ requestNumCtx dflt modelParam reqOpt) ∧
      (n = 0 ∨ requestNumCtx dflt modelParam reqOpt < ((cost (n - 1) : Nat) : Int)) := by
  refine ⟨fun np => h, ?_⟩
  unfold chatHandler at h
  simp only [Bool.false_eq_true, if_false] at h
  obtain ⟨cost, bad, hg, _⟩ := templ_ok_generic h
  exact ⟨cost, bad, hg, fun j h1 h2 => by simpa [fits, total] using (retained_first_failure hg).1 j h1 h2,
    (retained_first_failure hg).2.imp_right fun hf => by simpa [fits, total] using hf⟩

theorem requestNumCtx_precedence (dflt m r : Int) :
    requestNumCtx dflt (some m) (some r) = r ∧ requestNumCtx dflt none (some r) = r ∧
    requestNumCtx dflt (some m) none = m ∧ requestNumCtx dflt none none = dflt := by
  simp [requestNumCtx]

/-- **Why the runner's copy must not be used**: `[user "long long long", user "hi"]`, the in-place
    template (4 whitespace tokens for both messages), `num_ctx = 2`, two parallel slots.  Cut for the
    request, only the latest message is sent (`n = 1`); cut for the runner's `NumCtx = 8` (clamped to
    4, times 2 slots) the old message would be sent as well (`n = 0`) — a prompt that does not fit
    the request's context length. -/
theorem handler_runner_opts_would_overflow :
    cutOf (chatHandler true false ⟨2, true⟩ tInPlace 2048 none (some 2) 2 [] []
      [⟨.user, txt bLong, []⟩, ⟨.user, txt bHi, []⟩]) = some 1 ∧
    cutOf (chatHandler true true ⟨2, true⟩ tInPlace 2048 none (some 2) 2 [] []
      [⟨.user, txt bLong, []⟩, ⟨.user, txt bHi, []⟩]) = some 0 ∧
    runnerNumCtx 2 2 = 8 ∧ runnerNumCtx 40 4 = 160 := by
  decide +kernel

/-- chatPrompt never answers "vision model only supports a single image per message" when no message has
    more than one image -/
theorem no_too_many (cfg : Cfg) (cost : Nat → Nat) (bad : Nat → Bool) (msgs : List Msg)
    (himg : ∀ m ∈ msgs, m.images.length ≤ 1) : chatPrompt cfg cost bad msgs ≠ .errTooMany := fun h =>
  let ⟨_, m, hm, h1⟩ := errors_are_justified.1 h
  absurd h1 (Nat.not_lt.mpr (himg m hm))

/-- **POST /v1/chat/completions (OpenAI-compatible entry)**: the conversation ChatHandler builds from an
    OpenAI request (model MESSAGEs with at most one image each) never makes chatPrompt answer "vision model
    only supports a single image per message" — every image part is its own message — and whenever a prompt
    is built, the images sent are exactly the image parts of the retained converted messages, in order,
    numbered by position (`images_are_spec` on the converted conversation). -/
theorem openai_chat_images (mm : List Msg) (s : Bytes) (req : List OMsg)
    (hmm : ∀ m ∈ mm, m.images.length ≤ 1) :
    chatPrompt cfg cost bad (handlerMsgs mm s (fromOpenAI req)) ≠ .errTooMany ∧
    (∀ q n sys ret imgs, chatPrompt cfg cost bad (handlerMsgs mm s (fromOpenAI req)) = .ok q n sys ret imgs →
      imgs = specImagesFrom cfg 0 (((handlerMsgs mm s (fromOpenAI req)).drop n).flatMap (·.images))) :=
  ⟨no_too_many cfg cost bad _ (handlerMsgs_all _ mm s _ hmm (fromOpenAI_one_image req) (by simp)),
    fun _ _ _ _ _ h => images_are_spec h⟩

/-- non-vacuity of `openai_chat_images`: a user message with a text part, two image parts and another text part
    becomes four messages; an mllama model accepts it (two images in ONE api message would be refused) -/
example :
    fromOpenAI [⟨.user, .parts [.text (txt bHi), .image ⟨1, true⟩, .image ⟨2, true⟩, .text (txt bSYS)]⟩]
      = [⟨.user, txt bHi, []⟩, ⟨.user, [], [⟨1, true⟩]⟩, ⟨.user, [], [⟨2, true⟩]⟩, ⟨.user, txt bSYS, []⟩] ∧
    chatPrompt ⟨true, true, 1, 100⟩ (fun _ => 1) (fun _ => false)
      [⟨.user, txt bHi, [⟨1, true⟩, ⟨2, true⟩]⟩] = .errTooMany := by decide +kernel

/-- **POST /v1/chat/completions and POST /api/chat, end to end on the prompt bytes** (in-place template, current
    variant; partial: guard `cleanPieces` on the model's MESSAGEs, the model SYSTEM and the request's texts — finding
    F5 otherwise): whatever the request's context length and the scheduler's slots, when the handler builds a
    prompt the runner's regexp matches every index `k < #images sent` exactly once and nothing else, every match
    resolves, and the images sent are the images (image parts) of the retained messages in order.  `req` is the
    request's message list — for the OpenAI entry `fromOpenAI oreq`. -/
theorem handler_prompt_tags_inplace_partial {tv : TVar} {dflt : Int} {modelParam reqOpt : Option Int} {np : Nat}
    {mm : List Msg} {s : Bytes} {req : List Msg} {tools : ToolsV}
    {q n : Nat} {sys ret : List Msg} {imgs : List ImgOut} {p : Bytes}
    (h : chatHandler true false tv tInPlace dflt modelParam reqOpt np mm s req tools = .ok q n sys ret imgs p)
    (hmm : ∀ m ∈ mm, cleanPieces m.content = true ∧ ∀ k, countTag k m.content = 0)
    (hreq : ∀ m ∈ req, cleanPieces m.content = true ∧ ∀ k, countTag k m.content = 0)
    (hs : cleanPieces (splitImg s) = true) :
    (∀ k, (scanTags p 0).count k = if k < imgs.length then 1 else 0) ∧
    (∃ l, resolveTags imgs (scanTags p 0) = some l ∧ l.length = (scanTags p 0).length) ∧
    imgs = specImagesFrom ⟨true, false, 0, requestNumCtx dflt modelParam reqOpt⟩ 0
      (((handlerMsgs mm s req).drop n).flatMap (·.images)) := by
  unfold chatHandler at h
  simp only [Bool.false_eq_true, if_false] at h
  have hall := handlerMsgs_all (fun m => cleanPieces m.content = true ∧ ∀ k, countTag k m.content = 0) mm s req
    hmm hreq ⟨hs, fun k => splitImg_noTag k s⟩
  obtain ⟨_, h2, h3⟩ := prompt_tags_inplace_partial h rfl (fun m hm => (hall m hm).1) (fun m hm => (hall m hm).2)
  exact ⟨h2, h3, images_are_spec (templ_ok_exact h).1⟩

/-- the OpenAI conversion keeps texts as they are: a converted message's content is a part's text, a string
    content, or empty (image part); gives `hreq` of `handler_prompt_tags_inplace_partial` at `fromOpenAI oreq` -/
theorem fromOpenAI_content (req : List OMsg) (P : List Piece → Prop) (hnil : P [])
    (hstr : ∀ o ∈ req, ∀ c, o.content = .str c → P c)
    (hparts : ∀ o ∈ req, ∀ ps, o.content = .parts ps → ∀ c, OPart.text c ∈ ps → P c) :
    ∀ m ∈ fromOpenAI req, P m.content := by
  intro m hm
  simp only [fromOpenAI, List.mem_flatMap] at hm
  obtain ⟨o, ho, hmo⟩ := hm
  obtain ⟨r, c⟩ := o
  cases c with
  | str c =>
    simp [fromOpenAIMsg] at hmo
    subst hmo
    exact hstr _ ho c rfl
  | parts ps =>
    simp only [fromOpenAIMsg, List.mem_map] at hmo
    obtain ⟨pt, hpt, hp⟩ := hmo
    subst hp
    cases pt with
    | text c => exact hparts _ ho ps rfl c hpt
    | image im => exact hnil

/-- non-vacuity: an OpenAI request with a text part and an image part on the in-place template: the handler's prompt
    mentions the single image exactly once -/
example :
    scanOf (chatHandler true false ⟨2, true⟩ tInPlace 2048 none none 1 [] []
      (fromOpenAI [⟨.user, .parts [.text (txt bHi), .image ⟨7, true⟩]⟩])) = [0] := by decide +kernel

end OllamaVerif.C19
