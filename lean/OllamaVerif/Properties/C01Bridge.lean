/-
  C01, stated WITHOUT the ghost field `holders`.

  `Properties/C01.lean` states the main theorem through `uses s q r := q ∈ (s.runners r).holders`, a ghost list the
  model maintains itself.  The property text speaks of a runner "handed to a request" that is "still in progress":
  in the model these are the observable fields `(s.reqs q).gotRunner = some r` and `(s.reqs q).done = false`.
  This file proves the bridge between the two as an invariant of every reachable state of the good variant (the step
  lemma `bridge_step` holds for any variant; `reach_bridge` needs `Inv4.fr`, proved for the good one),

      gotRunner q = some r  ∧  done q = false   →   heldBy q = some r        (`Bridge.b1`)

  (a request lets go of its hold only in the finished-event region `cFin`, whose token was posted by the finish
  waiter, which waits for the request's context to end), and from it the ghost-free statements of C01:

    `in_progress_request_uses`               gotRunner q = some r ∧ ¬done q → q ∈ holders r
    `closed_runner_only_granted_to_finished`  closed r ∧ gotRunner q = some r → done q            (shut down ⇒ not in use)
    `used_runner_is_loaded`                   q ∈ holders r → loaded[model r] = r                 (not UNLOADED while in use)
    `in_progress_runner_is_loaded_and_open`   gotRunner q = some r ∧ ¬done q → r open ∧ loaded[model r] = r
-/
import OllamaVerif.Properties.C01

namespace OllamaVerif.C01
open OllamaVerif.Sched

structure Bridge (s : State) : Prop where
  b1 : ∀ q r, (s.reqs q).gotRunner = some r → (s.reqs q).done = false → (s.reqs q).heldBy = some r
  b2 : ∀ q, q ∈ s.finishedQ → (s.reqs q).done = true
  b3 : ∀ q r, s.cpc = .fin q r → (s.reqs q).done = true

theorem bridge_init (mr mq ds : Nat) : Bridge (Sched.init mr mq ds) := by
  refine ⟨?_, ?_, ?_⟩ <;> intros <;> simp_all [Sched.init]

theorem fresh_no_token {s : State} (h4 : Inv4 s) : ¬ (s.nReqs ∈ s.finishedQ ∨ ∃ r, s.cpc = .fin s.nReqs r) := by
  have := (h4.fr s.nReqs (Nat.le_refl _)).2
  unfold tokens at this
  rintro (hm | ⟨r, hc⟩)
  · have := List.count_pos_iff.mpr hm
    simp only [List.count_append] at *
    omega
  · simp [hc, CPC.tok] at this

theorem Bridge.tok {s : State} (hb : Bridge s) {q : ReqId} (h : q ∈ s.finishedQ ∨ ∃ r, s.cpc = .fin q r) :
    (s.reqs q).done = true :=
  h.elim (hb.b2 q) (fun ⟨r, hc⟩ => hb.b3 q r hc)

theorem bridge_upd {s s' : State} (hb : Bridge s) {q0 : ReqId} {y : Req} (h1 : s'.reqs = upd s.reqs q0 y)
    (h2 : s'.finishedQ = s.finishedQ) (h3 : s'.cpc = s.cpc)
    (hd : (q0 ∈ s.finishedQ ∨ ∃ r, s.cpc = .fin q0 r) → y.done = true)
    (hg : ∀ r, y.gotRunner = some r → y.done = false → y.heldBy = some r) : Bridge s' := by
  obtain ⟨b1, b2, b3⟩ := hb
  refine ⟨?_, ?_, ?_⟩
  · intro q r
    rw [h1]
    unfold upd
    split
    · exact hg r
    · exact b1 q r
  · intro q hq
    rw [h2] at hq
    rw [h1]
    unfold upd
    split
    · rename_i e; exact hd (Or.inl (e ▸ hq))
    · exact b2 q hq
  · intro q r hc
    rw [h3] at hc
    rw [h1]
    unfold upd
    split
    · rename_i e; exact hd (Or.inr ⟨r, e ▸ hc⟩)
    · exact b3 q r hc

/-- every action preserves the bridge (any variant; `Inv4` only says that requests that do not exist yet have no finish token) -/
theorem bridge_step {v : Variant} {s s' : State} {a : Act} (h4 : Inv4 s) (hb : Bridge s)
    (hs : Step v s a s') : Bridge s' := by
  cases hs
  case submit_queued | submit_full =>
    exact bridge_upd hb rfl rfl rfl (fun h => absurd h (fresh_no_token h4)) (fun r hg => by cases hg)
  case done => exact bridge_upd hb rfl rfl rfl (fun _ => rfl) (fun r _ hd => by cases hd)
  -- a grant sets `heldBy` with `gotRunner`
  case loadDone_ok | pUse_grant => exact bridge_upd hb rfl rfl rfl hb.tok (fun _ h _ => h)
  -- `dropped`, or an error reply
  case loadDone_fail | pTake_dropped | pLookup_fail | pLoad_fail => exact bridge_upd hb rfl rfl rfl hb.tok (hb.b1 _)
  case cTakeFinished_gone q rest _ hq _ =>
    exact { hb with b2 := fun q' h => hb.b2 q' (by rw [hq]; exact List.mem_cons_of_mem _ h) }
  case cTakeFinished_found q rest r _ hq _ =>
    exact { hb with
      b2 := fun q' h => hb.b2 q' (by rw [hq]; exact List.mem_cons_of_mem _ h)
      b3 := fun q' r' hc' => by cases hc'; exact hb.b2 q (by rw [hq]; exact List.mem_cons_self ..) }
  -- the hold is released by the finished-event region, whose token belongs to a request that is done
  case cFin q r hc _ =>
    obtain ⟨_, _, e, _⟩ := cFin_writes s q r
    rw [e]
    have hb' : Bridge { s with reqs := upd s.reqs q { s.reqs q with heldBy := none } } :=
      bridge_upd hb rfl rfl rfl hb.tok (fun _ _ hd => by rw [show _ = true from hb.b3 q r hc] at hd; cases hd)
    exact { hb' with b3 := fun q' r' hc' => by cases hc' }
  -- the finish waiter posts its token once the request's context has ended
  case finishSend q _ hd =>
    exact { hb with b2 := fun q' hq' => (List.mem_append.mp hq').elim (hb.b2 q') (fun h => List.mem_singleton.mp h ▸ hd) }
  case cExp_busy | cExp_unload | cTakeExpired | cVram => exact { hb with b3 := fun q' r' hc' => by cases hc' }
  all_goals exact { hb with }

theorem reach_bridge {mr mq ds : Nat} {s : State} (h : Reach Variant.good (Sched.init mr mq ds) s) : Bridge s :=
  Reach.induction (bridge_init mr mq ds) (fun hprev ih hs => bridge_step (reach_inv (inv_init mr mq ds) hprev).i4 ih hs) h

/-- **Bridge**: a request that was handed runner `r` and whose context has not ended is one of `r`'s holders -/
theorem in_progress_request_uses {mr mq ds : Nat} {s : State} (h : Reach Variant.good (init0 mr mq ds) s)
    (q : ReqId) (r : Rid) (hg : (s.reqs q).gotRunner = some r) (hd : (s.reqs q).done = false) :
    r < s.nRunners ∧ q < s.nReqs ∧ uses s q r := by
  have hb := (reach_bridge h).b1 q r hg hd
  have := (reach_inv (inv_init mr mq ds) h).i4.g1 q r hb
  exact ⟨this.1, this.2.1, this.2.2.1⟩

/-- **C01, ghost-free**: in every reachable state, a runner that has been shut down was handed only to requests that
    have finished — no request in progress holds a shut-down runner -/
theorem closed_runner_only_granted_to_finished {mr mq ds : Nat} {s : State} (h : Reach Variant.good (init0 mr mq ds) s)
    (q : ReqId) (r : Rid) (hc : (s.runners r).closed = true) (hg : (s.reqs q).gotRunner = some r) :
    (s.reqs q).done = true := by
  cases hd : (s.reqs q).done with
  | true => rfl
  | false =>
    exfalso
    obtain ⟨hr, _, hu⟩ := in_progress_request_uses h q r hg hd
    exact closed_runner_has_no_user h r hr hc q hu

/-- **Not unloaded while in use**: a runner with a holder is the entry of its model in `loaded` (and open) -/
theorem used_runner_is_loaded {mr mq ds : Nat} {s : State} (h : Reach Variant.good (init0 mr mq ds) s)
    (q : ReqId) (r : Rid) (hr : r < s.nRunners) (hu : uses s q r) :
    (s.runners r).closed = false ∧ lookup s.loaded (s.runners r).model = some r := by
  have hi := reach_inv (inv_init mr mq ds) h
  have hopen : (s.runners r).closed = false := by
    cases hc : (s.runners r).closed with
    | false => rfl
    | true => exact absurd hu (closed_runner_has_no_user h r hr hc q)
  exact ⟨hopen, hi.i3.live r hr hopen⟩

/-- **C01, ghost-free, both clauses**: while a request that was handed runner `r` is in progress, `r` is neither shut
    down nor unloaded -/
theorem in_progress_runner_is_loaded_and_open {mr mq ds : Nat} {s : State} (h : Reach Variant.good (init0 mr mq ds) s)
    (q : ReqId) (r : Rid) (hg : (s.reqs q).gotRunner = some r) (hd : (s.reqs q).done = false) :
    (s.runners r).closed = false ∧ lookup s.loaded (s.runners r).model = some r := by
  obtain ⟨hr, _, hu⟩ := in_progress_request_uses h q r hg hd
  exact used_runner_is_loaded h q r hr hu

/-! ### non-vacuity -/

/-- runner 0 is used, released, and then expired TWICE (keep-alive timer and an explicit unload): two expired events -/
def twiceExpiredTrace : List Act :=
  [.submit 0 0 none, .pTake, .pLookup fit0, .pLoad true, .loadDone 0 true, .done 0, .finishSend 0, .cTakeFinished, .cFin,
   .timerFire 0, .timerCb 0, .explicitUnload 0, .unloadBind 0, .cTakeExpired, .cExp, .cVram, .cTakeExpired, .cExp, .cVram]

/-- the second `unload()` is a no-op: closed once, two unload notifications -/
theorem twice_expired_closes_once :
    (run Variant.good (init0 0 512 1) twiceExpiredTrace).map
      (fun s => ((s.runners 0).closed, (s.runners 0).closeCount, s.unloadedQ, (s.reqs 0).gotRunner, (s.reqs 0).done)) =
      some (true, 1, 2, some 0, true) := by decide

/-- non-vacuity of `closed_runner_has_no_user` / `closed_runner_only_granted_to_finished`: under the GOOD variant there
    is a reachable state with a shut-down runner that had been handed to a request -/
example : ∃ s, Reach Variant.good (init0 0 512 1) s ∧ (s.runners 0).closed = true ∧ (s.reqs 0).gotRunner = some 0 ∧ 0 < s.nRunners :=
  ⟨_, reach_run_getD twiceExpiredTrace (by decide), by decide, by decide, by decide⟩

/-- non-vacuity of the bridge: a reachable state with a request in progress holding its runner -/
example : ∃ s, Reach Variant.good (init0 0 512 1) s ∧ (s.reqs 0).gotRunner = some 0 ∧ (s.reqs 0).done = false :=
  ⟨_, reach_run_getD (twiceExpiredTrace.take 5) (by decide), by decide, by decide⟩

end OllamaVerif.C01
