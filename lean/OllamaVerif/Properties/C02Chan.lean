/-
  C01 / C02 / C11 over the BOUNDED model (`Model/SchedChan.lean`): channel capacities (all four channels have
  capacity OLLAMA_MAX_QUEUE), sends made while holding mutexes, and the order in which loadedMu / refMu are taken.

  1. Refinement: every step of the bounded model is a stutter (a goroutine parks inside its region) or a step of
     the base model (`stepB_refines`), hence every reachable bounded state projects to a reachable base state
     (`reachB_reach`) and ALL safety theorems of the base model hold with bounded channels and blocking mutexes:
     `bounded_closed_runner_has_no_user`, `bounded_closed_at_most_once` (C01), `bounded_at_most_one_reply` (C02),
     `bounded_one_runner_per_model`, `bounded_live_count_le_max`, `bounded_live_count` (C11; `live_count` is the counted
     form for the base model).
  2. What the base model cannot show — goroutines parked for good (`wedged`) — with a kernel-checked witness per class:
       F12d   `F12d_expiredCh_capacity_wedges`   /repo's tree (known finding): expireRunner parks in its send on a full
              expiredCh holding loadedMu + refMu; processCompleted, the only receiver, needs loadedMu
       F12c   `F12c_lock_order_wedges_upstream` / `F12c_repo_order_refuses`: upstream's expired case takes refMu before
              loadedMu, expireRunner the other way round: hold-and-wait cycle; with /repo's order the same schedule cannot park
       idle   `no_idle_drain_wedges` / `idle_drain_releases`: without the idle receive from unloadedCh the second unload
              that nobody waits for parks processCompleted for good; with it the parked send is released
  3. For /repo's lock order (`Cfg.repo`), in EVERY reachable state no goroutine waits for loadedMu while holding a
     mutex (`repo_no_hold_and_wait_on_loadedMu`): there is no lock-order cycle through loadedMu.
  4. `parked_unloaded_send_is_released`: with the idle receive, a processCompleted parked sending on unloadedCh is
     always one pending-loop step away from being released when the pending loop is idle or waiting for an unload.
-/
import OllamaVerif.Model.SchedChan
import OllamaVerif.Properties.C11
import OllamaVerif.Properties.C02

namespace OllamaVerif.C02Chan
open OllamaVerif.Sched OllamaVerif.SchedChan

/-! ### refinement -/

theorem stepB_cases {v : Variant} {c : Cfg} {b b' : BState} {a : Act} (h : stepB v c b a = some b') :
    (∃ p, b' = setParked b p ∧ p.act = a ∧
        ∀ l, p.wait = .lock l → acquire b a (profile c b.base a).1 [] = some (p.holds, l)) ∨
    (∃ s', step v b.base a = some s' ∧ b' = { base := s', parked := b.parked.filter (fun x => x.act != a) }) := by
  have hbase : ∀ o : Option State, o.map (fun s' => ({ base := s', parked := b.parked.filter (fun x => x.act != a) } : BState)) = some b' →
      ∃ s', o = some s' ∧ b' = { base := s', parked := b.parked.filter (fun x => x.act != a) } := by
    intro o ho
    cases o with
    | none => cases ho
    | some s' => exact ⟨s', rfl, (Option.some.inj ho).symm⟩
  unfold stepB at h
  simp only [] at h
  repeat' split at h
  all_goals (first | cases h | skip)
  all_goals (first | exact Or.inr (hbase _ h) | skip)
  all_goals exact Or.inl ⟨_, rfl, rfl, fun l hl => by cases hl <;> assumption⟩

theorem stepB_refines {v : Variant} {c : Cfg} {b b' : BState} {a : Act} (h : stepB v c b a = some b') :
    b'.base = b.base ∨ step v b.base a = some b'.base := by
  rcases stepB_cases h with ⟨p, rfl, _⟩ | ⟨s', hs, rfl⟩
  · exact Or.inl rfl
  · exact Or.inr hs

theorem reachB_reach {v : Variant} {c : Cfg} {mr mq ds : Nat} {b : BState}
    (h : ReachB v c (initB mr mq ds) b) : Reach v (Sched.init mr mq ds) b.base := by
  induction h with
  | init => exact Reach.init
  | step a _ hs ih =>
    rcases stepB_refines hs with h | h
    · rw [h]; exact ih
    · exact Reach.step a ih h

/-! ### the safety theorems hold with bounded channels and blocking mutexes -/

/-- C01 -/
theorem bounded_closed_runner_has_no_user {c : Cfg} {mr mq ds : Nat} {b : BState}
    (h : ReachB Variant.good c (initB mr mq ds) b) (r : Rid) (hr : r < b.base.nRunners)
    (hc : (b.base.runners r).closed = true) : ∀ q, ¬ OllamaVerif.C01.uses b.base q r :=
  OllamaVerif.C01.closed_runner_has_no_user (reachB_reach h) r hr hc

/-- C01: a runner is shut down at most once -/
theorem bounded_closed_at_most_once {c : Cfg} {mr mq ds : Nat} {b : BState}
    (h : ReachB Variant.good c (initB mr mq ds) b) (r : Rid) (hr : r < b.base.nRunners) :
    (b.base.runners r).closeCount ≤ 1 :=
  OllamaVerif.C01.closed_at_most_once (reachB_reach h) r hr

/-- C02 -/
theorem bounded_at_most_one_reply {v : Variant} {c : Cfg} {mr mq ds : Nat} {b : BState}
    (h : ReachB v c (initB mr mq ds) b) (q : ReqId) : (b.base.reqs q).replies ≤ 1 :=
  OllamaVerif.C02.at_most_one_reply (reachB_reach h) q

/-- C11 -/
theorem bounded_one_runner_per_model {c : Cfg} {mr mq ds : Nat} {b : BState}
    (h : ReachB Variant.good c (initB mr mq ds) b) (r r' : Rid)
    (hl : OllamaVerif.C11.live b.base r) (hl' : OllamaVerif.C11.live b.base r')
    (hm : (b.base.runners r).model = (b.base.runners r').model) : r = r' :=
  OllamaVerif.C11.one_runner_per_model (reachB_reach h) r r' hl hl' hm

theorem bounded_live_count_le_max {c : Cfg} {mr mq ds : Nat} {b : BState}
    (h : ReachB Variant.good c (initB mr mq ds) b) (l : List Rid) (hn : l.Nodup)
    (hl : ∀ r, r ∈ l → OllamaVerif.C11.live b.base r) : l.length ≤ b.base.maxRunners :=
  OllamaVerif.C11.live_count_le_max (reachB_reach h) l hn hl

def liveCount (s : State) : Nat := ((List.range s.nRunners).filter (fun r => !(s.runners r).closed)).length

/-- **C11, counted form, every reachable state**: the NUMBER of started-and-not-shut-down runners never exceeds the
    limit in force (base model) -/
theorem live_count {mr mq ds : Nat} {s : State} (h : Reach Variant.good (Sched.init mr mq ds) s) :
    liveCount s ≤ s.maxRunners := by
  unfold liveCount
  apply OllamaVerif.C11.live_count_le_max h
  · exact List.Nodup.sublist List.filter_sublist List.nodup_range
  · intro r hr
    have := List.mem_filter.mp hr
    exact ⟨List.mem_range.mp this.1, by simpa using this.2⟩

theorem bounded_live_count {c : Cfg} {mr mq ds : Nat} {b : BState}
    (h : ReachB Variant.good c (initB mr mq ds) b) : liveCount b.base ≤ b.base.maxRunners :=
  live_count (reachB_reach h)

/-! ### deadlock witnesses -/

def cpuFit : Fit := { cpu := true }

/-- driver script `sched-trace 0 1 1 1 1 | submit 0 0 L | unload 0 | unload 0 | loaddone 0 0` (deadlock corpus
    `queue_capacity`, known finding F12d): two expireRunner calls while the model is loading, the load fails -/
def expiredCapTrace : List Act :=
  [.submit 0 0 (some 2), .pTake, .pLookup cpuFit, .pLoad true, .explicitUnload 0, .unloadBind 0,
   .explicitUnload 0, .loadDone 0 false, .cTakeExpired, .unloadRun 0, .unloadBind 0]

/-- F12d on /repo's tree with OLLAMA_MAX_QUEUE=1: the second expireRunner call is parked sending on the full expiredCh,
    holding loadedMu and the runner's refMu; processCompleted (the only receiver) waits for loadedMu: wedged -/
theorem F12d_expiredCh_capacity_wedges :
    (runB Variant.good Cfg.repo (initB 0 1 1) expiredCapTrace).map
      (fun b => wedged Variant.good Cfg.repo b &&
                b.parked == [⟨.unloadBind 0, [.loadedMu, .refMu 0], .chan .expired⟩] &&
                b.base.cpc == .exp 0) = some true := by decide

/-- with room in the channel (capacity 2) the same schedule does not park anybody -/
theorem F12d_needs_full_channel :
    (runB Variant.good Cfg.repo (initB 0 2 1) expiredCapTrace).map
      (fun b => b.parked.isEmpty && !wedged Variant.good Cfg.repo b) = some true := by decide

/-- one load / use / expire / unload cycle of model 0 with keep_alive 0, nobody waiting for the unload -/
def unloadCycle (q : Nat) : List Act :=
  [.submit 0 0 (some 0), .pTake, .pLookup cpuFit, .pLoad true, .loadDone q true, .done q, .finishSend q,
   .cTakeFinished, .cFin, .cTakeExpired, .cExp, .cVram]

def noIdleDrain : Cfg := ⟨true, false⟩

/-- unloadedCh never consumed (capacity 1: the 2nd unload; capacity n: the (n+1)-th): without the idle receive
    processCompleted is parked for good sending on unloadedCh, nothing else can move -/
theorem no_idle_drain_wedges :
    (runB Variant.good noIdleDrain (initB 0 1 1) (unloadCycle 0 ++ unloadCycle 1)).map
      (fun b => wedged Variant.good noIdleDrain b && b.parked == [⟨.cVram, [], .chan .unloaded⟩]) = some true := by decide

/-- with the idle receive (/repo) the same schedule parks the send only until the pending loop drains the event -/
theorem idle_drain_releases :
    (runB Variant.good Cfg.repo (initB 0 1 1) (unloadCycle 0 ++ unloadCycle 1 ++ [.pDrainUnloaded, .cVram])).map
      (fun b => b.parked.isEmpty && !wedged Variant.good Cfg.repo b && b.base.unloadedQ == 1 && b.base.loaded.isEmpty) = some true := by
  decide

/-- F12c schedule: runner 0 idle with its keep-alive armed; model 1 loading; expireRunner(model 1) parks on the loading
    runner's refMu holding loadedMu; runner 0's timer fires and processCompleted handles the expired event; a second
    expireRunner(model 0) is issued; the load completes -/
def lockOrderTrace : List Act :=
  [.submit 0 0 (some 1), .pTake, .pLookup {}, .pLoad true, .loadDone 0 true, .done 0, .finishSend 0, .cTakeFinished, .cFin,
   .submit 1 0 none, .pTake, .pLookup {}, .pLoad true, .explicitUnload 1, .unloadBind 1,
   .timerFire 0, .timerCb 0, .cTakeExpired, .cExp, .explicitUnload 0, .loadDone 1 true, .unloadRun 1, .unloadBind 0]

/-- upstream's lock order: processCompleted holds refMu(0) and waits for loadedMu, expireRunner holds loadedMu and waits
    for refMu(0): a hold-and-wait cycle, wedged -/
theorem F12c_lock_order_wedges_upstream :
    (runB Variant.good Cfg.upstream (initB 2 8 1) lockOrderTrace).map
      (fun b => wedged Variant.good Cfg.upstream b &&
                b.parked == [⟨.unloadBind 0, [.loadedMu], .lock (.refMu 0)⟩, ⟨.cExp, [.refMu 0], .lock .loadedMu⟩]) = some true := by
  decide

/-- /repo's order (loadedMu first): at the point where upstream's processCompleted parks holding refMu(0), /repo's is
    simply not scheduled (it holds nothing), so the schedule cannot even be followed -/
theorem F12c_repo_order_refuses :
    (runB Variant.good Cfg.repo (initB 2 8 1) (lockOrderTrace.take 18)).map
      (fun b => b.parked.isEmpty && (stepB Variant.good Cfg.repo b .cExp).isNone) = some true := by decide

/-! ### /repo's lock order: nobody holds a mutex while waiting for loadedMu -/

/-- the lock lists of /repo's profiles have loadedMu, if at all, in first position -/
def loadedMuFirst : List Lock → Bool
  | [] => true
  | _ :: rest => !rest.contains .loadedMu

theorem profile_repo_loadedMu_first (s : State) (a : Act) : loadedMuFirst (profile Cfg.repo s a).1 = true := by
  cases a <;> simp only [profile, Cfg.repo] <;> (try rfl) <;> (repeat' split) <;> simp_all [loadedMuFirst]

theorem acquire_blocked_mem (b : BState) (me : Act) {held : List Lock} {l : Lock} :
    ∀ (ls h0 : List Lock), acquire b me ls h0 = some (held, l) → l ∈ ls := by
  intro ls
  induction ls with
  | nil => intro h0 hh; simp [acquire] at hh
  | cons x xs ih =>
    intro h0 hh
    simp only [acquire] at hh
    split at hh
    · exact List.mem_cons_of_mem _ (ih _ hh)
    · cases hh; exact List.mem_cons_self ..

theorem acquire_loadedMu_holds_nothing (b : BState) (me : Act) (ls held : List Lock)
    (h : acquire b me ls [] = some (held, .loadedMu)) (hf : loadedMuFirst ls = true) : held = [] := by
  cases ls with
  | nil => simp [acquire] at h
  | cons l rest =>
    simp only [acquire] at h
    split at h
    · -- `l` was free: the block happened in `rest`, which does not contain loadedMu
      have hmem := acquire_blocked_mem b me _ _ h
      have hnot : ¬ rest.contains Lock.loadedMu = true := by simpa [loadedMuFirst] using hf
      exact absurd (List.contains_iff_mem.mpr hmem) hnot
    · cases h; rfl

/-- **No hold-and-wait on loadedMu with /repo's lock order**: in every reachable state of the bounded model a goroutine
    that waits for loadedMu holds no mutex (so no cycle of mutex waits can pass through loadedMu — the F12c class) -/
theorem repo_no_hold_and_wait_on_loadedMu {v : Variant} {mr mq ds : Nat} {b : BState}
    (h : ReachB v Cfg.repo (initB mr mq ds) b) :
    ∀ p, p ∈ b.parked → p.wait = .lock .loadedMu → p.holds = [] := by
  induction h with
  | init => intro p hp; simp [initB] at hp
  | @step b b' a _ hs ih =>
    intro p hp hw
    have keep : ∀ q, q ∈ b.parked.filter (fun x => x.act != a) → q.wait = .lock .loadedMu → q.holds = [] :=
      fun q hq => ih q (List.mem_filter.mp hq).1
    rcases stepB_cases hs with ⟨p0, rfl, rfl, hacq⟩ | ⟨s', _, rfl⟩
    · rcases List.mem_cons.mp hp with rfl | hp
      · exact acquire_loadedMu_holds_nothing b _ _ _ (hacq _ hw) (profile_repo_loadedMu_first b.base _)
      · exact keep p hp hw
    · exact keep p hp hw

/-! ### the idle receive releases a parked unload notification -/

/-- With the idle receive from unloadedCh (`idleDrains`), whenever unloadedCh is full (the state in which
    processCompleted parks sending on it; stated for any such state) and the pending loop is idle or waiting for an unload, the receive that makes room is enabled (the
    unloadedCh-never-consumed class cannot wedge there).  `maxQueue > 0`: a zero-capacity channel is never "full with something in it". -/
theorem parked_unloaded_send_is_released {v : Variant} {c : Cfg} {b : BState} (hc : c.idleDrains = true)
    (hq : 0 < b.base.maxQueue) (hfull : full b.base .unloaded = true) :
    (b.base.ppc = .idle → (stepB v c b .pDrainUnloaded).isSome) ∧
    (∀ q r, b.base.ppc = .waitUnload q r → (stepB v c b .pWaitUnload).isSome) := by
  have hpos : b.base.unloadedQ > 0 := by
    simp [full, chanLen] at hfull
    omega
  constructor
  · intro hi
    have he : (step v b.base .pDrainUnloaded).isSome = true := step_isSome.mpr ⟨hi, hpos⟩
    simp [stepB, hc, entered, takesLocks, he, profile, acquire]
  · intro q r hw
    have he : (step v b.base .pWaitUnload).isSome = true := step_isSome.mpr ⟨⟨q, r, hw⟩, hpos⟩
    simp [stepB, entered, takesLocks, he, profile, acquire]

/-! ### non-vacuity -/

theorem reachB_of_runB {v : Variant} {c : Cfg} {b0 : BState} :
    ∀ (l : List Act) (b1 b : BState), ReachB v c b0 b1 → runB v c b1 l = some b → ReachB v c b0 b := by
  intro l
  induction l with
  | nil => intro b1 b h hr; simp [runB] at hr; subst hr; exact h
  | cons a as ih =>
    intro b1 b h hr
    simp only [runB] at hr
    cases hs : stepB v c b1 a with
    | none => simp [hs] at hr
    | some b2 => simp only [hs] at hr; exact ih b2 b (ReachB.step a h hs) hr

theorem reachB_runB_getD {v : Variant} {c : Cfg} {b0 : BState} (l : List Act) (h : (runB v c b0 l).isSome = true) :
    ReachB v c b0 ((runB v c b0 l).getD {}) := by
  cases hr : runB v c b0 l with
  | none => rw [hr] at h; cases h
  | some b => exact reachB_of_runB _ _ _ ReachB.init hr

/-- a reachable bounded state with a parked goroutine that is later released (so `ReachB` is not just `Reach`) -/
example : ∃ b, ReachB Variant.good Cfg.repo (initB 0 1 1) b ∧ b.parked ≠ [] ∧ wedged Variant.good Cfg.repo b = false :=
  ⟨_, reachB_runB_getD (unloadCycle 0 ++ unloadCycle 1) (by decide), by decide, by decide⟩

end OllamaVerif.C02Chan
